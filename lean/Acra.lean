import Acra.Audit
import Acra.Drv.AFDX
import Acra.Drv.All
import Acra.Drv.Ch10
import Acra.Drv.Ch11
import Acra.Drv.Container
import Acra.Drv.Core
import Acra.Drv.Extra
import Acra.Drv.FTI
import Acra.Drv.FTI2
import Acra.Drv.Float
import Acra.Drv.Foreign
import Acra.Drv.Golay7
import Acra.Drv.Mpeg
import Acra.Drv.Net
import Acra.Drv.Search
import Acra.Drv.SpecAFDX
import Acra.Drv.SpecAll
import Acra.Drv.SpecCh10
import Acra.Drv.SpecCh11
import Acra.Drv.SpecFTI
import Acra.Drv.SpecFTI2
import Acra.Drv.SpecGolay7
import Acra.Drv.SpecMpeg
import Acra.Drv.SpecNet
import Acra.Drv.SpecSearch
import Acra.Drv.ToRtc
import Acra.Gen.AFDX
import Acra.Gen.Ch10File
import Acra.Gen.Ch10UDP
import Acra.Gen.Ch11
import Acra.Gen.Ch11ARINC
import Acra.Gen.Ch11Analog
import Acra.Gen.Ch11Computer
import Acra.Gen.Ch11MIL1553
import Acra.Gen.Ch11PCM
import Acra.Gen.Ch11PayTs
import Acra.Gen.Ch11TimeFmt
import Acra.Gen.Ch11UART
import Acra.Gen.Ch11Video
import Acra.Gen.Chapter7
import Acra.Gen.EqGuard
import Acra.Gen.ExtraADTS
import Acra.Gen.ExtraH264
import Acra.Gen.ExtraNet
import Acra.Gen.ExtraPA
import Acra.Gen.ExtraSEI
import Acra.Gen.ExtraTime
import Acra.Gen.Golay
import Acra.Gen.IENA
import Acra.Gen.MPEGTS
import Acra.Gen.NPD
import Acra.Gen.Namespace
import Acra.Gen.Net
import Acra.Gen.PES
import Acra.Gen.PMT
import Acra.Gen.ParserAligned
import Acra.Gen.Pcap
import Acra.Gen.SamDec
import Acra.Gen.Src.Chapter11
import Acra.Gen.Src.Cls.ICMP
import Acra.Gen.Src.Cls.IENA
import Acra.Gen.Src.Cls.MPEGAdaptionExtension
import Acra.Gen.Src.Cls.PTPTime
import Acra.Gen.Src.Cls.PcapRecord
import Acra.Gen.Src.Cls.RTCTime
import Acra.Gen.Src.Cls.UDP
import Acra.Gen.Src.Cls.iNetX
import Acra.Gen.Src.Golay
import Acra.Gen.Src.H264
import Acra.Gen.Src.Init
import Acra.Gen.Src.PES
import Acra.Gen.Src.PMT
import Acra.Gen.Src.Ptptime
import Acra.Gen.Src.SamDec008
import Acra.Gen.Src.SimpleEthernet
import Acra.Gen.Src.TimeDataFormat
import Acra.Gen.iNET
import Acra.Gen.iNetX
import Acra.Lemmas.AFDX
import Acra.Lemmas.Bits
import Acra.Lemmas.BitsAttr
import Acra.Lemmas.CRC
import Acra.Lemmas.CRCMpeg
import Acra.Lemmas.Ch10
import Acra.Lemmas.Ch10File
import Acra.Lemmas.Ch10UDP
import Acra.Lemmas.Ch11
import Acra.Lemmas.Ch11ARINC
import Acra.Lemmas.Ch11Calendar
import Acra.Lemmas.Ch11MIL1553
import Acra.Lemmas.Ch11Misc
import Acra.Lemmas.Ch11PCM
import Acra.Lemmas.Ch11Pay
import Acra.Lemmas.Ch11TimeFmt
import Acra.Lemmas.Ch11UART
import Acra.Lemmas.Ch11Video
import Acra.Lemmas.Chapter7
import Acra.Lemmas.Chapter7Asm
import Acra.Lemmas.Chapter7Dec
import Acra.Lemmas.Chapter7Frag
import Acra.Lemmas.Chapter7Gap
import Acra.Lemmas.Chapter7Layout
import Acra.Lemmas.Chapter7MixEnc
import Acra.Lemmas.Chapter7Spec
import Acra.Lemmas.Chapter7Term
import Acra.Lemmas.Container
import Acra.Lemmas.Datetime
import Acra.Lemmas.Decoder
import Acra.Lemmas.Extra
import Acra.Lemmas.ExtraTime
import Acra.Lemmas.Float
import Acra.Lemmas.Golay
import Acra.Lemmas.GolayBase
import Acra.Lemmas.IENA
import Acra.Lemmas.IENAQDN
import Acra.Lemmas.KMP
import Acra.Lemmas.ListAux
import Acra.Lemmas.MPEGTS
import Acra.Lemmas.MpegBytes
import Acra.Lemmas.MpegCanon
import Acra.Lemmas.MpegParse
import Acra.Lemmas.MpegReencode
import Acra.Lemmas.NPDPack
import Acra.Lemmas.NPDPacket
import Acra.Lemmas.NPDSegment
import Acra.Lemmas.NPDWalk
import Acra.Lemmas.Namespace
import Acra.Lemmas.Net
import Acra.Lemmas.PES
import Acra.Lemmas.PMT
import Acra.Lemmas.PMTSection
import Acra.Lemmas.PTPToRtc
import Acra.Lemmas.PTS
import Acra.Lemmas.ParserAligned
import Acra.Lemmas.Pcap
import Acra.Lemmas.PcapChunk
import Acra.Lemmas.PcapFile
import Acra.Lemmas.Reassembly
import Acra.Lemmas.SamDec
import Acra.Lemmas.SamDecTotal
import Acra.Lemmas.Search
import Acra.Lemmas.SrcTie
import Acra.Lemmas.SrcTieCls
import Acra.Lemmas.SrcTieGolay
import Acra.Lemmas.SrcTieGolayTables
import Acra.Lemmas.SrcTieLoop
import Acra.Lemmas.SrcTieNorm
import Acra.Lemmas.SrcTieSearch
import Acra.Lemmas.SrcTieSwap
import Acra.Lemmas.Sum16
import Acra.Lemmas.Swap
import Acra.Lemmas.Walk
import Acra.Lemmas.iNET
import Acra.Lemmas.iNETWalk
import Acra.Lemmas.iNetX
import Acra.Model.AFDX
import Acra.Model.Ch10File
import Acra.Model.Ch10UDP
import Acra.Model.Ch11
import Acra.Model.Ch11ARINC
import Acra.Model.Ch11MIL1553
import Acra.Model.Ch11Misc
import Acra.Model.Ch11PCM
import Acra.Model.Ch11PayTs
import Acra.Model.Ch11TimeFmt
import Acra.Model.Ch11UART
import Acra.Model.Ch11Video
import Acra.Model.Chapter7
import Acra.Model.Chapter7NoOverflow
import Acra.Model.Container
import Acra.Model.ExtraMisc
import Acra.Model.ExtraMpeg
import Acra.Model.ExtraTime
import Acra.Model.Foreign
import Acra.Model.Golay
import Acra.Model.IENA
import Acra.Model.IENAQDN
import Acra.Model.IENATime
import Acra.Model.MPEGTS
import Acra.Model.NPD
import Acra.Model.Net
import Acra.Model.PES
import Acra.Model.PMT
import Acra.Model.PTPToRtc
import Acra.Model.ParserAligned
import Acra.Model.Pcap
import Acra.Model.SamDec
import Acra.Model.Search
import Acra.Model.iNET
import Acra.Model.iNetX
import Acra.Props.C01.Container
import Acra.Props.C01.IENA
import Acra.Props.C01.IENAQDN
import Acra.Props.C01.NPD
import Acra.Props.C01.ParserAligned
import Acra.Props.C01.SrcTieCls
import Acra.Props.C01.iNET
import Acra.Props.C01.iNetX
import Acra.Props.C02.AFDX
import Acra.Props.C02.Net
import Acra.Props.C02.SrcTie
import Acra.Props.C02.SrcTieCls
import Acra.Props.C02.Stack
import Acra.Props.C03.Ch10UDP
import Acra.Props.C03.Ch11
import Acra.Props.C04.ARINC
import Acra.Props.C04.Container
import Acra.Props.C04.MIL1553
import Acra.Props.C04.Misc
import Acra.Props.C04.PCM
import Acra.Props.C04.TimeFmt1
import Acra.Props.C04.TimeFmt2
import Acra.Props.C04.UART
import Acra.Props.C04.Video
import Acra.Props.C05.Pcap
import Acra.Props.C05.SrcTieCls
import Acra.Props.C06.MPEGTS
import Acra.Props.C06.PES
import Acra.Props.C06.PMT
import Acra.Props.C06.Reencode
import Acra.Props.C06.STANAG
import Acra.Props.C06.SrcTieCls
import Acra.Props.C07.Ch11
import Acra.Props.C07.Mpeg
import Acra.Props.C07.MpegFlip
import Acra.Props.C07.MpegSteer
import Acra.Props.C07.Net
import Acra.Props.C07.NetVerify
import Acra.Props.C07.SrcTie
import Acra.Props.C08.AFDX
import Acra.Props.C08.ARINC
import Acra.Props.C08.Ch10
import Acra.Props.C08.Ch11Misc
import Acra.Props.C08.Chapter7
import Acra.Props.C08.Chapter7Work
import Acra.Props.C08.Container
import Acra.Props.C08.Extra
import Acra.Props.C08.IENA
import Acra.Props.C08.IENAQDN
import Acra.Props.C08.MIL1553
import Acra.Props.C08.Mpeg
import Acra.Props.C08.NPD
import Acra.Props.C08.Net
import Acra.Props.C08.PCM
import Acra.Props.C08.ParserAligned
import Acra.Props.C08.PcapChunk
import Acra.Props.C08.SamDecWork
import Acra.Props.C08.Search
import Acra.Props.C08.UART
import Acra.Props.C08.Video
import Acra.Props.C08.iNET
import Acra.Props.C08.iNetX
import Acra.Props.C09.ARINC
import Acra.Props.C09.Ch10
import Acra.Props.C09.Chapter7
import Acra.Props.C09.IENA
import Acra.Props.C09.IENAQDN
import Acra.Props.C09.Mpeg
import Acra.Props.C09.NPD
import Acra.Props.C09.Net
import Acra.Props.C09.ParserAligned
import Acra.Props.C09.SrcTieCls
import Acra.Props.C09.iNET
import Acra.Props.C09.iNetX
import Acra.Props.C10.Codecs
import Acra.Props.C10.Decap
import Acra.Props.C10.LowLatency
import Acra.Props.C10.LowLatencyOrder
import Acra.Props.C10.Reassemble
import Acra.Props.C10.Stream
import Acra.Props.C10.Termination
import Acra.Props.C11.Golay
import Acra.Props.C11.SrcTie
import Acra.Props.C11.SrcTieTables
import Acra.Props.C12.FileParser
import Acra.Props.C13.AFDX
import Acra.Props.C13.ARINC
import Acra.Props.C13.Ch10
import Acra.Props.C13.Ch11Misc
import Acra.Props.C13.Chapter7
import Acra.Props.C13.Container
import Acra.Props.C13.Extra
import Acra.Props.C13.IENA
import Acra.Props.C13.IENAQDN
import Acra.Props.C13.MIL1553
import Acra.Props.C13.Mpeg
import Acra.Props.C13.MpegPack
import Acra.Props.C13.NPD
import Acra.Props.C13.Net
import Acra.Props.C13.PCM
import Acra.Props.C13.ParserAligned
import Acra.Props.C13.SrcTieCls
import Acra.Props.C13.UART
import Acra.Props.C13.Video
import Acra.Props.C13.iNET
import Acra.Props.C13.iNetX
import Acra.Props.C14.AFDX
import Acra.Props.C14.ARINC
import Acra.Props.C14.Ch10
import Acra.Props.C14.Ch11Misc
import Acra.Props.C14.Chapter7
import Acra.Props.C14.Foreign
import Acra.Props.C14.IENA
import Acra.Props.C14.IENAQDN
import Acra.Props.C14.MIL1553
import Acra.Props.C14.Mpeg
import Acra.Props.C14.MpegDecode
import Acra.Props.C14.NPD
import Acra.Props.C14.Net
import Acra.Props.C14.PCM
import Acra.Props.C14.ParserAligned
import Acra.Props.C14.SrcTieCls
import Acra.Props.C14.TimeFmt
import Acra.Props.C14.UART
import Acra.Props.C14.Video
import Acra.Props.C14.iNET
import Acra.Props.C14.iNetX
import Acra.Props.C15.BCD
import Acra.Props.C15.ExtraTime
import Acra.Props.C15.IENATime
import Acra.Props.C15.PTP
import Acra.Props.C15.PTS
import Acra.Props.C15.SrcTie
import Acra.Props.C15.SrcTieCls
import Acra.Props.C15.ToRtc
import Acra.Props.C16.Net
import Acra.Props.C17.Horspool
import Acra.Props.C17.KMP
import Acra.Props.C17.PCM
import Acra.Props.C17.SrcTie
import Acra.Props.C17.Swap
import Acra.Props.C18.SamDec
import Acra.Props.C19.Namespace
import Acra.Props.C20.Chapter7
import Acra.Props.C20.SrcTie
import Acra.Py.Basic
import Acra.Py.Container
import Acra.Py.Float
import Acra.Py.IntOps
import Acra.Py.MethOps
import Acra.Py.Operand
import Acra.Py.Records
import Acra.Py.Struct
import Acra.Py.Val
import Acra.Spec.AFDX
import Acra.Spec.Ch10
import Acra.Spec.Ch11
import Acra.Spec.Chapter7
import Acra.Spec.FTI
import Acra.Spec.FTI2
import Acra.Spec.MPEG
import Acra.Spec.Net
import Acra.Spec.Search
