/-
  The right-hand operand of `a == x` when `a` is an instance of a library class C that defines `__eq__`.

  How CPython evaluates `a == x` (Objects/object.c, `do_richcompare`):
    1. if `type(x)` is a PROPER SUBCLASS of `type(a)`, `type(x).__eq__(x, a)` is called first (for the comparison
       operators this happens whether or not the subclass overrides `__eq__` — unlike the arithmetic operators);
       a result other than `NotImplemented` is the answer;
    2. otherwise (or after `NotImplemented`) `type(a).__eq__(a, x)`; a result other than `NotImplemented` is the answer;
    3. then the reflected call `type(x).__eq__(x, a)` if it has not been tried, and finally identity.
  Every `__eq__` of the library returns `True`/`False` (never `NotImplemented`), so step 1 or step 2 decides.
  `a != x` is `not (a == x)`: the classes either define `__ne__` that way or inherit `object.__ne__`, which
  inverts `__eq__`.

  Operands are classified relative to C:

  * `Operand.same s`     — `type(x) is C`, state `s`: step 2, the class's comparison of two instances.
  * `Operand.foreign k`  — `type(x)` is neither a subclass of C nor a library base class of C:
                           `None`, an `int`, a `str`, a `bytes` object, a `list`, a plain `object()`, an instance of
                           an unrelated class of the library.  Step 2: the `isinstance` guard of `C.__eq__` — where
                           the code has one — answers `False`; a class WITHOUT a guard goes on to `getattr(x, attr)`
                           and raises AttributeError (`Operand.unguarded`).
  * instances of a library SUBCLASS or BASE CLASS of C are neither: they pass (or are judged by) an `isinstance`
    guard somewhere in the family.  Only classes that have such relatives define the two extra functions
        `eqSubclass  a b` : `a == x`, x an instance of a library proper subclass of C whose C-level attributes are `b`
        `eqBaseclass a b` : `a == x`, x an instance of a library proper base class of C (which itself defines or
                        inherits the family's `__eq__`); `b` gives the attributes the base class has, the rest of
                        `b` is ignored
    (step 1 applies to `eqSubclass`: the subclass operand is asked first, with the operands swapped).
-/
import Acra.Py.Basic
namespace Acra.Py

/-- the kinds of unrelated right-hand operands the correspondence check exercises -/
inductive ForeignKind where
  | none          -- `None`
  | int           -- an `int` (0)
  | str           -- a `str` ("x")
  | bytes         -- a `bytes` object (b"")
  | list          -- a `list` ([])
  | object        -- a plain `object()`
  | otherClass    -- an instance of another, unrelated codec class of the library
  deriving DecidableEq, Repr, Inhabited

def ForeignKind.all : List ForeignKind := [.none, .int, .str, .bytes, .list, .object, .otherClass]

theorem ForeignKind.mem_all (k : ForeignKind) : k ∈ ForeignKind.all := by cases k <;> decide

/-- wire names (`E Class :: ops ## @<name>`) -/
def ForeignKind.ofName : String → Option ForeignKind
  | "none" => some .none
  | "int" => some .int
  | "str" => some .str
  | "bytes" => some .bytes
  | "list" => some .list
  | "object" => some .object
  | "other" => some .otherClass
  | _ => Option.none

inductive Operand (σ : Type) where
  | same (s : σ)
  | foreign (k : ForeignKind)

/-- `def __eq__(self, other): if not isinstance(other, C): return False; <compare two instances>` -/
def Operand.guarded (eq : σ → σ → R Bool) (a : σ) : Operand σ → R Bool
  | .same b => eq a b
  | .foreign _ => .ok false

/-- a `__eq__` WITHOUT an `isinstance` guard whose first action is `getattr(other, <attribute of C>)`: none of the
    foreign operands has such an attribute (AttributeError).  No class of the library has this shape; it gives
    `opening false` a meaning. -/
def Operand.unguarded (eq : σ → σ → R Bool) (a : σ) : Operand σ → R Bool
  | .same b => eq a b
  | .foreign _ => .error .attribute

/-- what a class's `__eq__` answers when its operand is NOT an instance of the class: `False` from the guard, or —
    without a guard — AttributeError from the first attribute it reads of the operand -/
def Operand.rejects (guarded : Bool) : R Bool := if guarded then .ok false else .error .attribute

/-- `__eq__` behind its opening statement as found in the source (`guarded` is regenerated: `Gen.EqGuard`) -/
def Operand.opening (guarded : Bool) (eq : σ → σ → R Bool) (a : σ) : Operand σ → R Bool
  | .same b => eq a b
  | .foreign _ => Operand.rejects guarded

theorem Operand.opening_true (eq : σ → σ → R Bool) : Operand.opening true eq = Operand.guarded eq := by
  funext a o; cases o <;> rfl

theorem Operand.opening_false (eq : σ → σ → R Bool) : Operand.opening false eq = Operand.unguarded eq := by
  funext a o; cases o <;> rfl

@[simp] theorem Operand.opening_same (g : Bool) (eq : σ → σ → R Bool) (a b : σ) :
    Operand.opening g eq a (.same b) = eq a b := rfl

@[simp] theorem Operand.guarded_same (eq : σ → σ → R Bool) (a b : σ) :
    Operand.guarded eq a (.same b) = eq a b := rfl

@[simp] theorem Operand.guarded_foreign (eq : σ → σ → R Bool) (a : σ) (k : ForeignKind) :
    Operand.guarded eq a (.foreign k) = .ok false := rfl

@[simp] theorem Operand.unguarded_foreign (eq : σ → σ → R Bool) (a : σ) (k : ForeignKind) :
    Operand.unguarded eq a (.foreign k) = .error .attribute := rfl

end Acra.Py
