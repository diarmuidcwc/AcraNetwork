/-
  Python semantics prelude for the source translator: the operators of Python's unbounded `int` over Lean `Int`, and the
  few built-ins the source translator (`harness/translate.py`) emits.  Core Lean only.

  Every definition here is the meaning the translator gives to one Python construct; the translator
  emits nothing else.  Where a Python operator can raise (`x >> k` / `x << k` with `k < 0`: ValueError,
  `x // 0`, `x % 0`: ZeroDivisionError, `seq[i]` out of range: IndexError) the translator only emits
  the total function below after it has SHOWN by its interval analysis that the exceptional case
  cannot occur (shift count `≥ 0`, divisor a non-zero constant, `0 ≤ i < len`); otherwise it emits
  the raising variant (`getByte`, `getItem`, `setItem`, `strideSetE`; `pymodE`, `floordivE` for a divisor that may be
  zero) or, where there is none (a shift count that may be negative), refuses the function.

  Negative operands: `&`, `|`, `^`, `~` are the infinite two's-complement operations
  (`-(n+1) = ~n`), `>>` is the floor shift, `//` and `%` are floor division and its remainder
  (sign of the divisor).  The `example`s at the end compare the bitwise operations with 8-bit
  two's complement on the whole square [-16,16)².
-/
import Acra.Py.Struct
namespace Acra.Py

/-- Python `a // b` (floor division; the translator shows `b ≠ 0`) -/
def floordiv (a b : Int) : Int := Int.fdiv a b

/-- Python `a % b` (remainder of floor division, sign of `b`; the translator shows `b ≠ 0`) -/
def pymod (a b : Int) : Int := Int.fmod a b

/-- Python `x >> k` (the translator shows `k ≥ 0`): `⌊x / 2^k⌋` -/
def shr (x k : Int) : Int := x >>> k.toNat

/-- Python `x << k` (the translator shows `k ≥ 0`): `x * 2^k` -/
def shl (x k : Int) : Int := x <<< k.toNat

/-- Python `~x` -/
def inv (x : Int) : Int := -x - 1

/-! `&`, `|`, `^` on infinite two's complement: `Int.negSucc n` is `~n` -/

/-- Python `a & b` -/
def band : Int → Int → Int
  | .ofNat a, .ofNat b => .ofNat (a &&& b)
  | .ofNat a, .negSucc b => .ofNat (a - (a &&& b))          -- a & ~b
  | .negSucc a, .ofNat b => .ofNat (b - (a &&& b))          -- ~a & b
  | .negSucc a, .negSucc b => .negSucc (a ||| b)            -- ~a & ~b = ~(a | b)

/-- Python `a | b` -/
def bor : Int → Int → Int
  | .ofNat a, .ofNat b => .ofNat (a ||| b)
  | .ofNat a, .negSucc b => .negSucc (b - (a &&& b))        -- a | ~b = ~(b & ~a)
  | .negSucc a, .ofNat b => .negSucc (a - (a &&& b))        -- ~a | b = ~(a & ~b)
  | .negSucc a, .negSucc b => .negSucc (a &&& b)            -- ~a | ~b = ~(a & b)

/-- Python `a ^ b` -/
def bxor : Int → Int → Int
  | .ofNat a, .ofNat b => .ofNat (a ^^^ b)
  | .ofNat a, .negSucc b => .negSucc (a ^^^ b)              -- a ^ ~b = ~(a ^ b)
  | .negSucc a, .ofNat b => .negSucc (a ^^^ b)
  | .negSucc a, .negSucc b => .ofNat (a ^^^ b)              -- ~a ^ ~b = a ^ b

@[simp] theorem floordiv_natCast (a b : Nat) : floordiv (a : Int) (b : Int) = ((a / b : Nat) : Int) := by
  unfold floordiv
  rw [Int.fdiv_eq_ediv_of_nonneg _ (Int.natCast_nonneg b)]
  rfl

@[simp] theorem pymod_natCast (a b : Nat) : pymod (a : Int) (b : Int) = ((a % b : Nat) : Int) := by
  unfold pymod
  rw [Int.fmod_eq_emod_of_nonneg _ (Int.natCast_nonneg b)]
  rfl

theorem floordiv_of_pos (a b : Int) (hb : 0 ≤ b) : floordiv a b = a / b := by
  unfold floordiv; exact Int.fdiv_eq_ediv_of_nonneg _ hb

theorem pymod_of_pos (a b : Int) (hb : 0 ≤ b) : pymod a b = a % b := by
  unfold pymod; exact Int.fmod_eq_emod_of_nonneg _ hb

@[simp] theorem shr_natCast (a : Nat) (k : Int) : shr (a : Int) k = ((a >>> k.toNat : Nat) : Int) := rfl

@[simp] theorem shl_natCast (a : Nat) (k : Int) : shl (a : Int) k = ((a <<< k.toNat : Nat) : Int) := rfl

theorem shr_eq_div (x k : Int) : shr x k = x / ((2 ^ k.toNat : Nat) : Int) := by
  unfold shr; exact Int.shiftRight_eq_div_pow x k.toNat

theorem shl_eq_mul (x k : Int) : shl x k = x * ((2 ^ k.toNat : Nat) : Int) := by
  unfold shl
  cases x with
  | ofNat n =>
    show ((n <<< k.toNat : Nat) : Int) = (n : Int) * _
    rw [Nat.shiftLeft_eq]; exact Int.natCast_mul _ _
  | negSucc n =>
    show Int.negSucc (((n + 1) <<< k.toNat) - 1) = _
    rw [Nat.shiftLeft_eq]
    have hp : 0 < 2 ^ k.toNat := Nat.two_pow_pos _
    have h1 : 0 < (n + 1) * 2 ^ k.toNat := Nat.mul_pos (Nat.succ_pos n) hp
    rw [Int.negSucc_eq, Int.negSucc_eq]
    have : (((n + 1) * 2 ^ k.toNat - 1 : Nat) : Int) = ((n + 1) * 2 ^ k.toNat : Nat) - 1 := by omega
    rw [this, Int.natCast_mul]
    simp only [Int.natCast_add, Int.natCast_one]
    rw [Int.neg_mul]; omega

@[simp] theorem band_natCast (a b : Nat) : band (a : Int) (b : Int) = ((a &&& b : Nat) : Int) := rfl
@[simp] theorem bor_natCast (a b : Nat) : bor (a : Int) (b : Int) = ((a ||| b : Nat) : Int) := rfl
@[simp] theorem bxor_natCast (a b : Nat) : bxor (a : Int) (b : Int) = ((a ^^^ b : Nat) : Int) := rfl

/-- brings literals into the shape of the `_natCast` lemmas: `simp only [lit, …]` -/
theorem lit (n : Nat) : (OfNat.ofNat n : Int) = ((OfNat.ofNat n : Nat) : Int) := rfl

@[simp] theorem band_natCast_lit (a n : Nat) :
    band (a : Int) (no_index (OfNat.ofNat n)) = ((a &&& OfNat.ofNat n : Nat) : Int) := rfl
@[simp] theorem band_lit_natCast (a n : Nat) :
    band (no_index (OfNat.ofNat n)) (a : Int) = ((OfNat.ofNat n &&& a : Nat) : Int) := rfl
@[simp] theorem bor_natCast_lit (a n : Nat) :
    bor (a : Int) (no_index (OfNat.ofNat n)) = ((a ||| OfNat.ofNat n : Nat) : Int) := rfl
@[simp] theorem bor_lit_natCast (a n : Nat) :
    bor (no_index (OfNat.ofNat n)) (a : Int) = ((OfNat.ofNat n ||| a : Nat) : Int) := rfl
@[simp] theorem bxor_natCast_lit (a n : Nat) :
    bxor (a : Int) (no_index (OfNat.ofNat n)) = ((a ^^^ OfNat.ofNat n : Nat) : Int) := rfl
@[simp] theorem bxor_lit_natCast (a n : Nat) :
    bxor (no_index (OfNat.ofNat n)) (a : Int) = ((OfNat.ofNat n ^^^ a : Nat) : Int) := rfl
@[simp] theorem floordiv_natCast_lit (a n : Nat) :
    floordiv (a : Int) (no_index (OfNat.ofNat n)) = ((a / OfNat.ofNat n : Nat) : Int) :=
  floordiv_natCast a n
@[simp] theorem pymod_natCast_lit (a n : Nat) :
    pymod (a : Int) (no_index (OfNat.ofNat n)) = ((a % OfNat.ofNat n : Nat) : Int) :=
  pymod_natCast a n
@[simp] theorem shl_lit (n : Nat) (k : Int) :
    shl (no_index (OfNat.ofNat n)) k = (((OfNat.ofNat n : Nat) <<< k.toNat : Nat) : Int) := rfl
@[simp] theorem shr_lit (n : Nat) (k : Int) :
    shr (no_index (OfNat.ofNat n)) k = (((OfNat.ofNat n : Nat) >>> k.toNat : Nat) : Int) := rfl

theorem natCast_ite (c : Prop) [Decidable c] (a b : Nat) :
    (if c then (a : Int) else (b : Int)) = ((if c then a else b : Nat) : Int) := by
  split <;> rfl

@[simp] theorem toNat_lit (n : Nat) : Int.toNat (no_index (OfNat.ofNat n)) = OfNat.ofNat n := rfl

theorem inv_natCast (s : Nat) : inv (s : Int) = Int.negSucc s := by
  unfold inv; rw [Int.negSucc_eq]; omega

@[simp] theorem band_inv_natCast (s m : Nat) : band (inv (s : Int)) (m : Int) = ((m - (s &&& m) : Nat) : Int) := by
  rw [inv_natCast]; rfl

@[simp] theorem band_inv_natCast_lit (s n : Nat) :
    band (inv (s : Int)) (no_index (OfNat.ofNat n)) = ((OfNat.ofNat n - (s &&& OfNat.ofNat n) : Nat) : Int) :=
  band_inv_natCast s n

/-- `len(x)` -/
def len (l : List α) : Int := (l.length : Int)

/-- `range(n)` as the list of its values -/
def range (n : Int) : List Int := (List.range n.toNat).map Int.ofNat

theorem range_natCast (n : Nat) : range (n : Int) = (List.range n).map Int.ofNat := rfl

/-- `range(a, b)` -/
def range2 (a b : Int) : List Int := (List.range (b - a).toNat).map (fun (i : Nat) => a + (i : Int))

/-- `range(a, b, s)` for a positive constant step `s` (the translator checks `s > 0`) -/
def range3 (a b s : Int) : List Int :=
  (List.range (((b - a) + (s - 1)) / s).toNat).map (fun (i : Nat) => a + (i : Int) * s)

/-- iterating over a `bytes` object yields ints -/
def bytesInts (b : Bytes) : List Int := b.map (fun x => (x.toNat : Int))

/-- `b[i]` on `bytes`, emitted only where the translator has shown `0 ≤ i < len(b)` -/
def byteAt (b : Bytes) (i : Int) : Int := ((b.getD i.toNat 0).toNat : Int)

/-- `t[i]` on a list / tuple of ints, emitted only where the translator has shown `0 ≤ i < len(t)` -/
def intAt (t : List Int) (i : Int) : Int := t.getD i.toNat 0

/-- `t[i] = v` on a list of ints, emitted only where the translator has shown `0 ≤ i < len(t)` -/
def setAt (t : List Int) (i : Int) (v : Int) : List Int := t.set i.toNat v

/-- `b[i]` on `bytes` with Python's index rules: negative indices count from the end, otherwise IndexError -/
def getByte (b : Bytes) (i : Int) : R Int :=
  if 0 ≤ i ∧ i < len b then .ok (byteAt b i)
  else if -(len b) ≤ i ∧ i < 0 then .ok (byteAt b (len b + i))
  else .error .index

/-- `t[i]` on a list / tuple of ints with Python's index rules: those of `listGet` (Py/Container.lean), which is the
    `__getitem__` of the container classes on any element type -/
def getItem (t : List Int) (i : Int) : R Int :=
  if 0 ≤ i ∧ i < len t then .ok (intAt t i)
  else if -(len t) ≤ i ∧ i < 0 then .ok (intAt t (len t + i))
  else .error .index

/-- `b[lo:hi]` for `lo, hi ≥ 0` (shown by the translator) -/
def sliceI (b : List α) (lo hi : Int) : List α := slice b lo.toNat hi.toNat

/-- `a % b` with a divisor that may be zero -/
def pymodE (a b : Int) : R Int := if b = 0 then .error .zeroDiv else .ok (pymod a b)

/-- `a // b` with a divisor that may be zero -/
def floordivE (a b : Int) : R Int := if b = 0 then .error .zeroDiv else .ok (floordiv a b)

/-- `b[start::step]` (constants `start ≥ 0`, `step ≥ 1`): pass over `skip` elements, take one, pass over
    `step - 1`, take one, …  (`Model.Search.getStride` is the same function: the models do not import this prelude, which
    is the language of the translator's output; `Lemmas.SrcTieSwap.getStride_eq` identifies the two, likewise `setStride`) -/
def getStride (step : Nat) : Nat → List α → List α
  | _, [] => []
  | 0, x :: xs => x :: getStride step (step - 1) xs
  | k + 1, _ :: xs => getStride step k xs

/-- the list `b` with the positions of `b[start::step]` replaced by `vals`, in order (for equal sizes) -/
def setStride (step : Nat) : Nat → List α → List α → List α
  | _, [], _ => []
  | 0, x :: xs, [] => x :: xs
  | 0, _ :: xs, v :: vs => v :: setStride step (step - 1) xs vs
  | k + 1, x :: xs, vs => x :: setStride step k xs vs

/-- `b[start::step] = vals` on a bytearray / list for a constant `step ≥ 2`: an extended slice keeps its size —
    ValueError unless `len(vals)` equals the size of the slice -/
def strideSetE (b : List α) (start step : Nat) (vals : List α) : R (List α) :=
  if (getStride step start b).length = vals.length then .ok (setStride step start b vals) else .error .value

/-- `b ** e` for ints (the translator shows `e ≥ 0`; a negative exponent would give a float) -/
def pow (b e : Int) : Int := b ^ e.toNat

/-- `while cond: body` on the tuple of the variables the body assigns, for at most `fuel` iterations: `Err.fuel` when
    the loop has not stopped by then (a non-terminating loop shows up as this error; a tie theorem that proves
    `= .ok …` on a domain proves termination within the fuel there) -/
def whileLoop {σ : Type} (cond : σ → Bool) (body : σ → σ) : Nat → σ → R σ
  | 0, _ => .error .fuel
  | fuel + 1, s => if cond s then whileLoop cond body fuel (body s) else .ok s

/-- `while cond: body` where the condition or the body can raise (an index out of range …): the first exception ends
    the loop.  At most `fuel` iterations, `Err.fuel` beyond, exactly as `whileLoop`. -/
def whileLoopM {σ : Type} (cond : σ → R Bool) (body : σ → R σ) : Nat → σ → R σ
  | 0, _ => .error .fuel
  | fuel + 1, s => cond s >>= fun c => if c = true then body s >>= whileLoopM cond body fuel else .ok s

/-- `t[i] = v` on a list of ints with Python's index rules (negative indices count from the end, else IndexError) -/
def setItem (t : List Int) (i : Int) (v : Int) : R (List Int) :=
  if 0 ≤ i ∧ i < len t then .ok (setAt t i v)
  else if -(len t) ≤ i ∧ i < 0 then .ok (setAt t (len t + i) v)
  else .error .index

/-- the binary digits of `n`, most significant first (`fuel` ≥ the number of digits); `Model.Golay.binDigitsAux` is the same
    function on the model's side (`Lemmas.SrcTieGolayTables.binDigitsAux_eq`) -/
def binDigitsAux : Nat → Nat → List Bool → List Bool
  | 0, _, acc => acc
  | fuel + 1, n, acc => if n = 0 then acc else binDigitsAux fuel (n / 2) ((n % 2 == 1) :: acc)

/-- `bin(x)` as its list of characters: an optional `-`, then `0b`, then the binary digits of `|x|` (`bin(0) = '0b0'`) -/
def bin (x : Int) : List Char :=
  (if x < 0 then ['-'] else []) ++ ['0', 'b'] ++
    (if x.natAbs = 0 then [false] else binDigitsAux (x.natAbs + 1) x.natAbs []).map (fun b => if b then '1' else '0')

/-- `s.count(c)` for a one-character `c`: the number of occurrences -/
def strCount (c : Char) (s : List Char) : Int := (s.count c : Nat)

/-- `sum(t)` -/
def sum (t : List Int) : Int := t.foldl (· + ·) 0

/-- `functools.reduce(f, t)` without initial value: TypeError on an empty sequence -/
def reduce (f : Int → Int → Int) : List Int → R Int
  | [] => .error .type
  | x :: xs => .ok (xs.foldl f x)

/-- `[v] * n` -/
def replicate (n : Int) (v : Int) : List Int := List.replicate n.toNat v

/-- `struct.unpack(fmt, b)` for unsigned codes, values as Python ints -/
def structUnpackI (f : Fmt) (b : Bytes) : R (List Int) :=
  match structUnpack f b with
  | .ok vs => .ok (vs.map Int.ofNat)
  | .error e => .error e

/-- `struct.pack(fmt, *vs)` for unsigned codes: a negative value is out of range (`struct.error`) -/
def structPackI (f : Fmt) (vs : List Int) : R Bytes :=
  if vs.all (fun v => decide (0 ≤ v)) then structPack f (vs.map Int.toNat) else .error .struct

/-- lexicographic `<` on tuples of ints of equal length (the translator checks the lengths) -/
def tupleLt : List Int → List Int → Bool
  | x :: xs, y :: ys => decide (x < y) || (decide (x = y) && tupleLt xs ys)
  | [], _ :: _ => true
  | _, _ => false

/-- lexicographic `<=` on tuples of ints -/
def tupleLe : List Int → List Int → Bool
  | x :: xs, y :: ys => decide (x < y) || (decide (x = y) && tupleLe xs ys)
  | [], _ => true
  | _ :: _, [] => false

theorem ok_bind {α β : Type} (a : α) (f : α → R β) : ((Except.ok a : R α) >>= f) = f a := rfl

theorem getItem_natCast (T : List Int) (i : Nat) :
    getItem T (i : Int) = match T[i]? with | some v => .ok v | none => .error .index := by
  unfold getItem len intAt
  by_cases h : i < T.length
  · rw [if_pos ⟨by omega, by omega⟩, List.getElem?_eq_getElem h]; simp [List.getD_eq_getElem?_getD, h]
  · rw [if_neg (by omega), if_neg (by omega), List.getElem?_eq_none (by omega)]

theorem getByte_natCast (b : Bytes) (i : Nat) :
    getByte b (i : Int) = match b[i]? with | some x => .ok (x.toNat : Int) | none => .error .index := by
  unfold getByte len byteAt
  by_cases h : i < b.length
  · rw [if_pos ⟨by omega, by omega⟩, List.getElem?_eq_getElem h]; simp [List.getD_eq_getElem?_getD, h]
  · rw [if_neg (by omega), if_neg (by omega), List.getElem?_eq_none (by omega)]

theorem setItem_natCast (T : List Int) (i : Nat) (v : Int) :
    setItem T (i : Int) v = if i < T.length then .ok (T.set i v) else .error .index := by
  unfold setItem len setAt
  by_cases h : i < T.length
  · rw [if_pos ⟨by omega, by omega⟩, if_pos h]; rfl
  · rw [if_neg (by omega), if_neg (by omega), if_neg h]

theorem getItem_lt (T : List Int) (i : Nat) (h : i < T.length) : getItem T (i : Int) = .ok (T.getD i 0) := by
  rw [getItem_natCast, List.getD_eq_getElem?_getD, List.getElem?_eq_getElem h]; rfl

theorem getItem_ge (T : List Int) (i : Nat) (h : T.length ≤ i) : getItem T (i : Int) = .error .index := by
  rw [getItem_natCast, List.getElem?_eq_none h]

theorem setItem_lt (T : List Int) (i : Nat) (v : Int) (h : i < T.length) : setItem T (i : Int) v = .ok (T.set i v) := by
  rw [setItem_natCast, if_pos h]

@[simp] theorem structUnpackI_eq (f : Fmt) (b : Bytes) :
    structUnpackI f b = (structUnpack f b).map (fun vs => vs.map Int.ofNat) := by
  unfold structUnpackI; cases structUnpack f b <;> rfl

theorem structPackI_natCast (f : Fmt) (vs : List Nat) :
    structPackI f (vs.map Int.ofNat) = structPack f vs := by
  unfold structPackI
  have h1 : (vs.map Int.ofNat).all (fun v => decide (0 ≤ v)) = true := by
    simp [List.all_eq_true]
  have h2 : (vs.map Int.ofNat).map Int.toNat = vs := by
    simp [List.map_map, Function.comp_def]
  rw [if_pos h1, h2]

theorem structPackI_cast (f : Fmt) (vs : List Nat) (is : List Int) (h : is = vs.map Int.ofNat) :
    structPackI f is = structPack f vs := by
  subst h; exact structPackI_natCast f vs

theorem structPackI_neg (f : Fmt) (is : List Int) (h : ∃ v ∈ is, v < 0) : structPackI f is = .error .struct := by
  obtain ⟨v, hv, hneg⟩ := h
  unfold structPackI
  have : ¬ (is.all (fun v => decide (0 ≤ v)) = true) := by
    intro hall
    rw [List.all_eq_true] at hall
    have := hall v hv
    simp at this; omega
  simp [this]

theorem foldl_natCast {β : Type} (F : Int → Int → Int) (G : Nat → β → Nat) (g : β → Int)
    (h : ∀ (a : Nat) (b : β), F (a : Int) (g b) = ((G a b : Nat) : Int)) (l : List β) (a : Nat) :
    List.foldl F (a : Int) (l.map g) = ((List.foldl G a l : Nat) : Int) := by
  induction l generalizing a with
  | nil => rfl
  | cons b bs ih => simp only [List.map_cons, List.foldl_cons, h, ih]

theorem sum_natCast (t : List Nat) : sum (t.map Int.ofNat) = ((t.sum : Nat) : Int) := by
  rw [List.sum_eq_foldl_nat]
  exact foldl_natCast (· + ·) (· + ·) Int.ofNat (fun a b => (Int.natCast_add a b).symm) t 0

private def tc8 (x : Int) : Nat := (x % 256).toNat
private def untc8 (n : Nat) : Int := if n < 128 then n else (n : Int) - 256
private def grid : List Int := (List.range 32).map (fun (i : Nat) => (i : Int) - 16)

example : grid.all (fun a => grid.all (fun b => band a b == untc8 (tc8 a &&& tc8 b))) = true := by decide +kernel
example : grid.all (fun a => grid.all (fun b => bor a b == untc8 (tc8 a ||| tc8 b))) = true := by decide +kernel
example : grid.all (fun a => grid.all (fun b => bxor a b == untc8 (tc8 a ^^^ tc8 b))) = true := by decide +kernel
example : grid.all (fun a => inv a == untc8 (255 - tc8 a)) = true := by decide +kernel
example : floordiv (-7) 2 = -4 ∧ pymod (-7) 2 = 1 ∧ floordiv 7 (-2) = -4 ∧ pymod 7 (-2) = -1 ∧
    shr (-5) 1 = -3 ∧ shl (-5) 2 = -20 ∧ inv 5 = -6 ∧ band (-4) 6 = 4 ∧ bor (-4) 1 = -3 ∧ bxor (-1) 5 = -6 := by
  decide

end Acra.Py
