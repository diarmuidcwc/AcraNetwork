/-
  The "decode records until the loop condition fails" pattern shared by IENA-M/Q parameters, NPD segments,
  iNET packages, parser-aligned blocks, UART words, 1553 messages, MPEG-TS packets and the pcap records of SamDec.

  `dec1 rem` decodes one record from the bytes at the current offset and returns it with the
  number of bytes the loop advances by; `more off len` is the Python loop condition.

  The loop is recursive on its fuel; `Reach` describes a run of it without fuel.  The fuel induction is done once
  (`decOff_reach`), the way back is `reach_decOff`; every other fact about the loop in this file is a fact about
  `Reach`, proved by induction on the list of records.  (Lemmas/Walk.lean reads the loop against a predicate on the
  remaining BYTES, which has no list to induct on: its two `…_of_unfold` theorems go by the fuel again.)

  The namespace `Acra.Lemmas.RecordsErr` in this file holds `Reach` and every lemma stated with it (returning runs and
  raising ones alike); `Acra.Py` holds `decOff`, `Progress` and the corollaries that do not mention `Reach`.
-/
import Acra.Py.Basic
namespace Acra.Py

def decOff (dec1 : Bytes → R (α × Nat)) (more : Nat → Nat → Bool) (buf : Bytes) :
    Nat → Nat → R (List α)
  | 0, _ => .error .fuel
  | fuel + 1, off =>
    if more off buf.length then
      match dec1 (buf.drop off) with
      | .ok (x, n) =>
        match decOff dec1 more buf fuel (off + n) with
        | .ok xs => .ok (x :: xs)
        | .error e => .error e
      | .error e => .error e
    else .ok []

/-- What the loop theorems ask of a step: an accepted record advances (`pos`), the step does not produce the model's own
    `fuel` marker (`nofuel`), and it accepts nothing on the empty string (`empty`).  `empty` beside `pos` puts every record
    at an offset inside the buffer (`lt_length`), which is what bounds the number of records by the number of bytes. -/
structure Progress (dec1 : Bytes → R (α × Nat)) : Prop where
  pos : ∀ b x n, dec1 b = .ok (x, n) → 0 < n
  nofuel : ∀ b, dec1 b ≠ .error .fuel
  empty : ∀ x n, dec1 [] ≠ .ok (x, n)

theorem Progress.lt_length {dec1 : Bytes → R (α × Nat)} (hp : Progress dec1) {buf : Bytes} {o n : Nat} {x : α}
    (h : dec1 (buf.drop o) = .ok (x, n)) : o < buf.length := by
  false_or_by_contra
  rw [List.drop_eq_nil_of_le (by omega)] at h
  exact hp.empty x n h

end Acra.Py

namespace Acra.Lemmas.RecordsErr
open Acra.Py

/-- `Reach dec1 more buf off xs o`: starting at offset `off` the loop condition held and the step decoded the
    records `xs` one after the other, and the loop now stands at offset `o`. -/
def Reach (dec1 : Bytes → R (α × Nat)) (more : Nat → Nat → Bool) (buf : Bytes) : Nat → List α → Nat → Prop
  | off, [], o => o = off
  | off, x :: xs, o =>
    more off buf.length = true ∧ ∃ n, dec1 (buf.drop off) = .ok (x, n) ∧ Reach dec1 more buf (off + n) xs o

theorem decOff_reach (dec1 : Bytes → R (α × Nat)) (more : Nat → Nat → Bool) (buf : Bytes) (fuel off : Nat) :
    match decOff dec1 more buf fuel off with
    | .ok xs => ∃ o, Reach dec1 more buf off xs o ∧ more o buf.length = false
    | .error e =>
      (∃ xs o, Reach dec1 more buf off xs o ∧ more o buf.length = true ∧ dec1 (buf.drop o) = .error e) ∨
      (e = .fuel ∧ ∃ xs o, Reach dec1 more buf off xs o ∧ xs.length = fuel) := by
  induction fuel generalizing off with
  | zero => exact Or.inr ⟨rfl, [], off, rfl, rfl⟩
  | succ fuel ih =>
    rw [decOff]
    by_cases hm : more off buf.length = true
    · rw [if_pos hm]
      cases hd : dec1 (buf.drop off) with
      | error e => exact Or.inl ⟨[], off, rfl, hm, hd⟩
      | ok r =>
        obtain ⟨x, n⟩ := r
        simp only
        have hrec := ih (off + n)
        cases hr : decOff dec1 more buf fuel (off + n) with
        | ok ys =>
          rw [hr] at hrec
          obtain ⟨o, hreach, hmo⟩ := hrec
          exact ⟨o, ⟨hm, n, hd, hreach⟩, hmo⟩
        | error e =>
          rw [hr] at hrec
          rcases hrec with ⟨xs, o, hreach, hmo, hdo⟩ | ⟨he, xs, o, hreach, hlen⟩
          · exact Or.inl ⟨x :: xs, o, ⟨hm, n, hd, hreach⟩, hmo, hdo⟩
          · exact Or.inr ⟨he, x :: xs, o, ⟨hm, n, hd, hreach⟩, by rw [List.length_cons, hlen]⟩
    · rw [if_neg hm]
      exact ⟨off, rfl, by simpa using hm⟩

section
variable {dec1 : Bytes → R (α × Nat)} {more : Nat → Nat → Bool} {buf : Bytes} {fuel off o : Nat} {xs : List α} {e : Err}

theorem decOff_ok_reach (h : decOff dec1 more buf fuel off = .ok xs) :
    ∃ o, Reach dec1 more buf off xs o ∧ more o buf.length = false := by
  have := decOff_reach dec1 more buf fuel off
  rwa [h] at this

theorem decOff_error_reach (h : decOff dec1 more buf fuel off = .error e) :
    (∃ xs o, Reach dec1 more buf off xs o ∧ more o buf.length = true ∧ dec1 (buf.drop o) = .error e) ∨
    (e = .fuel ∧ ∃ xs o, Reach dec1 more buf off xs o ∧ xs.length = fuel) := by
  have := decOff_reach dec1 more buf fuel off
  rwa [h] at this

theorem reach_decOff (h : Reach dec1 more buf off xs o) (fuel : Nat) :
    decOff dec1 more buf (xs.length + fuel) off = (decOff dec1 more buf fuel o).map (xs ++ ·) := by
  induction xs generalizing off with
  | nil =>
    simp only [Reach] at h
    subst h
    rw [List.length_nil, Nat.zero_add]
    cases decOff dec1 more buf fuel o <;> rfl
  | cons x xs ih =>
    obtain ⟨hm, n, hd, hr⟩ := h
    rw [List.length_cons, Nat.add_right_comm, decOff, if_pos hm, hd]
    simp only
    rw [ih hr]
    cases decOff dec1 more buf fuel o <;> rfl

theorem reach_decOff_ok (h : Reach dec1 more buf off xs o) (hm : more o buf.length = false) (hf : xs.length < fuel) :
    decOff dec1 more buf fuel off = .ok xs := by
  obtain ⟨k, rfl⟩ : ∃ k, fuel = xs.length + (k + 1) := ⟨fuel - xs.length - 1, by omega⟩
  rw [reach_decOff h, decOff, hm]
  simp [Except.map]

theorem reach_decOff_error (h : Reach dec1 more buf off xs o) (hm : more o buf.length = true)
    (hd : dec1 (buf.drop o) = .error e) (hf : xs.length < fuel) :
    decOff dec1 more buf fuel off = .error e := by
  obtain ⟨k, rfl⟩ : ∃ k, fuel = xs.length + (k + 1) := ⟨fuel - xs.length - 1, by omega⟩
  rw [reach_decOff h, decOff, if_pos hm, hd]
  rfl

/-- the loop goes on only while `g` bytes are left, and every record advances by `k` or more: so `k` bytes a record,
    except that the last may run `k - g` bytes past the end of the buffer (padding) -/
theorem reach_stride (g k : Nat)
    (hk : ∀ o x n, more o buf.length = true → dec1 (buf.drop o) = .ok (x, n) → o + g ≤ buf.length ∧ k ≤ n)
    (h : Reach dec1 more buf off xs o) : xs.length * k ≤ (buf.length - off) + (k - g) := by
  induction xs generalizing off with
  | nil => simp
  | cons x xs ih =>
    obtain ⟨hm, n, hd, hr⟩ := h
    obtain ⟨hlt, hn⟩ := hk _ _ _ hm hd
    have := ih hr
    rw [List.length_cons, Nat.succ_mul]
    by_cases hin : off + n ≤ buf.length
    · omega
    · -- the record ran past the end: nothing can follow it
      cases xs with
      | nil => simp; omega
      | cons y ys =>
        obtain ⟨hm', _, hd', _⟩ := hr
        have := (hk _ _ _ hm' hd').1
        omega

theorem reach_weight (w : α → Nat) (hk : ∀ b x n, dec1 b = .ok (x, n) → w x ≤ n ∧ n ≤ b.length)
    (h : Reach dec1 more buf off xs o) : (xs.map w).sum ≤ buf.length - off := by
  induction xs generalizing off with
  | nil => simp
  | cons x xs ih =>
    obtain ⟨_, n, hd, hr⟩ := h
    have hn := hk _ _ _ hd
    rw [List.length_drop] at hn
    have := ih hr
    rw [List.map_cons, List.sum_cons]
    omega

theorem reach_stride_exact (k : Nat) (hk : ∀ b x n, dec1 b = .ok (x, n) → k ≤ n ∧ n ≤ b.length)
    (h : Reach dec1 more buf off xs o) : xs.length * k ≤ buf.length - off := by
  simpa [List.map_const', List.sum_replicate_nat] using reach_weight (fun _ => k) hk h

theorem reach_le (h : Reach dec1 more buf off xs o) : off ≤ o := by
  induction xs generalizing off with
  | nil => exact Nat.le_of_eq h.symm
  | cons x xs ih => obtain ⟨_, n, _, hr⟩ := h; exact Nat.le_trans (Nat.le_add_right _ _) (ih hr)

theorem reach_stride_guard (k : Nat)
    (hk : ∀ o x n, more o buf.length = true → dec1 (buf.drop o) = .ok (x, n) → o + k ≤ buf.length ∧ k ≤ n)
    (h : Reach dec1 more buf off xs o) : xs.length * k ≤ buf.length - off := by
  simpa using reach_stride k k hk h

theorem reach_length_le (hp : Progress dec1) (h : Reach dec1 more buf off xs o) : xs.length ≤ buf.length - off := by
  simpa using reach_stride 1 1 (fun _ _ _ _ hd => ⟨hp.lt_length hd, hp.pos _ _ _ hd⟩) h

theorem reach_mem (h : Reach dec1 more buf off xs o) :
    ∀ x ∈ xs, ∃ o n, off ≤ o ∧ more o buf.length = true ∧ dec1 (buf.drop o) = .ok (x, n) := by
  induction xs generalizing off with
  | nil => simp
  | cons y ys ih =>
    obtain ⟨hm, n, hd, hr⟩ := h
    intro x hx
    rcases List.mem_cons.1 hx with rfl | hx
    · exact ⟨off, n, Nat.le_refl _, hm, hd⟩
    · obtain ⟨o, m, ho, hmo, hdo⟩ := ih hr x hx
      exact ⟨o, m, by omega, hmo, hdo⟩

/-- the loop test may look at what follows a record: `ys`, `x`, `zs` split the list at it -/
theorem reach_encAll_at (enc1 : β → Bytes) (out : β → α) (xs : List β) (pre : Bytes)
    (hdec : ∀ x ∈ xs, ∀ rest, dec1 (enc1 x ++ rest) = .ok (out x, (enc1 x).length))
    (hmore : ∀ ys x zs, xs = ys ++ x :: zs →
      more (pre ++ ys.flatMap enc1).length (pre ++ ys.flatMap enc1 ++ (enc1 x ++ zs.flatMap enc1)).length = true) :
    Reach dec1 more (pre ++ xs.flatMap enc1) pre.length (xs.map out) (pre ++ xs.flatMap enc1).length := by
  induction xs generalizing pre with
  | nil => simp [Reach]
  | cons x xs ih =>
    have := ih (pre ++ enc1 x) (fun y hy => hdec y (by simp [hy])) (fun ys y zs h => by
      have := hmore (x :: ys) y zs (by rw [h]; rfl)
      simpa only [List.flatMap_cons, List.append_assoc] using this)
    rw [List.append_assoc, List.length_append] at this
    rw [List.flatMap_cons]
    have h0 := hmore [] x xs rfl
    simp only [List.flatMap_nil, List.append_nil] at h0
    exact ⟨h0, _, by rw [List.drop_left]; exact hdec x (by simp) _, this⟩

theorem reach_encAll (enc1 : β → Bytes) (out : β → α) (xs : List β) (pre : Bytes)
    (hdec : ∀ x ∈ xs, ∀ rest, dec1 (enc1 x ++ rest) = .ok (out x, (enc1 x).length))
    (hmore : ∀ x ∈ xs, ∀ (p q : Bytes), more p.length (p ++ (enc1 x ++ q)).length = true) :
    Reach dec1 more (pre ++ xs.flatMap enc1) pre.length (xs.map out) (pre ++ xs.flatMap enc1).length :=
  reach_encAll_at enc1 out xs pre hdec fun _ x _ h => hmore x (by simp [h]) _ _

end

/-- `len − off + 1` is a lower bound of the fuel `len + 1` that every model passes, whatever offset it starts at -/
theorem decOff_error_iff (dec1 : Bytes → R (α × Nat)) (more : Nat → Nat → Bool) (buf : Bytes)
    (hp : Progress dec1) (fuel off : Nat) (hf : buf.length - off + 1 ≤ fuel) (e : Err) :
    decOff dec1 more buf fuel off = .error e ↔
      ∃ xs o, Reach dec1 more buf off xs o ∧ more o buf.length = true ∧ dec1 (buf.drop o) = .error e := by
  constructor
  · intro h
    rcases decOff_error_reach h with h' | ⟨_, xs, o, hr, hlen⟩
    · exact h'
    · have := reach_length_le hp hr
      omega
  · rintro ⟨xs, o, hr, hm, hd⟩
    have := reach_length_le hp hr
    exact reach_decOff_error hr hm hd (by omega)

theorem decOff_ok_iff (dec1 : Bytes → R (α × Nat)) (more : Nat → Nat → Bool) (buf : Bytes)
    (hp : Progress dec1) (fuel off : Nat) (hf : buf.length - off + 1 ≤ fuel) (xs : List α) :
    decOff dec1 more buf fuel off = .ok xs ↔
      ∃ o, Reach dec1 more buf off xs o ∧ more o buf.length = false := by
  constructor
  · exact decOff_ok_reach
  · rintro ⟨o, hr, hm⟩
    have := reach_length_le hp hr
    exact reach_decOff_ok hr hm (by omega)

end Acra.Lemmas.RecordsErr

namespace Acra.Py
open Acra.Lemmas.RecordsErr

/-- Termination half of C08 for every loop of this shape: fuel `len - off + 1` never runs out. -/
theorem decOff_fuel_sufficient (dec1 : Bytes → R (α × Nat)) (more : Nat → Nat → Bool) (buf : Bytes)
    (hp : Progress dec1) (fuel off : Nat) (hf : buf.length - off + 1 ≤ fuel) :
    decOff dec1 more buf fuel off ≠ .error .fuel := fun h =>
  have ⟨_, _, _, _, hd⟩ := (decOff_error_iff dec1 more buf hp fuel off hf .fuel).1 h
  hp.nofuel _ hd

theorem decOff_items_le (dec1 : Bytes → R (α × Nat)) (more : Nat → Nat → Bool) (buf : Bytes)
    (hp : Progress dec1) (fuel off : Nat) (xs : List α)
    (h : decOff dec1 more buf fuel off = .ok xs) : xs.length ≤ buf.length - off :=
  have ⟨_, hr, _⟩ := decOff_ok_reach h
  reach_length_le hp hr

theorem decOff_encAll_map (dec1 : Bytes → R (α × Nat)) (more : Nat → Nat → Bool) (enc1 : β → Bytes) (out : β → α)
    (xs : List β) (pre : Bytes) (fuel : Nat) (hfuel : xs.length < fuel)
    (hdec : ∀ x ∈ xs, ∀ rest, dec1 (enc1 x ++ rest) = .ok (out x, (enc1 x).length))
    (hmore : ∀ x ∈ xs, ∀ (p q : Bytes), more p.length (p ++ (enc1 x ++ q)).length = true)
    (hstop : ∀ n, more n n = false) :
    decOff dec1 more (pre ++ xs.flatMap enc1) fuel pre.length = .ok (xs.map out) :=
  reach_decOff_ok (reach_encAll enc1 out xs pre hdec hmore) (hstop _) (by rwa [List.length_map])

theorem decOff_encAll (dec1 : Bytes → R (α × Nat)) (more : Nat → Nat → Bool) (enc1 : α → Bytes)
    (xs : List α) (pre : Bytes) (fuel : Nat) (hfuel : xs.length < fuel)
    (hdec : ∀ x ∈ xs, ∀ rest, dec1 (enc1 x ++ rest) = .ok (x, (enc1 x).length))
    (hmore : ∀ x ∈ xs, ∀ (p q : Bytes), more p.length (p ++ (enc1 x ++ q)).length = true)
    (hstop : ∀ n, more n n = false) :
    decOff dec1 more (pre ++ xs.flatMap enc1) fuel pre.length = .ok xs := by
  simpa using decOff_encAll_map dec1 more enc1 id xs pre fuel hfuel hdec hmore hstop

theorem decOff_items_stride (dec1 : Bytes → R (α × Nat)) (more : Nat → Nat → Bool) (buf : Bytes)
    (hp : Progress dec1) (k : Nat) (hk : ∀ b x n, dec1 b = .ok (x, n) → k ≤ n)
    (fuel off : Nat) (xs : List α) (h : decOff dec1 more buf fuel off = .ok xs) :
    xs.length * k ≤ (buf.length - off) + (k - 1) :=
  have ⟨_, hr, _⟩ := decOff_ok_reach h
  reach_stride 1 k (fun _ _ _ _ hd => ⟨hp.lt_length hd, hk _ _ _ hd⟩) hr

theorem decOff_items_stride_exact (dec1 : Bytes → R (α × Nat)) (more : Nat → Nat → Bool) (buf : Bytes)
    (k : Nat) (hk : ∀ b x n, dec1 b = .ok (x, n) → k ≤ n ∧ n ≤ b.length)
    (fuel off : Nat) (xs : List α) (h : decOff dec1 more buf fuel off = .ok xs) :
    xs.length * k ≤ buf.length - off :=
  have ⟨_, hr, _⟩ := decOff_ok_reach h
  reach_stride_exact k hk hr

theorem decOff_error_source (dec1 : Bytes → R (α × Nat)) (more : Nat → Nat → Bool) (buf : Bytes)
    (fuel off : Nat) (e : Err) (h : decOff dec1 more buf fuel off = .error e) :
    e = .fuel ∨ ∃ o, dec1 (buf.drop o) = .error e := by
  rcases decOff_error_reach h with ⟨_, o, _, _, hd⟩ | ⟨he, _⟩
  · exact Or.inr ⟨o, hd⟩
  · exact Or.inl he

/-- the fuel: one unit per `k` bytes and one for the test that fails -/
theorem decOff_total (dec1 : Bytes → R (α × Nat)) (more : Nat → Nat → Bool) (buf : Bytes) (k : Nat) (hk0 : 0 < k)
    (hk : ∀ b x n, dec1 b = .ok (x, n) → k ≤ n ∧ n ≤ b.length)
    (htot : ∀ o e, more o buf.length = true → dec1 (buf.drop o) ≠ .error e)
    (fuel off : Nat) (hf : (buf.length - off) / k + 1 ≤ fuel) : ∃ xs, decOff dec1 more buf fuel off = .ok xs := by
  cases h : decOff dec1 more buf fuel off with
  | ok xs => exact ⟨xs, rfl⟩
  | error e =>
    rcases decOff_error_reach h with ⟨_, o, _, hm, hd⟩ | ⟨_, xs, o, hr, hlen⟩
    · exact absurd hd (htot o e hm)
    · have := reach_stride_exact k hk hr
      rw [hlen] at this
      exact absurd ((Nat.div_lt_iff_lt_mul hk0).1 (Nat.lt_of_succ_le hf)) (Nat.not_lt.2 this)

theorem decOff_map (dec1 : Bytes → R (α × Nat)) (g : Bytes → R (β × Nat)) (f : α → β)
    (hg : ∀ b, g b = (dec1 b).map fun p => (f p.1, p.2)) (more : Nat → Nat → Bool) (buf : Bytes) (fuel off : Nat) :
    decOff g more buf fuel off = (decOff dec1 more buf fuel off).map (List.map f) := by
  induction fuel generalizing off with
  | zero => rfl
  | succ fuel ih =>
    rw [decOff, decOff]
    split
    · rw [hg]
      cases dec1 (buf.drop off) with
      | error e => rfl
      | ok p =>
        obtain ⟨x, n⟩ := p
        show (match decOff g more buf fuel (off + n) with
          | .ok xs => (.ok (f x :: xs) : R (List β)) | .error e => .error e) = _
        rw [ih]
        dsimp only
        cases decOff dec1 more buf fuel (off + n) <;> rfl
    · rfl

theorem Progress.map {dec1 : Bytes → R (α × Nat)} {g : Bytes → R (β × Nat)} {f : α → β}
    (hp : Progress dec1) (hg : ∀ b, g b = (dec1 b).map fun p => (f p.1, p.2)) : Progress g where
  pos := fun b y n h => by obtain ⟨p, hd, e⟩ := R.map_eq_ok.1 (hg b ▸ h); cases e; exact hp.pos b p.1 p.2 hd
  nofuel := fun b h => hp.nofuel b (R.map_eq_error.1 (hg b ▸ h))
  empty := fun y n h => by obtain ⟨p, hd, _⟩ := R.map_eq_ok.1 (hg [] ▸ h); exact hp.empty p.1 p.2 hd

end Acra.Py
