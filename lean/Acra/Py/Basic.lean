/-
  Python semantics prelude, part 1: bytes, errors, integer <-> byte-string conversions.
  Import-free (core Lean only) so that the driver links as a native executable.
-/
namespace Acra.Py

abbrev Bytes := List UInt8

/-- The exception classes the model distinguishes: `struct.error`, `ValueError`, a bare `Exception` (`generic`), `IndexError`,
    `TypeError`, `OSError`, `AttributeError`, `KeyError`, `ZeroDivisionError`, `OverflowError`, `NotImplementedError`,
    `StopIteration`, and Chapter 7's own `PTDPLengthError`, `PTDPRemainingData` (Chapter7.py).  `fuel` is no Python exception:
    it is never produced by a model whose `…_fuel_sufficient` theorem holds; it is how a non-terminating loop shows up. -/
inductive Err where
  | struct | value | generic | index | type | os | fuel
  | attribute | key | zeroDiv | overflow | notImplemented | stopIteration
  | ptdpLength | ptdpRemaining
  deriving DecidableEq, Repr, Inhabited

/-- the name the harness prints for the corresponding Python exception class -/
def Err.name : Err → String
  | .struct => "struct" | .value => "value" | .generic => "generic" | .index => "index"
  | .type => "type" | .os => "os" | .fuel => "fuel" | .attribute => "attribute" | .key => "key"
  | .zeroDiv => "zerodiv" | .overflow => "overflow" | .notImplemented => "notimplemented"
  | .stopIteration => "stopiteration" | .ptdpLength => "ptdplength" | .ptdpRemaining => "ptdpremaining"

abbrev R := Except Err

instance : Inhabited (R α) := ⟨.error .generic⟩

def R.isOk : R α → Bool
  | .ok _ => true
  | .error _ => false

@[simp] theorem R.isOk_ok (a : α) : (Except.ok a : R α).isOk = true := rfl
@[simp] theorem R.isOk_error (e : Err) : (Except.error e : R α).isOk = false := rfl

theorem R.isOk_iff (r : R α) : r.isOk = true ↔ ∃ a, r = .ok a := by
  cases r <;> simp [R.isOk]

/-- one guard of an `__eq__` that compares attribute after attribute -/
theorem guard_ne_iff {α : Type} [DecidableEq α] (x y : α) (r : R Bool) :
    (if x ≠ y then .ok false else r) = .ok true ↔ x = y ∧ r = .ok true := by
  by_cases h : x = y <;> simp [h]

/-- core Lean has no `DecidableEq (Except ε α)`; `decide` on an equation between results needs one -/
instance instDecEqExcept {ε α : Type} [DecidableEq ε] [DecidableEq α] : DecidableEq (Except ε α)
  | .ok a, .ok b => if h : a = b then isTrue (by rw [h]) else isFalse (by intro h'; injection h' with h'; exact h h')
  | .error a, .error b => if h : a = b then isTrue (by rw [h]) else isFalse (by intro h'; injection h' with h'; exact h h')
  | .ok _, .error _ => isFalse (by intro h; cases h)
  | .error _, .ok _ => isFalse (by intro h; cases h)

/-- Python slice `b[lo:hi]` for non-negative `lo`, `hi` (clamping is what `take`/`drop` do).  Fields of a buffer are
    spelt `slice buf lo hi`; `take_drop_slice` and `take_eq_slice0` bring the spelling `(buf.drop lo).take k` to it. -/
def slice (b : List α) (lo hi : Nat) : List α := (b.take hi).drop lo

/-- Python slice `b[lo:]`. -/
abbrev sliceFrom (b : List α) (lo : Nat) : List α := b.drop lo

@[simp] theorem slice_length (b : List α) (lo hi : Nat) :
    (slice b lo hi).length = min hi b.length - lo := by
  simp [slice]

theorem slice_min (b : List α) (lo hi : Nat) : slice b lo (min hi b.length) = slice b lo hi := by
  rw [slice, slice, ← List.take_eq_take_min]

theorem slice_clamp (b : List α) (lo hi : Nat) : slice b lo (max lo (min hi b.length)) = slice b lo hi := by
  by_cases h : lo ≤ min hi b.length
  · rw [Nat.max_eq_right h, slice_min]
  · rw [List.eq_nil_of_length_eq_zero (l := slice b lo hi) (by rw [slice_length]; omega),
      List.eq_nil_of_length_eq_zero (l := slice b lo _) (by rw [slice_length]; omega)]

theorem take_drop_slice (b : List α) (m n : Nat) : List.take n (List.drop m b) = slice b m (m + n) := by
  simp [slice, List.take_drop]

theorem take_eq_slice0 (b : List α) (n : Nat) : List.take n b = slice b 0 n := by simp [slice]

theorem slice_drop (b : List α) (n lo hi : Nat) : slice (List.drop n b) lo hi = slice b (n + lo) (n + hi) := by
  simp [slice, List.take_drop, List.drop_drop]

theorem slice_append_left (a b : List α) (h : hi ≤ a.length) :
    slice (a ++ b) lo hi = slice a lo hi := by
  simp [slice, List.take_append_of_le_length h]

/-- usable as a conditional simp lemma when the prefix length is a literal -/
theorem slice_skip (a b : List α) (lo hi : Nat) (h : a.length ≤ lo) :
    slice (a ++ b) lo hi = slice b (lo - a.length) (hi - a.length) := by
  simp only [slice, List.take_append, List.drop_append]
  rw [List.drop_eq_nil_of_le (by simp; omega)]
  by_cases hh : a.length ≤ hi
  · simp [Nat.min_eq_right hh]
  · have : hi - a.length = 0 := by omega
    simp [this]

/-- The length is a variable `n` with `h : n = a.length`, not `a.length` itself: the lemma then rewrites a literal
    offset (`slice (hdr ++ rest) 0 12`) and `by simp` proves `h`.  The three lemmas below are stated the same way, and so
    is every lemma of Py/Struct.lean and Lemmas/Decoder.lean that takes an offset, a length or a format together with
    an equation for it (`off`, `hoff`; `n`, `hn`; `f`, `hf`). -/
theorem slice_prefix (a b : List α) (n : Nat) (h : n = a.length) : slice (a ++ b) 0 n = a := by
  subst h; simp [slice]

theorem drop_append_len (a b : List α) (n : Nat) (h : n = a.length) : List.drop n (a ++ b) = b := by
  subst h; exact List.drop_left' rfl

theorem take_append_len (a b : List α) (n : Nat) (h : n = a.length) : List.take n (a ++ b) = a := by
  subst h; exact List.take_left' rfl

theorem slice_mid (a b c : List α) (lo hi : Nat) (h1 : lo = a.length) (h2 : hi = a.length + b.length) :
    slice (a ++ (b ++ c)) lo hi = b := by
  subst h1 h2
  simp [slice, List.take_append]

theorem slice_all (a : List α) (n : Nat) (h : a.length ≤ n) : slice a 0 n = a := by
  simp [slice, List.take_of_length_le h]

theorem slice_cat (b : List α) (i j k : Nat) (hij : i ≤ j) (hjk : j ≤ k) :
    slice b i j ++ slice b j k = slice b i k := by
  simp only [slice]
  have e : List.take j b = List.take j (List.take k b) := by rw [List.take_take, Nat.min_eq_left hjk]
  rw [e]
  generalize List.take k b = c
  by_cases hh : j ≤ c.length
  · have hl : i ≤ (List.take j c).length := by simp; omega
    rw [← List.drop_append_of_le_length hl, List.take_append_drop]
  · rw [List.take_of_length_le (show c.length ≤ j by omega), List.drop_eq_nil_of_le (show c.length ≤ j by omega)]; simp

/-- the consecutive pieces of width `w` of a list, from piece `i` on, laid end to end -/
theorem slices_flatten (S : List α) (w i n : Nat) :
    ((List.range' i n).map fun k => slice S (k * w) ((k + 1) * w)).flatten = slice S (i * w) ((i + n) * w) := by
  induction n generalizing i with
  | zero => simp [slice]
  | succ n ih =>
    rw [List.range'_succ, List.map_cons, List.flatten_cons, ih (i + 1),
      slice_cat _ _ _ _ (Nat.mul_le_mul_right w (Nat.le_succ i)) (Nat.mul_le_mul_right w (Nat.le_add_right _ n)),
      Nat.succ_add]
    rfl

theorem slice_take (b : List α) (n lo hi : Nat) (h : hi ≤ n) : slice (b.take n) lo hi = slice b lo hi := by
  simp only [slice, List.take_take, Nat.min_eq_left h]

theorem slice_length_of_le (b : List α) (lo hi : Nat) (h : hi ≤ b.length) : (slice b lo hi).length = hi - lo := by
  rw [slice_length, Nat.min_eq_left h]

theorem take_append_slice (S : List α) (c c' : Nat) (h : c ≤ c') : S.take c ++ slice S c c' = S.take c' :=
  slice_cat S 0 c c' (Nat.zero_le c) h

theorem take_drop_splice (l : List α) {k1 k2 k3 : Nat} (h1 : k1 ≤ k2) (h2 : k2 ≤ k3) :
    (l.take k2).drop k1 ++ (l.take k3).drop k2 = (l.take k3).drop k1 :=
  slice_cat l k1 k2 k3 h1 h2

theorem take_prefix_append (P X : List α) (L : Nat) (h : P.length ≤ L) :
    (P ++ X).take L = P ++ X.take (L - P.length) := by
  rw [List.take_append, List.take_of_length_le h]

theorem drop_prefix_append (P X : List α) (L : Nat) (h : P.length ≤ L) :
    (P ++ X).drop L = X.drop (L - P.length) := by
  rw [List.drop_append, List.drop_eq_nil_of_le h, List.nil_append]

theorem drop_step {buf x rest : List α} {o : Nat} (hd : buf.drop o = x ++ rest) : buf.drop (o + x.length) = rest := by
  rw [← List.drop_drop, hd, List.drop_left]

/-- an optional part `x` of a record (absent, or exactly `k` bytes) behind a presence flag `f` -/
theorem opt_slice (buf x rest : List α) (k o : Nat) (f : Bool) (hx : x.length = 0 ∨ x.length = k)
    (hf : f = true ↔ 0 < x.length) (hd : buf.drop o = x ++ rest) :
    (if f = true then slice buf o (o + k) else []) = x ∧ (if f = true then o + k else o) = o + x.length := by
  by_cases h0 : 0 < x.length
  · have hk : x.length = k := by omega
    rw [if_pos (hf.2 h0), if_pos (hf.2 h0), ← take_drop_slice, hd, ← hk, List.take_left]
    exact ⟨rfl, rfl⟩
  · have hff : ¬ f = true := fun c => h0 (hf.1 c)
    rw [if_neg hff, if_neg hff, List.eq_nil_of_length_eq_zero (Nat.eq_zero_of_not_pos h0)]
    exact ⟨rfl, rfl⟩

/-- little-endian `k`-byte image of `n` (reduced mod `256^k`) -/
def leBytes : Nat → Nat → Bytes
  | 0, _ => []
  | k+1, n => UInt8.ofNat (n % 256) :: leBytes k (n / 256)

/-- little-endian value of a byte string -/
def leNat : Bytes → Nat
  | [] => 0
  | b :: bs => b.toNat + 256 * leNat bs

def beBytes (k n : Nat) : Bytes := (leBytes k n).reverse
def beNat (bs : Bytes) : Nat := leNat bs.reverse

@[simp] theorem leBytes_length (k n : Nat) : (leBytes k n).length = k := by
  induction k generalizing n with
  | zero => rfl
  | succ k ih => simp [leBytes, ih]

@[simp] theorem beBytes_length (k n : Nat) : (beBytes k n).length = k := by
  simp [beBytes]

theorem toNat_ofNat_mod (n : Nat) : (UInt8.ofNat (n % 256)).toNat = n % 256 := by
  simp [UInt8.toNat_ofNat']

theorem leNat_leBytes (k n : Nat) : leNat (leBytes k n) = n % 256 ^ k := by
  induction k generalizing n with
  | zero => simp [leBytes, leNat, Nat.mod_one]
  | succ k ih =>
    simp only [leBytes, leNat, ih, toNat_ofNat_mod]
    rw [Nat.pow_succ, Nat.mul_comm (256 ^ k) 256, Nat.mod_mul]

theorem leNat_lt (bs : Bytes) : leNat bs < 256 ^ bs.length := by
  induction bs with
  | nil => simp [leNat]
  | cons b bs ih =>
    have hb : b.toNat < 256 := b.toNat_lt
    simp only [leNat, List.length_cons, Nat.pow_succ]
    omega

theorem leBytes_leNat (bs : Bytes) : leBytes bs.length (leNat bs) = bs := by
  induction bs with
  | nil => rfl
  | cons b bs ih =>
    have hb : b.toNat < 256 := b.toNat_lt
    simp only [List.length_cons, leBytes, leNat]
    have h1 : (b.toNat + 256 * leNat bs) % 256 = b.toNat := by omega
    have h2 : (b.toNat + 256 * leNat bs) / 256 = leNat bs := by omega
    rw [h1, h2, ih]
    simp

theorem leNat_leBytes_of_lt (k n : Nat) (h : n < 256 ^ k) : leNat (leBytes k n) = n := by
  rw [leNat_leBytes, Nat.mod_eq_of_lt h]

theorem beNat_beBytes (k n : Nat) : beNat (beBytes k n) = n % 256 ^ k := by
  simp [beNat, beBytes, leNat_leBytes]

theorem beNat_beBytes_of_lt (k n : Nat) (h : n < 256 ^ k) : beNat (beBytes k n) = n := by
  rw [beNat_beBytes, Nat.mod_eq_of_lt h]

theorem beNat_lt (bs : Bytes) : beNat bs < 256 ^ bs.length := by
  have := leNat_lt bs.reverse
  simpa [beNat] using this

theorem beBytes_beNat (bs : Bytes) : beBytes bs.length (beNat bs) = bs := by
  have := leBytes_leNat bs.reverse
  simp only [List.length_reverse] at this
  simp [beBytes, beNat, this]

theorem leBytes_add (a b n : Nat) : leBytes (b + a) n = leBytes b n ++ leBytes a (n / 256 ^ b) := by
  induction b generalizing n with
  | zero => simp [leBytes]
  | succ b ih =>
    rw [show b + 1 + a = (b + a) + 1 by omega]
    simp only [leBytes, ih, List.cons_append, Nat.pow_succ]
    rw [Nat.div_div_eq_div_mul, Nat.mul_comm 256]

theorem leBytes_mod (b n : Nat) : leBytes b (n % 256 ^ b) = leBytes b n := by
  induction b generalizing n with
  | zero => simp [leBytes]
  | succ b ih =>
    simp only [leBytes, Nat.pow_succ]
    have h1 : n % (256 ^ b * 256) % 256 = n % 256 := by
      rw [Nat.mul_comm, Nat.mod_mul_right_mod]
    have h2 : n % (256 ^ b * 256) / 256 = (n / 256) % 256 ^ b := by
      rw [Nat.mul_comm, Nat.mod_mul_right_div_self]
    rw [h1, h2, ih]

theorem leBytes_split (a b n : Nat) : leBytes (b + a) n = leBytes b (n % 256 ^ b) ++ leBytes a (n / 256 ^ b) := by
  rw [leBytes_add, leBytes_mod]

theorem beBytes_add (a b n : Nat) :
    beBytes (a + b) n = beBytes a (n / 256 ^ b) ++ beBytes b (n % 256 ^ b) := by
  simp only [beBytes]
  rw [Nat.add_comm, leBytes_add, List.reverse_append, leBytes_mod]

theorem beBytes6_split (x : Nat) : beBytes 6 x = beBytes 2 (x / 4294967296) ++ beBytes 4 (x % 4294967296) := by
  simpa using beBytes_add 2 4 x

theorem be2_split (n : Nat) : beBytes 2 n = beBytes 1 (n / 256) ++ beBytes 1 (n % 256) := by
  simpa using beBytes_add 1 1 n

theorem leNat_append (a b : Bytes) : leNat (a ++ b) = leNat a + 256 ^ a.length * leNat b := by
  induction a with
  | nil => simp [leNat]
  | cons x a ih =>
    simp only [List.cons_append, leNat, ih, List.length_cons, Nat.pow_succ, Nat.mul_add, Nat.add_assoc]
    rw [Nat.mul_left_comm, Nat.mul_assoc]

theorem beNat_append (a b : Bytes) : beNat (a ++ b) = beNat a * 256 ^ b.length + beNat b := by
  simp only [beNat, List.reverse_append, leNat_append, List.length_reverse]
  rw [Nat.add_comm, Nat.mul_comm]

theorem leNat_slice_cat (buf : Bytes) (i j k : Nat) (hij : i ≤ j) (hjk : j ≤ k) (hj : j ≤ buf.length) :
    leNat (slice buf i k) = leNat (slice buf i j) + leNat (slice buf j k) * 256 ^ (j - i) := by
  rw [← slice_cat buf i j k hij hjk, leNat_append, slice_length, Nat.min_eq_left hj, Nat.mul_comm]

theorem beNat_slice_cat (buf : Bytes) (i j k : Nat) (hij : i ≤ j) (hjk : j ≤ k) (hk : k ≤ buf.length) :
    beNat (slice buf i k) = beNat (slice buf j k) + beNat (slice buf i j) * 256 ^ (k - j) := by
  rw [← slice_cat buf i j k hij hjk, beNat_append, slice_length, Nat.min_eq_left hk, Nat.add_comm]

theorem leNat_slice_lt (buf : Bytes) (i j : Nat) : leNat (slice buf i j) < 256 ^ (j - i) :=
  Nat.lt_of_lt_of_le (leNat_lt _) (Nat.pow_le_pow_right (by omega) (by rw [slice_length]; omega))

theorem R.bind_eq_error {α β : Type} {x : R α} {g : α → R β} {e : Err} (h : x.bind g = .error e) :
    x = .error e ∨ ∃ a, x = .ok a ∧ g a = .error e := by
  cases x with
  | error e' => exact .inl (congrArg _ (Except.error.inj h))
  | ok a => exact .inr ⟨a, rfl, h⟩

theorem R.map_eq_error {α : Type _} {β : Type _} {x : R α} {f : α → β} {e : Err} : x.map f = .error e ↔ x = .error e := by
  cases x with
  | error e' => exact ⟨fun h => congrArg _ (Except.error.inj h), fun h => congrArg _ (Except.error.inj h)⟩
  | ok a => exact ⟨fun h => (nomatch h), fun h => (nomatch h)⟩

theorem R.map_eq_ok {α : Type _} {β : Type _} {x : R α} {f : α → β} {b : β} : x.map f = .ok b ↔ ∃ a, x = .ok a ∧ b = f a := by
  cases x with
  | error e => exact ⟨fun h => (nomatch h), fun ⟨_, h, _⟩ => (nomatch h)⟩
  | ok a => exact ⟨fun h => ⟨a, rfl, (Except.ok.inj h).symm⟩, fun ⟨_, h, hb⟩ => by cases h; rw [hb]; rfl⟩

theorem R.bind_eq_ok {α β : Type} {x : R α} {g : α → R β} {b : β} : x.bind g = .ok b ↔ ∃ a, x = .ok a ∧ g a = .ok b := by
  cases x with
  | error e => exact ⟨fun h => (nomatch h), fun ⟨_, h, _⟩ => (nomatch h)⟩
  | ok a => exact ⟨fun h => ⟨a, rfl, h⟩, fun ⟨_, h, hb⟩ => by cases h; exact hb⟩

/-! A parser written as a ladder `if c₁ then raise e₁ else if c₂ then raise e₂ else …`: when it returns, when it raises. -/

theorem R.ite_error_eq_ok {α : Type} {c : Prop} [Decidable c] {e₀ : Err} {r : R α} {a : α} :
    (if c then .error e₀ else r) = .ok a ↔ ¬ c ∧ r = .ok a := by
  by_cases h : c
  · rw [if_pos h]; exact iff_of_false (fun h => nomatch h) (fun h' => h'.1 h)
  · rw [if_neg h]; exact (and_iff_right h).symm

theorem R.ite_error_eq_error {α : Type} {c : Prop} [Decidable c] {e₀ e : Err} {r : R α} :
    (if c then .error e₀ else r) = .error e ↔ c ∧ e = e₀ ∨ ¬ c ∧ r = .error e := by
  by_cases h : c
  · rw [if_pos h, Except.error.injEq]
    exact ⟨fun h' => .inl ⟨h, h'.symm⟩, fun h' => h'.elim (fun h' => h'.2.symm) (fun h' => absurd h h'.1)⟩
  · rw [if_neg h]
    exact ⟨fun h' => .inr ⟨h, h'⟩, fun h' => h'.elim (fun h' => absurd h'.1 h) (fun h' => h'.2)⟩

theorem R.ite_ok_eq_ok {α : Type} {c : Prop} [Decidable c] {e : Err} {a b : α} :
    (if c then .ok a else .error e : R α) = .ok b ↔ c ∧ a = b := by
  by_cases h : c
  · rw [if_pos h, Except.ok.injEq]; exact (and_iff_right h).symm
  · rw [if_neg h]; exact iff_of_false (fun h => nomatch h) (fun h' => h h'.1)

theorem R.ok_or_error {α : Type} {r : R α} {e₁ e₂ : Err} (h : ∀ e, r = .error e → e = e₁ ∨ e = e₂) :
    (∃ a, r = .ok a) ∨ r = .error e₁ ∨ r = .error e₂ := by
  cases r with
  | ok a => exact .inl ⟨a, rfl⟩
  | error e => rcases h e rfl with rfl | rfl <;> simp

/-- a loop on a number that runs on fuel, stops at 0 and otherwise goes on with `v / d`, `d ≥ 2`: fuel `v` is enough -/
theorem fuel_stable {β : Type} (F : Nat → Nat → β) (G : Nat → β → β) (d : Nat) (hd : 2 ≤ d)
    (h0 : ∀ f, F f 0 = F 0 0) (hs : ∀ f v, F (f + 1) (v + 1) = G v (F f ((v + 1) / d))) :
    ∀ v f, v ≤ f → F f v = F v v := by
  intro v
  induction v using Nat.strongRecOn with
  | _ v ih =>
    intro f hf
    cases v with
    | zero => exact h0 f
    | succ v =>
      obtain ⟨f, rfl⟩ : ∃ k, f = k + 1 := ⟨f - 1, by omega⟩
      have hlt : (v + 1) / d < v + 1 := Nat.div_lt_self (Nat.succ_pos v) hd
      rw [hs, hs, ih _ hlt f (by omega), ih _ hlt v (by omega)]

end Acra.Py
