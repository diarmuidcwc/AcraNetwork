/-
  Python semantics prelude, part 2: the `struct` module for the format codes the library uses.
  Values are `Nat`.  Signed codes (`b h i q`) accept the non-negative half of their range on
  pack and return the raw unsigned image on unpack (the only signed fields in the library are
  three fields of the pcap global header; the pcap model converts them with `Model.Pcap.codeToInt`).
-/
import Acra.Py.Basic
namespace Acra.Py

inductive Code where
  | u8 | u16 | u32 | u64 | i8 | i16 | i32 | i64
  deriving DecidableEq, Repr

def Code.size : Code → Nat
  | .u8 | .i8 => 1
  | .u16 | .i16 => 2
  | .u32 | .i32 => 4
  | .u64 | .i64 => 8

/-- exclusive upper bound of the values `struct.pack` accepts for the code (model: see header) -/
def Code.bound : Code → Nat
  | .u8 => 256 | .u16 => 65536 | .u32 => 4294967296 | .u64 => 18446744073709551616
  | .i8 => 128 | .i16 => 32768 | .i32 => 2147483648 | .i64 => 9223372036854775808

theorem Code.bound_le (c : Code) : c.bound ≤ 256 ^ c.size := by
  cases c <;> decide

theorem Code.size_pos (c : Code) : 0 < c.size := by cases c <;> decide

structure Fmt where
  big : Bool
  codes : List Code
  deriving Repr, DecidableEq

def codesSize : List Code → Nat
  | [] => 0
  | c :: cs => c.size + codesSize cs

def Fmt.size (f : Fmt) : Nat := codesSize f.codes

theorem codesSize_replicate (c : Code) (n : Nat) : codesSize (List.replicate n c) = c.size * n := by
  induction n with
  | zero => simp [codesSize]
  | succ n ih => simp only [List.replicate_succ, codesSize, ih, Nat.mul_add]; omega

def encInt (big : Bool) (k n : Nat) : Bytes := if big then beBytes k n else leBytes k n
def decInt (big : Bool) (bs : Bytes) : Nat := if big then beNat bs else leNat bs

/-- the layouts of `Spec` and `beBytes_add` are written with `beBytes`; this turns a big-endian `encInt` into one.
    On the decode side `decInt true bs` is `beNat bs` (`decInt false bs` is `leNat bs`) by `rfl`: that is how the `flds`
    of a big-endian format is stated with `beNat (slice …)`. -/
theorem encInt_big (k : Nat) : encInt true k = beBytes k := rfl

@[simp] theorem encInt_length (big : Bool) (k n : Nat) : (encInt big k n).length = k := by
  unfold encInt; split <;> simp

theorem decInt_encInt (big : Bool) (k n : Nat) (h : n < 256 ^ k) : decInt big (encInt big k n) = n := by
  unfold decInt encInt
  cases big <;> simp [leNat_leBytes_of_lt, beNat_beBytes_of_lt, h]

theorem encInt_decInt (big : Bool) (bs : Bytes) : encInt big bs.length (decInt big bs) = bs := by
  unfold decInt encInt
  cases big <;> simp [leBytes_leNat, beBytes_beNat]

theorem decInt_lt (big : Bool) (bs : Bytes) : decInt big bs < 256 ^ bs.length := by
  unfold decInt; cases big <;> simp [leNat_lt, beNat_lt]

@[simp] theorem take_encInt_append (big : Bool) (k v : Nat) (rest : Bytes) :
    List.take k (encInt big k v ++ rest) = encInt big k v := by
  rw [List.take_left' (by simp)]

@[simp] theorem drop_encInt_append (big : Bool) (k v : Nat) (rest : Bytes) :
    List.drop k (encInt big k v ++ rest) = rest := by
  rw [List.drop_left' (by simp)]

@[simp] theorem take_encInt (big : Bool) (k v : Nat) : List.take k (encInt big k v) = encInt big k v := by
  rw [List.take_of_length_le (by simp)]

@[simp] theorem drop_encInt (big : Bool) (k v : Nat) : List.drop k (encInt big k v) = [] := by
  rw [List.drop_eq_nil_of_le (by simp)]

theorem decInt_encInt1 (big : Bool) (n : Nat) (h : n < 256) : decInt big (encInt big 1 n) = n :=
  decInt_encInt big 1 n (by omega)
theorem decInt_encInt2 (big : Bool) (n : Nat) (h : n < 65536) : decInt big (encInt big 2 n) = n :=
  decInt_encInt big 2 n (by omega)
theorem decInt_encInt4 (big : Bool) (n : Nat) (h : n < 4294967296) : decInt big (encInt big 4 n) = n :=
  decInt_encInt big 4 n (by omega)
theorem decInt_encInt8 (big : Bool) (n : Nat) (h : n < 18446744073709551616) : decInt big (encInt big 8 n) = n :=
  decInt_encInt big 8 n (by omega)

theorem encInt_inj (big : Bool) (k a b : Nat) (ha : a < 256 ^ k) (hb : b < 256 ^ k)
    (h : encInt big k a = encInt big k b) : a = b := by
  have := congrArg (decInt big) h
  rwa [decInt_encInt big k a ha, decInt_encInt big k b hb] at this

/-- `struct.pack` on a list of codes; `struct.error` when a value is out of range or the
    number of values differs from the number of codes. -/
def packCodes (big : Bool) : List Code → List Nat → R Bytes
  | [], [] => .ok []
  | c :: cs, v :: vs =>
    if v < c.bound then
      match packCodes big cs vs with
      | .ok r => .ok (encInt big c.size v ++ r)
      | .error e => .error e
    else .error .struct
  | _, _ => .error .struct

/-- decode the codes from the front of `buf` (caller guarantees enough bytes) -/
def unpackCodes (big : Bool) : List Code → Bytes → List Nat
  | [], _ => []
  | c :: cs, buf => decInt big (buf.take c.size) :: unpackCodes big cs (buf.drop c.size)

def structPack (f : Fmt) (vs : List Nat) : R Bytes := packCodes f.big f.codes vs

/-- `struct.unpack_from(fmt, buf, off)` for `off ≥ 0` -/
def structUnpackFrom (f : Fmt) (buf : Bytes) (off : Nat := 0) : R (List Nat) :=
  if off + f.size ≤ buf.length then .ok (unpackCodes f.big f.codes (buf.drop off)) else .error .struct

/-- `struct.unpack(fmt, buf)`: exact length required -/
def structUnpack (f : Fmt) (buf : Bytes) : R (List Nat) :=
  if buf.length = f.size then .ok (unpackCodes f.big f.codes buf) else .error .struct

/-- the values `struct.pack` accepts for the codes: as many values as codes, each below its code's `bound` (for a signed
    code that is the non-negative half of its range) -/
def Fits : List Code → List Nat → Prop
  | [], [] => True
  | c :: cs, v :: vs => v < c.bound ∧ Fits cs vs
  | _, _ => False

/-- by hand: `Fits` recurses on two lists at once, which instance synthesis does not unfold -/
def decFits : (cs : List Code) → (vs : List Nat) → Decidable (Fits cs vs)
  | [], [] => isTrue trivial
  | c :: cs, v :: vs =>
    match decFits cs vs with
    | isTrue h => if hv : v < c.bound then isTrue ⟨hv, h⟩ else isFalse (fun h' => hv h'.1)
    | isFalse h => isFalse (fun h' => h h'.2)
  | [], _ :: _ => isFalse (by simp [Fits])
  | _ :: _, [] => isFalse (by simp [Fits])

instance (cs : List Code) (vs : List Nat) : Decidable (Fits cs vs) := decFits cs vs

theorem unpackCodes_length (big : Bool) (cs : List Code) (buf : Bytes) :
    (unpackCodes big cs buf).length = cs.length := by
  induction cs generalizing buf with
  | nil => rfl
  | cons c cs ih => simp [unpackCodes, ih]

/-- no signed code: then `bound` is the whole range `256 ^ size` and every decoded value packs again -/
def Unsigned : List Code → Prop
  | [] => True
  | c :: cs => (c = .u8 ∨ c = .u16 ∨ c = .u32 ∨ c = .u64) ∧ Unsigned cs

theorem Code.bound_eq_of_unsigned (c : Code) (h : c = .u8 ∨ c = .u16 ∨ c = .u32 ∨ c = .u64) :
    c.bound = 256 ^ c.size := by
  rcases h with h | h | h | h <;> subst h <;> decide

/-- `Unsigned`: the raw image of a signed code may exceed the signed bound, and then `packCodes` refuses it -/
theorem packCodes_unpackCodes (big : Bool) (cs : List Code) (buf : Bytes)
    (hu : Unsigned cs) (hl : codesSize cs ≤ buf.length) :
    packCodes big cs (unpackCodes big cs buf) = .ok (buf.take (codesSize cs)) := by
  induction cs generalizing buf with
  | nil => simp [packCodes, unpackCodes, codesSize]
  | cons c cs ih =>
    simp only [codesSize] at hl
    obtain ⟨hc, hcs⟩ := hu
    have hlen : (buf.take c.size).length = c.size := by simp; omega
    have hb : decInt big (buf.take c.size) < c.bound := by
      rw [c.bound_eq_of_unsigned hc]
      have := decInt_lt big (buf.take c.size)
      rwa [hlen] at this
    simp only [unpackCodes, packCodes, hb, if_true]
    rw [ih (buf.drop c.size) hcs (by simp; omega)]
    have h2 := encInt_decInt big (buf.take c.size)
    rw [hlen] at h2
    simp only [h2, codesSize]
    rw [List.take_add]

/-- the bytes `struct.pack` produces when every value fits (no error branches) -/
def encCodes (big : Bool) : List Code → List Nat → Bytes
  | c :: cs, v :: vs => encInt big c.size v ++ encCodes big cs vs
  | _, _ => []

/-- `struct.pack` in one equation: the bytes when every value fits its code, `struct.error` otherwise -/
theorem packCodes_closed (big : Bool) (cs : List Code) (vs : List Nat) :
    packCodes big cs vs = if Fits cs vs then .ok (encCodes big cs vs) else .error .struct := by
  induction cs generalizing vs with
  | nil => cases vs <;> rfl
  | cons c cs ih =>
    cases vs with
    | nil => rfl
    | cons v vs =>
      rw [packCodes, ih vs]
      by_cases hv : v < c.bound
      · by_cases hr : Fits cs vs
        · rw [if_pos hv, if_pos hr, if_pos (show Fits (c :: cs) (v :: vs) from ⟨hv, hr⟩)]; rfl
        · rw [if_pos hv, if_neg hr, if_neg (fun h : Fits (c :: cs) (v :: vs) => hr h.2)]
      · rw [if_neg hv, if_neg (fun h : Fits (c :: cs) (v :: vs) => hv h.1)]

theorem packCodes_eq (big : Bool) (cs : List Code) (vs : List Nat) (h : Fits cs vs) :
    packCodes big cs vs = .ok (encCodes big cs vs) := by
  rw [packCodes_closed, if_pos h]

theorem packCodes_ok {big : Bool} {cs : List Code} {vs : List Nat} {b : Bytes} (h : packCodes big cs vs = .ok b) :
    Fits cs vs ∧ b = encCodes big cs vs := by
  rw [packCodes_closed] at h
  split at h
  · exact ⟨‹_›, (Except.ok.inj h).symm⟩
  · cases h

theorem packCodes_ok_iff (big : Bool) (cs : List Code) (vs : List Nat) :
    (∃ b, packCodes big cs vs = .ok b) ↔ Fits cs vs :=
  ⟨fun ⟨_, h⟩ => (packCodes_ok h).1, fun h => ⟨_, packCodes_eq big cs vs h⟩⟩

theorem encCodes_length (big : Bool) (cs : List Code) (vs : List Nat) (h : Fits cs vs) :
    (encCodes big cs vs).length = codesSize cs := by
  induction cs generalizing vs with
  | nil => cases vs <;> first | rfl | exact h.elim
  | cons c cs ih =>
    cases vs with
    | nil => exact h.elim
    | cons v vs => rw [encCodes, List.length_append, encInt_length, ih vs h.2, codesSize]

theorem packCodes_length (big : Bool) (cs : List Code) (vs : List Nat) (b : Bytes)
    (h : packCodes big cs vs = .ok b) : b.length = codesSize cs := by
  obtain ⟨hf, rfl⟩ := packCodes_ok h
  exact encCodes_length big cs vs hf

theorem unpackCodes_encCodes (big : Bool) (cs : List Code) (vs : List Nat) (rest : Bytes) (h : Fits cs vs) :
    unpackCodes big cs (encCodes big cs vs ++ rest) = vs := by
  induction cs generalizing vs with
  | nil => cases vs <;> first | rfl | exact h.elim
  | cons c cs ih =>
    cases vs with
    | nil => exact h.elim
    | cons v vs =>
      rw [encCodes, List.append_assoc, unpackCodes, take_encInt_append, drop_encInt_append,
        decInt_encInt big c.size v (Nat.lt_of_lt_of_le h.1 c.bound_le), ih vs h.2]

theorem unpackCodes_packCodes (big : Bool) (cs : List Code) (vs : List Nat) (b rest : Bytes)
    (h : packCodes big cs vs = .ok b) : unpackCodes big cs (b ++ rest) = vs := by
  obtain ⟨hf, rfl⟩ := packCodes_ok h
  exact unpackCodes_encCodes big cs vs rest hf

theorem structPack_eq (f : Fmt) (vs : List Nat) (h : Fits f.codes vs) :
    structPack f vs = .ok (encCodes f.big f.codes vs) := packCodes_eq _ _ _ h

theorem structPack_length (f : Fmt) (vs : List Nat) (b : Bytes) (h : structPack f vs = .ok b) :
    b.length = f.size := packCodes_length _ _ _ _ h

theorem structUnpackFrom_append (f : Fmt) (vs : List Nat) (pre b rest : Bytes)
    (h : structPack f vs = .ok b) :
    structUnpackFrom f (pre ++ (b ++ rest)) pre.length = .ok vs := by
  have hl := structPack_length f vs b h
  have hle : pre.length + f.size ≤ (pre ++ (b ++ rest)).length := by
    simp [hl]
  simp only [structUnpackFrom, hle, if_true, List.drop_left']
  rw [unpackCodes_packCodes f.big f.codes vs b rest h]

theorem structUnpackFrom_structPack (f : Fmt) (vs : List Nat) (b rest : Bytes)
    (h : structPack f vs = .ok b) : structUnpackFrom f (b ++ rest) 0 = .ok vs :=
  structUnpackFrom_append f vs [] b rest h

theorem structUnpack_structPack (f : Fmt) (vs : List Nat) (b : Bytes)
    (h : structPack f vs = .ok b) : structUnpack f b = .ok vs := by
  have hl := structPack_length f vs b h
  have := unpackCodes_packCodes f.big f.codes vs b [] h
  simp only [List.append_nil] at this
  simp [structUnpack, hl, this]

theorem encCodes_append (big : Bool) (cs1 cs2 : List Code) (vs1 vs2 : List Nat)
    (h : cs1.length = vs1.length) :
    encCodes big (cs1 ++ cs2) (vs1 ++ vs2) = encCodes big cs1 vs1 ++ encCodes big cs2 vs2 := by
  induction cs1 generalizing vs1 with
  | nil =>
    cases vs1 with
    | nil => rfl
    | cons v vs => cases h
  | cons c cs ih =>
    cases vs1 with
    | nil => cases h
    | cons v vs =>
      simp only [List.cons_append, encCodes, ih vs (Nat.succ.inj h), List.append_assoc]

theorem structUnpackFrom_enc (f : Fmt) (vs : List Nat) (pre rest : Bytes) (h : Fits f.codes vs)
    (off : Nat) (hoff : off = pre.length) :
    structUnpackFrom f (pre ++ (encCodes f.big f.codes vs ++ rest)) off = .ok vs := by
  subst hoff
  exact structUnpackFrom_append f vs pre _ rest (structPack_eq f vs h)

theorem structUnpackFrom_enc0 (f : Fmt) (vs : List Nat) (rest : Bytes) (h : Fits f.codes vs) :
    structUnpackFrom f (encCodes f.big f.codes vs ++ rest) 0 = .ok vs :=
  structUnpackFrom_structPack f vs _ rest (structPack_eq f vs h)

/-! ### lists of fixed-width big-endian words (`">{}H".format(n)`, `">{}I"`, `">{}B"`) -/

/-- `ws`, each as one big-endian field of code `c` (hence the C) -/
def wordsC (c : Code) (ws : List Nat) : Bytes := ws.flatMap (encInt true c.size)

theorem wordsC_length (c : Code) (ws : List Nat) : (wordsC c ws).length = c.size * ws.length := by
  induction ws with
  | nil => simp [wordsC]
  | cons w ws ih =>
    simp only [wordsC, List.flatMap_cons, List.length_append, encInt_length, List.length_cons] at ih ⊢
    rw [ih, Nat.mul_add]; omega

theorem packCodes_wordsC (c : Code) (ws : List Nat) (h : ∀ w ∈ ws, w < c.bound) :
    packCodes true (List.replicate ws.length c) ws = .ok (wordsC c ws) := by
  induction ws with
  | nil => rfl
  | cons w ws ih =>
    simp only [List.length_cons, List.replicate_succ, packCodes, h w (by simp), if_true,
      ih (fun x hx => h x (by simp [hx])), wordsC, List.flatMap_cons]

theorem unpackCodes_wordsC (c : Code) (ws : List Nat) (rest : Bytes) (h : ∀ w ∈ ws, w < 256 ^ c.size) :
    unpackCodes true (List.replicate ws.length c) (wordsC c ws ++ rest) = ws := by
  induction ws with
  | nil => rfl
  | cons w ws ih =>
    simp only [wordsC, List.flatMap_cons, List.length_cons, List.replicate_succ, unpackCodes,
      List.append_assoc, take_encInt_append, drop_encInt_append]
    rw [decInt_encInt _ _ _ (h w (by simp))]
    have := ih (fun x hx => h x (by simp [hx]))
    simp only [wordsC] at this
    rw [this]

theorem structUnpackFrom_wordsC (c : Code) (f : Fmt) (ws : List Nat) (pre rest : Bytes)
    (hf : f = ⟨true, List.replicate ws.length c⟩) (h : ∀ w ∈ ws, w < 256 ^ c.size) (off : Nat) (hoff : off = pre.length) :
    structUnpackFrom f (pre ++ (wordsC c ws ++ rest)) off = .ok ws := by
  subst hf hoff
  have hle : pre.length + codesSize (List.replicate ws.length c) ≤ (pre ++ (wordsC c ws ++ rest)).length := by
    rw [codesSize_replicate]; simp [wordsC_length]
  simp only [structUnpackFrom, Fmt.size, hle, if_true, List.drop_left']
  rw [unpackCodes_wordsC c ws rest h]

theorem structUnpack_enc (f : Fmt) (vs : List Nat) (h : Fits f.codes vs) :
    structUnpack f (encCodes f.big f.codes vs) = .ok vs :=
  structUnpack_structPack f vs _ (structPack_eq f vs h)

theorem structUnpackFrom_error (f : Fmt) (buf : Bytes) (off : Nat) (e : Err)
    (h : structUnpackFrom f buf off = .error e) : e = .struct := by
  unfold structUnpackFrom at h; split at h <;> simp_all

theorem structUnpackFrom_short (f : Fmt) (buf : Bytes) (off : Nat) (h : buf.length < off + f.size) :
    structUnpackFrom f buf off = .error .struct := by
  simp [structUnpackFrom, Nat.not_le.2 h]

theorem structUnpack_error (f : Fmt) (buf : Bytes) (e : Err)
    (h : structUnpack f buf = .error e) : e = .struct := by
  unfold structUnpack at h; split at h <;> simp_all

theorem structUnpack_ok_length (f : Fmt) (buf : Bytes) (vs : List Nat)
    (h : structUnpack f buf = .ok vs) : buf.length = f.size := by
  unfold structUnpack at h; split at h <;> simp_all

theorem structUnpackFrom_ok_length (f : Fmt) (buf : Bytes) (off : Nat) (vs : List Nat)
    (h : structUnpackFrom f buf off = .ok vs) : off + f.size ≤ buf.length := by
  unfold structUnpackFrom at h; split at h <;> simp_all

theorem structPack_error (f : Fmt) (vs : List Nat) (e : Err) (h : structPack f vs = .error e) : e = .struct := by
  rw [structPack, packCodes_closed] at h
  split at h
  · cases h
  · exact (Except.error.inj h).symm

theorem structPack_ok_iff (f : Fmt) (vs : List Nat) :
    (∃ b, structPack f vs = .ok b) ↔ Fits f.codes vs := packCodes_ok_iff _ _ _

theorem structUnpackFrom_ok_iff (f : Fmt) (buf : Bytes) (off : Nat) :
    (structUnpackFrom f buf off).isOk = true ↔ off + f.size ≤ buf.length := by
  unfold structUnpackFrom; split <;> simp_all [R.isOk] <;> omega

theorem decInt_take_lt (big : Bool) (l : Bytes) (n : Nat) : decInt big (l.take n) < 256 ^ n :=
  Nat.lt_of_lt_of_le (decInt_lt big _) (Nat.pow_le_pow_right (by omega) (List.length_take_le n l))

theorem decInt_slice1_lt (big : Bool) (buf : Bytes) (o : Nat) : decInt big (slice buf o (o + 1)) < 256 := by
  rw [← take_drop_slice]; exact decInt_take_lt big _ 1

theorem decInt_singleton (b : UInt8) : decInt true [b] = b.toNat := by
  simp [decInt, beNat, leNat]

theorem decInt_slice_enc {big : Bool} {buf rest : Bytes} {o : Nat} (k : Nat) {v : Nat} (hd : buf.drop o = encInt big k v ++ rest)
    (hv : v < 256 ^ k) : decInt big (slice buf o (o + k)) = v := by
  rw [← take_drop_slice, hd, take_encInt_append, decInt_encInt _ _ _ hv]

theorem structUnpackFrom_of_le (f : Fmt) (buf : Bytes) (off : Nat) (h : off + f.size ≤ buf.length) :
    structUnpackFrom f buf off = .ok (unpackCodes f.big f.codes (buf.drop off)) := if_pos h

theorem unpackCodes_drop_cons (big : Bool) (c : Code) (cs : List Code) (buf : Bytes) (off : Nat) :
    unpackCodes big (c :: cs) (buf.drop off) =
      decInt big (slice buf off (off + c.size)) :: unpackCodes big cs (buf.drop (off + c.size)) := by
  rw [unpackCodes, take_drop_slice, List.drop_drop]

/-! ### one-code formats

Every Chapter 11 payload class opens with `struct.unpack_from("<I", buffer)` and packs its channel-specific word with
`struct.pack("<I", word)`; the extracted formats `PCM_unpack_fmt0`, `VID_unpack_fmt0`, `AN_unpack_fmt0`,
`CG_unpack_fmt0`, … all unfold to the literal `⟨false, [.u32]⟩` the `_word` lemmas speak of. -/

theorem unpack_one (big : Bool) (c : Code) (buf : Bytes) (off : Nat) :
    structUnpackFrom ⟨big, [c]⟩ buf off =
      if off + c.size ≤ buf.length then .ok [decInt big ((buf.drop off).take c.size)] else .error .struct := rfl

theorem pack_one (big : Bool) (c : Code) (v : Nat) :
    structPack ⟨big, [c]⟩ [v] = if v < c.bound then .ok (encInt big c.size v) else .error .struct := by
  simp only [structPack, packCodes, List.append_nil]

theorem unpack_word (big : Bool) (buf : Bytes) :
    structUnpackFrom ⟨big, [.u32]⟩ buf 0 =
      if 4 ≤ buf.length then .ok [decInt big (buf.take 4)] else .error .struct := by
  simp only [unpack_one, Code.size, Nat.zero_add, List.drop_zero]

theorem pack_word (big : Bool) (v : Nat) :
    structPack ⟨big, [.u32]⟩ [v] = if v < 2 ^ 32 then .ok (encInt big 4 v) else .error .struct :=
  pack_one big .u32 v

/-- the fields of `buf` from `off` on, one per code -/
def flds (big : Bool) (buf : Bytes) : Nat → List Code → List Nat
  | _, [] => []
  | off, c :: cs => decInt big (slice buf off (off + c.size)) :: flds big buf (off + c.size) cs

theorem unpackCodes_flds (big : Bool) (buf : Bytes) : ∀ (cs : List Code) (off : Nat),
    unpackCodes big cs (buf.drop off) = flds big buf off cs
  | [], _ => rfl
  | c :: cs, off => by rw [unpackCodes_drop_cons, unpackCodes_flds big buf cs]; rfl

/-- For a concrete format the right side is, by `rfl`,
    `if off + n ≤ |buf| then .ok [decInt big (slice buf off (off + k₁)), …] else struct.error`. -/
theorem structUnpackFrom_flds (f : Fmt) (buf : Bytes) (off : Nat) :
    structUnpackFrom f buf off =
      if off + f.size ≤ buf.length then .ok (flds f.big buf off f.codes) else .error .struct := by
  rw [structUnpackFrom, unpackCodes_flds]

theorem structUnpack_flds (f : Fmt) (buf : Bytes) :
    structUnpack f buf = if buf.length = f.size then .ok (flds f.big buf 0 f.codes) else .error .struct := by
  rw [structUnpack, ← unpackCodes_flds, List.drop_zero]

theorem structUnpackFrom_replicate (f : Fmt) (c : Code) (n : Nat) (hf : f = ⟨true, List.replicate n c⟩) (buf : Bytes)
    (off : Nat) :
    structUnpackFrom f buf off =
      if off + c.size * n ≤ buf.length then .ok (unpackCodes true (List.replicate n c) (buf.drop off))
      else .error .struct := by
  subst hf
  rw [structUnpackFrom, Fmt.size, codesSize_replicate]

theorem enc_flds (big : Bool) (cs : List Code) (hu : Unsigned cs) (buf : Bytes) (off : Nat)
    (h : off + codesSize cs ≤ buf.length) :
    encCodes big cs (flds big buf off cs) = slice buf off (off + codesSize cs) := by
  have h1 := packCodes_unpackCodes big cs (buf.drop off) hu (by simp; omega)
  rw [unpackCodes_flds, take_drop_slice] at h1
  rw [packCodes_eq _ _ _ ((packCodes_ok_iff big cs _).1 ⟨_, h1⟩)] at h1
  exact Except.ok.inj h1

theorem unpack_u8 (f : Fmt) (hf : f = ⟨true, [.u8]⟩) (buf : Bytes) (off : Nat) :
    structUnpackFrom f buf off =
      if off + 1 ≤ buf.length then .ok [decInt true (slice buf off (off + 1))] else .error .struct := by
  subst hf; exact structUnpackFrom_flds _ buf off

theorem unpack_u8u8 (f : Fmt) (hf : f = ⟨true, [.u8, .u8]⟩) (buf : Bytes) (off : Nat) :
    structUnpackFrom f buf off =
      if off + 2 ≤ buf.length then
        .ok [decInt true (slice buf off (off + 1)), decInt true (slice buf (off + 1) (off + 2))]
      else .error .struct := by
  subst hf; exact structUnpackFrom_flds _ buf off

theorem unpack_u32 (f : Fmt) (hf : f = ⟨true, [.u32]⟩) (buf : Bytes) :
    structUnpack f buf = if buf.length = 4 then .ok [decInt true buf] else .error .struct := by
  subst hf
  show (if buf.length = 4 then Except.ok [decInt true (buf.take 4)] else Except.error Err.struct) = _
  by_cases h : buf.length = 4
  · rw [if_pos h, if_pos h, List.take_of_length_le (by omega)]
  · rw [if_neg h, if_neg h]

theorem opt_u8 (f : Fmt) (hf : f = ⟨true, [.u8]⟩) (c : Bool) (buf : Bytes) (o : Nat) :
    (if c = true then structUnpackFrom f buf o else .ok [0]) =
      if c = true ∧ buf.length < o + 1 then .error .struct
      else .ok [if c = true then decInt true (slice buf o (o + 1)) else 0] := by
  cases c
  · simp
  · rw [unpack_u8 f hf]
    by_cases h : buf.length < o + 1
    · simp [h, Nat.not_le.2 h]
    · simp [h, Nat.not_lt.1 h]

/-- an optional one-byte field (absent when its value is 0) at offset `o`, in the terms of the closed form `opt_u8`:
    the read does not fail, returns the value, and the offset moves behind the field -/
theorem opt_read_u8_closed (buf x rest : Bytes) (n o : Nat) (hn : n < 256)
    (hx : x = if 0 < n then encInt true 1 n else []) (hd : buf.drop o = x ++ rest) :
    ¬ (decide (0 < n) = true ∧ buf.length < o + 1) ∧
    (if decide (0 < n) = true then decInt true (slice buf o (o + 1)) else 0) = n ∧
    (if decide (0 < n) = true then o + 1 else o) = o + x.length := by
  subst hx
  by_cases h0 : 0 < n
  · rw [if_pos h0] at hd
    have hlen := congrArg List.length hd
    rw [List.length_drop, List.length_append, encInt_length] at hlen
    rw [if_pos h0, if_pos (decide_eq_true h0), if_pos (decide_eq_true h0), decInt_slice_enc 1 hd hn, encInt_length]
    exact ⟨fun h => by omega, rfl, rfl⟩
  · rw [if_neg h0, if_neg (mt of_decide_eq_true h0), if_neg (mt of_decide_eq_true h0)]
    exact ⟨fun h => h0 (of_decide_eq_true h.1), by omega, rfl⟩

end Acra.Py
