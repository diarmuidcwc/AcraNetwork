/-
  Python's list indexing `l[i]` for an integer `i` (negative indices count from the end), as used by the
  `__getitem__` methods of the container classes (`return self.parameters[key]`).  Core Lean only.
-/
import Acra.Py.Basic
namespace Acra.Py

/-- `l[i]`: `i < 0` is first shifted by `len(l)`; outside `0 ≤ · < len(l)` Python raises `IndexError` -/
def listGet (l : List α) (i : Int) : R α :=
  let j : Int := if i < 0 then i + l.length else i
  if j < 0 then .error .index else
  match l[j.toNat]? with
  | some x => .ok x
  | none => .error .index

theorem listGet_nonneg (l : List α) (k : Nat) (h : k < l.length) : listGet l (k : Int) = .ok l[k] := by
  unfold listGet
  have h0 : ¬ ((k : Int) < 0) := by omega
  simp only [h0, if_false, Int.toNat_natCast, List.getElem?_eq_getElem h]

theorem listGet_neg (l : List α) (k : Nat) (h1 : 1 ≤ k) (h : k ≤ l.length) :
    listGet l (-(k : Int)) = .ok (l[l.length - k]'(by omega)) := by
  unfold listGet
  have h0 : (-(k : Int)) < 0 := by omega
  have h2 : ¬ (-(k : Int) + (l.length : Int) < 0) := by omega
  have h3 : (-(k : Int) + (l.length : Int)).toNat = l.length - k := by omega
  simp only [h0, if_true, h2, if_false, h3]
  rw [List.getElem?_eq_getElem (by omega)]

theorem listGet_inRange (l : List α) (i : Int) (h : -(l.length : Int) ≤ i ∧ i < l.length) :
    ∃ x, listGet l i = .ok x := by
  cases i with
  | ofNat k => exact ⟨_, listGet_nonneg l k (by rw [Int.ofNat_eq_natCast] at h; omega)⟩
  | negSucc k => exact ⟨_, listGet_neg l (k + 1) (by omega) (by omega)⟩

theorem listGet_outOfRange (l : List α) (i : Int) (h : ¬ (-(l.length : Int) ≤ i ∧ i < l.length)) :
    listGet l i = .error .index := by
  unfold listGet
  by_cases hi : i < 0
  · have hj : i + (l.length : Int) < 0 := by omega
    simp only [hi, if_true, hj]
  · simp only [hi, if_false]
    rw [List.getElem?_eq_none (by omega)]

theorem listGet_error_iff (l : List α) (i : Int) :
    listGet l i = .error .index ↔ ¬ (-(l.length : Int) ≤ i ∧ i < l.length) := by
  refine ⟨fun he hr => ?_, listGet_outOfRange l i⟩
  obtain ⟨x, hx⟩ := listGet_inRange l i hr
  rw [hx] at he
  cases he

theorem listGet_isOk_iff (l : List α) (i : Int) :
    (listGet l i).isOk = true ↔ -(l.length : Int) ≤ i ∧ i < l.length := by
  by_cases h : -(l.length : Int) ≤ i ∧ i < l.length
  · obtain ⟨x, hx⟩ := listGet_inRange l i h
    simp [hx, h, R.isOk]
  · simp [listGet_outOfRange l i h, h, R.isOk]

theorem listGet_total (l : List α) (i : Int) : (∃ x, listGet l i = .ok x) ∨ listGet l i = .error .index := by
  by_cases h : -(l.length : Int) ≤ i ∧ i < l.length
  · exact Or.inl (listGet_inRange l i h)
  · exact Or.inr (listGet_outOfRange l i h)

theorem listGet_map (f : α → β) (l : List α) (i : Int) : listGet (l.map f) i = (listGet l i).map f := by
  unfold listGet
  simp only [List.length_map]
  by_cases hj : (if i < 0 then i + (l.length : Int) else i) < 0
  · simp [hj, Except.map]
  · simp only [hj, if_false, List.getElem?_map]
    cases l[(if i < 0 then i + (l.length : Int) else i).toNat]? <;> simp [Except.map]

theorem listGet_map_error_iff (f : α → β) (l : List α) (i : Int) :
    listGet (l.map f) i = .error .index ↔ ¬ (-(l.length : Int) ≤ i ∧ i < l.length) := by
  simpa using listGet_error_iff (l.map f) i

end Acra.Py
