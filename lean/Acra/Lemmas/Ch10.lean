/-
  Lemmas shared by the Chapter 10 / Chapter 11 family: the two arithmetic header checksums against their declarative
  definitions (`Spec.sum16le`, `Spec.byteSum`) and the filler.
-/
import Acra.Model.Ch11
import Acra.Spec.Ch10
import Acra.Lemmas.Bits
import Acra.Lemmas.Sum16

namespace Acra.Lemmas.Ch10
open Acra.Py

theorem and_48 (x : Nat) : x &&& (2 ^ 48 - 1) = x % 281474976710656 := Nat.and_two_pow_sub_one_eq_mod x 48

theorem ofNat_toNat (b : UInt8) : UInt8.ofNat b.toNat = b := by
  simp

/-! ### the filler `struct.pack(">{n}B", *[0xFF]*n)` -/
theorem packCodes_fill (n : Nat) :
    packCodes true (List.replicate n .u8) (List.replicate n 0xFF) = .ok (List.replicate n (0xFF : UInt8)) := by
  induction n with
  | zero => simp [packCodes]
  | succ n ih =>
    simp only [List.replicate_succ, packCodes, Code.bound, Code.size, ih]
    simp [encInt, beBytes, leBytes]

open Acra.Model.Ch11 Acra.Gen.Ch11

theorem sumList_wordsLE : ∀ buf : Bytes, buf.length % 2 = 0 → sumList (Sum16.wordsLE buf) = Spec.sum16le buf
  | [], _ => rfl
  | [_], h => absurd h Nat.one_ne_zero
  | a :: b :: rest, h =>
    congrArg (a.toNat + 256 * b.toNat + ·) (sumList_wordsLE rest ((Nat.add_mod_right rest.length 2).symm.trans h))

theorem unpackCodes_u16_sum (n : Nat) (buf : Bytes) (h : buf.length = 2 * n) :
    sumList (unpackCodes false (List.replicate n .u16) buf) = Spec.sum16le buf := by
  rw [Sum16.unpackCodes_u16_le n buf h, sumList_wordsLE buf (by omega)]

theorem unpackCodes_u8_sum (n : Nat) (buf : Bytes) (h : buf.length = n) :
    sumList (unpackCodes false (List.replicate n .u8) buf) = Spec.byteSum buf := by
  induction n generalizing buf with
  | zero =>
    have : buf = [] := List.eq_nil_of_length_eq_zero (by omega)
    subst this; simp [unpackCodes, sumList, Spec.byteSum]
  | succ n ih =>
    match buf, h with
    | a :: rest, h =>
      simp only [List.length_cons] at h
      simp only [List.replicate_succ, unpackCodes, Code.size, sumList, Spec.byteSum]
      have := ih rest (by omega)
      simp only [List.drop_succ_cons, List.drop_zero, this, List.take_succ_cons, List.take_zero, decInt, leNat]
      simp
    | [], h => simp at h

theorem unpackCodes_ne_nil (big : Bool) (c : Code) (n : Nat) (buf : Bytes) (h : 0 < n) :
    unpackCodes big (List.replicate n c) buf ≠ [] := by
  cases n with
  | zero => omega
  | succ n => simp [List.replicate_succ, unpackCodes]

theorem getChecksumBuf_eq (buf : Bytes) (he : buf.length % 2 = 0) (hn : 0 < buf.length) :
    getChecksumBuf buf = .ok (Spec.sum16le buf % 65536) := by
  have hsz : buf.length = (cksum_buf_fmt0 (buf.length / 2)).size := by
    simp [cksum_buf_fmt0, Fmt.size, codesSize_replicate, Code.size]; omega
  have hne := unpackCodes_ne_nil false .u16 (buf.length / 2) buf (by omega)
  have hsum := unpackCodes_u16_sum (buf.length / 2) buf (by omega)
  unfold getChecksumBuf
  simp only [he, ne_eq, not_true_eq_false, if_false, structUnpack, ← hsz, if_true]
  simp only [cksum_buf_fmt0] at *
  rw [hsum]

theorem getChecksumByteBuf_eq (buf : Bytes) (hn : 0 < buf.length) :
    getChecksumByteBuf buf = .ok (Spec.byteSum buf % 65536) := by
  have hsz : buf.length = (cksum_byte_buf_fmt0 buf.length).size := by
    simp [cksum_byte_buf_fmt0, Fmt.size, codesSize_replicate, Code.size]
  have hne := unpackCodes_ne_nil false .u8 buf.length buf hn
  have hsum := unpackCodes_u8_sum buf.length buf rfl
  unfold getChecksumByteBuf
  simp only [structUnpack, ← hsz, if_true]
  simp only [cksum_byte_buf_fmt0] at *
  rw [hsum]

theorem sum16le_append (a b : Bytes) (h : a.length % 2 = 0) :
    Spec.sum16le (a ++ b) = Spec.sum16le a + Spec.sum16le b := by
  induction a using Spec.sum16le.induct with
  | case1 x y rest ih =>
    simp only [List.length_cons] at h
    simp only [List.cons_append, Spec.sum16le, ih (by omega)]; omega
  | case2 a hne =>
    match a, hne, h with
    | [], _, _ => simp [Spec.sum16le]
    | [x], _, h => simp at h
    | x :: y :: r, hne, _ => exact absurd rfl (hne x y r)

theorem byteSum_append (a b : Bytes) : Spec.byteSum (a ++ b) = Spec.byteSum a + Spec.byteSum b := by
  induction a with
  | nil => simp [Spec.byteSum]
  | cons x xs ih => simp [Spec.byteSum, ih]; omega

end Acra.Lemmas.Ch10
