/-
  PCM format 1.  Each decoder is a parser of (options, bytes, `extract_sync_sfid`): `Frame_decodes` / `frameRun` (every
  `struct` call resolved into a length test; `Frame_unpack_snd`: how a minor frame decode ends is a matter of lengths),
  `Packet_decodes` / `packetRun` (`frameSize` followed by the packed-mode loop).  That loop is a `Py.decOff` loop with step
  `frameStep` (`decFrames_eq_decOff`), so what is known of such loops applies (`decFrames_run`).  Then the decoders are
  evaluated on the bytes the encoders emit (`Frame_unpack_bytes`, `decFrames_enc`, `Packet_unpack_frames`).
-/
import Acra.Model.Ch11PCM
import Acra.Lemmas.Ch11Pay
import Acra.Spec.Search
namespace Acra.Lemmas.Ch11PCM
open Acra.Py Acra.Model.Ch11Pay Acra.Model.Ch11Pay.PCM Acra.Gen.Ch11PCM Acra.Gen.Ch11PayTs Acra.Lemmas.Ch11Pay
open Acra.Lemmas.RecordsErr Acra.Lemmas

/-- width in bytes of the intra-packet data header for an alignment value 0 / 1 -/
def hdrLen (alignment : Nat) : Nat := if alignment = 0 then 2 else 4

/-- the way `PCMDataPacket.unpack` spells the same width -/
theorem hdrLen_eq (a : Nat) : (if a = ALIGN_16b then DATA_HEADER_LEN_16 else DATA_HEADER_LEN_32) = hdrLen a := rfl

theorem hdrFmt_eq (a : Nat) (h : a < 2) :
    hdrFmt a = .ok (⟨false, [if a = 0 then Code.u16 else Code.u32]⟩, hdrLen a) := by
  have : a = 0 ∨ a = 1 := by omega
  rcases this with h | h <;> subst h <;> rfl

theorem hdrFmt_key (a : Nat) (h : 2 ≤ a) : hdrFmt a = .error .key := by
  have h0 : a ≠ 0 := by omega
  have h1 : a ≠ 1 := by omega
  simp only [hdrFmt, ALIGN_16b, ALIGN_32b, h0, h1, if_false]

theorem hdrCode_size (a : Nat) : (if a = 0 then Code.u16 else Code.u32).size = hdrLen a := by
  unfold hdrLen; split <;> rfl

theorem hdrCode_bound (a : Nat) : (if a = 0 then Code.u16 else Code.u32).bound = 256 ^ hdrLen a := by
  unfold hdrLen; split <;> rfl

/-- what `PCMMinorFrame.unpack` reads of the object: the kind of time stamp it holds, the throughput switch, the alignment -/
def fcfg (f : Frame) : Ipts × Bool × Nat := (kindOf f.ipts, f.throughput, f.alignment)

/-- `PCMMinorFrame.unpack(buffer, extract_sync_sfid)` as a parser of `(buffer, extract_sync_sfid)` -/
def frameRun (c : Ipts × Bool × Nat) (b : Bytes × Bool) : R (Frame × Unit) :=
  if c.1 ≠ .none ∧ b.1.length < 8 then .error .struct else
  let f1 : Frame := { ipts := iptsDec c.1 b.1, throughput := c.2.1, hdr := Option.none, data := [], alignment := c.2.2,
                      syncword := Option.none, sfid := Option.none }
  let f2 := { f1 with hdr := some (decInt false ((b.1.drop 8).take (hdrLen c.2.2))) }
  let rest := b.1.drop (8 + hdrLen c.2.2)
  if c.2.1 then .ok ({ f1 with data := b.1 }, ())
  else if 2 ≤ c.2.2 then .error .key
  else if b.1.length < 8 + hdrLen c.2.2 + (if b.2 then 6 else 0) then .error .struct
  else
    .ok (if b.2 then
        { f2 with sfid := some (decInt false ((rest.drop 4).take 2)),
                  syncword := some (decInt false ((rest.drop 2).take 2) + 65536 * decInt false (rest.take 2)),
                  data := b.1.drop (hdrLen c.2.2 + TS_LEN) }
      else { f2 with data := b.1.drop (hdrLen c.2.2 + TS_LEN) }, ())

/-- every `struct` call becomes a length test: which way the decode ends is decided first, the attributes second -/
theorem Frame_decodes : Decodes (fun f (b : Bytes × Bool) => Frame.unpack f b.1 b.2) fcfg frameRun := by
  intro f ⟨buf, ex⟩
  show Agree (Frame.unpack f buf ex) (frameRun (fcfg f) (buf, ex))
  have hts : (if f.ipts = .none then (.ok Ipts.none : R Ipts) else f.ipts.unpack (buf.take 8)) =
      if f.ipts ≠ .none ∧ buf.length < 8 then .error .struct else .ok (iptsDec f.ipts buf) := by
    by_cases hn : f.ipts = .none
    · rw [if_pos hn, if_neg (fun h => h.1 hn), hn]; rfl
    · rw [if_neg hn, Ipts_unpack_eq, if_neg hn, List.length_take, iptsDec_take8]
      by_cases h8 : buf.length < 8
      · rw [if_neg (by omega), if_pos ⟨hn, h8⟩]
      · rw [if_pos (by omega), if_neg (fun h => h8 h.2)]
  simp only [Frame.unpack, frameRun, fcfg, ne_eq, kindOf_none, iptsDec_kindOf, hts]
  by_cases h0 : ¬ f.ipts = .none ∧ buf.length < 8
  · simp only [h0, not_false_eq_true, and_self, if_true]; rfl
  · simp only [h0, if_false]
    by_cases ht : f.throughput = true
    · simp only [ht, if_true]; rfl
    · by_cases ha : 2 ≤ f.alignment
      · simp only [ht, ha, hdrFmt_key _ ha, if_true]; rfl
      · simp only [ht, ha, hdrFmt_eq _ (Nat.lt_of_not_le ha), unpack_one, hdrCode_size, if_false]
        by_cases h1 : 8 + hdrLen f.alignment ≤ buf.length
        · have h1' : ¬ buf.length < 8 + hdrLen f.alignment := by omega
          cases ex
          · simp only [h1, h1', Bool.false_eq_true, Nat.add_zero, if_true, if_false]; rfl
          · simp only [h1, if_true, structUnpackFrom_flds, MF_unpack_fmt0, Fmt.size, codesSize, Code.size, flds,
              ← take_drop_slice, List.drop_drop]
            by_cases h2 : 8 + hdrLen f.alignment + 6 ≤ buf.length
            · simp only [h2, Nat.not_lt.2 h2, if_true, if_false]; rfl
            · simp only [h2, Nat.not_le.1 h2, if_true, if_false]; rfl
        · have h2' : buf.length < 8 + hdrLen f.alignment + (if ex = true then 6 else 0) := by omega
          simp only [h1, h2', if_true, if_false]; rfl

/-- `AttributeError` is not among the outcomes: the model, like the code, asks `ipts is not None` before it calls
    `ipts.unpack`. -/
theorem Frame_unpack_snd (f : Frame) (buf : Bytes) (ex : Bool) :
    (Frame.unpack f buf ex).2 =
      if f.ipts ≠ .none ∧ buf.length < 8 then .error .struct
      else if f.throughput then .ok ()
      else if 2 ≤ f.alignment then .error .key
      else if buf.length < 8 + hdrLen f.alignment + (if ex then 6 else 0) then .error .struct
      else .ok () := by
  rw [Frame_decodes.snd_eq f (buf, ex)]
  simp only [frameRun, fcfg, ne_eq, kindOf_none]
  by_cases h0 : ¬ f.ipts = .none ∧ buf.length < 8
  · simp only [h0, not_false_eq_true, and_self, if_true]; rfl
  · simp only [h0, if_false]
    by_cases ht : f.throughput = true
    · simp only [ht, if_true]; rfl
    · by_cases ha : 2 ≤ f.alignment
      · simp only [ht, ha, if_true]; rfl
      · by_cases hl : buf.length < 8 + hdrLen f.alignment + (if ex then 6 else 0)
        · simp only [ht, ha, hl, if_true, if_false]; rfl
        · simp only [ht, ha, hl, if_false]; rfl

theorem Frame_unpack_ok_len (f : Frame) (hn : f.ipts ≠ .none) (buf : Bytes) (ex : Bool)
    (h : (Frame.unpack f buf ex).2 = .ok ()) : 8 ≤ buf.length ∧ (f.throughput = false → 10 ≤ buf.length) := by
  rw [Frame_unpack_snd] at h
  by_cases h8 : buf.length < 8
  · rw [if_pos ⟨hn, h8⟩] at h
    cases h
  · refine ⟨by omega, fun ht => ?_⟩
    by_cases hl : buf.length < 8 + hdrLen f.alignment + (if ex then 6 else 0)
    · simp only [h8, and_false, ht, hl, if_true, if_false, Bool.false_eq_true] at h
      split at h <;> cases h
    · unfold hdrLen at hl
      split at hl <;> omega

theorem Frame_unpack_packed (f : Frame) (hn : f.ipts ≠ .none) (ht : f.throughput = false) (ha : f.alignment < 2)
    (buf : Bytes) (ex : Bool) :
    (Frame.unpack f buf ex).2 =
      if 8 + hdrLen f.alignment + (if ex then 6 else 0) ≤ buf.length then .ok () else .error .struct := by
  have ha' : ¬ 2 ≤ f.alignment := by omega
  simp only [Frame_unpack_snd, hn, ht, ha', ne_eq, not_false_eq_true, true_and, Bool.false_eq_true, if_false]
  by_cases hl : 8 + hdrLen f.alignment + (if ex then 6 else 0) ≤ buf.length
  · have h8 : ¬ buf.length < 8 := by omega
    simp only [hl, h8, Nat.not_lt.2 hl, if_true, if_false]
  · simp only [hl, Nat.not_le.1 hl, if_true, if_false, ite_self]

/-- one iteration of `decFrames`: a frame from the next `req` bytes (any failure becomes a bare `Exception`); the stride
    includes the fill byte after an odd frame -/
def frameStep (proto : Frame) (ex : Bool) (req : Nat) (rem : Bytes) : R (Frame × Nat) :=
  match Frame.unpack proto (rem.take req) ex with
  | (_, .error _) => .error .generic
  | (f, .ok ()) => .ok (f, req + (if req % 2 != 0 then 1 else 0))

/-- `while offset + req <= len(buffer)` -/
def moreFrames (req off len : Nat) : Bool := decide (off + req ≤ len)

theorem decFrames_eq_decOff (proto : Frame) (ex : Bool) (req : Nat) (buf : Bytes) (fuel off : Nat) :
    decFrames proto ex req buf fuel off = decOff (frameStep proto ex req) (moreFrames req) buf fuel off := by
  induction fuel generalizing off with
  | zero => rfl
  | succ fuel ih =>
    rw [decFrames, decOff, moreFrames, frameStep, ← take_drop_slice]
    by_cases h : off + req ≤ buf.length
    · rw [if_pos h, if_pos (decide_eq_true h)]
      rcases Frame.unpack proto (List.take req (List.drop off buf)) ex with ⟨f, _ | ⟨⟨⟩⟩⟩
      · rfl
      · simp only [ih, Nat.add_assoc]
        cases decOff (frameStep proto ex req) (moreFrames req) buf fuel (off + (req + if (req % 2 != 0) = true then 1 else 0)) <;> rfl
    · rw [if_neg h, if_neg (by simpa using h)]

theorem frameStep_ok {proto : Frame} {ex : Bool} {req : Nat} {b : Bytes} {f : Frame} {n : Nat}
    (h : frameStep proto ex req b = .ok (f, n)) : (Frame.unpack proto (b.take req) ex).2 = .ok () ∧ req ≤ n := by
  unfold frameStep at h
  rcases hu : Frame.unpack proto (b.take req) ex with ⟨g, _ | ⟨⟨⟩⟩⟩ <;> rw [hu] at h
  · cases h
  · cases h; exact ⟨rfl, by omega⟩

theorem frameStep_error {proto : Frame} {ex : Bool} {req : Nat} {b : Bytes} {e : Err}
    (h : frameStep proto ex req b = .error e) : e = .generic ∧ (Frame.unpack proto (b.take req) ex).2 ≠ .ok () := by
  unfold frameStep at h
  rcases hu : Frame.unpack proto (b.take req) ex with ⟨g, _ | ⟨⟨⟩⟩⟩ <;> rw [hu] at h
  · cases h; exact ⟨rfl, fun h => nomatch h⟩
  · cases h

theorem decFrames_run (proto : Frame) (ex : Bool) (req : Nat) (buf : Bytes) (m : Nat) (hm : 1 ≤ m)
    (hacc : ∀ b, (Frame.unpack proto b ex).2 = .ok () → m ≤ b.length) (fuel off : Nat) :
    match decFrames proto ex req buf fuel off with
    | .ok fs => fs.length * m ≤ buf.length - off ∧ fs.length * req ≤ buf.length - off
    | .error e => e = .fuel ∧ fuel < buf.length - off + 1 ∨
        e = .generic ∧ off + req ≤ buf.length ∧ ∃ b : Bytes, b.length = req ∧ (Frame.unpack proto b ex).2 ≠ .ok () := by
  -- where the loop test holds the slice has `req` bytes, so an accepted one shows `m ≤ req`
  have hstep : ∀ o x n, moreFrames req o buf.length = true → frameStep proto ex req (buf.drop o) = .ok (x, n) →
      (o + m ≤ buf.length ∧ m ≤ n) ∧ (o + req ≤ buf.length ∧ req ≤ n) := by
    intro o x n hmo hd
    have hle : o + req ≤ buf.length := of_decide_eq_true hmo
    obtain ⟨hok, hn⟩ := frameStep_ok hd
    have := hacc _ hok
    rw [List.length_take, List.length_drop] at this
    omega
  rw [decFrames_eq_decOff]
  cases h : decOff (frameStep proto ex req) (moreFrames req) buf fuel off with
  | ok fs =>
    obtain ⟨o, hr, _⟩ := decOff_ok_reach h
    exact ⟨reach_stride_guard m (fun o x n a b => (hstep o x n a b).1) hr,
      reach_stride_guard req (fun o x n a b => (hstep o x n a b).2) hr⟩
  | error e =>
    rcases decOff_error_reach h with ⟨xs, o, hr, hmo, hd⟩ | ⟨he, xs, o, hr, hlen⟩
    · obtain ⟨he, hno⟩ := frameStep_error hd
      have hle : o + req ≤ buf.length := of_decide_eq_true hmo
      have := reach_le hr
      exact .inr ⟨he, by omega, _, by rw [List.length_take, List.length_drop]; omega, hno⟩
    · have := reach_stride_guard m (fun o x n a b => (hstep o x n a b).1) hr
      refine .inl ⟨he, ?_⟩
      rw [hlen] at this
      calc fuel ≤ fuel * m := Nat.le_mul_of_pos_right _ hm
        _ < _ := by omega

theorem decFrames_refused (proto : Frame) (ex : Bool) (req : Nat) (buf : Bytes) (fuel off : Nat)
    (hle : off + req ≤ buf.length) (h : (Frame.unpack proto (slice buf off (off + req)) ex).2 ≠ .ok ()) :
    decFrames proto ex req buf (fuel + 1) off = .error .generic := by
  unfold decFrames
  rw [if_pos hle]
  rcases hu : Frame.unpack proto (slice buf off (off + req)) ex with ⟨g, _ | _⟩
  · rfl
  · exact absurd (by rw [hu]) h

/-- the minor-frame size the packet decoder works with: the one the user assigned, else the one it detects -/
def frameSize (t : Packet) (buf : Bytes) (hl : Nat) : R Int :=
  match t.assigned with
  | some n => .ok n
  | Option.none => detect t buf hl

theorem frameSize_ok_iff (t : Packet) (buf : Bytes) (hl : Nat) (size : Int) :
    frameSize t buf hl = .ok size ↔
      t.assigned = some size.toNat ∧ 0 ≤ size ∨ t.assigned = Option.none ∧ detect t buf hl = .ok size := by
  unfold frameSize
  cases t.assigned with
  | none => simp
  | some n => simp only [Except.ok.injEq, Option.some.injEq, reduceCtorEq, false_and, or_false]; omega

theorem frameSize_error_iff (t : Packet) (buf : Bytes) (hl : Nat) (e : Err) :
    frameSize t buf hl = .error e ↔ t.assigned = Option.none ∧ detect t buf hl = .error e := by
  unfold frameSize
  cases t.assigned <;> simp

/-- the three codec options: all that `PCMDataPacket.unpack` reads of the object -/
def pcfg (t : Packet) : Option Nat × Option Nat × Option Nat := (t.ipts_source, t.assigned, t.syncword)

/-- `PCMDataPacket.unpack(buffer, extract_sync_sfid)` as a parser of `(buffer, extract_sync_sfid)` -/
def packetRun (c : Option Nat × Option Nat × Option Nat) (b : Bytes × Bool) : R (Packet × Unit) :=
  if b.1.length < 4 then .error .struct else
  let csw := decInt false (b.1.take 4)
  let a := csw / MODE_ALIGNMENT % 2
  let p1 : Packet := { channel_specific_word := csw, ipts_source := c.1, assigned := c.2.1, detected := Option.none,
                       syncword := c.2.2, minor_frames := [] }
  if csw / MODE_THROUGHPUT % 2 = 1 then
    .ok ({ p1 with minor_frames := [{ Frame.fresh (some DEFAULT_IPTS_SOURCE) true a with data := b.1.drop 4 }] }, ())
  else
    (frameSize p1 b.1 (hdrLen a)).bind fun (size : Int) =>
      (decFrames (Frame.fresh c.1 false a) b.2 (size + TS_LEN + hdrLen a).toNat b.1 (b.1.length + 1) 4).map fun fs =>
        ({ p1 with detected := if c.2.1 = Option.none then some size else Option.none, minor_frames := fs }, ())

theorem frameSize_cfg (t : Packet) (csw : Nat) :
    frameSize ⟨csw, t.ipts_source, t.assigned, Option.none, t.syncword, []⟩ = frameSize t :=
  funext fun buf => funext fun hl => by simp only [frameSize, detect]

theorem Packet_decodes : Decodes (fun t (b : Bytes × Bool) => Packet.unpack t b.1 b.2) pcfg packetRun := by
  intro t ⟨buf, ex⟩
  show Agree (Packet.unpack t buf ex) (packetRun (pcfg t) (buf, ex))
  simp only [packetRun, pcfg, frameSize_cfg]
  obtain ⟨c0, src, asg, det, sw, mf⟩ := t
  by_cases h4 : 4 ≤ buf.length
  · have h4' : ¬ buf.length < 4 := by omega
    simp only [Packet.unpack, PCM_unpack_fmt0, unpack_word, hdrLen_eq, h4, h4', if_true, if_false]
    by_cases hthr : decInt false (buf.take 4) / MODE_THROUGHPUT % 2 = 1
    · simp only [hthr, decide_true, if_true]
      rfl
    · simp only [hthr, decide_false, Bool.false_eq_true, if_false]
      cases asg with
      | some n =>
        simp only [frameSize, Except.bind]
        cases decFrames (Frame.fresh src false (decInt false (buf.take 4) / MODE_ALIGNMENT % 2)) ex
          ((n : Int) + TS_LEN + hdrLen (decInt false (buf.take 4) / MODE_ALIGNMENT % 2)).toNat buf (buf.length + 1) 4 <;> rfl
      | none =>
        simp only [frameSize]
        cases detect ⟨c0, src, Option.none, det, sw, mf⟩ buf (hdrLen (decInt false (buf.take 4) / MODE_ALIGNMENT % 2)) with
        | error e => rfl
        | ok size =>
          dsimp only [Except.bind]
          cases decFrames (Frame.fresh src false (decInt false (buf.take 4) / MODE_ALIGNMENT % 2)) ex
            (size + TS_LEN + hdrLen (decInt false (buf.take 4) / MODE_ALIGNMENT % 2)).toNat buf (buf.length + 1) 4 <;> rfl
  · have h4' : buf.length < 4 := by omega
    simp only [Packet.unpack, PCM_unpack_fmt0, unpack_word, h4, h4', if_true, if_false]
    rfl

theorem packetRun_ok {c : Option Nat × Option Nat × Option Nat} {b : Bytes × Bool} {p : Packet}
    (h : packetRun c b = .ok (p, ())) :
    4 ≤ b.1.length ∧ pcfg p = c ∧
      (decInt false (b.1.take 4) / MODE_THROUGHPUT % 2 = 1 ∧ p.minor_frames.length = 1 ∨
       ∃ size : Int, decFrames (Frame.fresh c.1 false (decInt false (b.1.take 4) / MODE_ALIGNMENT % 2)) b.2
         (size + TS_LEN + hdrLen (decInt false (b.1.take 4) / MODE_ALIGNMENT % 2)).toNat b.1 (b.1.length + 1) 4 =
           .ok p.minor_frames) := by
  obtain ⟨h4, h⟩ := R.ite_error_eq_ok.1 h
  dsimp only at h
  by_cases hthr : decInt false (b.1.take 4) / MODE_THROUGHPUT % 2 = 1
  · rw [if_pos hthr] at h; cases h; exact ⟨by omega, rfl, .inl ⟨hthr, rfl⟩⟩
  · rw [if_neg hthr] at h
    obtain ⟨size, _, h⟩ := R.bind_eq_ok.1 h
    obtain ⟨fs, hd, hp⟩ := R.map_eq_ok.1 h
    cases hp
    exact ⟨by omega, rfl, .inr ⟨size, hd⟩⟩

/-- a packed-mode minor frame the layout can carry: a time stamp that fits, a data header that fits
    the alignment's width, alignment 0 (16 bit) or 1 (32 bit); the optional sync-word / sub-frame-id
    attributes are not set (they are not part of the layout: `pack` would emit them in front of the data) -/
def Frame_WF (f : Frame) : Prop :=
  f.throughput = false ∧ f.ipts ≠ .none ∧ Ipts_WF f.ipts ∧ f.alignment < 2 ∧
  (∃ h, f.hdr = some h ∧ h < 256 ^ hdrLen f.alignment) ∧ f.syncword = Option.none ∧ f.sfid = Option.none

/-! `Frame_WF` is decidable, so that concrete witnesses are checked by evaluation -/

instance (o : Option Nat) (n : Nat) : Decidable (∃ h, o = some h ∧ h < n) :=
  match o with
  | Option.none => isFalse (fun ⟨_, h, _⟩ => nomatch h)
  | some v => if hv : v < n then isTrue ⟨v, rfl, hv⟩ else isFalse (fun ⟨_, h, hh⟩ => hv (Option.some.inj h ▸ hh))

instance (f : Frame) : Decidable (Frame_WF f) := by unfold Frame_WF; infer_instance

def frameBytes (f : Frame) : Bytes :=
  iptsBytes f.ipts ++ (encInt false (hdrLen f.alignment) (f.hdr.getD 0) ++ f.data)

theorem frameBytes_length (f : Frame) (h : f.ipts ≠ .none) :
    (frameBytes f).length = f.data.length + 8 + hdrLen f.alignment := by
  simp [frameBytes, iptsBytes_length _ h]; omega

theorem Frame_pack_eq (f : Frame) (h : Frame_WF f) : f.pack = .ok (frameBytes f) := by
  obtain ⟨h1, h2, h3, h4, ⟨hv, h5, h6⟩, h7, h8⟩ := h
  simp only [Frame.pack, h1, h2, Bool.false_eq_true, if_false, Ipts_pack_eq _ h3 h2, hdrFmt_eq _ h4, h5, pack_one,
    hdrCode_bound, hdrCode_size, if_pos h6, h7, h8, packOpt]
  simp [frameBytes, h5]

theorem Frame_unpack_bytes (f t : Frame) (h : Frame_WF f) (ht : t.throughput = false)
    (hk : sameKind t.ipts f.ipts) (ha : t.alignment = f.alignment) :
    Frame.unpack t (frameBytes f) false =
      ({ t with ipts := f.ipts, hdr := f.hdr, data := f.data, syncword := Option.none, sfid := Option.none }, .ok ()) := by
  obtain ⟨h1, h2, h3, h4, ⟨hv, h5, h6⟩, h7, h8⟩ := h
  have htn : t.ipts ≠ .none := mt (sameKind_none hk).1 h2
  have hl8 := iptsBytes_length _ h2
  have hi : iptsDec t.ipts (frameBytes f) = f.ipts := iptsDec_bytes _ _ _ h3 hk
  have hd8 : (frameBytes f).drop 8 = encInt false (hdrLen f.alignment) hv ++ f.data := by
    simp only [frameBytes, h5, Option.getD_some]; exact drop_append_len _ _ _ hl8.symm
  have hd : (frameBytes f).drop (hdrLen f.alignment + TS_LEN) = f.data := by
    rw [Nat.add_comm, ← List.drop_drop, show TS_LEN = 8 from rfl, hd8, drop_encInt_append]
  have hlen : ¬ (frameBytes f).length < 8 + hdrLen f.alignment + 0 := by rw [frameBytes_length f h2]; omega
  have hlen8 : ¬ (frameBytes f).length < 8 := by omega
  have h4' : ¬ 2 ≤ f.alignment := by omega
  refine Frame_decodes.of_run (buf := (frameBytes f, false)) ?_
  simp only [frameRun, fcfg, iptsDec_kindOf, hlen8, and_false, if_false, hi, ht, ha, h4', Bool.false_eq_true, hlen, hd8,
    take_encInt_append, decInt_encInt _ _ _ h6, hd, h5]

/-- one frame as the packet encoder emits it: the frame and a zero fill byte when its size is odd -/
def fill (n : Nat) : Bytes := if n % 2 = 1 then [0] else []

def slotBytes (f : Frame) : Bytes := frameBytes f ++ fill (frameBytes f).length

theorem packFrame_eq (f : Frame) (h : Frame_WF f) : packFrame f = .ok (slotBytes f) := by
  have hz : structPack PCM_pack_fmt1 [PCM_DATA_FRAME_FILL] = .ok [0] := rfl
  simp only [packFrame, Frame_pack_eq f h, hz, slotBytes, fill, beq_iff_eq]
  split <;> simp

theorem slotBytes_length (f : Frame) : (slotBytes f).length = (frameBytes f).length + (frameBytes f).length % 2 := by
  simp only [slotBytes, fill, List.length_append]; split <;> simp <;> omega

theorem decFrames_enc (proto : Frame) (fs : List Frame) (pre : Bytes) (req fuel : Nat) (hfuel : fs.length < fuel)
    (hreq : 1 ≤ req)
    (hf : ∀ f ∈ fs, Frame_WF f ∧ (frameBytes f).length = req ∧ sameKind proto.ipts f.ipts ∧ proto.alignment = f.alignment ∧
      { proto with ipts := f.ipts, hdr := f.hdr, data := f.data, syncword := Option.none, sfid := Option.none } = f)
    (hp : proto.throughput = false) :
    decFrames proto false req (pre ++ fs.flatMap slotBytes) fuel pre.length = .ok fs := by
  rw [decFrames_eq_decOff]
  refine decOff_encAll _ _ slotBytes fs pre fuel hfuel (fun f hm rest => ?_) (fun f hm p q => ?_) (fun n => ?_)
  · obtain ⟨hwf, hlen, hk, ha, heq⟩ := hf f hm
    rw [frameStep, slotBytes, List.append_assoc, take_append_len _ _ _ hlen.symm, Frame_unpack_bytes f proto hwf hp hk ha,
      heq, ← slotBytes, slotBytes_length, hlen]
    by_cases hodd : req % 2 = 1
    · simp [hodd]
    · simp [show req % 2 = 0 by omega]
  · have := (hf f hm).2.1
    simp only [moreFrames, decide_eq_true_eq, List.length_append, slotBytes_length]
    omega
  · simp only [moreFrames, decide_eq_false_iff_not]
    omega

theorem fresh_with (src : Option Nat) (f : Frame) (h : Frame_WF f) :
    { Frame.fresh src false f.alignment with ipts := f.ipts, hdr := f.hdr, data := f.data } = f := by
  obtain ⟨h1, _, _, _, _, h7, h8⟩ := h
  cases f
  simp_all [Frame.fresh]

/-- `hs`: however the decoder arrives at the data size `n` — it was told, it takes it from the buffer length, it finds
    it between two sync words -/
theorem Packet_unpack_frames (t : Packet) (csw n : Nat) (fs : List Frame) (hc : csw < 2 ^ 32)
    (hthr : csw / MODE_THROUGHPUT % 2 = 0)
    (hf : ∀ f ∈ fs, Frame_WF f ∧ f.alignment = csw / MODE_ALIGNMENT % 2 ∧ f.data.length = n ∧
      sameKind (Frame.fresh t.ipts_source false f.alignment).ipts f.ipts)
    (hs : frameSize t (encInt false 4 csw ++ fs.flatMap slotBytes) (hdrLen (csw / MODE_ALIGNMENT % 2)) = .ok (n : Int)) :
    Packet.unpack t (encInt false 4 csw ++ fs.flatMap slotBytes) false =
      ({ t with channel_specific_word := csw, minor_frames := fs,
                detected := if t.assigned = Option.none then some (n : Int) else Option.none }, .ok ()) := by
  have hl4 : ¬ (encInt false 4 csw ++ fs.flatMap slotBytes).length < 4 := by simp
  have hthr' : ¬ csw / MODE_THROUGHPUT % 2 = 1 := by omega
  have hreq : ((n : Int) + TS_LEN + hdrLen (csw / MODE_ALIGNMENT % 2)).toNat = n + 8 + hdrLen (csw / MODE_ALIGNMENT % 2) := by
    simp [TS_LEN]; omega
  have hdec := decFrames_enc (Frame.fresh t.ipts_source false (csw / MODE_ALIGNMENT % 2)) fs (encInt false 4 csw)
    (n + 8 + hdrLen (csw / MODE_ALIGNMENT % 2)) ((encInt false 4 csw ++ fs.flatMap slotBytes).length + 1)
    (by
      have := flatMap_length_ge slotBytes fs (by
        intro f hx
        rw [slotBytes_length, frameBytes_length f (hf f hx).1.2.1]; omega)
      simp only [List.length_append, encInt_length]; omega)
    (by omega)
    (by
      intro f hx
      obtain ⟨hw, ha, hn, hk⟩ := hf f hx
      refine ⟨hw, by rw [frameBytes_length f hw.2.1, hn, ha], ha ▸ hk, ha.symm, ?_⟩
      rw [← ha]
      exact fresh_with _ f hw)
    rfl
  rw [encInt_length] at hdec
  refine Packet_decodes.of_run (buf := (_, false)) ?_
  simp only [packetRun, pcfg, frameSize_cfg, hl4, if_false, take_encInt_append, decInt_encInt4 _ _ hc, hthr', hs, hreq, hdec,
    Except.bind, Except.map]
  rfl

theorem foldl_append (fs : List Frame) (q : Packet) :
    fs.foldl Packet.append q = { q with minor_frames := q.minor_frames ++ fs } :=
  foldl_eq_of_step Packet.append (fun q fs => { q with minor_frames := q.minor_frames ++ fs }) (fun q => by simp)
    (fun q f fs => by simp [Packet.append]) fs q

theorem framesEq_eq : framesEq = listEq Frame.eq := listEq_unique _ _ rfl (fun _ _ _ _ => rfl) (fun _ _ => rfl) (fun _ _ => rfl)

theorem Frame_eq_iff (a b : Frame) :
    Frame.eq a b = true ↔ (a.ipts = b.ipts ∧ a.hdr = b.hdr ∧ a.data = b.data ∧ a.syncword = b.syncword ∧
      a.sfid = b.sfid ∧ a.throughput = b.throughput) := by
  simp only [Frame.eq, Bool.and_eq_true, beq_iff_eq, and_assoc]

/-! ### the occurrence list of the model is the search family's

  `detect` looks for the sync word with `KMP().search`, which the model takes by its specification `occ`.  For a non-empty
  pattern that list is `Spec.occ`, of which C17 `KMP_search_eq_occ` proves that the KMP code computes it. -/

theorem spec_occ_cons (p : Bytes) (a : UInt8) (tl : Bytes) :
    Spec.occ (a :: tl) p =
      (if (a :: tl).take p.length == p then [0] else []) ++ (Spec.occ tl p).map (· + 1) := by
  have h0 : (decide (0 + p.length ≤ tl.length + 1) && (((a :: tl).drop 0).take p.length == p)) =
      ((a :: tl).take p.length == p) := by
    rw [List.drop_zero]
    cases hb : ((a :: tl).take p.length == p) with
    | false => simp
    | true =>
      have := congrArg List.length (beq_iff_eq.1 hb)
      rw [List.length_take, List.length_cons] at this
      simp only [Bool.and_true, decide_eq_true_eq]; omega
  have hf : ∀ j, (decide (j + 1 + p.length ≤ tl.length + 1) && (((a :: tl).drop (j + 1)).take p.length == p)) =
      (decide (j + p.length ≤ tl.length) && ((tl.drop j).take p.length == p)) := by
    intro j; simp only [List.drop_succ_cons]; congr 2; exact propext (by omega)
  rw [Spec.occ, List.length_cons, List.range_succ_eq_map, List.filter_cons, h0, List.filter_map]
  simp only [Function.comp_def, hf]
  rw [← Spec.occ]
  split <;> rfl

theorem occFrom_eq_spec (p : Bytes) (hp : p ≠ []) (t : Bytes) (i : Nat) :
    occFrom p t i = (Spec.occ t p).map (· + i) := by
  induction t generalizing i with
  | nil => simp [occFrom, Spec.occ, hp]
  | cons a tl ih =>
    rw [occFrom, ih (i + 1), spec_occ_cons]
    split <;> simp [Nat.add_comm, Nat.add_left_comm]

theorem occ_eq_spec (t p : Bytes) (hp : p ≠ []) : occ t p = Spec.occ t p := by
  rw [occ, occFrom_eq_spec p hp]; simp

end Acra.Lemmas.Ch11PCM
