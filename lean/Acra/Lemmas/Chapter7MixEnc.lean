/-
  Chapter 7: the encapsulator `datapkts_to_ptfr` on MIXED traffic (normal and low-latency PTDPs in any order) under
  `NoLLPOverflow` yields the layout of Chapter7Layout: a low-latency insertion that fits keeps the `LlpLayout` of the frame
  (`addPayload_llp_layout`; several into one frame end up most recent first, `insertLlps_layout`), one step on a
  low-latency PTDP that fits (`encStep_llp`), one step
  on a normal PTDP (`encStep_mix_normal`), the whole fold (`encap_mix`, at packet level `encap_mix_pkts`).

  Ghost state: `bs` = encodings of the normal PTDPs folded so far (`S = bs.flatten` the normal stream,
  `st = startsAux 0 bs` the positions at which a normal PTDP header begins), `lls` = for every frame already yielded the
  low-latency PTDPs it holds (most recently inserted first), `ll` = those of the frame under construction.
  Invariant `MixInv`: the frames yielded are `mixFrames … lls`, and the frame under construction is the same layout on
  the uncut rest of the stream.
  Normal traffic is the case in which every list of low-latency PTDPs is empty: `lls = replicate n []`, `ll = []`; the
  invariant then reads `EncInv` (`MixInv.normal`): the frames emitted are exactly the complete L-byte pieces of the stream
  that are followed by more data, the frame under construction holds the rest.  `NoLLPOverflow` holds trivially
  (`noLLPOverflow_normal`; the encapsulator's state on normal traffic: `encap_normal`).
-/
import Acra.Lemmas.Chapter7Term
import Acra.Lemmas.Chapter7Layout
import Acra.Model.Chapter7NoOverflow
namespace Acra.Lemmas.Chapter7
open Acra.Py Acra.Model Acra.Model.Chapter7 Acra.Gen.Chapter7
open Acra.Spec.Ch7 (offset startsAux)

theorem addPayload_llp_layout (s : PTFR.State) (llps : List PTDP.State) (N : Bytes) (p : PTDP.State)
    (h : LlpLayout s llps N) (hfit : (encB p).length + 1 + s.payload.length ≤ s.length) :
    (PTFR.addPayload s (encB p) true).2 = [] ∧
    (PTFR.addPayload s (encB p) true).1.length = s.length ∧
    LlpLayout (PTFR.addPayload s (encB p) true).1 (p :: llps) N := by
  have hlen : (encB p ++ [0xFF] ++ s.payload).length ≤ s.length ∧ (encB p ++ [0x00] ++ s.payload).length ≤ s.length := by
    simp only [List.length_append, List.length_singleton]; omega
  cases llps with
  | nil =>
    have hc : ¬ (0 < s.payload.length ∧ s.llp = true) := fun hc => Bool.false_ne_true (h.flag.symm.trans hc.2)
    rw [addPayload_eq, placed, if_pos rfl, if_neg hc, if_neg hc, cutFrame_fits]
    · refine ⟨rfl, rfl, rfl, ?_, fun _ => ?_⟩
      · show encB p ++ [0x00] ++ s.payload = _
        rw [h.payload, llpBytes, llpBytes, List.nil_append]
      · show 0 + ((encB p).length + 1) = _
        rw [llpBytes, Nat.zero_add, List.length_append, List.length_singleton]
    · exact hlen.2
  | cons q r =>
    have hc : 0 < s.payload.length ∧ s.llp = true :=
      ⟨by rw [h.payload, List.length_append]; have := llpBytes_pos q r; omega, h.flag⟩
    rw [addPayload_eq, placed, if_pos rfl, if_pos hc, if_pos hc, cutFrame_fits]
    · refine ⟨rfl, rfl, rfl, ?_, fun _ => ?_⟩
      · show encB p ++ [0xFF] ++ s.payload = _
        rw [h.payload, llpBytes, ← List.append_assoc]
      · show s.ptdp_offset + ((encB p).length + 1) = _
        rw [h.off (List.cons_ne_nil q r)]
        simp only [llpBytes, List.length_append, List.length_singleton]
        omega
    · exact hlen.1

/-- `add_payload(encB p, is_llp=True)` for each `p` of `ins` in turn; second component: everything the calls returned
    as "did not fit" -/
def insertLlps (s : PTFR.State) (ins : List PTDP.State) : PTFR.State × Bytes :=
  ins.foldl (fun acc p => ((PTFR.addPayload acc.1 (encB p) true).1, acc.2 ++ (PTFR.addPayload acc.1 (encB p) true).2)) (s, [])

theorem insertLlps_go (ins : List PTDP.State) : ∀ (s : PTFR.State) (rem : Bytes) (llps : List PTDP.State) (N : Bytes),
    LlpLayout s llps N → (ins.map fun p => (encB p).length + 1).sum + s.payload.length ≤ s.length →
    let r := ins.foldl (fun (acc : PTFR.State × Bytes) p =>
      ((PTFR.addPayload acc.1 (encB p) true).1, acc.2 ++ (PTFR.addPayload acc.1 (encB p) true).2)) (s, rem)
    r.2 = rem ∧ r.1.length = s.length ∧ LlpLayout r.1 (ins.reverse ++ llps) N := by
  induction ins with
  | nil => intro s rem llps N h _; exact ⟨rfl, rfl, by simpa using h⟩
  | cons p ins ih =>
    intro s rem llps N h hfit
    simp only [List.map_cons, List.sum_cons] at hfit
    obtain ⟨h1, h2, h3⟩ := addPayload_llp_layout s llps N p h (by omega)
    have hlen : (PTFR.addPayload s (encB p) true).1.payload.length = (encB p).length + 1 + s.payload.length := by
      rw [h3.payload, h.payload, llpBytes_cons]
      simp only [List.length_append, List.length_cons, List.length_nil]; omega
    have := ih (PTFR.addPayload s (encB p) true).1 (rem ++ (PTFR.addPayload s (encB p) true).2) (p :: llps) N h3
      (by rw [hlen, h2]; omega)
    simp only [List.foldl_cons]
    obtain ⟨g1, g2, g3⟩ := this
    refine ⟨by rw [g1, h1, List.append_nil], by rw [g2, h2], ?_⟩
    rw [List.reverse_cons, List.append_assoc]
    exact g3

theorem insertLlps_layout (s : PTFR.State) (llps : List PTDP.State) (N : Bytes) (ins : List PTDP.State)
    (h : LlpLayout s llps N) (hfit : (ins.map fun p => (encB p).length + 1).sum + s.payload.length ≤ s.length) :
    (insertLlps s ins).2 = [] ∧ (insertLlps s ins).1.length = s.length ∧
    LlpLayout (insertLlps s ins).1 (ins.reverse ++ llps) N :=
  insertLlps_go ins s [] llps N h hfit

/-- relates the fold's state `(cur, out)` to the ghost state: `out` are the `mixFrames` of the normal stream cut at
    `cutAfter`, `cur` is the same layout on the uncut rest. Device: the model writes into `cur` the offset at which the
    NEXT normal PTDP will begin before it knows there is one, so `cur_eq` searches `startsAux 0 bs` with the
    prospective start `bs.flatten.length` appended; `startsAux_snoc` turns it into a real start one step later, and a
    full `cur` gets 0x7FF because `inRange` excludes its upper end. -/
structure MixInv (L sid : Nat) (bs : List Bytes) (lls : List (List PTDP.State)) (ll : List PTDP.State)
    (cur : PTFR.State) (out : List PTFR.State) : Prop where
  out_eq : out = mixFrames L sid bs.flatten (startsAux 0 bs) 0 lls
  cur_eq : cur = { newPtfr L sid with
                    llp := !ll.isEmpty,
                    ptdp_offset :=
                      if ll.isEmpty then
                        offAt (startsAux 0 bs ++ [bs.flatten.length]) (cutAfter L 0 lls) (cutAfter L 0 lls + L)
                      else (llpBytes ll).length,
                    payload := llpBytes ll ++ bs.flatten.drop (cutAfter L 0 lls) }
  lo : cutAfter L 0 lls ≤ bs.flatten.length
  hi : (llpBytes ll).length + (bs.flatten.length - cutAfter L 0 lls) ≤ L
  -- a full frame stays under construction until one more byte arrives (`spillCount_rest`), so the last cut lies strictly
  -- inside the stream: every yielded frame is followed by more data, which is what `decFold_mix` asks of its input
  pos : 0 < bs.flatten.length → cutAfter L 0 lls < bs.flatten.length
  fit : ∀ l ∈ lls, (llpBytes l).length ≤ L
  -- only a normal PTDP yields frames (`encStep_llp` leaves `out` alone); supplies the premise of `pos` to the decoder side
  ne : lls ≠ [] → 0 < bs.flatten.length

theorem mixInv_init (L sid : Nat) (hL : 0 < L) : MixInv L sid [] [] [] (newPtfr L sid) [] := by
  refine ⟨rfl, ?_, by simp [cutAfter], by simp [llpBytes], by simp, by simp, by simp⟩
  have h0 : offAt [0] 0 L = 0 := by simp [offAt, inRange, hL]
  simp [startsAux, cutAfter, h0, newPtfr, PTFR.fresh, llpBytes]

theorem mixInv_layout {L sid : Nat} {bs : List Bytes} {lls : List (List PTDP.State)} {ll : List PTDP.State}
    {cur : PTFR.State} {out : List PTFR.State} (inv : MixInv L sid bs lls ll cur out) :
    LlpLayout cur ll (bs.flatten.drop (cutAfter L 0 lls)) := by
  refine ⟨by rw [inv.cur_eq], by rw [inv.cur_eq], fun hne => ?_⟩
  rw [inv.cur_eq]
  cases ll with
  | nil => exact absurd rfl hne
  | cons q r => simp

theorem encStep_llp (L sid : Nat) (bs : List Bytes) (lls : List (List PTDP.State)) (ll : List PTDP.State)
    (cur : PTFR.State) (out : List PTFR.State) (inv : MixInv L sid bs lls ll cur out)
    (p : PTDP.State) (hwf : PTDP_WF p) (hll : p.low_latency = true)
    (hfit : p.payload.length + 6 + 1 + cur.payload.length ≤ L) :
    ∃ cur', encStep L sid (cur, out) p = .ok (cur', out) ∧ MixInv L sid bs lls (p :: ll) cur' out := by
  have hlay := mixInv_layout inv
  have hcl : cur.length = L := by rw [inv.cur_eq]; rfl
  have hcv : cur.version = 0 := by rw [inv.cur_eq]; rfl
  have hcs : cur.streamid = sid := by rw [inv.cur_eq]; rfl
  have hcp : cur.payload.length = (llpBytes ll).length + (bs.flatten.length - cutAfter L 0 lls) := by
    rw [inv.cur_eq]; simp
  have henc := encB_length p
  obtain ⟨h2, h1, hlay'⟩ := addPayload_llp_layout cur ll (bs.flatten.drop (cutAfter L 0 lls)) p hlay
    (by rw [hcl, henc, Nat.add_comm 6]; exact hfit)
  have hf := addPayload_facts cur (encB p) true
  have hadd : PTFR.addPayload cur (encB p) true = ((PTFR.addPayload cur (encB p) true).1, []) :=
    Prod.ext rfl h2
  refine ⟨(PTFR.addPayload cur (encB p) true).1, ?_, ?_⟩
  · unfold encStep
    simp only [pack_encB p hwf, hll]
    rw [hadd]
    exact spill_nil L sid _ _ _ out
  · have hoff := hlay'.off (by simp)
    have hlen' : (llpBytes (p :: ll)).length = (encB p).length + 1 + (llpBytes ll).length := by
      rw [llpBytes_cons, List.length_append, List.length_append, List.length_singleton]
    refine ⟨inv.out_eq, ?_, inv.lo, ?_, inv.pos, inv.fit, inv.ne⟩
    · apply ptfr_ext
      · rw [hf.2.1, hcv]; rfl
      · rw [hf.2.2.1, hcs]; rfl
      · rw [hlay'.flag]
      · rw [hoff]; simp
      · rw [h1, hcl]; rfl
      · rw [hlay'.payload]
    · rw [hcp, ← Nat.add_assoc] at hfit
      rw [hlen', henc, Nat.add_comm 6]
      exact hfit

/-- the full frames the inner loop cuts off, while the PTDP that begins at `x` is being spread over frames, are the
    frames of the stream without low-latency data: only the first can hold the start `x` (`a`), at offset 0 -/
theorem peel_eq_mixFrames (L sid : Nat) (hL : 0 < L) (S : Bytes) (st : List Nat) (x : Nat) (hst : ∀ p ∈ st, p < x) :
    ∀ (n : Nat) (a : Bool) (c : Nat), (a = true → x = c) → (a = false → x < c) →
      peel L sid n a (S.drop c) = mixFrames L sid S (st ++ [x]) c (List.replicate n []) := by
  intro n
  induction n with
  | zero => intro _ _ _ _; rfl
  | succ n ih =>
    intro a c hat haf
    have hx : x ≤ c := by
      cases a
      · exact Nat.le_of_lt (haf rfl)
      · exact Nat.le_of_eq (hat rfl)
    rw [List.replicate_succ, mixFrames, cap_nil, peel, List.drop_drop,
      ih false (c + L) (fun h => by cases h) (fun _ => Nat.lt_of_le_of_lt hx (Nat.lt_add_of_pos_right hL))]
    congr 1
    refine frame_congr rfl ?_ (by rw [slice_drop, Nat.add_zero, cap_nil]; rfl)
    show (if a = true then 0x0 else 0x7FF) = offAt (st ++ [x]) c (c + L)
    cases a with
    | true =>
      have e := hat rfl
      subst e
      have h : x ≤ x ∧ x < x + L := ⟨Nat.le_refl _, Nat.lt_add_of_pos_right hL⟩
      rw [offAt_append_one _ _ st x hst, if_pos h, Nat.sub_self]; rfl
    | false =>
      rw [offAt_none_of_lt]; · rfl
      intro p hp
      rcases List.mem_append.1 hp with hp | hp
      · exact Nat.lt_trans (hst p hp) (haf rfl)
      · rw [List.mem_singleton.1 hp]; exact haf rfl

theorem fit_replicate (L : Nat) (lls : List (List PTDP.State)) (n : Nat)
    (h : ∀ l ∈ lls, (llpBytes l).length ≤ L) :
    ∀ l ∈ lls ++ List.replicate n [], (llpBytes l).length ≤ L := by
  intro l hl
  simp only [List.mem_append, List.mem_replicate] at hl
  rcases hl with hl | ⟨_, rfl⟩
  · exact h l hl
  · simp [llpBytes]

/-! ### the arithmetic of an overflowing normal PTDP, on variables: in `mixOverflow` the quantities are `cutAfter` /
    `llpBytes … .length` expressions with truncated subtractions between them, which `omega` would have to abstract anew
    at every call -/

/-- a frame that held `P + (F - c)` of its `L` bytes (`c ≤ F`) and into which `B` more do not fit: something is
    left over, and the PTDP begins at the next cut `c + (L - P)` exactly when the frame was full already -/
theorem overflow_arith {P F B c L : Nat} (hlo : c ≤ F) (hhi : P + (F - c) ≤ L) (hov : P + (F + B - c) > L) :
    0 < F + B - c - (L - P) ∧ (P + (F - c) = L → F = c + (L - P)) ∧ (P + (F - c) ≠ L → F < c + (L - P)) := by
  -- with `F = c + d` and `L = P + e` no truncated subtraction is left but the first
  obtain ⟨d, rfl⟩ := Nat.exists_eq_add_of_le hlo
  obtain ⟨e, rfl⟩ := Nat.exists_eq_add_of_le (Nat.le_trans (Nat.le_add_right _ _) hhi)
  simp only [Nat.add_sub_cancel_left, Nat.add_assoc] at *
  omega

/-- the PTDP began at the cut `x` (`A`) or before it; after `n` more full frames it still begins at the cut only
    if `n = 0` -/
theorem start_after_frames {A : Bool} {n L F x : Nat} (hL : 0 < L) (hAt : A = true → F = x) (hAf : A = false → F < x) :
    ((A && n == 0) = true → F = x + n * L) ∧ ((A && n == 0) = false → F < x + n * L) := by
  cases A with
  | false => exact ⟨nofun, fun _ => Nat.lt_of_lt_of_le (hAf rfl) (Nat.le_add_right _ _)⟩
  | true =>
    cases n with
    | zero => exact ⟨fun _ => by rw [Nat.zero_mul, Nat.add_zero]; exact hAt rfl, fun h => absurd h (by decide)⟩
    | succ n =>
      refine ⟨fun h => absurd h (by simp), fun _ => ?_⟩
      rw [hAt rfl, Nat.succ_mul]
      omega

/-- the `r = e - cc` bytes, `1 ≤ r ≤ L`, that go into the fresh frame: the stream's end `e` relative to the cut `cc` -/
theorem tail_arith {r e cc L : Nat} (hr : r = e - cc) (hpos : 0 < r) (hle : r ≤ L) :
    cc < e ∧ e ≤ cc + L ∧ e - cc ≤ L := by
  omega

/-- a normal PTDP that overflows the frame under construction (which holds the low-latency PTDPs `ll`).
    `C1` (the frame yielded first), `X` (what did not fit) and `A` (`at_ptdp_start`: the PTDP begins exactly at the next
    cut) are variables tied by equations because the goal after `unfold encStep` holds large terms in their places;
    `spill_eq` then applies without rewriting under `spill` -/
theorem mixOverflow (L sid : Nat) (hL : 0 < L) (bs : List Bytes) (hne : ∀ b ∈ bs, b ≠ [])
    (lls : List (List PTDP.State)) (ll : List PTDP.State) (out : List PTFR.State) (b : Bytes)
    (hfit : ∀ l ∈ lls ++ [ll], (llpBytes l).length ≤ L)
    (hout : out = mixFrames L sid (bs.flatten ++ b) (startsAux 0 bs ++ [bs.flatten.length]) 0 lls) :
    ∀ (C1 : PTFR.State) (X : Bytes) (A : Bool),
      C1 = mixFrame L sid (bs.flatten ++ b) (startsAux 0 bs ++ [bs.flatten.length]) (cutAfter L 0 lls) ll →
      X = (bs.flatten ++ b).drop (cutAfter L 0 lls + cap L ll) → X ≠ [] →
      (A = true → bs.flatten.length = cutAfter L 0 lls + cap L ll) →
      (A = false → bs.flatten.length < cutAfter L 0 lls + cap L ll) →
      ∃ cur' out' lls' ll', spill L sid (X.length + 2) A C1 X out = .ok (cur', out') ∧
        MixInv L sid (bs ++ [b]) lls' ll' cur' out' ∧ llpOrder lls' ll' = llpOrder lls ll := by
  intro C1 X A hC hX hXne hAt hAf
  have hstlt : ∀ q ∈ startsAux 0 bs, q < bs.flatten.length := fun q hq =>
    Nat.zero_add bs.flatten.length ▸ startsAux_lt 0 bs hne q hq
  have hS' : (bs ++ [b]).flatten = bs.flatten ++ b := by simp
  obtain ⟨hnlt, hnle⟩ := spillCount_rest L X.length hL (List.length_pos_iff.2 hXne)
  refine ⟨_, _, lls ++ [ll] ++ List.replicate (spillCount L X.length) [], [],
    spill_eq L sid hL X.length A C1 X out hXne, ?_, llpOrder_spill _ _ _⟩
  generalize spillCount L X.length = n at hnlt hnle ⊢
  generalize hrem : X.drop (n * L) = rem' at ⊢
  have hle : rem'.length ≤ L := by rw [← hrem, List.length_drop]; exact hnle
  have hpos : 0 < rem'.length := by rw [← hrem, List.length_drop]; exact Nat.sub_pos_of_lt hnlt
  have hcc : cutAfter L 0 (lls ++ [ll] ++ List.replicate n []) = cutAfter L 0 lls + cap L ll + n * L := by
    rw [cutAfter_append, cutAfter_replicate, cutAfter_snoc]
  have hout_eq : out ++ C1 :: peel L sid n A X =
      mixFrames L sid (bs.flatten ++ b) (startsAux 0 bs ++ [bs.flatten.length]) 0
        (lls ++ [ll] ++ List.replicate n []) := by
    rw [mixFrames_append, mixFrames_snoc, ← hout, ← hC, cutAfter_snoc, hX,
      peel_eq_mixFrames L sid hL _ _ _ hstlt n A _ hAt hAf]
    simp
  have hrem_eq : rem' = (bs.flatten ++ b).drop (cutAfter L 0 (lls ++ [ll] ++ List.replicate n [])) := by
    rw [← hrem, hX, List.drop_drop, hcc]
  obtain ⟨hat_true, hat_false⟩ := start_after_frames (n := n) hL hAt hAf
  rw [← hcc] at hat_true hat_false
  generalize (A && n == 0) = a' at hat_true hat_false ⊢
  clear hcc
  generalize hcc : cutAfter L 0 (lls ++ [ll] ++ List.replicate n []) = cc at hrem_eq hat_true hat_false
  have hremlen : rem'.length = (bs.flatten ++ b).length - cc := by rw [hrem_eq, List.length_drop]
  obtain ⟨hlt, hend, hsub⟩ := tail_arith hremlen hpos hle
  refine ⟨?_, ?_, ?_, ?_, ?_, fit_replicate L _ n hfit, ?_⟩
  · rw [hS', startsAux_snoc]; exact hout_eq
  · rw [hS', startsAux_snoc, hcc]
    refine frame_congr rfl ?_ (by rw [← hrem_eq]; rfl)
    show _ = if ([] : List PTDP.State).isEmpty then _ else _
    rw [List.isEmpty_nil, if_pos rfl, hremlen, offAt_tail _ _ cc _ L hstlt a' hat_true hat_false hlt hend]
  · rw [hS', hcc]; exact Nat.le_of_lt hlt
  · rw [hS', hcc]
    show 0 + _ ≤ L
    rw [Nat.zero_add]; exact hsub
  · intro _; rw [hS', hcc]; exact hlt
  · intro _; rw [hS']; exact Nat.lt_of_le_of_lt (Nat.zero_le cc) hlt

theorem encStep_mix_normal (L sid : Nat) (hL : 0 < L) (bs : List Bytes) (hne : ∀ b ∈ bs, b ≠ [])
    (lls : List (List PTDP.State)) (ll : List PTDP.State)
    (cur : PTFR.State) (out : List PTFR.State) (inv : MixInv L sid bs lls ll cur out)
    (p : PTDP.State) (b : Bytes) (hp : (PTDP.pack p).2 = .ok b) (hll : p.low_latency = false) (hb : b ≠ []) :
    ∃ cur' out' lls' ll', encStep L sid (cur, out) p = .ok (cur', out') ∧
      MixInv L sid (bs ++ [b]) lls' ll' cur' out' ∧ llpOrder lls' ll' = llpOrder lls ll := by
  obtain ⟨hout, rfl, hlo, hhi, hpos, hfit, hnz⟩ := inv
  have hblen : 0 < b.length := List.length_pos_iff.2 hb
  have hPL : (llpBytes ll).length ≤ L := Nat.le_trans (Nat.le_add_right _ _) hhi
  have hS' : (bs ++ [b]).flatten = bs.flatten ++ b := by simp
  have hdrop : (bs.flatten ++ b).drop (cutAfter L 0 lls) = bs.flatten.drop (cutAfter L 0 lls) ++ b :=
    List.drop_append_of_le_length hlo
  -- old frames are frames of the longer stream as well
  have hold : mixFrames L sid (bs.flatten ++ b) (startsAux 0 bs ++ [bs.flatten.length]) 0 lls = out := by
    rw [hout]
    exact mixFrames_grow L sid _ b _ _ lls 0 hlo (fun q hq => by rw [List.mem_singleton.1 hq]; exact hlo)
  unfold encStep
  simp only [hp, hll, Bool.not_false, Bool.and_true]
  rw [addPayload_normal, cutFrame]
  simp only [List.append_assoc, ← hdrop, List.length_append, List.length_drop,
    show (newPtfr L sid).length = L from rfl]
  by_cases hov : (llpBytes ll).length + (bs.flatten.length + b.length - cutAfter L 0 lls) > L
  · rw [if_pos hov]
    have hcap : cap L ll = L - (llpBytes ll).length := rfl
    have hov' := overflow_arith hlo hhi hov
    rw [take_prefix_append _ _ _ hPL, drop_prefix_append _ _ _ hPL]
    apply mixOverflow L sid hL bs hne lls ll out b
      (by
        intro l hl
        rcases List.mem_append.1 hl with hl | hl
        · exact hfit l hl
        · rw [List.mem_singleton.1 hl]; exact hPL) hold.symm
    · exact frame_congr rfl rfl (by rw [take_drop_slice]; rfl)
    · rw [List.drop_drop, hcap]
    · refine List.ne_nil_of_length_pos ?_
      rw [List.length_drop, List.length_drop, List.length_append]
      exact hov'.1
    · exact fun h => hov'.2.1 (eq_of_beq h)
    · exact fun h => hov'.2.2 (ne_of_beq_false h)
  · rw [if_neg hov]
    refine ⟨_, _, lls, ll, spill_nil L sid _ _ _ out, ⟨?_, ?_, ?_, ?_, ?_, hfit, ?_⟩, rfl⟩
    · rw [hS', startsAux_snoc, hold]
    · rw [hS', startsAux_snoc]
      refine frame_congr rfl ?_ rfl
      cases ll with
      | nil =>
        refine (offAt_append_hit _ _ (startsAux 0 bs ++ [bs.flatten.length])
          [(bs.flatten ++ b).length] ?_).symm
        apply findR_isSome_of_mem _ _ _ bs.flatten.length (by simp)
        simp only [llpBytes, List.length_nil] at hov
        omega
      | cons q r => rfl
    · rw [hS', List.length_append]; exact Nat.le_trans hlo (Nat.le_add_right _ _)
    · rw [hS', List.length_append]; exact Nat.le_of_not_lt hov
    · intro _; rw [hS', List.length_append]; exact Nat.lt_of_le_of_lt hlo (Nat.lt_add_of_pos_right hblen)
    · intro _; rw [hS', List.length_append]; exact Nat.lt_of_lt_of_le hblen (Nat.le_add_left _ _)

theorem encFold_mix (L sid : Nat) (hL : 0 < L) (qs : List PTDP.State) (hwf : ∀ q ∈ qs, PTDP_WF q) :
    ∀ (bs : List Bytes) (lls : List (List PTDP.State)) (ll : List PTDP.State) (cur : PTFR.State)
      (out : List PTFR.State), (∀ b ∈ bs, b ≠ []) → MixInv L sid bs lls ll cur out →
      noLLPOverflowFrom L sid qs (cur, out) = true →
      ∃ cur' out' lls' ll', encFold L sid qs (cur, out) = .ok (cur', out') ∧
        MixInv L sid (bs ++ (normalOf qs).map encB) lls' ll' cur' out' ∧
        llpOrder lls' ll' = llpOrder lls ll ++ llpOf qs ∧
        (∀ q ∈ llpOf qs, q.payload.length + 7 ≤ L) := by
  induction qs with
  | nil =>
    intro bs lls ll cur out _ inv _
    exact ⟨cur, out, lls, ll, rfl, by simpa [normalOf] using inv, by simp [llpOf], by simp [llpOf]⟩
  | cons q qs ih =>
    intro bs lls ll cur out hne inv hno
    have hq := hwf q (by simp)
    have hwf' : ∀ x ∈ qs, PTDP_WF x := fun x hx => hwf x (by simp [hx])
    unfold noLLPOverflowFrom at hno
    simp only [Bool.and_eq_true, Bool.or_eq_true, Bool.not_eq_true', decide_eq_true_eq] at hno
    obtain ⟨hfit, hrest⟩ := hno
    cases hll : q.low_latency with
    | true =>
      have hfit' : q.payload.length + 6 + 1 + cur.payload.length ≤ L := by
        rcases hfit with h | h
        · rw [hll] at h; cases h
        · exact h
      obtain ⟨cur1, hs, inv1⟩ := encStep_llp L sid bs lls ll cur out inv q hq hll hfit'
      rw [hs] at hrest
      obtain ⟨cur2, out2, lls2, ll2, hf, inv2, hord, hsz⟩ := ih hwf' bs lls (q :: ll) cur1 out hne inv1 hrest
      refine ⟨cur2, out2, lls2, ll2, ?_, ?_, ?_, ?_⟩
      · simp only [encFold, hs, hf]
      · have : normalOf (q :: qs) = normalOf qs := by simp [normalOf, hll]
        rw [this]; exact inv2
      · have : llpOf (q :: qs) = q :: llpOf qs := by simp [llpOf, hll]
        rw [this, hord]; simp [llpOrder]
      · have : llpOf (q :: qs) = q :: llpOf qs := by simp [llpOf, hll]
        rw [this]
        intro x hx
        simp only [List.mem_cons] at hx
        rcases hx with rfl | hx
        · omega
        · exact hsz x hx
    | false =>
      obtain ⟨cur1, out1, lls1, ll1, hs, inv1, hord1⟩ :=
        encStep_mix_normal L sid hL bs hne lls ll cur out inv q (encB q) (pack_encB q hq) hll (encB_ne q)
      rw [hs] at hrest
      obtain ⟨cur2, out2, lls2, ll2, hf, inv2, hord, hsz⟩ := ih hwf' (bs ++ [encB q]) lls1 ll1 cur1 out1
        (by intro b hb; simp only [List.mem_append, List.mem_singleton] at hb
            rcases hb with hb | rfl
            · exact hne b hb
            · exact encB_ne q) inv1 hrest
      refine ⟨cur2, out2, lls2, ll2, ?_, ?_, ?_, ?_⟩
      · simp only [encFold, hs, hf]
      · have : normalOf (q :: qs) = q :: normalOf qs := by simp [normalOf, hll]
        rw [this]
        simpa [List.append_assoc] using inv2
      · have : llpOf (q :: qs) = llpOf qs := by simp [llpOf, hll]
        rw [this, hord, hord1]
      · have : llpOf (q :: qs) = llpOf qs := by simp [llpOf, hll]
        rw [this]; exact hsz

theorem encap_mix (pkts : List (Bytes × Bool)) (L sid : Nat) (hL : 0 < L) (hno : NoLLPOverflow pkts L sid) :
    ∃ cur out lls ll, datapktsToPtfr pkts L sid = .ok (cur, out) ∧
      MixInv L sid ((normalOf (datapktsToPtdp pkts)).map encB) lls ll cur out ∧
      llpOrder lls ll = llpOf (datapktsToPtdp pkts) ∧
      (∀ q ∈ llpOf (datapktsToPtdp pkts), q.payload.length + 7 ≤ L) := by
  obtain ⟨cur, out, lls, ll, h, inv, hord, hsz⟩ :=
    encFold_mix L sid hL (datapktsToPtdp pkts) (datapktsToPtdp_wf pkts) [] [] [] (newPtfr L sid) []
      (by simp) (mixInv_init L sid hL) hno
  exact ⟨cur, out, lls, ll, h, by simpa using inv, by simpa [llpOrder] using hord, hsz⟩

/-- `L ≤ 2047`: a 2048-byte fragment never fits with its continuation byte, so under `NoLLPOverflow` every low-latency
    packet is one COMPLETE PTDP (`llpOf_datapkts`) -/
theorem encap_mix_pkts (pkts : List (Bytes × Bool)) (L sid : Nat) (hL : 0 < L) (hL2 : L ≤ 2047) (hno : NoLLPOverflow pkts L sid) :
    ∃ cur out lls ll, datapktsToPtfr pkts L sid = .ok (cur, out) ∧
      MixInv L sid (encs (normalPkts pkts)) lls ll cur out ∧
      llpOrder lls ll = (llpPkts pkts).map llpPtdp ∧
      (∀ b ∈ llpPkts pkts, b.length + 7 ≤ L) := by
  obtain ⟨cur, out, lls, ll, h, inv, hord, hsz⟩ := encap_mix pkts L sid hL hno
  rw [normalOf_datapkts] at inv
  rw [llpOf_datapkts pkts (fun q hq => by have := hsz q hq; omega)] at hord hsz
  refine ⟨cur, out, lls, ll, h, inv, hord, fun b hb => ?_⟩
  have := hsz (llpPtdp b) (List.mem_map.2 ⟨b, hb, rfl⟩)
  simpa [llpPtdp, mkPtdp] using this

/-- `MixInv` at `lls = replicate out.length []`, `ll = []` (`MixInv.normal`): the cuts are the multiples of L, so the
    ghost list collapses to the number `out.length`. `lo`/`hi`/`pos` pin that number to `(|stream| - 1) / L`: a full
    L-byte piece is emitted only once a byte follows it. `cur_eq` carries the prospective start of the next PTDP
    (`++ [bs.flatten.length]`) for the same reason as `MixInv.cur_eq`. -/
structure EncInv (L sid : Nat) (bs : List Bytes) (cur : PTFR.State) (out : List PTFR.State) : Prop where
  out_eq : out = (List.range out.length).map (frameOf L sid bs.flatten (startsAux 0 bs))
  cur_eq : cur = { newPtfr L sid with
                    ptdp_offset := offset L (startsAux 0 bs ++ [bs.flatten.length]) out.length,
                    payload := bs.flatten.drop (out.length * L) }
  lo : out.length * L ≤ bs.flatten.length
  hi : bs.flatten.length ≤ (out.length + 1) * L
  pos : 0 < bs.flatten.length → out.length * L < bs.flatten.length

theorem EncInv.getElem {L sid : Nat} {bs : List Bytes} {cur : PTFR.State} {out : List PTFR.State}
    (inv : EncInv L sid bs cur out) (k : Nat) (hk : k < out.length) :
    out[k] = frameOf L sid bs.flatten (startsAux 0 bs) k := by
  have := inv.out_eq
  conv => lhs; rw [List.getElem_of_eq this hk]
  simp

theorem MixInv.normal {L sid : Nat} {bs : List Bytes} {lls : List (List PTDP.State)} {ll : List PTDP.State}
    {cur : PTFR.State} {out : List PTFR.State} (inv : MixInv L sid bs lls ll cur out)
    (h : llpOrder lls ll = []) : lls = List.replicate out.length [] ∧ EncInv L sid bs cur out := by
  obtain ⟨hlls, rfl⟩ := llpOrder_eq_nil lls ll h
  generalize lls.length = n at hlls
  subst hlls
  have hlen : out.length = n := by rw [inv.out_eq, mixFrames_length, List.length_replicate]
  subst hlen
  have hlo := inv.lo
  have hhi := inv.hi
  have hpos := inv.pos
  rw [cutAfter_replicate, Nat.zero_add] at hlo hhi hpos
  refine ⟨rfl, ?_, ?_, hlo, ?_, hpos⟩
  · conv => lhs; rw [inv.out_eq, mixFrames_replicate]
    apply List.map_congr_left
    intro k _
    rw [Nat.zero_add, mixFrame_nil]
  · rw [inv.cur_eq, cutAfter_replicate]
    simp [newPtfr, PTFR.fresh, llpBytes, offset_eq_offAt, Nat.succ_mul]
  · simp only [llpBytes, List.length_nil, Nat.zero_add] at hhi
    rw [Nat.succ_mul]; omega

theorem noLLP_of_normal (L sid : Nat) (hL : 0 < L) (ps : List PTDP.State)
    (h : ∀ p ∈ ps, PTDP_WF p ∧ p.low_latency = false) (st : PTFR.State × List PTFR.State) :
    noLLPOverflowFrom L sid ps st = true := by
  induction ps generalizing st with
  | nil => rfl
  | cons p ps ih =>
    obtain ⟨c', o', hs⟩ := encStep_ok L sid hL st p (h p (by simp)).1
    simp only [noLLPOverflowFrom, (h p (by simp)).2, hs, Bool.not_false, Bool.true_or, Bool.true_and]
    exact ih (fun q hq => h q (by simp [hq])) _

theorem noLLPOverflow_normal (pkts : List Bytes) (L sid : Nat) (hL : 0 < L) : NoLLPOverflow (normal pkts) L sid :=
  noLLP_of_normal L sid hL _ (ptdps_wf pkts) _

/-- normal traffic: no low-latency PTDP is ever inserted, so every frame's list is empty and `MixInv` reads `EncInv` -/
theorem encap_normal (pkts : List Bytes) (L sid : Nat) (hL : 0 < L) :
    ∃ cur out, datapktsToPtfr (normal pkts) L sid = .ok (cur, out) ∧
      MixInv L sid (encs pkts) (List.replicate out.length []) [] cur out ∧ EncInv L sid (encs pkts) cur out := by
  obtain ⟨cur, out, lls, ll, h, inv, hord, _⟩ := encap_mix (normal pkts) L sid hL (noLLPOverflow_normal pkts L sid hL)
  have hn : normalOf (ptdps pkts) = ptdps pkts :=
    List.filter_eq_self.2 fun p hp => by simp [(ptdps_wf pkts p hp).2]
  have hl : llpOf (ptdps pkts) = [] :=
    List.filter_eq_nil_iff.2 fun p hp => by simp [(ptdps_wf pkts p hp).2]
  rw [show datapktsToPtdp (normal pkts) = ptdps pkts from rfl, hn] at inv
  rw [show datapktsToPtdp (normal pkts) = ptdps pkts from rfl, hl] at hord
  obtain ⟨e, einv⟩ := inv.normal hord
  obtain rfl := (llpOrder_eq_nil lls ll hord).2
  subst e
  exact ⟨cur, out, h, inv, einv⟩

theorem encap_normal_of_ok (pkts : List Bytes) (L sid : Nat) (hL : 0 < L) (cur : PTFR.State) (out : List PTFR.State)
    (h : datapktsToPtfr (normal pkts) L sid = .ok (cur, out)) :
    MixInv L sid (encs pkts) (List.replicate out.length []) [] cur out ∧ EncInv L sid (encs pkts) cur out := by
  obtain ⟨cur', out', h', inv⟩ := encap_normal pkts L sid hL
  rw [h] at h'; injection h' with h'; injection h' with h1 h2; subst h1 h2
  exact inv

end Acra.Lemmas.Chapter7
