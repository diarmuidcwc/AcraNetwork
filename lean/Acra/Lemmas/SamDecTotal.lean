/-
  The SAM/DEC decommutator on arbitrary bytes (C08), and what follows from it for captures of well-formed items.
  * None of the model's fuelled loops runs out, and what it yields is bounded by what it was given.  The only loop whose
    progress depends on data is the slicing loop; it advances by `frame_length`, which is ≥ 1 whenever it survives the
    first iteration (an inferred length ≤ 0 yields an empty slice, which is not the sync word, so `frame_length` becomes
    None and the next test raises).  `frame_length` never changes once set, so all frames yielded after that have that
    many bytes (`framesLoop_out`).
  * Work bound: every frame yielded is a slice of one record of the capture, the slices of one record are disjoint, and
    each starts with the 4-byte sync word.  Hence the frames yielded — before the iteration ends normally OR with an
    exception — hold together at most as many bytes as the file has after its global header (minus the 16-byte header of
    every record read), and there are at most a quarter as many.
  * The converse of `frames_exact` (C18): when the frame length the code infers from the first SAM/DEC packet is not the
    common frame length `L`, the frames returned all have the inferred length — but the first frame carried has `L` bytes.
-/
import Acra.Lemmas.SamDec
namespace Acra.Lemmas.SamDec
open Acra.Py Acra.Model.SamDec Acra.Model.Search Acra.Gen.SamDec Acra.Spec Acra.Spec.SamDec

/-- what a run of the slicing loop with `frame_length = L` leaves: frames of `L` bytes that start with the sync word,
    holding no more than `n` bytes together; `frame_length` is still `L` unless an exception ended the run -/
structure Sliced (sync : Bytes) (L n : Nat) (r : List Bytes × Option Int × Option Err) : Prop where
  frames : ∀ f ∈ r.1, f.take 4 = sync ∧ f.length = L
  sum : (r.1.map List.length).sum ≤ n
  keep : r.2.2 = none → r.2.1 = some (L : Int)

/-- for ANY fuel: the frames are cut from disjoint places of the payload after the offset -/
theorem sliceLoop_sliced (sync payload : Bytes) (L : Nat) : ∀ fuel o : Nat,
    Sliced sync L (payload.length - o) (sliceLoop sync payload fuel (o : Int) (some (L : Int)))
  | 0, _ => ⟨by simp [sliceLoop], by simp [sliceLoop], by simp [sliceLoop]⟩
  | fuel + 1, o => by
    have ih := sliceLoop_sliced sync payload L fuel (o + L)
    rw [sliceLoop_succ]
    split
    · split
      · next hc hs =>
        have hlen : (slice payload o (o + L)).length = L := by rw [slice_length]; omega
        refine ⟨List.forall_mem_cons.2 ⟨⟨hs, hlen⟩, ih.frames⟩, ?_, ih.keep⟩
        · have := ih.sum
          simp only [List.map_cons, List.sum_cons, hlen]
          omega
      · exact ⟨by simp, by simp, by simp⟩
    · exact ⟨by simp, by simp, fun _ => rfl⟩

/-- the loop advances by `L ≥ 1` per round, so `len - off + 2` rounds are enough -/
theorem sliceLoop_no_fuel (sync payload : Bytes) (L : Nat) (hL : 1 ≤ L) : ∀ fuel o : Nat,
    payload.length - o + 2 ≤ fuel → (sliceLoop sync payload fuel (o : Int) (some (L : Int))).2.2 ≠ some .fuel
  | 0, _, h => by omega
  | fuel + 1, o, h => by
    rw [sliceLoop_succ]
    split
    · split
      · exact sliceLoop_no_fuel sync payload L hL fuel (o + L) (by omega)
      · rw [if_neg (by omega)]; simp
    · simp

theorem occ_second_gt (t p : Bytes) (o0 o1 : Nat) (rest : List Nat) (h : occ t p = o0 :: o1 :: rest) : o0 < o1 := by
  have := Acra.Lemmas.Search.occ_pairwise t p
  rw [h, List.pairwise_cons] at this
  exact this.1 o1 (by simp)

theorem inferLength_ok {payload : Bytes} {x : Int} (h : inferLength syncWord payload = .ok x) :
    1 ≤ x ∨ (x = (payload.length : Int) - 10 ∧ payload.length ≤ 10) := by
  rw [inferLength_eq _ _ (by decide)] at h
  split at h
  · cases h
  · cases h; omega
  · next o0 o1 rest hocc =>
    cases h
    have := occ_second_gt _ _ _ _ _ hocc
    omega

theorem inferLength_error {payload : Bytes} {e : Err} (h : inferLength syncWord payload = .error e) : e = .generic := by
  rw [inferLength_eq _ _ (by decide)] at h
  split at h <;> cases h
  rfl

/-- an inferred length `len(payload) - 10 ≤ 0` dies at the first frame: the empty slice is not the sync word -/
theorem sliceLoop_nonpos (sync payload : Bytes) (hs : sync ≠ []) (hlen : payload.length ≤ 10) :
    sliceLoop sync payload (payload.length + 2) 10 (some ((payload.length : Int) - 10)) = ([], none, some .type) := by
  unfold sliceLoop
  rw [if_pos (by omega), show (10 : Int) + ((payload.length : Int) - 10) = (payload.length : Nat) by omega,
    show (10 : Int) = ((10 : Nat) : Int) by rfl, pySlice_nat]
  have : slice payload 10 payload.length = [] := by simp [slice]; omega
  simp [this, Ne.symm hs, sliceLoop_none]

/-- `frame_length` is unset or positive -/
def Good (fl : Option Int) : Prop := fl = none ∨ ∃ x : Int, fl = some x ∧ 1 ≤ x

/-- what the iteration, entered with `frame_length = fl`, yields from datagrams of `n` bytes in all: frames that start
    with the sync word, each of `fl` bytes if `fl` is set, holding at most `n` bytes together; the exception that ends
    it, if any, is not the model's `fuel` -/
structure Out (fl : Option Int) (n : Nat) (fs : List Bytes) (e : Option Err) : Prop where
  frames : ∀ f ∈ fs, f.take 4 = syncWord ∧ ∀ x, fl = some x → (f.length : Int) = x
  sum : (fs.map List.length).sum ≤ n
  nofuel : e ≠ some .fuel

theorem Out.nil {fl : Option Int} {n : Nat} {e : Option Err} (he : e ≠ some .fuel) : Out fl n [] e :=
  ⟨by simp, by simp, he⟩

theorem Out.mono {fl : Option Int} {n m : Nat} {fs : List Bytes} {e : Option Err} (h : Out fl n fs e) (hnm : n ≤ m) :
    Out fl m fs e :=
  ⟨h.frames, Nat.le_trans h.sum hnm, h.nofuel⟩

/-- `frame_length` never changes once set, so what follows a step that ended normally is of the same kind -/
theorem Out.append {fl fl' : Option Int} {n m : Nat} {fs gs : List Bytes} {e : Option Err} (h1 : Out fl n fs none)
    (h2 : Out fl' m gs e) (hfl : ∀ x, fl = some x → fl' = some x) : Out fl (n + m) (fs ++ gs) e := by
  refine ⟨fun f hf => ?_, ?_, h2.nofuel⟩
  · rcases List.mem_append.1 hf with hf | hf
    · exact h1.frames f hf
    · exact ⟨(h2.frames f hf).1, fun x hx => (h2.frames f hf).2 x (hfl x hx)⟩
  · have := h1.sum
    have := h2.sum
    simp only [List.map_append, List.sum_append]
    omega

/-- one step of the iteration: what it yields, and the `frame_length` it leaves when it ends normally -/
def Step (fl : Option Int) (n : Nat) (r : List Bytes × Option Int × Option Err) : Prop :=
  Out fl n r.1 r.2.2 ∧ (r.2.2 = none → Good r.2.1 ∧ ∀ x, fl = some x → r.2.1 = some x)

theorem Step.skip {fl : Option Int} (hfl : Good fl) (n : Nat) : Step fl n ([], fl, none) :=
  ⟨.nil nofun, fun _ => ⟨hfl, fun _ h => h⟩⟩

theorem Step.fail (fl fl' : Option Int) (n : Nat) {e : Err} (he : e ≠ .fuel) : Step fl n ([], fl', some e) :=
  ⟨.nil (by simpa using he), nofun⟩

theorem sliceLoop_step (payload : Bytes) (x : Int) (hx : 1 ≤ x) (fl : Option Int) (hfl : ∀ y, fl = some y → y = x) :
    Step fl payload.length (sliceLoop syncWord payload (payload.length + 2) SamDec_PCM_HDR_LEN (some x)) := by
  obtain ⟨L, rfl⟩ := Int.eq_ofNat_of_zero_le (show 0 ≤ x by omega)
  have hs := sliceLoop_sliced syncWord payload L (payload.length + 2) SamDec_PCM_HDR_LEN
  have hn := sliceLoop_no_fuel syncWord payload L (by omega) (payload.length + 2) SamDec_PCM_HDR_LEN (by omega)
  refine ⟨⟨fun f hf => ⟨(hs.frames f hf).1, fun y hy => ?_⟩, Nat.le_trans hs.sum (Nat.sub_le _ _), hn⟩,
    fun he => ⟨.inr ⟨L, hs.keep he, hx⟩, fun y hy => ?_⟩⟩
  · rw [hfl y hy, (hs.frames f hf).2]
  · rw [hfl y hy, hs.keep he]

theorem onPayload_step (payload : Bytes) (fl : Option Int) (hfl : Good fl) :
    Step fl payload.length (onPayload syncWord payload fl) := by
  rcases hfl with rfl | ⟨x, rfl, hx⟩
  · unfold onPayload
    cases hinf : inferLength syncWord payload with
    | error e => exact .fail _ _ _ (by rw [inferLength_error hinf]; decide)
    | ok x =>
      rcases inferLength_ok hinf with hx | ⟨rfl, hlen⟩
      · exact sliceLoop_step payload x hx none nofun
      · simp only
        rw [show ((SamDec_PCM_HDR_LEN : Nat) : Int) = 10 by rfl, sliceLoop_nonpos syncWord payload (by decide) hlen]
        exact .fail _ _ _ (by decide)
  · exact sliceLoop_step payload x hx (some x) (fun y hy => (Option.some.inj hy).symm)

theorem onPacket_step (udp : Bytes) (fl : Option Int) (hfl : Good fl) :
    Step fl udp.length (onPacket syncWord udp fl) := by
  rw [onPacket_eq]
  split
  · have := onPayload_step (udp.drop 28) fl hfl
    exact ⟨this.1.mono (by simp), this.2⟩
  · exact .skip hfl _

theorem framesLoop_out (udps : List Bytes) (fl : Option Int) (hfl : Good fl) :
    Out fl (udps.map List.length).sum (framesLoop syncWord udps fl).1 (framesLoop syncWord udps fl).2 := by
  induction udps generalizing fl with
  | nil => exact .nil nofun
  | cons u us ih =>
    obtain ⟨ho, hnext⟩ := onPacket_step u fl hfl
    unfold framesLoop
    rcases hr : onPacket syncWord u fl with ⟨fs, fl', e⟩
    rw [hr] at ho hnext
    cases e with
    | some e => exact ho.mono (by simp)
    | none =>
      obtain ⟨hg, hk⟩ := hnext rfl
      exact ho.append (ih fl' hg) hk

theorem framesLoop_no_fuel (udps : List Bytes) (fl : Option Int) (hfl : Good fl) :
    (framesLoop syncWord udps fl).2 ≠ some .fuel :=
  (framesLoop_out udps fl hfl).nofuel

theorem pcapRecords_weight (file : Bytes) (recs : List Bytes) (h : pcapRecords file = .ok recs) :
    (recs.map fun r => r.length + 16).sum ≤ file.length - 24 := by
  obtain ⟨rs, hd, rfl⟩ := R.map_eq_ok.1 (pcapRecords_eq file ▸ h)
  obtain ⟨o, hr, _⟩ := Acra.Lemmas.RecordsErr.decOff_ok_reach hd
  have := Acra.Lemmas.RecordsErr.reach_weight (fun r : Model.Pcap.Rec => r.payload.length + 16)
    (fun b r n hs => by have := Pcap.nextRec_some b r n (Pcap.recStep_ok hs); omega) hr
  rwa [List.map_map]

theorem udpData_le (rec d : Bytes) (h : udpData rec = some d) : d.length ≤ rec.length := by
  rw [udpData_eq] at h
  split at h
  · cases h; simp
  · cases h

theorem filterMap_udpData_le (recs : List Bytes) :
    ((recs.filterMap udpData).map List.length).sum ≤ (recs.map List.length).sum := by
  induction recs with
  | nil => simp
  | cons r rs ih =>
    simp only [List.filterMap_cons]
    cases h : udpData r with
    | none => simp only [List.map_cons, List.sum_cons]; omega
    | some d =>
      have := udpData_le r d h
      simp only [List.map_cons, List.sum_cons]; omega

theorem sum_add_const (xs : List Bytes) (k : Nat) :
    (xs.map fun r => r.length + k).sum = (xs.map List.length).sum + k * xs.length := by
  induction xs with
  | nil => simp
  | cons x xs ih => simp only [List.map_cons, List.sum_cons, List.length_cons, ih, Nat.mul_succ]; omega

theorem four_mul_length_le (fs : List Bytes) (h : ∀ f ∈ fs, f.take 4 = syncWord) :
    4 * fs.length ≤ (fs.map List.length).sum := by
  induction fs with
  | nil => simp
  | cons f fs ih =>
    have hf := congrArg List.length (h f (by simp))
    have := ih fun g hg => h g (by simp [hg])
    simp only [List.length_take, syncWord, List.length_cons, List.length_nil] at hf
    simp only [List.length_cons, List.map_cons, List.sum_cons]
    omega

theorem framesLoop_first_bad {L : Nat} {l : Bytes} {c s a b p : Nat} {h : Bytes} {fs : List Bytes}
    (hwf : Item.WF L (.samdec l c s a b p h fs))
    (hbad : inferLength syncWord (h ++ fs.flatten) ≠ .ok (L : Int)) (us : List Bytes) (X : List Bytes) :
    framesLoop syncWord (datagram c s a b p h fs :: us) none ≠ (fs ++ X, none) := by
  have hp := hwf.framed
  cases hinf : inferLength syncWord (h ++ fs.flatten) with
  | error e => simp [framesLoop, onPacket_datagram hwf, onPayload, hinf]
  | ok x =>
    -- from here on the iteration is the one entered with `frame_length = x`, whose frames all have `x` bytes
    have hx : 1 ≤ x := (inferLength_ok hinf).resolve_right fun hle => by
      have := hp.length
      have := Nat.mul_le_mul hp.pos hp.four_le
      omega
    have hsame : framesLoop syncWord (datagram c s a b p h fs :: us) none =
        framesLoop syncWord (datagram c s a b p h fs :: us) (some x) := by
      simp only [framesLoop, onPacket_datagram hwf, onPayload, hinf]
    obtain ⟨f, fs', rfl⟩ := List.exists_cons_of_ne_nil hp.ne
    intro heq
    have hf := (framesLoop_out _ (some x) (.inr ⟨x, rfl, hx⟩)).frames f (by rw [← hsame, heq]; simp)
    have := hf.2 x rfl
    rw [(hp.frame f (by simp)).1] at this
    exact hbad (this ▸ hinf)

theorem framesLoop_items_conv (L : Nat) (items : List Item) (hwf : ∀ it ∈ items, it.WF L) :
    ¬ FirstLen L items →
    framesLoop syncWord ((items.map Item.bytes).filterMap udpData) none ≠ (items.flatMap Item.frames, none) :=
  first_samdec_cases
    (P := fun items => ¬ FirstLen L items →
      framesLoop syncWord ((items.map Item.bytes).filterMap udpData) none ≠ (items.flatMap Item.frames, none))
    (fun hbad => absurd trivial hbad)
    (fun pkt rest hf ih hbad => by rw [List.map_cons, Item.bytes, framesLoop_foreign hf]; exact ih hbad)
    (fun l c s a b p h fs rest hw hbad => by
      rw [List.map_cons, Item.bytes, List.filterMap_cons_some (udpData_packet hw)]
      exact framesLoop_first_bad hw hbad _ _)
    items hwf

end Acra.Lemmas.SamDec
