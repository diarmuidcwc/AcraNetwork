/-
  MIL-STD-1553 format 1.  `pack` of a message recomputes its `length` attribute (`norm`) and reads nothing of it;
  the decoders as parsers of the bytes: `Msg_decodes` (`msgRun`: 14 header bytes, then `msgAt`; it is the loop step,
  `decMsg_ok_run`), `Packet_decodes` (`packetRun`: channel-specific word, then `Py.decOff` over the messages);
  `msgAt_bytes` evaluates the message decoder on what the encoder emits.
-/
import Acra.Model.Ch11MIL1553
import Acra.Lemmas.Ch11Pay
namespace Acra.Lemmas.Ch11MIL1553
open Acra.Py Acra.Model.Ch11Pay Acra.Model.Ch11Pay.MIL1553 Acra.Gen.Ch11MIL1553 Acra.Lemmas.Ch11Pay Acra.Lemmas

def Msg_WF (m : Msg) : Prop :=
  Ipts_WF m.ipts ∧ m.ipts ≠ .none ∧ m.blockstatus < 2 ^ 16 ∧ m.gaptimes < 2 ^ 16 ∧ m.message.length < 2 ^ 16

/-- what `pack` turns a message into: its `length` field follows the data -/
def norm (m : Msg) : Msg := { m with length := m.message.length }

def msgHdr (m : Msg) : Bytes :=
  encInt false 2 m.blockstatus ++ (encInt false 2 m.gaptimes ++ encInt false 2 m.message.length)

def msgBytes (m : Msg) : Bytes := iptsBytes m.ipts ++ (msgHdr m ++ m.message)

@[simp] theorem msgHdr_length (m : Msg) : (msgHdr m).length = 6 := by simp [msgHdr]

theorem msgBytes_length (m : Msg) (h : m.ipts ≠ .none) : (msgBytes m).length = 14 + m.message.length := by
  simp [msgBytes, iptsBytes_length _ h]; omega

theorem msgBytes_norm (m : Msg) : msgBytes (norm m) = msgBytes m := rfl

theorem norm_WF (m : Msg) (h : Msg_WF m) : Msg_WF (norm m) := h

/-- `MILSTD1553Message.pack` on every message: the time stamp's exception leaves it alone; otherwise `length` is
    recomputed (`norm`) whether or not the three header words then fit -/
theorem Msg_pack_closed (m : Msg) : m.pack =
    match m.ipts.pack with
    | .error e => (m, .error e)
    | .ok ts => (norm m, (structPack MSG_pack_fmt0 [m.blockstatus, m.gaptimes, m.message.length]).map
        fun hdr => ts ++ hdr ++ m.message) := by
  unfold Msg.pack
  cases m.ipts.pack with
  | error e => rfl
  | ok ts => dsimp only; cases structPack MSG_pack_fmt0 [m.blockstatus, m.gaptimes, m.message.length] <;> rfl

theorem Msg_pack_eq (m : Msg) (h : Msg_WF m) : m.pack = (norm m, .ok (msgBytes m)) := by
  obtain ⟨h1, h2, h3, h4, h5⟩ := h
  have hf : Fits MSG_pack_fmt0.codes [m.blockstatus, m.gaptimes, m.message.length] := by
    simp [Fits, MSG_pack_fmt0, Code.bound]; omega
  simp only [Msg_pack_closed, Ipts_pack_eq _ h1 h2, structPack_eq _ _ hf]
  simp [Except.map, msgBytes, msgHdr, MSG_pack_fmt0, encCodes, Code.size]

theorem MSG_unpack (buf : Bytes) (h : 14 ≤ buf.length) : structUnpackFrom MSG_unpack_fmt0 buf 8 =
    .ok [decInt false ((buf.drop 8).take 2), decInt false ((buf.drop 10).take 2), decInt false ((buf.drop 12).take 2)] := by
  have : 8 + MSG_unpack_fmt0.size ≤ buf.length := h
  rw [structUnpackFrom_flds, if_pos this, take_drop_slice, take_drop_slice, take_drop_slice]
  rfl

/-- the loop test `offset + 14 < len` sees a message of `n` data bytes followed by `r` more bytes as soon as one
    of the two is positive -/
theorem more1553_msg (a n r : Nat) (h : 0 < r ∨ 0 < n) : more1553 a (a + (14 + n + r)) = true := by
  simp only [more1553, decide_eq_true_eq]
  omega

/-- the channel-specific word `ttb << 30 | count` gives both fields back -/
theorem csw_fields (ttb n : Nat) (ht : ttb < 4) (hn : n < 2 ^ 24) :
    (1073741824 * ttb + n) % 16777216 = n ∧ (1073741824 * ttb + n) / 1073741824 % 4 = ttb := by
  constructor
  · rw [show 1073741824 = 16777216 * 64 from rfl, Nat.mul_assoc, Nat.mul_add_mod, Nat.mod_eq_of_lt hn]
  · rw [Nat.mul_add_div (by decide), Nat.div_eq_of_lt (Nat.lt_trans hn (by decide)), Nat.add_zero, Nat.mod_eq_of_lt ht]

/-- the message a decoder whose time stamp object is `i` reads from `buf`: time stamp, three 16-bit
    words, then as many data bytes as the third word says (or as are left) -/
def msgAt (i : Ipts) (buf : Bytes) : Msg :=
  { ipts := iptsDec i buf, blockstatus := decInt false ((buf.drop 8).take 2),
    gaptimes := decInt false ((buf.drop 10).take 2), length := decInt false ((buf.drop 12).take 2),
    message := slice buf 14 (14 + decInt false ((buf.drop 12).take 2)) }

theorem msgAt_kindOf (i : Ipts) (buf : Bytes) : msgAt (kindOf i) buf = msgAt i buf := by
  simp only [msgAt, iptsDec_kindOf]

/-- `MILSTD1553Message.unpack` as a parser; `k` is the kind of time stamp the object holds -/
def msgRun (k : Ipts) (buf : Bytes) : R (Msg × Nat) :=
  if k = .none then .error .attribute else if buf.length < 14 then .error .struct
  else .ok (msgAt k buf, 14 + (msgAt k buf).length)

theorem Msg_decodes : Decodes Msg.unpack (fun t => kindOf t.ipts) msgRun := by
  intro t buf
  have h8 : min 8 buf.length = 8 ↔ ¬ buf.length < 8 := by omega
  show Agree (Msg.unpack t buf) (msgRun (kindOf t.ipts) buf)
  simp only [Msg.unpack, msgRun, Ipts_unpack_eq, List.length_take, h8, iptsDec_take8, kindOf_none, msgAt, iptsDec_kindOf]
  by_cases hn : t.ipts = .none
  · simp only [hn, if_true]; rfl
  · by_cases hl : buf.length < 8
    · simp only [hn, hl, if_false, if_true, not_true, show buf.length < 14 by omega]; rfl
    · simp only [hn, hl, if_false, not_false_eq_true, if_true]
      by_cases h14 : buf.length < 14
      · rw [structUnpackFrom_short _ _ _ (by exact h14), if_pos h14]; rfl
      · rw [MSG_unpack buf (by omega), if_neg h14]
        rfl

theorem msgRun_ok_iff (k : Ipts) (buf : Bytes) (x : Msg × Nat) :
    msgRun k buf = .ok x ↔ k ≠ .none ∧ 14 ≤ buf.length ∧ x = (msgAt k buf, 14 + (msgAt k buf).length) := by
  simp only [msgRun, R.ite_error_eq_ok, Except.ok.injEq, Nat.not_lt, eq_comm (a := x), ne_eq]

theorem msgRun_error_iff (k : Ipts) (buf : Bytes) (e : Err) :
    msgRun k buf = .error e ↔ k = .none ∧ e = .attribute ∨ k ≠ .none ∧ buf.length < 14 ∧ e = .struct := by
  simp only [msgRun, R.ite_error_eq_error, reduceCtorEq, and_false, or_false, ne_eq]

theorem msgAt_bytes (m : Msg) (i : Ipts) (rest : Bytes) (h : Msg_WF m) (hk : sameKind i m.ipts) :
    msgAt i (msgBytes m ++ rest) = norm m := by
  obtain ⟨h1, h2, h3, h4, h5⟩ := h
  have hl8 := iptsBytes_length _ h2
  have e : msgBytes m ++ rest = iptsBytes m.ipts ++ (encCodes MSG_unpack_fmt0.big MSG_unpack_fmt0.codes
      [m.blockstatus, m.gaptimes, m.message.length] ++ (m.message ++ rest)) := by
    simp [msgBytes, msgHdr, MSG_unpack_fmt0, encCodes, Code.size]
  -- the three header words: what the format reads at offset 8 is what was written there
  have hf : Fits MSG_unpack_fmt0.codes [m.blockstatus, m.gaptimes, m.message.length] := ⟨h3, h4, h5, trivial⟩
  have hu := structUnpackFrom_enc MSG_unpack_fmt0 _ (iptsBytes m.ipts) (m.message ++ rest) hf 8 hl8.symm
  rw [← e, MSG_unpack _ (by rw [List.length_append, msgBytes_length m h2]; omega)] at hu
  simp only [Except.ok.injEq, List.cons.injEq, and_true] at hu
  have hsl : slice (msgBytes m ++ rest) 14 (14 + m.message.length) = m.message := by
    rw [msgBytes, List.append_assoc, List.append_assoc, ← List.append_assoc]
    exact slice_mid _ _ _ _ _ (by simp [hl8]) (by simp [hl8])
  simp only [msgAt, hu.1, hu.2.1, hu.2.2, hsl]
  rw [msgBytes, List.append_assoc, iptsDec_bytes _ _ _ h1 hk]
  rfl

theorem Msg_unpack_bytes (m t : Msg) (rest : Bytes) (h : Msg_WF m) (hk : sameKind t.ipts m.ipts) :
    Msg.unpack t (msgBytes m ++ rest) = (norm m, .ok (msgBytes m).length) := by
  have hl : (msgBytes m ++ rest).length = 14 + m.message.length + rest.length := by
    rw [List.length_append, msgBytes_length m h.2.1]
  refine Msg_decodes.of_run ((msgRun_ok_iff _ _ _).2 ⟨mt (fun h0 => (sameKind_none hk).1 ((kindOf_none _).1 h0)) h.2.1, by omega, ?_⟩)
  rw [msgAt_kindOf, msgAt_bytes m _ rest h hk, msgBytes_length m h.2.1]
  rfl

theorem decMsg_ok_run (m0 : Msg) (b : Bytes) : decMsg (.ok m0) b = msgRun (kindOf m0.ipts) b :=
  (Msg_decodes m0 b).step_eq (fun _ _ h => by rw [decMsg, h]) (fun _ _ h => by rw [decMsg, h])

/-- `MILSTD1553Message(self._ipts_source)`: `None` raises a bare `Exception`, a source that is neither `TS_CH4` nor
    `TS_IEEE1558` leaves the object without `ipts` (`AttributeError` at its first use) -/
theorem proto_cases (p : Packet) :
    (p.ipts_source = Option.none ∧ p.proto = .error .generic) ∨
    (∃ s i, p.ipts_source = some s ∧ iptsOfSource s = some i ∧ p.proto = .ok (Msg.fresh i)) ∨
    (∃ s, p.ipts_source = some s ∧ iptsOfSource s = Option.none ∧ p.proto = .error .attribute) := by
  unfold Packet.proto
  cases hs : p.ipts_source with
  | none => exact .inl ⟨rfl, rfl⟩
  | some s =>
    cases hi : iptsOfSource s with
    | none => exact .inr (.inr ⟨s, rfl, hi, by simp only [hi]⟩)
    | some i => exact .inr (.inl ⟨s, i, rfl, hi, by simp only [hi]⟩)

/-- without a prototype message the loop fails at its first iteration, if it has one.  18 = start offset 4 (after the
    channel-specific word) + 14 from the strict loop test `offset + 14 < len(mybuffer)` (`more1553`). -/
theorem decOff_proto_error (e0 : Err) (buf : Bytes) (fuel : Nat) :
    decOff (decMsg (.error e0)) more1553 buf (fuel + 1) 4 = if 18 < buf.length then .error e0 else .ok [] := by
  rw [decOff, more1553]
  by_cases h : 18 < buf.length
  · rw [if_pos h, if_pos (by simpa using h)]; rfl
  · rw [if_neg h, if_neg (by simpa using h)]

/-- `MILSTD1553DataPacket.unpack` as a parser; `src` is the `ipts_source` option, all it reads of the object -/
def packetRun (src : Option Nat) (buf : Bytes) : R (Packet × Unit) :=
  if buf.length < 4 then .error .struct else
  (decOff (decMsg (Packet.fresh src).proto) more1553 buf (buf.length + 1) 4).map fun ms =>
    ({ messages := ms, msgcount := decInt false (buf.take 4) % 16777216,
       ttb := decInt false (buf.take 4) / 1073741824 % 4, ipts_source := src }, ())

theorem Packet_decodes : Decodes Packet.unpack (·.ipts_source) packetRun := by
  intro t buf
  refine .of_read PKT_unpack_fmt0 buf 0 rfl (fun h => by rw [Packet.unpack, h]) fun h _ => ?_
  rw [Packet.unpack, h, show (Packet.fresh t.ipts_source).proto = t.proto from rfl]
  cases decOff (decMsg t.proto) more1553 buf (buf.length + 1) 4 <;> rfl

theorem packetRun_ok {src : Option Nat} {buf : Bytes} {p : Packet} (h : packetRun src buf = .ok (p, ())) :
    4 ≤ buf.length ∧ p.ipts_source = src ∧
      decOff (decMsg (Packet.fresh src).proto) more1553 buf (buf.length + 1) 4 = .ok p.messages := by
  obtain ⟨h4, ms, hd, hp⟩ := (R.ite_error_eq_ok.trans (and_congr_right fun _ => R.map_eq_ok)).1 h
  cases hp
  exact ⟨Nat.not_lt.1 h4, rfl, hd⟩

theorem packMsgs_eq_packAll (ms : List Msg) : packMsgs ms = packAll Msg.pack ms := by
  induction ms with
  | nil => rfl
  | cons m ms ih =>
    rw [packMsgs, packAll, ih]
    rcases Msg.pack m with ⟨m', _ | b⟩
    · rfl
    · rcases packAll Msg.pack ms with ⟨ms', _ | bs⟩ <;> rfl

theorem packMsgs_eq (ms : List Msg) (h : ∀ m ∈ ms, Msg_WF m) :
    packMsgs ms = (ms.map norm, .ok (ms.flatMap msgBytes)) := by
  rw [packMsgs_eq_packAll]
  exact packAll_eq _ norm msgBytes ms fun m hm => Msg_pack_eq m (h m hm)

/-- `pack` only recomputes `length`, from data it does not change: a second call changes nothing -/
theorem Msg_pack_idem (m : Msg) : m.pack.1.pack = m.pack := by
  rw [Msg_pack_closed m]
  cases hi : m.ipts.pack with
  | error e => dsimp only; rw [Msg_pack_closed, hi]
  | ok ts => dsimp only; rw [Msg_pack_closed, show (norm m).ipts.pack = m.ipts.pack from rfl, hi]; rfl

theorem packMsgs_idem (ms : List Msg) : packMsgs (packMsgs ms).1 = packMsgs ms := by
  rw [packMsgs_eq_packAll, packMsgs_eq_packAll]
  exact packAll_idem _ ms fun m _ => Msg_pack_idem m

/-- `MILSTD1553DataPacket.pack` on every packet: an empty one is refused; otherwise the messages are left as `packMsgs`
    leaves them, whatever happens afterwards -/
theorem Packet_pack_closed (p : Packet) : p.pack =
    if p.messages.length = 0 then (p, .error .generic) else
    ({ p with messages := (packMsgs p.messages).1 },
      (packMsgs p.messages).2.bind fun body =>
        (structPack PKT_pack_fmt0 [1073741824 * p.ttb + p.messages.length]).map (· ++ body)) := by
  unfold Packet.pack
  by_cases hl : p.messages.length = 0
  · rw [if_pos hl, if_pos hl]
  · rw [if_neg hl, if_neg hl]
    rcases packMsgs p.messages with ⟨ms', _ | body⟩
    · rfl
    · dsimp only; cases structPack PKT_pack_fmt0 [1073741824 * p.ttb + p.messages.length] <;> rfl

theorem Msg_eq_iff (a b : Msg) : Msg.eq a b = true ↔ a = b := by
  cases a; cases b
  simp only [Msg.eq, Bool.and_eq_true, beq_iff_eq, Msg.mk.injEq, and_assoc]

theorem msgsEq_eq : msgsEq = listEq Msg.eq := listEq_unique _ _ rfl (fun _ _ _ _ => rfl) (fun _ _ => rfl) (fun _ _ => rfl)

theorem msgsEq_iff (as bs : List Msg) : msgsEq as bs = true ↔ as = bs := by
  rw [msgsEq_eq, listEq_iff_map _ id Msg_eq_iff, List.map_id, List.map_id]

instance (m : Msg) : Decidable (Msg_WF m) := by unfold Msg_WF; infer_instance

end Acra.Lemmas.Ch11MIL1553
