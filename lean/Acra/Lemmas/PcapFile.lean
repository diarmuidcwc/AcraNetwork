/-
  The pcap file model on top of `Lemmas/Pcap`: write sessions (with and without their results threaded; on a writable
  object the results are `.ok ()` throughout, so the threaded run is the plain one paired with a `replicate`), and reading.
  An object open for reading behaves as the pure reader on the bytes after its position and only ever changes that
  position (`next_reading`); iteration on it is the record loop of `Lemmas/Pcap` on the file from that position, and
  index access follows, for arbitrary file contents (`readAll_reading`, `getLoop_reading`).  In every other state
  `next` fails without changing anything (`next_cases`).
-/
import Acra.Lemmas.Pcap
namespace Acra.Lemmas.Pcap
open Acra.Py Acra.Model.Pcap Acra.Gen.Pcap Acra.Lemmas.RecordsErr

/-- the 24 bytes `_write_global_header` writes -/
def G : Bytes :=
  encCodes GLOBAL_HEADER_FORMAT.big GLOBAL_HEADER_FORMAT.codes
    [DEFAULT_MAGIC, DEFAULT_VERSIONMAJ, DEFAULT_VERSIONMIN, DEFAULT_ZONE, DEFAULT_SIGFIGS, DEFAULT_SNAPLEN, DEFAULT_NETWORK]

theorem globalHeader_eq : globalHeader = .ok G := by
  unfold globalHeader G
  exact structPack_eq _ _ (by decide)

theorem G_length : G.length = 24 := by decide

/-- a capture file holding the records `rs` -/
def fileOf (rs : List Rec) : Bytes := G ++ rs.flatMap recBytes

theorem fileOf_length (rs : List Rec) : (fileOf rs).length = 24 + bytesOf rs := by
  rw [fileOf, List.length_append, G_length, bytesOf]

/-- the object can be written to and what it writes lands at the end of `f` -/
def Writable (fs : FS) (f : Bytes) : Prop :=
  fs.file = some f ∧ ∃ h, fs.h = some h ∧ h.closed = false ∧ ((h.mode = .w ∧ h.pos = f.length) ∨ h.mode = .a)

theorem writeAt_end (f data : Bytes) : writeAt f f.length data = f ++ data := by
  simp [writeAt]

theorem write_writable (fs : FS) (f : Bytes) (r : Rec) (hw : Writable fs f) (hr : Rec_fits r) :
    (write fs r).2 = .ok () ∧ Writable (write fs r).1 (f ++ recBytes r) := by
  obtain ⟨hf, h, hh, hc, hm⟩ := hw
  have hp : (Rec.pack r).2 = .ok (recBytes r) := by rw [Rec_pack_eq r hr]
  rcases hm with ⟨hm, hpos⟩ | hm
  · simp [write, hh, hp, hc, hm, hf, hpos, writeAt_end, Writable]
  · simp [write, hh, hp, hc, hm, hf, Writable]

def writeAll (fs : FS) (rs : List Rec) : FS := rs.foldl (fun fs r => (write fs r).1) fs

theorem writeAll_writable (fs : FS) (f : Bytes) (rs : List Rec) (hw : Writable fs f) (hr : ∀ r ∈ rs, Rec_fits r) :
    Writable (writeAll fs rs) (f ++ rs.flatMap recBytes) := by
  induction rs generalizing fs f with
  | nil => simpa [writeAll] using hw
  | cons r rs ih =>
    have := (write_writable fs f r hw (hr r (by simp))).2
    have := ih _ _ this (fun x hx => hr x (by simp [hx]))
    simpa [writeAll, List.append_assoc] using this

theorem open_w_writable (fs : FS) : (openFile fs .w).2 = .ok () ∧ Writable (openFile fs .w).1 G := by
  simp [openFile, globalHeader_eq, Writable, defaultHandle]

theorem open_a_writable (fs : FS) (f : Bytes) (hf : fs.file = some f) :
    (openFile fs .a).2 = .ok () ∧ Writable (openFile fs .a).1 f := by
  simp [openFile, hf, Writable, defaultHandle]

theorem close_file (fs : FS) : (close fs).1.file = fs.file := by
  unfold close; split <;> rfl

theorem close_writable (fs : FS) (f : Bytes) (hw : Writable fs f) : (close fs).2 = .ok () := by
  obtain ⟨_, h, hh, _⟩ := hw
  simp [close, hh]

def session (fs : FS) (m : Mode) (rs : List Rec) : FS := (close (writeAll (openFile fs m).1 rs)).1

theorem session_w (fs : FS) (rs : List Rec) (hr : ∀ r ∈ rs, Rec_fits r) :
    (session fs .w rs).file = some (fileOf rs) := by
  have := writeAll_writable _ _ rs (open_w_writable fs).2 hr
  simp only [session, close_file, this.1, fileOf]

theorem session_a (fs : FS) (f : Bytes) (rs : List Rec) (hf : fs.file = some f) (hr : ∀ r ∈ rs, Rec_fits r) :
    (session fs .a rs).file = some (f ++ rs.flatMap recBytes) := by
  have := writeAll_writable _ _ rs (open_a_writable fs f hf).2 hr
  simp only [session, close_file, this.1]

theorem sessions_a (more : List (List Rec)) (fs : FS) (f : Bytes) (hf : fs.file = some f)
    (hm : ∀ rs ∈ more, ∀ r ∈ rs, Rec_fits r) :
    (more.foldl (fun fs rs => session fs .a rs) fs).file = some (f ++ more.flatten.flatMap recBytes) := by
  induction more generalizing fs f with
  | nil => simpa using hf
  | cons rs more ih =>
    rw [List.foldl_cons, ih _ _ (session_a fs f rs hf (hm rs (by simp))) (fun x hx => hm x (by simp [hx]))]
    simp

def writeAllR (fs : FS) (rs : List Rec) : FS × List (R Unit) :=
  rs.foldl (fun acc r => ((write acc.1 r).1, acc.2 ++ [(write acc.1 r).2])) (fs, [])

def sessionR (fs : FS) (m : Mode) (rs : List Rec) : FS × List (R Unit) :=
  let o := openFile fs m
  let w := writeAllR o.1 rs
  let c := close w.1
  (c.1, o.2 :: w.2 ++ [c.2])

theorem writeAllR_eq (rs : List Rec) (fs : FS) (f : Bytes) (acc : List (R Unit)) (hw : Writable fs f)
    (hr : ∀ r ∈ rs, Rec_fits r) :
    rs.foldl (fun acc r => ((write acc.1 r).1, acc.2 ++ [(write acc.1 r).2])) (fs, acc) =
      (writeAll fs rs, acc ++ List.replicate rs.length (.ok ())) := by
  induction rs generalizing fs f acc with
  | nil => simp [writeAll]
  | cons r rs ih =>
    obtain ⟨h1, h2⟩ := write_writable fs f r hw (hr r (by simp))
    rw [List.foldl_cons, ih _ _ _ h2 (fun x hx => hr x (by simp [hx])), h1]
    simp [writeAll, List.replicate_succ]

theorem sessionR_eq (fs : FS) (m : Mode) (f : Bytes) (rs : List Rec)
    (ho : (openFile fs m).2 = .ok () ∧ Writable (openFile fs m).1 f) (hr : ∀ r ∈ rs, Rec_fits r) :
    sessionR fs m rs = (session fs m rs, List.replicate (rs.length + 2) (.ok ())) := by
  have hw := writeAllR_eq rs _ f [] ho.2 hr
  have hc := close_writable _ _ (writeAll_writable _ _ rs ho.2 hr)
  simp only [sessionR, writeAllR, hw, ho.1, hc, session, List.nil_append]
  rw [List.replicate_succ', List.replicate_succ]

/-- the sessions of a capture with all results: the first opens in mode "w", every later one in mode "a" -/
def runSessionsR (first : List Rec) (more : List (List Rec)) : FS × List (R Unit) :=
  more.foldl (fun acc rs => ((sessionR acc.1 .a rs).1, acc.2 ++ (sessionR acc.1 .a rs).2)) (sessionR FS.fresh .w first)

theorem sessionsR_eq (more : List (List Rec)) (fs : FS) (acc : List (R Unit)) (f : Bytes) (hf : fs.file = some f)
    (hm : ∀ rs ∈ more, ∀ r ∈ rs, Rec_fits r) :
    more.foldl (fun a rs => ((sessionR a.1 .a rs).1, a.2 ++ (sessionR a.1 .a rs).2)) (fs, acc) =
      (more.foldl (fun fs rs => session fs .a rs) fs,
        acc ++ List.replicate (more.map (fun rs => rs.length + 2)).sum (.ok ())) := by
  induction more generalizing fs f acc with
  | nil => simp
  | cons rs more ih =>
    have h := hm rs (by simp)
    rw [List.foldl_cons, sessionR_eq fs .a f rs (open_a_writable fs f hf) h,
      ih _ _ _ (session_a fs f rs hf h) (fun x hx => hm x (by simp [hx]))]
    simp [← List.replicate_append_replicate]

/-- an object open for reading at position `pos` of the file `f` -/
def Readable (fs : FS) (f : Bytes) (pos : Nat) : Prop :=
  fs.file = some f ∧ ∃ h, fs.h = some h ∧ h.mode = .r ∧ h.closed = false ∧ h.pos = pos

/-- the half of `Readable` that is about the object; what `read()` then sees is `fs.file.getD []` -/
def Reading (fs : FS) (pos : Nat) : Prop := ∃ h, fs.h = some h ∧ h.mode = .r ∧ h.closed = false ∧ h.pos = pos

def seek (fs : FS) (pos : Nat) : FS := { fs with h := fs.h.map ({ · with pos := pos }) }

@[simp] theorem seek_file (fs : FS) (p : Nat) : (seek fs p).file = fs.file := rfl

theorem seek_seek (fs : FS) (p q : Nat) : seek (seek fs p) q = seek fs q := by
  cases fs with | mk f h => cases h <;> rfl

theorem Reading.seek {fs : FS} {p : Nat} (hr : Reading fs p) (q : Nat) : Reading (seek fs q) q := by
  obtain ⟨h, hh, hm, hc, _⟩ := hr
  exact ⟨{ h with pos := q }, by simp [Pcap.seek, hh], hm, hc, rfl⟩

theorem Readable.seek {fs : FS} {f : Bytes} {p : Nat} (hr : Readable fs f p) (q : Nat) : Readable (seek fs q) f q :=
  ⟨hr.1, Reading.seek hr.2 q⟩

theorem Readable.getD {fs : FS} {f : Bytes} {p : Nat} (hr : Readable fs f p) : fs.file.getD [] = f := by
  rw [hr.1]; rfl

/-- `max`: a `read(16)` that comes back short leaves the position at the end of the file, or where it was if beyond -/
theorem next_reading (fs : FS) (pos : Nat) (hr : Reading fs pos) :
    next fs =
      match nextRec ((fs.file.getD []).drop pos) with
      | none => (seek fs (max pos (fs.file.getD []).length), .error .stopIteration)
      | some (r, n) => (seek fs (pos + n), .ok r) := by
  obtain ⟨h, hh, hm, hc, rfl⟩ := hr
  cases hn : nextRec ((fs.file.getD []).drop h.pos) with
  | none =>
    have hl := (nextRec_eq_none _).1 hn
    rw [List.length_drop] at hl
    have : h.pos + min RECORD_HEADER_SIZE ((fs.file.getD []).length - h.pos) = max h.pos (fs.file.getD []).length := by
      simp only [RECORD_HEADER_SIZE]; omega
    simp [next, hh, hm, hc, hn, Pcap.seek, this]
  | some p => simp [next, hh, hm, hc, hn, Pcap.seek]

theorem next_cases (fs : FS) :
    (fs.h = none ∧ next fs = (fs, .error .attribute)) ∨ next fs = (fs, .error .stopIteration) ∨ ∃ pos, Reading fs pos := by
  cases hh : fs.h with
  | none => left; simp [next, hh]
  | some h =>
    right
    by_cases hc : (h.closed || h.mode != .r) = true
    · left; simp [next, hh, hc]
    · right
      refine ⟨h.pos, h, hh, ?_, ?_, rfl⟩
      · cases hm : h.mode <;> simp_all
      · cases hcl : h.closed <;> simp_all

theorem next_at_end (fs : FS) (f : Bytes) (hr : Readable fs f f.length) : (next fs).2 = .error .stopIteration := by
  rw [next_reading fs _ hr.2, hr.getD, List.drop_length, nextRec_short [] (by simp)]

theorem readAll_reading (fuel : Nat) (fs : FS) (pos : Nat) (hr : Reading fs pos) :
    (readAll fuel fs).2 = decOff recStep recMore (fs.file.getD []) fuel pos := by
  induction fuel generalizing fs pos with
  | zero => rfl
  | succ fuel ih =>
    rw [readAll, recs_succ, next_reading fs pos hr]
    cases nextRec ((fs.file.getD []).drop pos) with
    | none => rfl
    | some p =>
      obtain ⟨r, n⟩ := p
      have := ih (seek fs (pos + n)) (pos + n) (hr.seek _)
      rw [seek_file] at this
      dsimp only
      rw [← this]
      cases readAll fuel (seek fs (pos + n)) with
      | mk fs' res => cases res <;> rfl

theorem readAll_readable (fuel : Nat) (fs : FS) (f : Bytes) (pos : Nat) (hr : Readable fs f pos) :
    (readAll fuel fs).2 = decOff recStep recMore f fuel pos := by
  rw [readAll_reading fuel fs pos hr.2, hr.getD]

theorem readAll_nofuel (fs : FS) (fuel : Nat) (hf : (fs.file.getD []).length / 16 + 1 ≤ fuel) :
    (readAll fuel fs).2 ≠ .error .fuel := by
  obtain ⟨fuel, rfl⟩ : ∃ k, fuel = k + 1 := ⟨fuel - 1, by omega⟩
  rcases next_cases fs with ⟨_, hn⟩ | hn | ⟨pos, hr⟩
  · simp [readAll, hn]
  · simp [readAll, hn]
  · obtain ⟨rs, h⟩ := recs_ok (fs.file.getD []) (fuel + 1) pos (by omega)
    rw [readAll_reading _ _ _ hr, h]
    simp

theorem open_r_readable (fs : FS) (data : Bytes) (hf : fs.file = some (G ++ data)) :
    (openFile fs .r).2 = .ok () ∧ Readable (openFile fs .r).1 (G ++ data) 24 := by
  have ht : List.take GLOBAL_HEADER_SIZE (G ++ data) = G := take_append_len _ _ _ (by rw [G_length]; rfl)
  have hu : structUnpack GLOBAL_HEADER_FORMAT G =
      .ok [DEFAULT_MAGIC, DEFAULT_VERSIONMAJ, DEFAULT_VERSIONMIN, DEFAULT_ZONE, DEFAULT_SIGFIGS, DEFAULT_SNAPLEN, DEFAULT_NETWORK] :=
    structUnpack_enc _ _ (by decide)
  simp only [openFile, hf, ht, hu]
  simp [GLOBAL_HEADER_FORMAT, List.zipWith, Readable, G_length]

theorem getLoop_reading (fuel : Nat) (fs : FS) (pos : Nat) (idx item : Int) (rs : List Rec) (hr : Reading fs pos)
    (h : decOff recStep recMore (fs.file.getD []) fuel pos = .ok rs) :
    (getLoop fuel fs idx item).2 = .ok (if item < idx then none else rs[(item - idx).toNat]?) ∧
    ((getLoop fuel fs idx item).2 = .ok none →
      (getLoop fuel fs idx item).1 = seek fs (max pos (fs.file.getD []).length)) := by
  induction fuel generalizing fs pos idx rs with
  | zero => cases h
  | succ fuel ih =>
    rw [recs_succ] at h
    rw [getLoop, next_reading fs pos hr]
    cases hn : nextRec ((fs.file.getD []).drop pos) with
    | none =>
      rw [hn] at h
      cases h
      simp
    | some p =>
      obtain ⟨r, n⟩ := p
      simp only [hn] at h ⊢
      cases hrs : decOff recStep recMore (fs.file.getD []) fuel (pos + n) with
      | error e => rw [hrs] at h; cases h
      | ok rs' =>
        rw [hrs] at h
        cases h
        by_cases heq : idx = item
        · subst heq
          simp
        · rw [if_neg heq]
          obtain ⟨h1, h2⟩ := ih (seek fs (pos + n)) (pos + n) (idx + 1) rs' (hr.seek _) hrs
          obtain ⟨_, hle, _⟩ := nextRec_some _ r n hn
          rw [List.length_drop] at hle
          refine ⟨h1.trans ?_, fun hnone => (h2 hnone).trans ?_⟩
          · by_cases hlt : item < idx
            · rw [if_pos hlt, if_pos (by omega)]
            · obtain ⟨k, hk⟩ : ∃ k : Nat, item - idx = k + 1 := ⟨(item - idx - 1).toNat, by omega⟩
              rw [if_neg hlt, if_neg (by omega), hk, show item - (idx + 1) = k by omega]
              rfl
          · rw [seek_seek]
            show seek fs (max (pos + n) (fs.file.getD []).length) = _
            rw [Nat.max_eq_right (by omega), Nat.max_eq_right (by omega)]

theorem getitem_open (fs : FS) (h : Handle) (item : Int) (hh : fs.h = some h) (hc : h.closed = false) :
    getitem fs item = getLoop (fuelFor fs) (seek fs 24) 0 item := by
  simp only [getitem, hh, hc, Pcap.seek, GLOBAL_HEADER_SIZE, Option.map_some, Bool.false_eq_true, if_false]
  rfl

theorem getitem_reading (fs : FS) (pos : Nat) (item : Int) (rs : List Rec) (hr : Reading fs pos)
    (h : decOff recStep recMore (fs.file.getD []) (fuelFor fs) 24 = .ok rs) :
    (getitem fs item).2 = .ok (if item < 0 then none else rs[item.toNat]?) ∧
    ((getitem fs item).2 = .ok none → (getitem fs item).1 = seek fs (max 24 (fs.file.getD []).length)) := by
  have ⟨hd, hh, _, hc, _⟩ := hr
  rw [getitem_open fs hd item hh hc]
  simpa [seek_seek, seek_file] using getLoop_reading (fuelFor fs) (seek fs 24) 24 0 item rs (hr.seek 24) h

theorem getitem_cases (fs : FS) (item : Int) :
    ∃ o, (item < 0 → o = none) ∧
      (getitem fs item).2 =
        match fs.h with
        | none => .error .attribute
        | some h => if h.closed then .error .value else .ok o := by
  cases hh : fs.h with
  | none => exact ⟨none, fun _ => rfl, by simp [getitem, hh]⟩
  | some h =>
    dsimp only
    cases hc : h.closed with
    | true => exact ⟨none, fun _ => rfl, by simp [getitem, hh, hc]⟩
    | false =>
      simp only [getitem_open fs h item hh hc, Bool.false_eq_true, if_false]
      rcases next_cases (seek fs 24) with ⟨hn, _⟩ | hn | ⟨pos, hr⟩
      · simp [Pcap.seek, hh] at hn
      · exact ⟨none, fun _ => rfl, by simp [fuelFor, getLoop, hn]⟩
      · obtain ⟨rs, hrs⟩ := recs_ok ((seek fs 24).file.getD []) (fuelFor fs) pos
          (by simp only [fuelFor, Pcap.seek]; omega)
        exact ⟨if item < 0 then none else rs[item.toNat]?, fun hneg => if_pos hneg,
          (getLoop_reading _ _ pos 0 item rs hr hrs).1.trans (by simp)⟩

theorem getitem_nofuel (fs : FS) (item : Int) : (getitem fs item).2 ≠ .error .fuel := by
  obtain ⟨o, -, h⟩ := getitem_cases fs item
  rw [h]
  split
  · simp
  · split <;> simp

theorem getitem_records (fs : FS) (rs : List Rec) (pos : Nat) (item : Int) (hwf : ∀ r ∈ rs, Rec_WF r)
    (hr : Readable fs (fileOf rs) pos) :
    (getitem fs item).2 = .ok (if item < 0 then none else rs[item.toNat]?) ∧
    ((getitem fs item).2 = .ok none → Readable (getitem fs item).1 (fileOf rs) (fileOf rs).length) := by
  have hrs : decOff recStep recMore (fs.file.getD []) (fuelFor fs) 24 = .ok rs := by
    rw [hr.getD, ← G_length]
    exact recs_all G rs _ hwf (by simp only [fuelFor, hr.getD, fileOf_length]; omega)
  obtain ⟨h1, h2⟩ := getitem_reading fs pos item rs hr.2 hrs
  refine ⟨h1, fun hn => ?_⟩
  rw [h2 hn, hr.getD, Nat.max_eq_right (by rw [fileOf_length]; omega)]
  exact hr.seek _

end Acra.Lemmas.Pcap
