/-
  What every `unpack` of the library has in common: it is a pure parser `run` of the bytes (and of the few attributes
  `cfg t` that the method reads from the object and does not overwrite), plus whatever it leaves in the object when
  it raises.  A class proves `Decodes` once, from its closed form; acceptance (C09), the outcome list (C08) and
  state independence (C13) are statements about `run` and are read off below.
-/
import Acra.Py.Struct
namespace Acra.Lemmas
open Acra.Py

/-- the pair `x` (object left, result) a decoder returns agrees with the description `g`, which knows nothing of the
    object's prior state: same result and, on success, the object `g` names.  `Agree` reduces once `g` is a constructor:
    a goal whose two sides have been brought to values closes by `rfl`; through a struct read or a raising test go
    `Agree.of_read` and `Agree.ite_error`. -/
def Agree {σ ρ : Type} (x : σ × R ρ) (g : R (σ × ρ)) : Prop :=
  match g with
  | .ok (s, r) => x = (s, .ok r)
  | .error e => x.2 = .error e

theorem Agree.ok_iff {σ ρ : Type} {x : σ × R ρ} {g : R (σ × ρ)} (h : Agree x g) (r : ρ) :
    x.2 = .ok r ↔ ∃ s, g = .ok (s, r) := by
  cases g with
  | error e =>
    have hx : x.2 = .error e := h
    constructor
    · intro c; rw [hx] at c; cases c
    · rintro ⟨_, c⟩; cases c
  | ok y =>
    have hx : x = (y.1, .ok y.2) := h
    rw [hx]
    constructor
    · intro c; cases c; exact ⟨y.1, rfl⟩
    · rintro ⟨s, c⟩; cases c; rfl

/-- the loop step that calls a decoder and passes its result on is the decoder's parser -/
theorem Agree.step_eq {σ ρ : Type} {x : σ × R ρ} {g y : R (σ × ρ)} (h : Agree x g)
    (hok : ∀ s r, x = (s, .ok r) → y = .ok (s, r)) (herr : ∀ s e, x = (s, .error e) → y = .error e) : y = g := by
  cases g with
  | error e => exact herr x.1 e (Prod.ext rfl h)
  | ok p => exact hok p.1 p.2 h

/-- a decoder that opens with `struct.unpack_from(f, buf, off)` and passes its `struct.error` on: the parser's first test
    is that read's length test; after it the decoder goes on with the fields -/
theorem Agree.of_read {σ ρ : Type} {x : σ × R ρ} {g : R (σ × ρ)} (f : Fmt) (buf : Bytes) (off : Nat) {n : Nat}
    (hn : off + f.size = n) (herr : structUnpackFrom f buf off = .error .struct → x.2 = .error .struct)
    (hok : structUnpackFrom f buf off = .ok (flds f.big buf off f.codes) → n ≤ buf.length → Agree x g) :
    Agree x (if buf.length < n then .error .struct else g) := by
  subst hn
  by_cases h : buf.length < off + f.size
  · rw [if_pos h]; exact herr (structUnpackFrom_short _ _ _ h)
  · rw [if_neg h]; exact hok ((structUnpackFrom_flds _ _ _).trans (if_pos (Nat.not_lt.1 h))) (Nat.not_lt.1 h)

/-- a test on which the decoder raises `e` (leaving whatever object) is the same test of the parser -/
theorem Agree.ite_error {σ ρ : Type} {c : Prop} [Decidable c] {s : σ} {e : Err} {x : σ × R ρ} {g : R (σ × ρ)}
    (h : ¬ c → Agree x g) : Agree (if c then (s, .error e) else x) (if c then .error e else g) := by
  by_cases hc : c
  · rw [if_pos hc, if_pos hc]; rfl
  · rw [if_neg hc, if_neg hc]; exact h hc

/-- `unpack` is the parser `run`: on every object `t` and input `buf` (the bytes, paired with a second argument where
    the method takes one) it returns what `run (cfg t) buf` says, in the sense of `Agree`.  `cfg` picks out what the
    method reads from the object without overwriting it (codec options); `()` where it reads nothing.  Nothing is said
    of the object left behind when `run` fails: the library's decoders assign attributes as they go, and the few
    theorems that speak of a half-decoded object are proved from the model itself. -/
def Decodes {σ κ ρ β : Type} (unpack : σ → β → σ × R ρ) (cfg : σ → κ) (run : κ → β → R (σ × ρ)) : Prop :=
  ∀ t buf, Agree (unpack t buf) (run (cfg t) buf)

namespace Decodes
variable {σ κ ρ β : Type} {unpack : σ → β → σ × R ρ} {cfg : σ → κ} {run : κ → β → R (σ × ρ)}

theorem snd_eq (D : Decodes unpack cfg run) (t : σ) (buf : β) :
    (unpack t buf).2 = (run (cfg t) buf).map (·.2) := by
  have := D t buf
  cases h : run (cfg t) buf with
  | error e => rw [h] at this; exact this
  | ok x => rw [h] at this; exact congrArg Prod.snd this

theorem ok_iff (D : Decodes unpack cfg run) (t : σ) (buf : β) (r : ρ) :
    (unpack t buf).2 = .ok r ↔ ∃ s, run (cfg t) buf = .ok (s, r) :=
  (D t buf).ok_iff r

theorem error_iff (D : Decodes unpack cfg run) (t : σ) (buf : β) (e : Err) :
    (unpack t buf).2 = .error e ↔ run (cfg t) buf = .error e := by
  rw [D.snd_eq]; exact R.map_eq_error

/-- an accepted buffer determines the object -/
theorem of_ok (D : Decodes unpack cfg run) {t : σ} {buf : β} {r : ρ} (h : (unpack t buf).2 = .ok r) :
    run (cfg t) buf = .ok ((unpack t buf).1, r) := by
  obtain ⟨s, hs⟩ := (D.ok_iff t buf r).1 h
  have := D t buf
  rw [hs] at this ⊢
  rw [show unpack t buf = (s, .ok r) from this]

theorem eq_ok_iff (D : Decodes unpack cfg run) (t : σ) (buf : β) (s : σ) (r : ρ) :
    unpack t buf = (s, .ok r) ↔ run (cfg t) buf = .ok (s, r) := by
  constructor
  · intro h
    rw [D.of_ok (congrArg Prod.snd h), h]
  · intro h
    have := D t buf
    rwa [h] at this

theorem of_run (D : Decodes unpack cfg run) {t s : σ} {buf : β} {r : ρ} (h : run (cfg t) buf = .ok (s, r)) :
    unpack t buf = (s, .ok r) :=
  (D.eq_ok_iff t buf s r).2 h

theorem of_run_error (D : Decodes unpack cfg run) {t : σ} {buf : β} {e : Err} (h : run (cfg t) buf = .error e) :
    ∃ s, unpack t buf = (s, .error e) :=
  ⟨_, Prod.ext rfl ((D.error_iff t buf e).2 h)⟩

/-- an accepted buffer leaves nothing of the prior state but `cfg` -/
theorem state_independent (D : Decodes unpack cfg run) {t u : σ} {buf : β} {r : ρ} (hc : cfg t = cfg u)
    (h : (unpack t buf).2 = .ok r) : unpack t buf = unpack u buf := by
  have ht := D.of_ok h
  have hu := D u buf
  rw [← hc, ht] at hu
  exact (Prod.ext rfl h : unpack t buf = ((unpack t buf).1, .ok r)).trans hu.symm

theorem result_independent (D : Decodes unpack cfg run) {t u : σ} (buf : β) (hc : cfg t = cfg u) :
    (unpack t buf).2 = (unpack u buf).2 := by
  rw [D.snd_eq, D.snd_eq, hc]

/-- a subclass decoder `unpack` that runs the base-class decoder `f` on its embedded object `base t`, passes its
    exception on, and otherwise computes result and object from what `f` left, as `G` says.  The base decoder returns
    `None` (`R Unit`), as every base class of the library does. -/
theorem over {τ : Type} {f : τ → β → τ × R Unit} {frun : κ → β → R (τ × Unit)} {bcfg : τ → κ} {base : σ → τ}
    {G : τ → R (σ × ρ)} (D : Decodes f bcfg frun)
    (err : ∀ t buf p e, f (base t) buf = (p, .error e) → (unpack t buf).2 = .error e)
    (ok : ∀ t buf p, f (base t) buf = (p, .ok ()) → Agree (unpack t buf) (G p)) :
    Decodes unpack (fun t => bcfg (base t)) fun c buf => (frun c buf).bind fun x => G x.1 := by
  intro t buf
  have hb := D (base t) buf
  show Agree _ ((frun (bcfg (base t)) buf).bind fun x => G x.1)
  cases hr : frun (bcfg (base t)) buf with
  | error e => rw [hr] at hb; exact err t buf _ e (Prod.ext rfl hb)
  | ok x => rw [hr] at hb; exact ok t buf x.1 hb

end Decodes

/-- the parser of a decoder that makes one length test: `n` bytes or `struct.error`, then `dec` of the bytes -/
def lenRun {σ : Type} (n : Nat) (dec : Bytes → σ) (buf : Bytes) : R (σ × Unit) :=
  if n ≤ buf.length then .ok (dec buf, ()) else .error .struct

namespace Decodes
variable {σ κ : Type} {unpack : σ → Bytes → σ × R Unit} {cfg : σ → κ} {n : Nat} {dec : κ → Bytes → σ}

theorem len_ok_iff (D : Decodes unpack cfg fun c => lenRun n (dec c)) (t : σ) (buf : Bytes) :
    (unpack t buf).2 = .ok () ↔ n ≤ buf.length := by
  rw [D.ok_iff]
  simp only [lenRun, R.ite_ok_eq_ok, Prod.mk.injEq, and_true, exists_eq_right']

theorem len_outcomes (D : Decodes unpack cfg fun c => lenRun n (dec c)) (t : σ) (buf : Bytes) :
    (unpack t buf).2 = .ok () ∨ (unpack t buf).2 = .error .struct := by
  rw [D.snd_eq, lenRun]
  by_cases h : n ≤ buf.length
  · rw [if_pos h]; exact .inl rfl
  · rw [if_neg h]; exact .inr rfl

theorem len_of_le (D : Decodes unpack cfg fun c => lenRun n (dec c)) (t : σ) (buf : Bytes) (h : n ≤ buf.length) :
    unpack t buf = (dec (cfg t) buf, .ok ()) :=
  D.of_run (by rw [lenRun, if_pos h])

end Decodes

end Acra.Lemmas
