/-
  IENA-Q (the second instance of the length-prefixed record of Lemmas/IENA) and the decode-only classes IENA-D /
  IENA-N, whose parameter loop is a `for` over `|payload| / (2n + c)` fixed-size parameters, `n = keystatus & 7`
  data words each after `c / 2` header words (`c = 4` for D, `2` for N): one closed form for both.
-/
import Acra.Model.IENAQDN
import Acra.Lemmas.IENA
import Acra.Lemmas.Bits
namespace Acra.Lemmas.IENA
open Acra.Py Acra.Model.IENA Acra.Gen.IENA

def QParam_WF (p : QParam) : Prop := p.paramid < 65536 ∧ p.dataset.length < 65536

/-- one IENA-Q parameter on the wire: id, dataset length (big-endian 16-bit), dataset, pad to 16 bits -/
def encQb (p : QParam) : Bytes :=
  encInt true 2 p.paramid ++ (encInt true 2 p.dataset.length ++ (p.dataset ++ padM p.dataset.length))

/-- the parameter an IENA-Q step reads off the front of `rem` -/
def mkQ (rem : Bytes) : QParam :=
  { paramid := beNat (slice rem 0 2), dataset := slice rem 4 (4 + beNat (slice rem 2 4)) }

/-- the IENA-Q parameter as a record of the loop: header `>HH`, the dataset length its second word -/
abbrev qRec : Walk.Rec QParam := lpRec 4 (by decide) (fun r => beNat (slice r 2 4)) mkQ

theorem decQ_eq : decQ = qRec.run := by
  funext rem
  show _ = if rem.length < 4 then _ else if beNat (slice rem 2 4) ≤ rem.length - 4 then _ else _
  rw [decQ, IENAQ_FORMAT_LEN, structUnpack_flds _, List.length_take]
  by_cases h : rem.length < 4
  · rw [if_pos h, if_neg (by show ¬ min 4 rem.length = 4; omega)]
  · rw [if_neg h, if_pos (by show min 4 rem.length = 4; omega), show flds _ (rem.take 4) 0 IENAQ_FORMAT.codes =
      [beNat (slice (rem.take 4) 0 2), beNat (slice (rem.take 4) 2 4)] from rfl]
    simp only [slice_take _ 4 2 4 (Nat.le_refl 4), slice_take _ 4 0 2 (by omega),
      List.length_drop, pad_eq]
    split <;> split <;> first | rfl | omega

theorem mkQ_dataset_length (rem : Bytes) (h : 4 + beNat (slice rem 2 4) ≤ rem.length) :
    (mkQ rem).dataset.length = beNat (slice rem 2 4) := by
  simp only [mkQ, slice_length]; omega

theorem unpackQ_eq (t : QState) (buf : Bytes) :
    QState.unpack t buf =
      afterBase QState.mk (loopLP qRec) (fun b => { t with base := b }) t.base buf := by
  unfold loopLP QState.unpack afterBase
  rw [← decQ_eq]
  rcases Base.unpack t.base buf with ⟨b, _ | ⟨⟨⟩⟩⟩
  · rfl
  · dsimp only
    cases decOff decQ moreRem b.payload (b.payload.length + 1) 0 <;> rfl

theorem IENAQ_decodes : Decodes QState.unpack (·.base.lengthError) (typedRun QState.mk (loopLP qRec)) :=
  typed_decodes (fun t b => { t with base := b }) unpackQ_eq

theorem encQb_length (p : QParam) : (encQb p).length = 4 + p.dataset.length + p.dataset.length % 2 := by
  simp only [encQb, padM, List.length_append, encInt_length]
  split <;> simp <;> omega

theorem encQb_even (p : QParam) : (encQb p).length % 2 = 0 := by
  rw [encQb_length]; omega

theorem fitsQ (p : QParam) (h : QParam_WF p) : Fits IENAQ_FORMAT.codes [p.paramid, p.dataset.length] := by
  simp only [Fits, IENAQ_FORMAT, Code.bound, and_true]; exact h

theorem encQb_eq (p : QParam) :
    encQb p = encCodes IENAQ_FORMAT.big IENAQ_FORMAT.codes [p.paramid, p.dataset.length] ++ (p.dataset ++ padM p.dataset.length) := by
  simp [encQb, encCodes, IENAQ_FORMAT, Code.size]

theorem encQ_eq (p : QParam) (h : QParam_WF p) : encQ p = .ok (encQb p) := by
  have hz : Fits IENAQ_pack_fmt0.codes [0] := by simp [Fits, IENAQ_pack_fmt0, Code.bound]
  simp only [encQ, structPack_eq _ _ (fitsQ p h), structPack_eq _ _ hz, encQb_eq]
  by_cases hodd : p.dataset.length % 2 = 1
  · simp [hodd, padM, encCodes, IENAQ_pack_fmt0, Code.size, encInt, beBytes, leBytes]
  · simp [hodd, padM]

theorem decQ_encQb (p : QParam) (rest : Bytes) (h : QParam_WF p) :
    decQ (encQb p ++ rest) = .ok (p, (encQb p).length) := by
  have hf := fitsQ p h
  have hl : (encCodes IENAQ_FORMAT.big IENAQ_FORMAT.codes [p.paramid, p.dataset.length]).length = 4 := encCodes_length _ _ _ hf
  have hlt : ¬ (p.dataset ++ (padM p.dataset.length ++ rest)).length < p.dataset.length := by simp
  rw [encQb_length, encQb_eq, List.append_assoc, List.append_assoc]
  simp only [decQ, IENAQ_FORMAT_LEN, take_append_len _ _ 4 hl.symm, drop_append_len _ _ 4 hl.symm,
    structUnpack_enc _ _ hf, slice_mid _ p.dataset _ 4 (4 + p.dataset.length) hl.symm (by rw [hl]), hlt, if_false,
    pad_eq]

theorem encAllQ_eq (ps : List QParam) (h : ∀ p ∈ ps, QParam_WF p) :
    encAllQ ps = .ok (ps.flatMap encQb) :=
  packLoop_eq _ _ ps rfl fun p hp ys r hr => by simp only [encAllQ, encQ_eq p (h p hp), hr]

theorem flatMap_encQb_even (ps : List QParam) : (ps.flatMap encQb).length % 2 = 0 :=
  flatMap_length_mod encQb 2 ps encQb_even

theorem decQ_all (ps : List QParam) (h : ∀ p ∈ ps, QParam_WF p) :
    decOff decQ moreRem (ps.flatMap encQb) ((ps.flatMap encQb).length + 1) 0 = .ok ps := by
  have := decQ_eq ▸ qRec.loop_enc (Walk.more_iff fun _ _ => rfl) encQb id ps fun x hx rest => decQ_eq ▸ decQ_encQb x rest (h x hx)
  rwa [List.map_id] at this

/-! ### 16-bit word lists (`">{}H".format(n)`) -/

def words16 (ws : List Nat) : Bytes := ws.flatMap (encInt true 2)

theorem words16_eq (ws : List Nat) : words16 ws = wordsC .u16 ws := rfl

@[simp] theorem words16_length (ws : List Nat) : (words16 ws).length = 2 * ws.length :=
  wordsC_length .u16 ws

/-- the loop of `IENAD/N.unpack` as the model writes it: `c` bytes of parameter header, `keystatus & 7` data words -/
def loopRange (c : Nat) (decAll : Nat → Bytes → List Nat → R (List π)) (b : Base) : R (List π) :=
  if b.payload.length - b.payload.length / ((b.keystatus &&& 0x7) * 2 + c) * ((b.keystatus &&& 0x7) * 2 + c) ≠ 0 then
    .error .value
  else decAll (b.keystatus &&& 0x7) b.payload (List.range (b.payload.length / ((b.keystatus &&& 0x7) * 2 + c)))

/-- what `loopRange` computes: `mkP n payload off` is the parameter at offset `off` -/
def loopFix (c : Nat) (mkP : Nat → Bytes → Nat → π) (b : Base) : R (List π) :=
  if b.payload.length % (2 * (b.keystatus % 8) + c) ≠ 0 then .error .value
  else .ok ((List.range (b.payload.length / (2 * (b.keystatus % 8) + c))).map fun i =>
    mkP (b.keystatus % 8) b.payload (i * (2 * (b.keystatus % 8) + c)))

/-- Inside a payload that is a whole number of parameters every `struct.unpack_from` has its bytes: the
    `IndexError` of the step cannot happen. -/
theorem loopRange_eq {c : Nat} {decAll : Nat → Bytes → List Nat → R (List π)} {dec1 : Nat → Bytes → Nat → R π}
    {mkP : Nat → Bytes → Nat → π}
    (hall : ∀ n pl l, decAll n pl l = mapR (fun i => dec1 n pl (i * (n * 2 + c))) l)
    (h1 : ∀ n pl off, dec1 n pl off = if off + (n * 2 + c) ≤ pl.length then .ok (mkP n pl off) else .error .index)
    (b : Base) : loopRange c decAll b = loopFix c mkP b := by
  unfold loopRange loopFix
  simp only [Bits.and_7, Nat.mul_comm (b.keystatus % 8) 2, ne_eq, sub_div_mul_eq_zero_iff, hall]
  split
  · rfl
  · refine mapR_eq_ok _ _ _ fun i hi => ?_
    rw [h1, Nat.mul_comm (b.keystatus % 8) 2, if_pos (mul_add_le_of_lt_div (List.mem_range.1 hi))]

theorem loopRange_enc (c : Nat) (decAll : Nat → Bytes → List Nat → R (List π)) (enc : π → Bytes) (b : Base)
    (ps : List π) (hc : 0 < c) (hpl : b.payload = ps.flatMap enc)
    (hk : ∀ p ∈ ps, (enc p).length = b.keystatus % 8 * 2 + c)
    (hdec : decAll (b.keystatus % 8) b.payload (List.range ps.length) = .ok ps) :
    loopRange c decAll b = .ok ps := by
  have hlen : b.payload.length = (b.keystatus % 8 * 2 + c) * ps.length := by
    rw [hpl]; exact flatMap_length_const enc _ ps hk
  unfold loopRange
  simp only [Bits.and_7, hlen, Nat.mul_div_cancel_left _ (show 0 < b.keystatus % 8 * 2 + c by omega),
    Nat.mul_comm ps.length, Nat.sub_self, ne_eq, not_true_eq_false, if_false, hdec]

section loopFix
variable {π σ : Type} {c : Nat} {mkP : Nat → Bytes → Nat → π} {mk : Base → List π → σ}
  {unpack : σ → Bytes → σ × R Unit} {base : σ → Base}
  (D : Decodes unpack (fun t => (base t).lengthError) (typedRun mk (loopFix c mkP))) {t : σ} {buf : Bytes}
include D

theorem loopFix_error {e : Err} (h : (unpack t buf).2 = .error e) : e = .value ∨ e = .generic := by
  rcases typed_error D h with hb | hl
  · exact baseRun_error ((IENA_decodes.error_iff _ _ _).1 hb)
  · unfold loopFix at hl
    split at hl
    · exact .inl (Except.error.inj hl).symm
    · cases hl

theorem loopFix_ok_iff :
    (unpack t buf).2 = .ok () ↔
      (Base.unpack (base t) buf).2 = .ok () ∧
      (Base.unpack (base t) buf).1.payload.length % (2 * ((Base.unpack (base t) buf).1.keystatus % 8) + c) = 0 := by
  rw [typed_ok_iff D]
  refine and_congr_right fun _ => ?_
  unfold loopFix
  split <;> simp_all

theorem loopFix_ok (h : (unpack t buf).2 = .ok ()) :
    ∃ ps, unpack t buf = (mk (Base.unpack (base t) buf).1 ps, .ok ()) ∧
      (Base.unpack (base t) buf).1.payload.length = buf.length - 16 ∧
      ps.length * (2 * ((Base.unpack (base t) buf).1.keystatus % 8) + c) = (Base.unpack (base t) buf).1.payload.length ∧
      ps = (List.range ((Base.unpack (base t) buf).1.payload.length /
          (2 * ((Base.unpack (base t) buf).1.keystatus % 8) + c))).map
        fun i => mkP ((Base.unpack (base t) buf).1.keystatus % 8) (Base.unpack (base t) buf).1.payload
          (i * (2 * ((Base.unpack (base t) buf).1.keystatus % 8) + c)) := by
  obtain ⟨ps, hb, hl, he⟩ := typed_ok D h
  obtain ⟨⟨h14, _⟩, hu⟩ := (baseRun_ok_iff ..).1 (IENA_decodes.of_ok hb)
  have hlen : (Base.unpack (base t) buf).1.payload.length = buf.length - 16 := by
    rw [hu]; simp only [IENA_ofBytes, slice_length]; omega
  unfold loopFix at hl
  split at hl
  · cases hl
  · rename_i hm
    cases hl
    refine ⟨_, he, hlen, ?_, rfl⟩
    rw [List.length_map, List.length_range]
    exact Nat.div_mul_cancel (Nat.dvd_of_mod_eq_zero (Decidable.not_not.1 hm))

end loopFix

def DParam_WF (n : Nat) (p : DParam) : Prop :=
  p.paramid < 65536 ∧ p.delay < 65536 ∧ p.dwords.length = n ∧ ∀ w ∈ p.dwords, w < 65536

def encDb (p : DParam) : Bytes := words16 (p.paramid :: p.delay :: p.dwords)

/-- the parameter `struct.unpack_from(">{n+2}H", pl, off)` yields -/
def dAt (n : Nat) (pl : Bytes) (off : Nat) : DParam :=
  { paramid := decInt true ((pl.drop off).take 2), delay := decInt true (((pl.drop off).drop 2).take 2),
    dwords := unpackCodes true (List.replicate n .u16) (((pl.drop off).drop 2).drop 2) }

theorem dAt_dwords_length (n : Nat) (pl : Bytes) (off : Nat) : (dAt n pl off).dwords.length = n := by
  rw [dAt, unpackCodes_length, List.length_replicate]

theorem decD1_closed (n : Nat) (pl : Bytes) (off : Nat) :
    decD1 n pl off = if off + (n * 2 + 4) ≤ pl.length then .ok (dAt n pl off) else .error .index := by
  have hs : Code.u16.size * (n + 2) = n * 2 + 4 := by show 2 * _ = _; omega
  rw [decD1, structUnpackFrom_replicate (IENAD_unpack_fmt0 _) .u16 _ rfl, hs]
  by_cases h : off + (n * 2 + 4) ≤ pl.length
  · rw [if_pos h, if_pos h]; rfl
  · rw [if_neg h, if_neg h]

theorem decDAll_eq (n : Nat) (pl : Bytes) (l : List Nat) :
    decDAll n pl l = mapR (fun i => decD1 n pl (i * (n * 2 + 4))) l := by
  induction l with
  | nil => rfl
  | cons i is ih =>
    rw [decDAll, mapR, ih]
    cases decD1 n pl (i * (n * 2 + 4)) with
    | error e => rfl
    | ok p => cases mapR (fun i => decD1 n pl (i * (n * 2 + 4))) is <;> rfl

theorem unpackD_range (t : DState) (buf : Bytes) :
    DState.unpack t buf =
      afterBase DState.mk (loopRange 4 decDAll) (fun b => { t with base := b }) t.base buf := by
  unfold DState.unpack afterBase loopRange
  rcases Base.unpack t.base buf with ⟨b, _ | ⟨⟨⟩⟩⟩
  · rfl
  · dsimp only
    split
    · rfl
    · cases decDAll (b.keystatus &&& 0x7) b.payload _ <;> rfl

theorem unpackD_eq (t : DState) (buf : Bytes) :
    DState.unpack t buf = afterBase DState.mk (loopFix 4 dAt) (fun b => { t with base := b }) t.base buf := by
  rw [unpackD_range, funext (loopRange_eq decDAll_eq decD1_closed)]

theorem IENAD_decodes : Decodes DState.unpack (·.base.lengthError) (typedRun DState.mk (loopFix 4 dAt)) :=
  typed_decodes (fun t b => { t with base := b }) unpackD_eq

theorem encDb_length (n : Nat) (p : DParam) (h : DParam_WF n p) : (encDb p).length = n * 2 + 4 := by
  simp [encDb, h.2.2.1]; omega

theorem decD1_enc (n : Nat) (p : DParam) (pre rest : Bytes) (h : DParam_WF n p) (off : Nat) (hoff : off = pre.length) :
    decD1 n (pre ++ (encDb p ++ rest)) off = .ok p := by
  obtain ⟨h1, h2, h3, h4⟩ := h
  have := structUnpackFrom_wordsC .u16 (IENAD_unpack_fmt0 (n + 2)) (p.paramid :: p.delay :: p.dwords) pre rest
    (by simp [IENAD_unpack_fmt0, h3]) (by intro w hw; simp at hw; rcases hw with rfl | rfl | hw <;> first | assumption | exact h4 w hw)
    off hoff
  simp only [decD1, encDb, words16_eq, this]

theorem decDAll_enc (n : Nat) (ps : List DParam) (h : ∀ p ∈ ps, DParam_WF n p) :
    decDAll n (ps.flatMap encDb) (List.range ps.length) = .ok ps := by
  have := mapR_enc_fixed (decD1 n) encDb (n * 2 + 4) ps (fun p hp => encDb_length n p (h p hp))
    (fun p hp pre rest off => decD1_enc n p pre rest (h p hp) off) [] [] 0 (by simp)
  rwa [List.nil_append, List.append_nil, ← List.range_eq_range', ← decDAll_eq] at this

def NParam_WF (n : Nat) (p : NParam) : Prop :=
  p.paramid < 65536 ∧ p.dwords.length = n ∧ ∀ w ∈ p.dwords, w < 65536

def encNb (p : NParam) : Bytes := words16 (p.paramid :: p.dwords)

/-- the parameter `struct.unpack_from(">{n+1}H", pl, off)` yields -/
def nAt (n : Nat) (pl : Bytes) (off : Nat) : NParam :=
  { paramid := decInt true ((pl.drop off).take 2),
    dwords := unpackCodes true (List.replicate n .u16) ((pl.drop off).drop 2) }

theorem nAt_dwords_length (n : Nat) (pl : Bytes) (off : Nat) : (nAt n pl off).dwords.length = n := by
  rw [nAt, unpackCodes_length, List.length_replicate]

theorem decN1_closed (n : Nat) (pl : Bytes) (off : Nat) :
    decN1 n pl off = if off + (n * 2 + 2) ≤ pl.length then .ok (nAt n pl off) else .error .index := by
  have hs : Code.u16.size * (n + 1) = n * 2 + 2 := by show 2 * _ = _; omega
  rw [decN1, structUnpackFrom_replicate (IENAN_unpack_fmt0 _) .u16 _ rfl, hs]
  by_cases h : off + (n * 2 + 2) ≤ pl.length
  · rw [if_pos h, if_pos h]; rfl
  · rw [if_neg h, if_neg h]

theorem decNAll_eq (n : Nat) (pl : Bytes) (l : List Nat) :
    decNAll n pl l = mapR (fun i => decN1 n pl (i * (n * 2 + 2))) l := by
  induction l with
  | nil => rfl
  | cons i is ih =>
    rw [decNAll, mapR, ih]
    cases decN1 n pl (i * (n * 2 + 2)) with
    | error e => rfl
    | ok p => cases mapR (fun i => decN1 n pl (i * (n * 2 + 2))) is <;> rfl

theorem unpackN_range (t : NState) (buf : Bytes) :
    NState.unpack t buf =
      afterBase NState.mk (loopRange 2 decNAll) (fun b => { t with base := b }) t.base buf := by
  unfold NState.unpack afterBase loopRange
  rcases Base.unpack t.base buf with ⟨b, _ | ⟨⟨⟩⟩⟩
  · rfl
  · dsimp only
    split
    · rfl
    · cases decNAll (b.keystatus &&& 0x7) b.payload _ <;> rfl

theorem unpackN_eq (t : NState) (buf : Bytes) :
    NState.unpack t buf = afterBase NState.mk (loopFix 2 nAt) (fun b => { t with base := b }) t.base buf := by
  rw [unpackN_range, funext (loopRange_eq decNAll_eq decN1_closed)]

theorem IENAN_decodes : Decodes NState.unpack (·.base.lengthError) (typedRun NState.mk (loopFix 2 nAt)) :=
  typed_decodes (fun t b => { t with base := b }) unpackN_eq

theorem encNb_length (n : Nat) (p : NParam) (h : NParam_WF n p) : (encNb p).length = n * 2 + 2 := by
  simp [encNb, h.2.1]; omega

theorem decN1_enc (n : Nat) (p : NParam) (pre rest : Bytes) (h : NParam_WF n p) (off : Nat) (hoff : off = pre.length) :
    decN1 n (pre ++ (encNb p ++ rest)) off = .ok p := by
  obtain ⟨h1, h3, h4⟩ := h
  have := structUnpackFrom_wordsC .u16 (IENAN_unpack_fmt0 (n + 1)) (p.paramid :: p.dwords) pre rest
    (by simp [IENAN_unpack_fmt0, h3]) (by intro w hw; simp at hw; rcases hw with rfl | hw <;> first | assumption | exact h4 w hw)
    off hoff
  simp only [decN1, encNb, words16_eq, this]

theorem decNAll_enc (n : Nat) (ps : List NParam) (h : ∀ p ∈ ps, NParam_WF n p) :
    decNAll n (ps.flatMap encNb) (List.range ps.length) = .ok ps := by
  have := mapR_enc_fixed (decN1 n) encNb (n * 2 + 2) ps (fun p hp => encNb_length n p (h p hp))
    (fun p hp pre rest off => decN1_enc n p pre rest (h p hp) off) [] [] 0 (by simp)
  rwa [List.nil_append, List.append_nil, ← List.range_eq_range', ← decNAll_eq] at this

/-! ### Witnesses of the well-formedness predicates, for the examples -/

theorem wfQ_witness :
    (∀ p ∈ [(⟨1, [0xAA, 0xBB, 0xCC]⟩ : QParam), ⟨3, []⟩], QParam_WF p) ∧
    IENA_WF { Base.fresh with payload := [(⟨1, [0xAA, 0xBB, 0xCC]⟩ : QParam), ⟨3, []⟩].flatMap encQb } := by
  refine ⟨by simp [QParam_WF], ?_⟩
  simp [IENA_WF, Base.fresh, IENA_DEFAULT_ENDFIELD, encQb, padM]

/-- key status 0x1A: two data words per parameter -/
theorem wfD_witness :
    IENA_WF { { Base.fresh with keystatus := 0x1A } with
      payload := [(⟨1, 2, [3, 4]⟩ : DParam), ⟨5, 6, [7, 65535]⟩].flatMap encDb } ∧
    ∀ p ∈ [(⟨1, 2, [3, 4]⟩ : DParam), ⟨5, 6, [7, 65535]⟩], DParam_WF (0x1A % 8) p := by
  refine ⟨?_, by simp [DParam_WF]⟩
  simp [IENA_WF, Base.fresh, IENA_DEFAULT_ENDFIELD, encDb, words16]

theorem wfN_witness :
    IENA_WF { { Base.fresh with keystatus := 3 } with payload := [(⟨1, [2, 3, 4]⟩ : NParam)].flatMap encNb } ∧
    ∀ p ∈ [(⟨1, [2, 3, 4]⟩ : NParam)], NParam_WF (3 % 8) p := by
  refine ⟨?_, by simp [NParam_WF]⟩
  simp [IENA_WF, Base.fresh, IENA_DEFAULT_ENDFIELD, encNb, words16]

end Acra.Lemmas.IENA
