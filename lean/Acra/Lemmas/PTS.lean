/-
  The 40-bit PTS field of a PES header, `0010 c 1 b 1 a 1` with tick groups `c` (3 bits), `b` and `a`
  (15 bits each): its marker bits and where the groups sit, with the groups as variables.
-/
namespace Acra.Lemmas.PTS

theorem pts_field (a b c : Nat) (ha : a < 32768) (hb : b < 32768) (hc : c < 8) :
    let v := 0x2100010001 + a * 2 + b * 131072 + c * 8589934592
    (v % 2 = 1 ∧ v / 65536 % 2 = 1 ∧ v / 4294967296 % 2 = 1 ∧ v / 68719476736 = 2 ∧ v < 1099511627776) ∧
    (v / 2 % 32768 = a ∧ v / 131072 % 32768 = b ∧ v / 8589934592 % 8 = c) := by
  omega

end Acra.Lemmas.PTS
