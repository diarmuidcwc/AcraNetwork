/-
  Helpers for the METHOD source ties (`Props/Cxx/SrcTieCls.lean`): per class, the explicit correspondence between the
  object structure GENERATED from `__init__` (`Acra.Gen.Src.Cls.<Class>.Obj`, Python ints as `Int`) and the hand-written
  model state (`Acra.Model.<Class>.State`, fields as `Nat`):

    toModel : Obj → State      field by field, `Int.toNat` on the int attributes
    ofModel : State → Obj      field by field, the cast `Nat → Int`
    Dom     : Obj → Prop       the model's domain: every int attribute is `≥ 0` (there `ofModel ∘ toModel = id`)

  and what the translated methods do on EVERY object, not only on images of model states: `iNetX.src_pack_eq`,
  `iNetX.src_unpack_indep`, `IENA.src_eq_iff`, `PTPTime.src_pack_eq`, `UDP.src_pack_eq`, `MPEGAdaptionExtension.pack_of`.
-/
import Acra.Py.MethOps
import Acra.Lemmas.Bits
import Acra.Gen.Src.Cls.iNetX
import Acra.Gen.Src.Cls.PTPTime
import Acra.Gen.Src.Cls.RTCTime
import Acra.Gen.Src.Cls.UDP
import Acra.Gen.Src.Cls.PcapRecord
import Acra.Gen.Src.Cls.MPEGAdaptionExtension
import Acra.Model.MPEGTS
import Acra.Gen.Src.Cls.IENA
import Acra.Model.IENA
import Acra.Gen.Src.Cls.ICMP
import Acra.Model.iNetX
import Acra.Model.Pcap
import Acra.Model.Ch11
import Acra.Model.Net
namespace Acra.Lemmas.SrcTieCls
open Acra Acra.Py Acra.Lemmas

theorem sliceI_from (b : List α) (n : Nat) :
    Py.sliceI b (no_index (OfNat.ofNat n)) (b.length : Int) = b.drop (OfNat.ofNat n) := by
  simp [Py.sliceI, slice]

theorem toNat_natCast_eq (i : Int) (h : 0 ≤ i) : ((i.toNat : Nat) : Int) = i := Int.toNat_of_nonneg h

/-- from a tie on the images of model states to the objects of the domain (`ofM (toM o) = o`) -/
theorem transfer {O S ρ : Type} {toM : O → S} {ofM : S → O} (f : O → O × ρ) (hto : ∀ s, toM (ofM s) = s) {o : O}
    (ho : ofM (toM o) = o) {s' : S} {r : ρ} (hf : f (ofM (toM o)) = (ofM s', r)) :
    (toM (f o).1, (f o).2) = (s', r) := by
  rw [ho] at hf
  rw [hf, hto]

/-- one step of a comparison written as a chain of early returns: `if x != y: return False`, then the rest -/
theorem eq_step {σ α : Type} [DecidableEq α] (x y : α) (o : σ) (r : Bool) :
    (if x ≠ y then (o, (.ok false : R Bool)) else (o, .ok r)) = (o, .ok (decide (x = y) && r)) := by
  by_cases h : x = y <;> simp [h]

/-- `if n == a: X  elif n == 0: Y  else: E` on a length `n`, for a literal `a` -/
theorem three_cases {β : Type} (n a : Nat) {X Y E M : β} (hX : n = OfNat.ofNat a → X = M) (hY : n = 0 → Y = M)
    (hE : n ≠ OfNat.ofNat a → n ≠ 0 → E = M) :
    (if (n : Int) = (no_index (OfNat.ofNat a)) then X else if (n : Int) = 0 then Y else E) = M := by
  have e1 : ((n : Int) = OfNat.ofNat a) ↔ n = a := Int.natCast_inj
  have e2 : ((n : Int) = 0) ↔ n = 0 := by omega
  by_cases h1 : n = a
  · rw [if_pos (e1.2 h1)]; exact hX h1
  · rw [if_neg (fun h => h1 (e1.1 h))]
    by_cases h2 : n = 0
    · rw [if_pos (e2.2 h2)]; exact hY h2
    · rw [if_neg (fun h => h2 (e2.1 h))]; exact hE h1 h2

/-- the length guard of an `unpack` against a literal: on `Int` in the source, on `Nat` in the model -/
theorem len_lt (n a : Nat) : ((n : Int) < (no_index (OfNat.ofNat a))) ↔ n < OfNat.ofNat a := Int.ofNat_lt

/-- `x & 0xFFFF` = `x % 65536` for the length expression of `UDP.pack` (the tie covers both spellings) -/
theorem band_len8_mask (n : Nat) : Acra.Py.band ((n : Int) + 8) 65535 = Acra.Py.pymod ((n : Int) + 8) 65536 := by
  have h : ((n : Int) + 8) = ((n + 8 : Nat) : Int) := by simp
  rw [h, band_natCast_lit, pymod_natCast_lit, Bits.and_FFFF]

namespace iNetX
abbrev Obj := Gen.Src.Cls.iNetX.Obj
abbrev State := Model.iNetX.State

/-- source object → model state.  Every attribute `iNetX.__init__` assigns is carried by the model except
    `_packetStrut` (a constant `struct.Struct`, which is the generated format constant). -/
def toModel (o : Obj) : State :=
  { inetxcontrol := o.inetxcontrol.toNat, streamid := o.streamid.toNat, sequence := o.sequence.toNat,
    packetlen := o.packetlen.toNat, ptptimeseconds := o.ptptimeseconds.toNat,
    ptptimenanoseconds := o.ptptimenanoseconds.toNat, pif := o.pif.toNat, payload := o.payload }

def ofModel (s : State) : Obj :=
  { inetxcontrol := s.inetxcontrol, streamid := s.streamid, sequence := s.sequence, packetlen := s.packetlen,
    ptptimeseconds := s.ptptimeseconds, ptptimenanoseconds := s.ptptimenanoseconds, pif := s.pif,
    payload := s.payload }

def Dom (o : Obj) : Prop :=
  0 ≤ o.inetxcontrol ∧ 0 ≤ o.streamid ∧ 0 ≤ o.sequence ∧ 0 ≤ o.packetlen ∧ 0 ≤ o.ptptimeseconds ∧
  0 ≤ o.ptptimenanoseconds ∧ 0 ≤ o.pif

instance (o : Obj) : Decidable (Dom o) := by unfold Dom; infer_instance

@[simp] theorem toModel_ofModel (s : State) : toModel (ofModel s) = s := by
  cases s; simp [toModel, ofModel]

theorem ofModel_toModel (o : Obj) (h : Dom o) : ofModel (toModel o) = o := by
  cases o
  simp only [Dom] at h
  simp only [toModel, ofModel, Int.toNat_of_nonneg, h]

theorem dom_ofModel (s : State) : Dom (ofModel s) := by
  simp [Dom, ofModel]

theorem src_pack_eq (o : Obj) :
    Gen.Src.Cls.iNetX.pack o = ({ o with packetlen := (o.payload.length : Int) + 28 },
      (Py.structPackI ⟨true, [.u32, .u32, .u32, .u32, .u32, .u32, .u32]⟩ [o.inetxcontrol, o.streamid, o.sequence,
        (o.payload.length : Int) + 28, o.ptptimeseconds, o.ptptimenanoseconds, o.pif]).map (· ++ o.payload)) := by
  unfold Gen.Src.Cls.iNetX.pack
  simp only [Gen.Src.Cls.iNetX.INETX_HEADER_LENGTH, Py.len]
  generalize Py.structPackI _ _ = r
  cases r <;> rfl

/-- `iNetX.unpack` reads the prior object only where it returns it -/
theorem src_unpack_indep (o o' : Obj) (buf : Bytes) :
    (Gen.Src.Cls.iNetX.unpack o buf).2 = (Gen.Src.Cls.iNetX.unpack o' buf).2 ∧
    ((Gen.Src.Cls.iNetX.unpack o buf).2 = .ok true → Gen.Src.Cls.iNetX.unpack o buf = Gen.Src.Cls.iNetX.unpack o' buf) := by
  unfold Gen.Src.Cls.iNetX.unpack
  split
  · simp
  · split
    · simp
    · dsimp only; split <;> simp

end iNetX
/-! ### IENA (IENA.py, the base class) — model `Model.IENA.Base`.  The model's `key` is the attribute `_key` (seen through
    the `key` / `streamid` properties).  Not carried by the model: `_packetStrut` (constant Struct), `_startOfYear`
    (a datetime, used only by the time helpers), `_req_attr` (the constant tuple `IENA.REQ_ATTR`). -/
namespace IENA
abbrev Obj := Gen.Src.Cls.IENA.Obj
def toModel (o : Obj) : Model.IENA.Base :=
  { key := o._key.toNat, size := o.size.toNat, timeusec := o.timeusec.toNat, keystatus := o.keystatus.toNat,
    status := o.status.toNat, sequence := o.sequence.toNat, endfield := o.endfield.toNat, payload := o.payload,
    lengthError := o.lengthError }
def ofModel (s : Model.IENA.Base) : Obj :=
  { _key := s.key, size := s.size, timeusec := s.timeusec, keystatus := s.keystatus, status := s.status,
    sequence := s.sequence, endfield := s.endfield, payload := s.payload, lengthError := s.lengthError }
def Dom (o : Obj) : Prop :=
  0 ≤ o._key ∧ 0 ≤ o.size ∧ 0 ≤ o.timeusec ∧ 0 ≤ o.keystatus ∧ 0 ≤ o.status ∧ 0 ≤ o.sequence ∧ 0 ≤ o.endfield
instance (o : Obj) : Decidable (Dom o) := by unfold Dom; infer_instance
@[simp] theorem toModel_ofModel (s : Model.IENA.Base) : toModel (ofModel s) = s := by
  cases s; simp [toModel, ofModel]
theorem ofModel_toModel (o : Obj) (h : Dom o) : ofModel (toModel o) = o := by
  cases o
  simp only [Dom] at h
  simp only [toModel, ofModel, Int.toNat_of_nonneg, h]
theorem dom_ofModel (s : Model.IENA.Base) : Dom (ofModel s) := by simp [Dom, ofModel]
/-- `IENA.__eq__` compares the seven `REQ_ATTR` attributes, not `size` and `lengthError` (`iNetX.__eq__`:
    `Props.C14.src_iNetX_eq_iff`) -/
theorem src_eq_iff (o p : Obj) :
    Gen.Src.Cls.IENA.__eq__ o p = (o, .ok (decide (o._key = p._key ∧ o.timeusec = p.timeusec ∧
      o.keystatus = p.keystatus ∧ o.status = p.status ∧ o.sequence = p.sequence ∧ o.endfield = p.endfield ∧
      o.payload = p.payload))) := by
  unfold Gen.Src.Cls.IENA.__eq__
  simp only [eq_step, Bool.decide_and, Bool.and_true]
end IENA

/-! ### PTPTime (IRIG106/Chapter11/__init__.py) — model `Model.Ch11.PTP`, every attribute carried -/
namespace PTPTime
abbrev Obj := Gen.Src.Cls.PTPTime.Obj
def toModel (o : Obj) : Model.Ch11.PTP := { seconds := o.seconds.toNat, nanoseconds := o.nanoseconds.toNat }
def ofModel (t : Model.Ch11.PTP) : Obj := { seconds := t.seconds, nanoseconds := t.nanoseconds }
def Dom (o : Obj) : Prop := 0 ≤ o.seconds ∧ 0 ≤ o.nanoseconds
instance (o : Obj) : Decidable (Dom o) := by unfold Dom; infer_instance
@[simp] theorem toModel_ofModel (t : Model.Ch11.PTP) : toModel (ofModel t) = t := by
  cases t; simp [toModel, ofModel]
theorem ofModel_toModel (o : Obj) (h : Dom o) : ofModel (toModel o) = o := by
  cases o
  simp only [Dom] at h
  simp only [toModel, ofModel, Int.toNat_of_nonneg, h]
theorem src_pack_eq (o : Obj) :
    Gen.Src.Cls.PTPTime.pack o = (o, Py.structPackI ⟨false, [.u32, .u32]⟩ [o.nanoseconds, o.seconds]) := by
  unfold Gen.Src.Cls.PTPTime.pack
  generalize Py.structPackI _ _ = r
  cases r <;> rfl
end PTPTime

/-! ### RTCTime — the model (`Model.Ch11.rtcPack / rtcUnpack`) is a function of the single attribute `count : Nat` -/
namespace RTCTime
abbrev Obj := Gen.Src.Cls.RTCTime.Obj
def toModel (o : Obj) : Nat := o.count.toNat
def ofModel (c : Nat) : Obj := { count := c }
def Dom (o : Obj) : Prop := 0 ≤ o.count
instance (o : Obj) : Decidable (Dom o) := by unfold Dom; infer_instance
@[simp] theorem toModel_ofModel (c : Nat) : toModel (ofModel c) = c := by simp [toModel, ofModel]
theorem ofModel_toModel (o : Obj) (h : Dom o) : ofModel (toModel o) = o := by
  cases o
  simp only [Dom] at h
  simp only [toModel, ofModel, Int.toNat_of_nonneg, h]
end RTCTime

/-! ### UDP (SimpleEthernet.py) — model `Model.Net.UDP`, every attribute `__init__` assigns is carried -/
namespace UDP
abbrev Obj := Gen.Src.Cls.UDP.Obj
def toModel (o : Obj) : Model.Net.UDP :=
  { srcport := o.srcport.toNat, dstport := o.dstport.toNat, len := o.len.toNat, payload := o.payload }
def ofModel (s : Model.Net.UDP) : Obj :=
  { srcport := s.srcport, dstport := s.dstport, len := s.len, payload := s.payload }
def Dom (o : Obj) : Prop := 0 ≤ o.srcport ∧ 0 ≤ o.dstport ∧ 0 ≤ o.len
instance (o : Obj) : Decidable (Dom o) := by unfold Dom; infer_instance
@[simp] theorem toModel_ofModel (s : Model.Net.UDP) : toModel (ofModel s) = s := by
  cases s; simp [toModel, ofModel]
theorem ofModel_toModel (o : Obj) (h : Dom o) : ofModel (toModel o) = o := by
  cases o
  simp only [Dom] at h
  simp only [toModel, ofModel, Int.toNat_of_nonneg, h]
theorem src_pack_eq (o : Obj) :
    Gen.Src.Cls.UDP.pack o = ({ o with len := (o.payload.length : Int) + 8 },
      (Py.structPackI ⟨true, [.u16, .u16, .u16, .u16]⟩
        [o.srcport, o.dstport, Py.pymod ((o.payload.length : Int) + 8) 65536, 0]).map (· ++ o.payload)) := by
  unfold Gen.Src.Cls.UDP.pack
  simp only [Gen.Src.Cls.UDP.UDP_HEADER_SIZE, Py.len]
  try rw [band_len8_mask o.payload.length]          -- the spelling `& 0xFFFF` of `% 65536`
  generalize Py.structPackI _ _ = r
  cases r <;> rfl
end UDP

/-! ### PcapRecord (Pcap.py) — model `Model.Pcap.Rec`; the model's `payload` is the attribute `_payload` (seen through
    the `payload` / `packet` properties); every attribute `__init__` assigns is carried -/
namespace PcapRecord
abbrev Obj := Gen.Src.Cls.PcapRecord.Obj
def toModel (o : Obj) : Model.Pcap.Rec :=
  { sec := o.sec.toNat, usec := o.usec.toNat, incl_len := o.incl_len.toNat, orig_len := o.orig_len.toNat,
    payload := o._payload }
def ofModel (s : Model.Pcap.Rec) : Obj :=
  { sec := s.sec, usec := s.usec, incl_len := s.incl_len, orig_len := s.orig_len, _payload := s.payload }
def Dom (o : Obj) : Prop := 0 ≤ o.sec ∧ 0 ≤ o.usec ∧ 0 ≤ o.incl_len ∧ 0 ≤ o.orig_len
instance (o : Obj) : Decidable (Dom o) := by unfold Dom; infer_instance
@[simp] theorem toModel_ofModel (s : Model.Pcap.Rec) : toModel (ofModel s) = s := by
  cases s; simp [toModel, ofModel]
theorem ofModel_toModel (o : Obj) (h : Dom o) : ofModel (toModel o) = o := by
  cases o
  simp only [Dom] at h
  simp only [toModel, ofModel, Int.toNat_of_nonneg, h]
end PcapRecord

/-! ### ICMP (SimpleEthernet.py, pack only) — model `Model.Net.ICMP`, every attribute carried -/
namespace ICMP
abbrev Obj := Gen.Src.Cls.ICMP.Obj
def toModel (o : Obj) : Model.Net.ICMP :=
  { type := o.type.toNat, code := o.code.toNat, request_id := o.request_id.toNat,
    request_sequence := o.request_sequence.toNat, payload := o.payload }
def ofModel (s : Model.Net.ICMP) : Obj :=
  { type := s.type, code := s.code, request_id := s.request_id, request_sequence := s.request_sequence,
    payload := s.payload }
def Dom (o : Obj) : Prop := 0 ≤ o.type ∧ 0 ≤ o.code ∧ 0 ≤ o.request_id ∧ 0 ≤ o.request_sequence
instance (o : Obj) : Decidable (Dom o) := by unfold Dom; infer_instance
@[simp] theorem toModel_ofModel (s : Model.Net.ICMP) : toModel (ofModel s) = s := by
  cases s; simp [toModel, ofModel]
theorem ofModel_toModel (o : Obj) (h : Dom o) : ofModel (toModel o) = o := by
  cases o
  simp only [Dom] at h
  simp only [toModel, ofModel, Int.toNat_of_nonneg, h]
end ICMP

/-! ### MPEGAdaptionExtension (MPEGTS.py) — model `Model.MPEGTS.Ext`; no int attributes: the correspondence is a bijection
    and the ties hold for EVERY object -/
namespace MPEGAdaptionExtension
abbrev Obj := Gen.Src.Cls.MPEGAdaptionExtension.Obj
def toModel (o : Obj) : Model.MPEGTS.Ext :=
  { ltw_flag := o.ltw_flag, piecewise_rate_flag := o.piecewise_rate_flag, seamless_splice_flag := o.seamless_splice_flag,
    ltw := o.ltw, piecewise := o.piecewise, seamless_splice := o.seamless_splice }
def ofModel (s : Model.MPEGTS.Ext) : Obj :=
  { ltw_flag := s.ltw_flag, piecewise_rate_flag := s.piecewise_rate_flag, seamless_splice_flag := s.seamless_splice_flag,
    ltw := s.ltw, piecewise := s.piecewise, seamless_splice := s.seamless_splice }
@[simp] theorem toModel_ofModel (s : Model.MPEGTS.Ext) : toModel (ofModel s) = s := rfl
@[simp] theorem ofModel_toModel (o : Obj) : ofModel (toModel o) = o := rfl

theorem flag_bit (flags : Nat) (k : Nat) :
    (decide (Py.band (Py.shr (flags : Int) (no_index (OfNat.ofNat k))) 1 ≠ 0)) = (flags / 2 ^ OfNat.ofNat k % 2 == 1) := by
  show decide (Py.band (Py.shr (flags : Int) (k : Int)) 1 ≠ 0) = (flags / 2 ^ k % 2 == 1)
  simp only [shr_natCast, band_natCast_lit, Int.toNat_natCast, Bits.shr, Bits.and_1]
  by_cases h : flags / 2 ^ k % 2 = 1
  · simp [h]
  · have : flags / 2 ^ k % 2 = 0 := by omega
    simp [this]
/-- `MPEGAdaptionExtension.pack` against the model (written with guards, the source with `if / elif / else: raise`):
    three cases for each of the three parts, a raise ending the descent; at each of the fifteen ends the lengths that
    matter are numerals and both sides compute -/
theorem pack_of (o : Obj) :
    Gen.Src.Cls.MPEGAdaptionExtension.pack o = (ofModel (toModel o).pack.1, (toModel o).pack.2) := by
  obtain ⟨f1, f2, f3, l, p, q⟩ := o
  unfold Gen.Src.Cls.MPEGAdaptionExtension.pack Model.MPEGTS.Ext.pack
  simp only [Py.len, toModel]
  refine three_cases l.length 2 (fun hl => ?_) (fun hl => ?_) (fun hl hl' => ?_) <;>
    try (refine three_cases p.length 3 (fun hp => ?_) (fun hp => ?_) (fun hp hp' => ?_) <;>
      try refine three_cases q.length 5 (fun hq => ?_) (fun hq => ?_) (fun hq hq' => ?_))
  all_goals
    simp only [ne_eq, not_false_eq_true, and_self, if_true, *]
    rfl
end MPEGAdaptionExtension

end Acra.Lemmas.SrcTieCls
