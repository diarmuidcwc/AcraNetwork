/-
  Helper lemmas for the ties of the module-level functions (`Props/Cxx/SrcTie.lean`), one section per tied function:
  what its loop or its bit idiom is in the arithmetic of the hand-written model.
-/
import Acra.Py.IntOps
import Acra.Lemmas.Bits
import Acra.Model.PES
import Acra.Model.Ch11
import Acra.Model.PMT
import Acra.Model.ExtraTime
namespace Acra.Lemmas.SrcTie
open Acra Acra.Py Acra.Lemmas

/-! ### `PES.pts_to_ts`, `ts_to_pts` (C15): `|` on disjoint fields is `+` -/

theorem or_field (t a k w : Nat) (ht : t / 2 ^ k % 2 ^ w = 0) (ha : a < 2 ^ w) :
    t ||| a * 2 ^ k = t + a * 2 ^ k := by
  have hr : t % 2 ^ k < 2 ^ k := Nat.mod_lt _ (Nat.two_pow_pos k)
  have hq : (t / 2 ^ k) = (t / 2 ^ k / 2 ^ w) <<< w := by
    rw [Nat.shiftLeft_eq]
    have := Nat.div_add_mod (t / 2 ^ k) (2 ^ w)
    rw [ht, Nat.add_zero, Nat.mul_comm] at this
    exact this.symm
  have h1 : (t / 2 ^ k) ||| a = t / 2 ^ k + a := by
    rw [hq]; exact (Nat.shiftLeft_add_eq_or_of_lt ha _).symm
  have ht' : t = (t / 2 ^ k) <<< k ||| t % 2 ^ k := by
    rw [← Nat.shiftLeft_add_eq_or_of_lt hr, Nat.shiftLeft_eq, Nat.mul_comm]
    exact (Nat.div_add_mod t (2 ^ k)).symm
  calc t ||| a * 2 ^ k
      = ((t / 2 ^ k) <<< k ||| t % 2 ^ k) ||| a <<< k := by rw [← ht', Nat.shiftLeft_eq]
    _ = ((t / 2 ^ k) <<< k ||| a <<< k) ||| t % 2 ^ k := by
        rw [Nat.or_assoc, Nat.or_comm (t % 2 ^ k), ← Nat.or_assoc]
    _ = ((t / 2 ^ k + a) <<< k) ||| t % 2 ^ k := by rw [← Nat.shiftLeft_or_distrib, h1]
    _ = (t / 2 ^ k + a) <<< k + t % 2 ^ k := (Nat.shiftLeft_add_eq_or_of_lt hr _).symm
    _ = t + a * 2 ^ k := by
        rw [Nat.shiftLeft_eq, Nat.add_mul]
        have := Nat.div_add_mod t (2 ^ k)
        rw [Nat.mul_comm] at this
        omega

/-! ### `PES.checksum_stanag` (C07): the index loop `for i in range(len(buff)): … buff[i] …` -/

theorem byteAt_append (pre : Bytes) (b : UInt8) (bs : Bytes) :
    byteAt (pre ++ b :: bs) (Int.ofNat pre.length) = (b.toNat : Int) := by
  simp [byteAt]

theorem stanag_fold (pre rest : Bytes) (acc : Int) :
    List.foldl (fun (bcc : Int) (i : Int) => bcc + shl (byteAt (pre ++ rest) i) (8 * pymod (i + 1) 2)) acc
      ((List.range' pre.length rest.length).map Int.ofNat)
    = acc + (Model.PES.stanagSum rest pre.length : Int) := by
  induction rest generalizing pre acc with
  | nil => simp [Model.PES.stanagSum]
  | cons b bs ih =>
    simp only [List.length_cons, List.range'_succ, List.map_cons, List.foldl_cons, byteAt_append]
    have h := ih (pre ++ [b]) (acc + shl (b.toNat : Int) (8 * pymod (Int.ofNat pre.length + 1) 2))
    simp only [List.append_assoc, List.singleton_append, List.length_append, List.length_singleton] at h
    rw [h]
    simp only [Model.PES.stanagSum]
    have hm : pymod (Int.ofNat pre.length + 1) 2 = (((pre.length + 1) % 2 : Nat) : Int) := by
      rw [pymod_of_pos _ _ (by decide)]; simp
    rw [hm]
    rcases Nat.mod_two_eq_zero_or_one (pre.length + 1) with h0 | h1
    · rw [h0]; simp [shl_natCast, Nat.shiftLeft_eq]; omega
    · rw [h1]; simp [shl_natCast, Nat.shiftLeft_eq]; omega

/-! ### `Chapter11.get_checksum_buf`, `get_checksum_byte_buf` (C07): `reduce(lambda x, y: x + y, words)` -/

theorem foldl_add_natCast (xs : List Nat) (x : Nat) :
    (xs.map Int.ofNat).foldl (fun (x y : Int) => x + y) (x : Int) = ((x + Model.Ch11.sumList xs : Nat) : Int) := by
  induction xs generalizing x with
  | nil => simp [Model.Ch11.sumList]
  | cons y ys ih =>
    simp only [List.map_cons, List.foldl_cons, Model.Ch11.sumList]
    have : (x : Int) + Int.ofNat y = ((x + y : Nat) : Int) := by simp
    rw [this, ih]; congr 1; omega

theorem reduce_add_natCast (ws : List Nat) :
    Py.reduce (fun (x y : Int) => x + y) (ws.map Int.ofNat)
      = match ws with
        | [] => .error .type
        | _ :: _ => .ok ((Model.Ch11.sumList ws : Nat) : Int) := by
  cases ws with
  | nil => rfl
  | cons x xs =>
    simp only [List.map_cons, Py.reduce]
    have := foldl_add_natCast xs x
    simp only [Model.Ch11.sumList]
    rw [← this]; rfl

/-! ### `PMT.crc32mpeg2` (C07): the shift step and the byte step (the bit test also serves `SrcTieNorm.bit_forms`) -/

theorem and_two_pow_ne_zero (c k : Nat) : (c &&& 2 ^ k ≠ 0) ↔ (c / 2 ^ k % 2 = 1) := by
  rw [Bits.and_field c 1 1 k (2 ^ k) (by decide) (by simp)]
  have hp : 0 < 2 ^ k := Nat.two_pow_pos k
  rcases Nat.mod_two_eq_zero_or_one (c / 2 ^ k) with h | h
  · simp [h]
  · simp [h]

theorem crcShift_tie (c : Nat) :
    (if band (c : Int) 2147483648 ≠ 0 then bxor (shl (c : Int) 1) 79764919 else shl (c : Int) 1)
      = ((Model.PMT.crcShift c : Nat) : Int) := by
  unfold Model.PMT.crcShift
  have hc : (band (c : Int) 2147483648 ≠ 0) ↔ (c / 2147483648 % 2 = 1) := by
    rw [band_natCast_lit]
    have := and_two_pow_ne_zero c 31
    simpa using this
  have hs : shl (c : Int) 1 = ((c * 2 : Nat) : Int) := by
    rw [shl_natCast, toNat_lit, Nat.shiftLeft_eq]
  rw [hs]
  by_cases h : c / 2147483648 % 2 = 1
  · rw [if_pos (hc.mpr h), if_pos h, bxor_natCast_lit]
  · rw [if_neg (fun x => h (hc.mp x)), if_neg h]

theorem range8 : Py.range 8 = [0, 1, 2, 3, 4, 5, 6, 7] := by decide

theorem crcByte_tie (c : Nat) (b : UInt8) :
    List.foldl (fun (crc : Int) (_ : Int) =>
        if band crc 2147483648 ≠ 0 then bxor (shl crc 1) 79764919 else shl crc 1)
      (bxor (c : Int) (shl ((b.toNat : Nat) : Int) 24)) (Py.range 8)
    = ((Model.PMT.crcByte c b : Nat) : Int) := by
  rw [range8]
  have h0 : bxor (c : Int) (shl ((b.toNat : Nat) : Int) 24) = ((c ^^^ (b.toNat * 16777216) : Nat) : Int) := by
    rw [shl_natCast, toNat_lit, Nat.shiftLeft_eq, bxor_natCast]
  simp only [List.foldl_cons, List.foldl_nil, h0, crcShift_tie, Model.PMT.crcByte]

/-! ### `ptptime.bcdTointConvert` (C15): the `while` loop -/

/-- loop test and loop body of `bcdTointConvert` on the state (b, a, i), as the translator emits them -/
def bcdCond (st : Int × Int × Int) : Bool := decide (¬ (0 = st.2.1))
def bcdBody (st : Int × Int × Int) : Int × Int × Int :=
  (st.1 + band st.2.1 15 * Py.pow 10 st.2.2, shr st.2.1 4, st.2.2 + 1)

theorem bcd_loop (fuel a b i : Nat) (h : a < fuel) :
    (Py.whileLoop bcdCond bcdBody fuel ((b : Int), (a : Int), (i : Int)) >>= fun st => .ok st.1)
      = .ok ((Model.ExtraTime.bcdToIntLoop fuel a b i : Nat) : Int) := by
  induction fuel generalizing a b i with
  | zero => omega
  | succ fuel ih =>
    unfold Py.whileLoop Model.ExtraTime.bcdToIntLoop
    by_cases ha : a = 0
    · subst ha
      simp [bcdCond, ok_bind]
    · have hc : bcdCond ((b : Int), (a : Int), (i : Int)) = true := by
        simp [bcdCond]; omega
      rw [if_pos hc, if_neg ha]
      have hb : bcdBody ((b : Int), (a : Int), (i : Int))
          = (((b + (a &&& 0xf) * 10 ^ i : Nat) : Int), ((a >>> 4 : Nat) : Int), ((i + 1 : Nat) : Int)) := by
        simp only [bcdBody, band_natCast_lit, shr_natCast, toNat_lit, Py.pow, Int.toNat_natCast]
        refine Prod.ext ?_ (Prod.ext ?_ ?_)
        · simp [Int.natCast_add, Int.natCast_mul, Int.natCast_pow]
        · rfl
        · simp
      rw [hb]
      apply ih
      have : a >>> 4 ≤ a / 2 := by
        rw [Nat.shiftRight_eq_div_pow]; omega
      omega

end Acra.Lemmas.SrcTie
