/-
  Helper lemmas for SAM/DEC pcap decommutation (C18): reading a capture laid out record by record,
  the fixed-offset UDP filter, iNET-X acceptance, frame-length inference, the slicing loop.
-/
import Acra.Model.SamDec
import Acra.Spec.Search
import Acra.Lemmas.Search
import Acra.Lemmas.ListAux
import Acra.Lemmas.iNetX
import Acra.Lemmas.Pcap

namespace Acra.Lemmas.SamDec
open Acra.Py Acra.Model.SamDec Acra.Model.Search Acra.Gen.SamDec Acra.Spec Acra.Spec.SamDec

/-! `SamDecPcap` iterates over a `Pcap` object: `pcapRec` is `Pcap.next` of `Model.Pcap` seen through `rec.payload`, so what
is known about that reader (`Lemmas/Pcap`) carries over. -/

section
open Acra.Model.Pcap (Rec nextRec)
open Acra.Lemmas.Pcap (recStep recMore recStep_progress nextRec_eq nextRec_recBytes decHdr Rec_WF recBytes recHdr
  recBytes_length)

theorem pcapRec_eq_recStep (b : Bytes) : pcapRec b = (recStep b).map fun p => (p.1.payload, p.2) := by
  unfold pcapRec recStep
  rw [nextRec_eq]
  simp only [SamDec_PCAP_RECORD_HEADER_SIZE, List.length_take]
  by_cases h : b.length < 16
  · rw [if_pos (by omega), if_pos h]; rfl
  · rw [if_neg (by omega), if_neg h]
    rw [structUnpack_flds, if_pos (show (b.take 16).length = SamDec_PCAP_RECORD_HEADER_FORMAT.size by
      rw [List.length_take, Nat.min_eq_left (Nat.le_of_not_lt h)]; rfl), Nat.min_eq_left (Nat.le_of_not_lt h)]
    rfl

theorem pcapRec_progress : Progress pcapRec := recStep_progress.map pcapRec_eq_recStep

theorem pcapRecords_eq (file : Bytes) :
    pcapRecords file = (decOff recStep recMore file (file.length + 1) 24).map (List.map Rec.payload) :=
  decOff_map recStep pcapRec Rec.payload pcapRec_eq_recStep _ _ _ _

theorem record_length (sec usec : Nat) (pkt : Bytes) : (record sec usec pkt).length = 16 + pkt.length := by
  simp [record]; omega

/-- time stamps are written modulo 2³² -/
theorem record_eq_recBytes (sec usec : Nat) (pkt : Bytes) (hl : pkt.length < 2 ^ 32) :
    ∃ r, Rec_WF r ∧ r.payload = pkt ∧ record sec usec pkt = recBytes r :=
  ⟨⟨sec % 2 ^ 32, usec % 2 ^ 32, pkt.length, pkt.length, pkt⟩,
    ⟨Nat.mod_lt _ (by decide), Nat.mod_lt _ (by decide), rfl, rfl, hl⟩, rfl, by
      simp only [record, recBytes, recHdr, encInt, Bool.false_eq_true, if_false, List.append_assoc]
      rw [show (2 : Nat) ^ 32 = 256 ^ 4 by decide, leBytes_mod, leBytes_mod]⟩

theorem pcapRec_record (sec usec : Nat) (pkt rest : Bytes) (hl : pkt.length < 2 ^ 32) :
    pcapRec (record sec usec pkt ++ rest) = .ok (pkt, (record sec usec pkt).length) := by
  obtain ⟨r, hwf, rfl, he⟩ := record_eq_recBytes sec usec pkt hl
  rw [pcapRec_eq_recStep, he, recStep, nextRec_recBytes r rest hwf, recBytes_length]
  rfl

end

theorem pcapRecords_capture (ghdr : Bytes) (hg : ghdr.length = 24) (xs : List β) (sec usec : β → Nat) (pkt : β → Bytes)
    (hl : ∀ x ∈ xs, (pkt x).length < 2 ^ 32) :
    pcapRecords (capture ghdr (xs.map fun x => record (sec x) (usec x) (pkt x))) = .ok (xs.map pkt) := by
  unfold pcapRecords capture
  rw [← List.flatMap_def, show SamDec_PCAP_GLOBAL_HEADER_SIZE = ghdr.length by rw [hg]; rfl]
  apply decOff_encAll_map pcapRec pcapMore (fun x => record (sec x) (usec x) (pkt x)) pkt
  · have := Lemmas.flatMap_length_ge (fun x => record (sec x) (usec x) (pkt x)) xs
      (by intro x _; simp only [record_length]; omega)
    simp only [List.length_append]
    omega
  · intro x hx rest
    exact pcapRec_record _ _ _ rest (hl x hx)
  · intro x _ p q
    simp [pcapMore, SamDec_PCAP_RECORD_HEADER_SIZE, record_length]
    omega
  · intro n
    simp only [pcapMore, SamDec_PCAP_RECORD_HEADER_SIZE]
    apply decide_eq_false
    omega

theorem udpData_eq (pkt : Bytes) :
    udpData pkt = if 70 < pkt.length ∧ pkt[23]? = some 17 then some (pkt.drop 42) else none := by
  unfold udpData
  by_cases hl : 70 < pkt.length
  · have h23 : 23 < pkt.length := by omega
    have hu : structUnpackFrom SamDec_get_data_fmt0 pkt SamDec_proto_off = .ok [pkt[23].toNat] := by
      rw [structUnpackFrom_flds, if_pos (show SamDec_proto_off + SamDec_get_data_fmt0.size ≤ pkt.length from (by omega : 23 + 1 ≤ pkt.length))]
      show Except.ok [beNat (slice pkt 23 (23 + 1))] = _
      rw [← take_drop_slice, List.take_one, List.head?_drop, List.getElem?_eq_getElem h23]
      simp [beNat, leNat]
    simp [SamDec_min_len, hl, hu, SamDec_UDP_TYPE, SamDec_data_off, List.getElem?_eq_getElem h23, ← UInt8.toNat_inj]
  · simp [SamDec_min_len, hl]

theorem getData_eq (file : Bytes) :
    getData file = if 24 ≤ file.length then
        match pcapRecords file with
        | .error e => .error e
        | .ok recs => .ok (recs.filterMap udpData)
      else .error .struct := by
  unfold getData structUnpack
  have : (file.take SamDec_PCAP_GLOBAL_HEADER_SIZE).length = SamDec_PCAP_GLOBAL_HEADER_FORMAT.size ↔ 24 ≤ file.length := by
    show (file.take 24).length = 24 ↔ _
    rw [List.length_take]
    omega
  by_cases h : 24 ≤ file.length
  · rw [if_pos (this.2 h), if_pos h]
    rfl
  · rw [if_neg (mt this.1 h), if_neg h]

/-- what `onPacket` does with the payload of a packet it accepts -/
def onPayload (sync payload : Bytes) : Option Int → List Bytes × Option Int × Option Err
  | some fl => sliceLoop sync payload (payload.length + 2) SamDec_PCM_HDR_LEN (some fl)
  | none =>
    match inferLength sync payload with
    | .error e => ([], none, some e)
    | .ok fl => sliceLoop sync payload (payload.length + 2) SamDec_PCM_HDR_LEN (some fl)

open Acra.Model in
theorem onPacket_eq (sync d : Bytes) (fl : Option Int) :
    onPacket sync d fl =
      if 28 ≤ d.length ∧ beNat (slice d 12 16) = d.length ∧ beNat (slice d 4 8) = streamId then
        onPayload sync (d.drop 28) fl
      else ([], fl, none) := by
  unfold onPacket
  by_cases h : 28 ≤ d.length ∧ beNat (slice d 12 16) = d.length
  · rw [Acra.Lemmas.iNetX.decodes.of_run (t := iNetX.fresh) (s := Acra.Lemmas.iNetX.ofBytes d) (r := ())
      (show Acra.Lemmas.iNetX.run d = _ by rw [Acra.Lemmas.iNetX.run, if_pos h])]
    simp only [Acra.Lemmas.iNetX.ofBytes, SamDec_streamid, streamId, beq_iff_eq, h.1, h.2, true_and]
    split
    · cases fl <;> rfl
    · rfl
  · obtain ⟨s, hs⟩ := Acra.Lemmas.iNetX.decodes.of_run_error (t := iNetX.fresh) (buf := d) (e := .value)
      (show Acra.Lemmas.iNetX.run d = _ by rw [Acra.Lemmas.iNetX.run, if_neg h])
    rw [hs, if_neg (fun c => h ⟨c.1, c.2.1⟩)]

theorem sync_packed : structPack SamDec_frames_fmt0 [SamDec_sync_word] = .ok syncWord := by rfl

theorem decom_eq (file : Bytes) :
    decom file = match getData file with
      | .error e => ([], some e)
      | .ok udps => framesLoop syncWord udps none := by
  unfold decom frames
  simp only [sync_packed]
  rfl

theorem pySlice_nat (b : List α) (lo hi : Nat) : pySlice b (lo : Int) (hi : Int) = slice b lo hi := by
  have h (i : Nat) : normIdx b.length (i : Int) = min i b.length := by
    rw [normIdx, if_neg (by omega), Int.toNat_natCast]
  rw [pySlice, h, h, slice_min]
  by_cases hl : lo ≤ b.length
  · rw [Nat.min_eq_left hl]
  · rw [slice, slice, List.drop_eq_nil_of_le (by simp; omega), List.drop_eq_nil_of_le (by simp; omega)]

theorem sliceLoop_none (sync payload : Bytes) (fuel : Nat) (off : Int) :
    sliceLoop sync payload fuel off none = ([], none, some (if fuel = 0 then .fuel else .type)) := by
  cases fuel <;> rfl

theorem sliceLoop_succ (sync payload : Bytes) (fuel o L : Nat) :
    sliceLoop sync payload (fuel + 1) (o : Int) (some (L : Int)) =
      if o + L ≤ payload.length then
        if (slice payload o (o + L)).take 4 = sync then
          (slice payload o (o + L) :: (sliceLoop sync payload fuel ((o + L : Nat) : Int) (some (L : Int))).1,
            (sliceLoop sync payload fuel ((o + L : Nat) : Int) (some (L : Int))).2)
        else ([], none, some (if fuel = 0 then .fuel else .type))
      else ([], some (L : Int), none) := by
  rw [sliceLoop, ← Int.natCast_add, pySlice_nat]
  simp only [sliceLoop_none, Int.ofNat_le, bne_iff_ne, ne_eq, ite_not]

theorem inferLength_eq (sync payload : Bytes) (hs : sync ≠ []) :
    inferLength sync payload =
      match occ payload sync with
      | [] => .error .generic
      | [_] => .ok ((payload.length : Int) - 10)
      | o0 :: o1 :: _ => .ok ((o1 : Int) - o0) := by
  rw [inferLength, Acra.Lemmas.Search.bmh_eq_occ payload sync hs]
  rcases occ payload sync with _ | ⟨o0, _ | ⟨o1, _⟩⟩ <;> rfl

theorem sliceLoop_frames (L : Nat) (hL : 1 ≤ L) (fs : List Bytes)
    (hfs : ∀ f ∈ fs, f.length = L ∧ f.take 4 = syncWord) :
    ∀ (pre : Bytes) (fuel : Nat), fs.length < fuel →
      sliceLoop syncWord (pre ++ fs.flatten) fuel (pre.length : Int) (some (L : Int)) = (fs, some (L : Int), none) := by
  induction fs with
  | nil =>
    intro pre fuel hf
    cases fuel with
    | zero => omega
    | succ fuel => rw [sliceLoop_succ, if_neg (by simp; omega)]
  | cons f fs ih =>
    intro pre fuel hf
    cases fuel with
    | zero => omega
    | succ fuel =>
      obtain ⟨hfl, hfsync⟩ := hfs f (by simp)
      have hsl : slice (pre ++ (f :: fs).flatten) pre.length (pre.length + L) = f :=
        slice_mid pre f fs.flatten _ _ rfl (by rw [hfl])
      have ihh := ih (fun g hg => hfs g (by simp [hg])) (pre ++ f) fuel (by simp at hf; omega)
      rw [List.length_append, hfl, List.append_assoc] at ihh
      rw [sliceLoop_succ, if_pos (by simp [hfl]), hsl, if_pos hfsync, List.flatten_cons, ihh]

/-! Four conditions on the first SAM/DEC packet of a capture, each skipping foreign packets.  On well-formed items
`FirstSync → FirstSync' ↔ FirstClean → FirstLen`, both implications strict (examples in `Props/C18`); `FirstLen` (the
inferred frame length is `L`) is the exact one: the frames come back iff it holds. -/

/-- a packet the decommutator must ignore (C18): too short, not UDP, not an iNET-X packet (C09
    `iNetX_accepts_iff`: header complete and length word equal to the datagram length), or another stream.
    Offsets are those of an untagged Ethernet II / IPv4-without-options / UDP frame. -/
def Foreign (pkt : Bytes) : Prop :=
  pkt.length ≤ 0x46 ∨ pkt[0x17]? ≠ some 17 ∨
  ¬ (28 ≤ (pkt.drop 0x2A).length ∧ beNat (slice (pkt.drop 0x2A) 12 16) = (pkt.drop 0x2A).length) ∨
  beNat (slice (pkt.drop 0x2A) 4 8) ≠ streamId

/-- what a capture is made of -/
inductive Item where
  | foreign (pkt : Bytes)
  | samdec (l234 : Bytes) (control sequence secs nanos pif : Nat) (hdr10 : Bytes) (frames : List Bytes)

def Item.bytes : Item → Bytes
  | .foreign p => p
  | .samdec l c s a b p h fs => packet l c s a b p h fs

def Item.frames : Item → List Bytes
  | .foreign _ => []
  | .samdec _ _ _ _ _ _ _ fs => fs

/-- last clause: the packet (42 + 28 + 10 header bytes and the frames) fits the 32-bit `incl_len` of its record -/
def Item.WF (L : Nat) : Item → Prop
  | .foreign p => Foreign p ∧ p.length < 2 ^ 32
  | .samdec l c s a b p h fs =>
    l.length = 42 ∧ l[23]? = some 17 ∧ c < 2 ^ 32 ∧ s < 2 ^ 32 ∧ a < 2 ^ 32 ∧ b < 2 ^ 32 ∧ p < 2 ^ 32 ∧
    h.length = 10 ∧ fs ≠ [] ∧ (∀ f ∈ fs, f.length = L ∧ f.take 4 = syncWord) ∧ 80 + fs.length * L < 2 ^ 32

/-- in the first SAM/DEC packet the sync word occurs at the frame starts only: more than the code needs
    (`FirstSync'`, `FirstClean`), and false as soon as a later frame carries the pattern as data -/
def FirstSync (L : Nat) : List Item → Prop
  | [] => True
  | .foreign _ :: rest => FirstSync L rest
  | .samdec _ _ _ _ _ _ h fs :: _ =>
    occ (h ++ fs.flatten) syncWord = (List.range fs.length).map (fun j => 10 + L * j)

/-- what the code needs of the frame starts (weaker than `FirstSync`, equivalent to `FirstClean` on well-formed
    items): in the first SAM/DEC packet the FIRST TWO occurrences of the sync word are the first two frame
    starts, or the packet carries one frame and its start is the only occurrence.  The pattern may occur as
    data anywhere from the second frame on. -/
def FirstSync' (L : Nat) : List Item → Prop
  | [] => True
  | .foreign _ :: rest => FirstSync' L rest
  | .samdec _ _ _ _ _ _ h fs :: _ =>
    (∃ rest, occ (h ++ fs.flatten) syncWord = 10 :: (10 + L) :: rest) ∨
    (occ (h ++ fs.flatten) syncWord = [10] ∧ fs.length = 1)

/-- the condition of `FirstSync'` said without lists, the one to read: the first SAM/DEC packet has no occurrence
    of the sync word that begins inside the 10-byte header or inside the first frame's data -/
def FirstClean (L : Nat) : List Item → Prop
  | [] => True
  | .foreign _ :: rest => FirstClean L rest
  | .samdec _ _ _ _ _ _ h fs :: _ => ∀ i ∈ occ (h ++ fs.flatten) syncWord, i < 10 + L → i = 10

/-- the exact condition on the first SAM/DEC packet (necessary and sufficient for the frames to come back):
    the inferred frame length is `L`.  Implied by `FirstSync'`, not conversely. -/
def FirstLen (L : Nat) : List Item → Prop
  | [] => True
  | .foreign _ :: rest => FirstLen L rest
  | .samdec _ _ _ _ _ _ h fs :: _ => inferLength syncWord (h ++ fs.flatten) = .ok (L : Int)

theorem udpData_l234 (l d : Bytes) (hl : l.length = 42) (h17 : l[23]? = some 17) (hd : 28 < d.length) :
    udpData (l ++ d) = some d := by
  rw [udpData_eq, if_pos ⟨by simp; omega, by rw [List.getElem?_append_left (by omega)]; exact h17⟩,
    List.drop_left' hl]

theorem onPacket_encode (c s a b p : Nat) (payload : Bytes) (fl : Option Int)
    (h : c < 2 ^ 32 ∧ streamId < 2 ^ 32 ∧ s < 2 ^ 32 ∧ a < 2 ^ 32 ∧ b < 2 ^ 32 ∧ p < 2 ^ 32 ∧ payload.length + 28 < 2 ^ 32) :
    onPacket syncWord (Spec.iNetX.encode c streamId s a b p payload) fl = onPayload syncWord payload fl := by
  have := Acra.Lemmas.iNetX.unpack_encode ⟨c, streamId, s, 0, a, b, p, payload⟩ Model.iNetX.fresh
    (Acra.Lemmas.iNetX.hdrFits _ h)
  dsimp only at this
  rw [onPacket, this]
  cases fl <;> rfl

theorem frameStart_mem_occ {L : Nat} (hL : 4 ≤ L) : ∀ (fs : List Bytes) (pre : Bytes) (j : Nat),
    (∀ f ∈ fs, f.length = L ∧ f.take 4 = syncWord) → j < fs.length →
    pre.length + L * j ∈ occ (pre ++ fs.flatten) syncWord
  | f :: fs, pre, 0, hfs, _ => by
    obtain ⟨hfl, hfsync⟩ := hfs f (by simp)
    rw [Acra.Lemmas.Search.mem_occ]
    refine ⟨by simp [syncWord, hfl]; omega, ?_⟩
    rw [Nat.mul_zero, Nat.add_zero, List.drop_left, List.flatten_cons,
      List.take_append_of_le_length (by rw [hfl]; exact hL)]
    exact hfsync
  | f :: fs, pre, j + 1, hfs, hj => by
    have := frameStart_mem_occ hL fs (pre ++ f) j (fun g hg => hfs g (by simp [hg])) (by simpa using hj)
    rw [List.length_append, (hfs f (by simp)).1, List.append_assoc] at this
    rw [List.flatten_cons, Nat.mul_succ]
    exact (show pre.length + L + L * j = pre.length + (L * j + L) by omega) ▸ this

theorem inferLength_firstTwo {L k : Nat} {payload : Bytes} (hlen : payload.length = 10 + k * L)
    (hocc : (∃ rest, occ payload syncWord = 10 :: (10 + L) :: rest) ∨ (occ payload syncWord = [10] ∧ k = 1)) :
    inferLength syncWord payload = .ok (L : Int) := by
  rw [inferLength_eq _ _ (by decide)]
  rcases hocc with ⟨rest, ho⟩ | ⟨ho, h1⟩
  · rw [ho]; simp only [Except.ok.injEq]; omega
  · rw [ho, hlen, h1]; simp only [Except.ok.injEq]; omega

theorem firstTwo_of_starts {L k : Nat} {payload : Bytes} (hk : 1 ≤ k)
    (hocc : occ payload syncWord = (List.range k).map (fun j => 10 + L * j)) :
    (∃ rest, occ payload syncWord = 10 :: (10 + L) :: rest) ∨ (occ payload syncWord = [10] ∧ k = 1) := by
  rw [hocc]
  match k, hk with
  | 1, _ => right; simp
  | k + 2, _ =>
    left
    rw [List.range_succ_eq_map, List.range_succ_eq_map]
    exact ⟨_, by simp; rfl⟩

/-- the payload of a SAM/DEC packet -/
structure Framed (L : Nat) (h : Bytes) (fs : List Bytes) : Prop where
  hdr : h.length = 10
  ne : fs ≠ []
  frame : ∀ f ∈ fs, f.length = L ∧ f.take 4 = syncWord

theorem Item.WF.framed {L : Nat} {l : Bytes} {c s a b p : Nat} {h : Bytes} {fs : List Bytes}
    (hwf : Item.WF L (.samdec l c s a b p h fs)) : Framed L h fs := by
  obtain ⟨_, _, _, _, _, _, _, hh, hne, hfs, _⟩ := hwf
  exact ⟨hh, hne, hfs⟩

theorem Item.WF.size {L : Nat} {l : Bytes} {c s a b p : Nat} {h : Bytes} {fs : List Bytes}
    (hwf : Item.WF L (.samdec l c s a b p h fs)) : 80 + fs.length * L < 2 ^ 32 :=
  hwf.2.2.2.2.2.2.2.2.2.2

namespace Framed
variable {L : Nat} {h : Bytes} {fs : List Bytes}

theorem pos (hp : Framed L h fs) : 1 ≤ fs.length := List.length_pos_iff.2 hp.ne

theorem four_le (hp : Framed L h fs) : 4 ≤ L := by
  obtain ⟨f, fs', rfl⟩ := List.exists_cons_of_ne_nil hp.ne
  obtain ⟨h1, h2⟩ := hp.frame f (by simp)
  have := congrArg List.length h2
  simp [syncWord] at this
  omega

theorem length (hp : Framed L h fs) : (h ++ fs.flatten).length = 10 + fs.length * L := by
  rw [List.length_append, hp.hdr, ← List.flatMap_id, flatMap_length_const id L fs (fun f hf => (hp.frame f hf).1),
    Nat.mul_comm]

theorem start_mem_occ (hp : Framed L h fs) {j : Nat} (hj : j < fs.length) :
    10 + L * j ∈ occ (h ++ fs.flatten) syncWord :=
  hp.hdr ▸ frameStart_mem_occ hp.four_le fs h j hp.frame hj

/-- the occurrences are ascending, every frame start is one, and none begins in the last three bytes: so "the first
    two are 10 and 10 + L (or 10 alone, with one frame)" says that none but 10 is below 10 + L -/
theorem firstTwo_iff_clean (hp : Framed L h fs) :
    ((∃ rest, occ (h ++ fs.flatten) syncWord = 10 :: (10 + L) :: rest) ∨
      (occ (h ++ fs.flatten) syncWord = [10] ∧ fs.length = 1)) ↔
    ∀ i ∈ occ (h ++ fs.flatten) syncWord, i < 10 + L → i = 10 := by
  have hpw := Acra.Lemmas.Search.occ_pairwise (h ++ fs.flatten) syncWord
  have hL := hp.four_le
  have h10 : 10 ∈ occ (h ++ fs.flatten) syncWord := by simpa using hp.start_mem_occ hp.pos
  have h2 : 2 ≤ fs.length → 10 + L ∈ occ (h ++ fs.flatten) syncWord := fun hk => by
    simpa using hp.start_mem_occ (j := 1) hk
  have hend : ∀ i ∈ occ (h ++ fs.flatten) syncWord, i + 4 ≤ 10 + fs.length * L := fun i hi => by
    have := ((Acra.Lemmas.Search.mem_occ _ _ _).1 hi).1
    rwa [hp.length] at this
  have hk := hp.pos
  constructor
  · rintro (⟨rest, ho⟩ | ⟨ho, _⟩) i hi hlt
    · rw [ho] at hi hpw
      rcases List.mem_cons.1 hi with rfl | hi
      · rfl
      · rcases List.mem_cons.1 hi with rfl | hi
        · omega
        · have := (List.pairwise_cons.1 (List.pairwise_cons.1 hpw).2).1 i hi
          omega
    · rw [ho] at hi
      simpa using hi
  · intro hcl
    -- the head of the list is at most 10, hence 10; a second element is beyond 10, hence at least 10 + L
    rcases hocc : occ (h ++ fs.flatten) syncWord with _ | ⟨o0, _ | ⟨o1, rest⟩⟩
    · rw [hocc] at h10; cases h10
    · rw [hocc] at h10 h2
      obtain rfl : 10 = o0 := by simpa using h10
      refine .inr ⟨rfl, ?_⟩
      have := mt h2 (by simp; omega)
      omega
    · rw [hocc] at h10 h2 hcl hpw hend
      have hp1 := List.pairwise_cons.1 hpw
      have hp2 := List.pairwise_cons.1 hp1.2
      have h01 := hp1.1 o1 (by simp)
      obtain rfl : o0 = 10 := hcl o0 (by simp) (by
        rcases List.mem_cons.1 h10 with rfl | h
        · omega
        · have := hp1.1 10 h; omega)
      have hge : 10 + L ≤ o1 := Nat.le_of_not_lt fun hlt => by have := hcl o1 (by simp) hlt; omega
      have hk2 : 2 ≤ fs.length := Nat.lt_of_not_le fun hk1 => by
        have := hend o1 (by simp)
        have : fs.length * L ≤ 1 * L := Nat.mul_le_mul_right L hk1
        omega
      obtain rfl : o1 = 10 + L := by
        rcases List.mem_cons.1 (h2 hk2) with h | h
        · omega
        · rcases List.mem_cons.1 h with h | h
          · exact h.symm
          · have := hp2.1 _ h; omega
      exact .inl ⟨rest, rfl⟩

end Framed

theorem onPacket_foreign (pkt : Bytes) (h : Foreign pkt) (fl : Option Int) :
    udpData pkt = none ∨ ∃ d, udpData pkt = some d ∧ onPacket syncWord d fl = ([], fl, none) := by
  rw [udpData_eq]
  by_cases hc : 70 < pkt.length ∧ pkt[23]? = some 17
  · refine .inr ⟨pkt.drop 42, by rw [if_pos hc], ?_⟩
    rw [onPacket_eq, if_neg]
    rintro ⟨h1, h2, h3⟩
    rcases h with h | h | h | h
    · omega
    · exact h hc.2
    · exact h ⟨h1, h2⟩
    · exact h h3
  · left; rw [if_neg hc]

theorem framesLoop_foreign {pkt : Bytes} (h : Foreign pkt) (pkts : List Bytes) (fl : Option Int) :
    framesLoop syncWord ((pkt :: pkts).filterMap udpData) fl = framesLoop syncWord (pkts.filterMap udpData) fl := by
  rcases onPacket_foreign pkt h fl with h | ⟨d, h1, h2⟩
  · rw [List.filterMap_cons_none h]
  · rw [List.filterMap_cons_some h1, framesLoop, h2]
    rfl

theorem udpData_packet {L : Nat} {l : Bytes} {c s a b p : Nat} {h : Bytes} {fs : List Bytes}
    (hwf : Item.WF L (.samdec l c s a b p h fs)) :
    udpData (packet l c s a b p h fs) = some (datagram c s a b p h fs) :=
  udpData_l234 l _ hwf.1 hwf.2.1 (by rw [datagram, iNetX.encode_length, hwf.framed.length]; omega)

theorem onPacket_datagram {L : Nat} {l : Bytes} {c s a b p : Nat} {h : Bytes} {fs : List Bytes}
    (hwf : Item.WF L (.samdec l c s a b p h fs)) (fl : Option Int) :
    onPacket syncWord (datagram c s a b p h fs) fl = onPayload syncWord (h ++ fs.flatten) fl :=
  onPacket_encode c s a b p _ fl (by
    have hsz := hwf.size
    have hlen := hwf.framed.length
    obtain ⟨_, _, hc, hs, ha, hb, hp, _⟩ := hwf
    exact ⟨hc, by decide, hs, ha, hb, hp, by omega⟩)

theorem onPacket_samdec {L : Nat} {l : Bytes} {c s a b p : Nat} {h : Bytes} {fs : List Bytes}
    (hwf : Item.WF L (.samdec l c s a b p h fs)) (fl : Option Int)
    (hfl : fl = some (L : Int) ∨ (fl = none ∧ inferLength syncWord (h ++ fs.flatten) = .ok (L : Int))) :
    onPacket syncWord (datagram c s a b p h fs) fl = (fs, some (L : Int), none) := by
  have hp := hwf.framed
  have hL := hp.four_le
  have hloop := sliceLoop_frames L (by omega) fs hp.frame h ((h ++ fs.flatten).length + 2)
    (by rw [hp.length]; have := Nat.le_mul_of_pos_right fs.length (show 0 < L by omega); omega)
  rw [show (h.length : Int) = (SamDec_PCM_HDR_LEN : Nat) by rw [hp.hdr]; rfl] at hloop
  rw [onPacket_datagram hwf]
  rcases hfl with rfl | ⟨rfl, hinf⟩
  · exact hloop
  · rw [onPayload, hinf]
    exact hloop

theorem framesLoop_items_len (L : Nat) (items : List Item) (hwf : ∀ it ∈ items, it.WF L) (fl : Option Int)
    (hfl : fl = some (L : Int) ∨ (fl = none ∧ FirstLen L items)) :
    framesLoop syncWord ((items.map Item.bytes).filterMap udpData) fl = (items.flatMap Item.frames, none) := by
  induction items generalizing fl with
  | nil => rfl
  | cons it items ih =>
    have ihh := ih (fun x hx => hwf x (by simp [hx]))
    cases it with
    | foreign pkt => exact (framesLoop_foreign (hwf (.foreign pkt) (by simp)).1 _ fl).trans (ihh fl hfl)
    | samdec l c s a b p h fs =>
      have hw := hwf (.samdec l c s a b p h fs) (by simp)
      rw [List.map_cons, Item.bytes, List.filterMap_cons_some (udpData_packet hw)]
      simp only [framesLoop, onPacket_samdec hw fl hfl, ihh _ (.inl rfl)]
      rfl

/-- `FirstSync`, `FirstSync'`, `FirstClean` and `FirstLen` skip foreign packets and look at the first SAM/DEC item only -/
theorem first_samdec_cases {L : Nat} {P : List Item → Prop} (nil : P [])
    (foreign : ∀ pkt rest, Foreign pkt → P rest → P (.foreign pkt :: rest))
    (samdec : ∀ l c s a b p h fs rest, Item.WF L (.samdec l c s a b p h fs) → P (.samdec l c s a b p h fs :: rest)) :
    ∀ items : List Item, (∀ it ∈ items, it.WF L) → P items
  | [], _ => nil
  | .foreign pkt :: rest, hwf =>
    foreign pkt rest (hwf (.foreign pkt) (by simp)).1 (first_samdec_cases nil foreign samdec rest fun x hx => hwf x (by simp [hx]))
  | .samdec l c s a b p h fs :: rest, hwf => samdec l c s a b p h fs rest (hwf _ (by simp))

theorem FirstSync'.firstLen {L : Nat} {items : List Item} (hwf : ∀ it ∈ items, it.WF L) :
    FirstSync' L items → FirstLen L items :=
  first_samdec_cases (P := fun items => FirstSync' L items → FirstLen L items) (fun _ => trivial)
    (fun _ _ _ ih => ih) (fun _ _ _ _ _ _ _ _ _ hw => inferLength_firstTwo hw.framed.length) items hwf

theorem FirstSync.firstSync' {L : Nat} {items : List Item} (hwf : ∀ it ∈ items, it.WF L) :
    FirstSync L items → FirstSync' L items :=
  first_samdec_cases (P := fun items => FirstSync L items → FirstSync' L items) (fun _ => trivial)
    (fun _ _ _ ih => ih) (fun _ _ _ _ _ _ _ _ _ hw => firstTwo_of_starts hw.framed.pos) items hwf

theorem framesLoop_items (L : Nat) (items : List Item) (hwf : ∀ it ∈ items, it.WF L) (fl : Option Int)
    (hfl : fl = some (L : Int) ∨ (fl = none ∧ FirstSync L items)) :
    framesLoop syncWord ((items.map Item.bytes).filterMap udpData) fl = (items.flatMap Item.frames, none) :=
  framesLoop_items_len L items hwf fl (hfl.imp id fun h => ⟨h.1, (h.2.firstSync' hwf).firstLen hwf⟩)

theorem items_WF_of_recs {L : Nat} {recs : List (Nat × Nat × Item)} (hwf : ∀ r ∈ recs, r.2.2.WF L) :
    ∀ it ∈ recs.map (·.2.2), it.WF L :=
  List.forall_mem_map.2 hwf

theorem Item.WF.length_lt {L : Nat} {it : Item} (h : it.WF L) : it.bytes.length < 2 ^ 32 := by
  cases it with
  | foreign p => exact h.2
  | samdec l c s a b p hd fs =>
    have hlen := h.framed.length
    have := h.size
    rw [Item.bytes, packet, datagram, List.length_append, iNetX.encode_length, h.1, hlen]
    omega

theorem decom_items {L : Nat} (ghdr : Bytes) (hg : ghdr.length = 24) (recs : List (Nat × Nat × Item))
    (hwf : ∀ r ∈ recs, r.2.2.WF L) :
    decom (capture ghdr (recs.map fun r => record r.1 r.2.1 r.2.2.bytes)) =
      framesLoop syncWord (((recs.map (·.2.2)).map Item.bytes).filterMap udpData) none := by
  rw [decom_eq, getData_eq, if_pos (by simp [capture, hg]),
    pcapRecords_capture ghdr hg recs (·.1) (·.2.1) (·.2.2.bytes) fun r hr => (hwf r hr).length_lt, List.map_map]
  rfl

end Acra.Lemmas.SamDec
