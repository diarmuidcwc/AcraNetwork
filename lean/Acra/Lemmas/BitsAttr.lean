import Lean.Meta.Tactic.Simp.RegisterCommand

/-- Masks and shifts by literals rewritten to `%`, `/` and `*`, so that `omega` can finish. -/
register_simp_attr bits
