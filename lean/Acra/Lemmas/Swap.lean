/-
  Helper lemmas for `endianness_swap` (C17).  `Spec.swapGroups n` is an index map; `swapGroups_append` shows that it
  reverses a leading group of `n` bytes and goes on with the rest, hence is an involution on whole numbers of groups;
  the slice-assignment models `swap2`, `swap4` unfold to the same recursion on groups.
-/
import Acra.Model.Search
import Acra.Spec.Search
namespace Acra.Lemmas.Swap
open Acra.Py Acra.Model.Search Acra.Spec

theorem swapGroups_length (n : Nat) (b : Bytes) : (swapGroups n b).length = b.length := by
  simp [swapGroups]

theorem swapGroups_getElem? (n : Nat) (b : Bytes) (k : Nat) (hk : k < b.length) :
    (swapGroups n b)[k]? = some (b.getD (n * (k / n) + (n - 1 - k % n)) 0) := by
  simp [swapGroups, hk]

theorem swapGroups_append (n : Nat) (g r : Bytes) (hg : g.length = n) :
    swapGroups n (g ++ r) = g.reverse ++ swapGroups n r := by
  subst hg
  rcases Nat.eq_zero_or_pos g.length with h0 | hpos
  · rw [List.length_eq_zero_iff.1 h0]; rfl
  apply List.ext_getElem
  · simp [swapGroups]
  intro k h1 _
  simp only [swapGroups, List.getElem_map, List.getElem_range]
  rcases Nat.lt_or_ge k g.length with hk | hk
  · rw [List.getElem_append_left (by simpa using hk), List.getElem_reverse, Nat.div_eq_of_lt hk,
      Nat.mod_eq_of_lt hk, Nat.mul_zero, Nat.zero_add, List.getD_eq_getElem?_getD,
      List.getElem?_append_left (by omega), List.getElem?_eq_getElem (by omega), Option.getD_some]
  · obtain ⟨k', rfl⟩ := Nat.exists_eq_add_of_le hk
    rw [List.getElem_append_right (by simp), Nat.add_div_left _ hpos, Nat.add_mod_left,
      Nat.mul_succ, Nat.add_comm (g.length * _), Nat.add_assoc]
    simp [List.getD_eq_getElem?_getD, List.getElem?_append_right]

theorem groups_induction {n : Nat} {P : Bytes → Prop} (nil : P [])
    (step : ∀ g r : Bytes, g.length = n → r.length % n = 0 → P r → P (g ++ r)) :
    ∀ (q : Nat) (b : Bytes), b.length = n * q → P b
  | 0, b, h => by rw [List.length_eq_zero_iff.1 h]; exact nil
  | q + 1, b, h => by
    have hg : (b.take n).length = n := by rw [List.length_take, h, Nat.mul_succ]; omega
    have hr : (b.drop n).length = n * q := by rw [List.length_drop, h, Nat.mul_succ, Nat.add_sub_cancel]
    rw [← List.take_append_drop n b]
    exact step _ _ hg (by rw [hr, Nat.mul_mod_right]) (groups_induction nil step q _ hr)

theorem swapGroups_involutive (n : Nat) (b : Bytes) (h : b.length % n = 0) :
    swapGroups n (swapGroups n b) = b := by
  obtain ⟨q, hq⟩ := Nat.dvd_of_mod_eq_zero h
  refine groups_induction (P := fun b => swapGroups n (swapGroups n b) = b) rfl (fun g r hg _ ih => ?_) q b hq
  rw [swapGroups_append n _ _ hg, swapGroups_append n _ _ (by rw [List.length_reverse, hg]), List.reverse_reverse, ih]

theorem swap2_nil : swap2 ([] : List α) = [] := by simp [swap2, getStride, setStride]

theorem swap2_cons2 (x y : α) (r : List α) : swap2 (x :: y :: r) = y :: x :: swap2 r := by
  simp [swap2, getStride, setStride]

theorem swap4_nil : swap4 ([] : List α) = [] := by simp [swap4, getStride, setStride]

theorem swap4_cons4 (a b c d : α) (r : List α) :
    swap4 (a :: b :: c :: d :: r) = d :: c :: b :: a :: swap4 r := by
  simp [swap4, getStride, setStride]

theorem swap2_eq_spec (l : Bytes) (h : l.length % 2 = 0) : swap2 l = swapGroups 2 l := by
  obtain ⟨q, hq⟩ := Nat.dvd_of_mod_eq_zero h
  refine groups_induction (P := fun l => swap2 l = swapGroups 2 l) rfl (fun g r hg _ ih => ?_) q l hq
  match g, hg with
  | [x, y], _ => rw [swapGroups_append 2 [x, y] r rfl, ← ih]; exact swap2_cons2 x y r

theorem swap4_eq_spec (l : Bytes) (h : l.length % 4 = 0) : swap4 l = swapGroups 4 l := by
  obtain ⟨q, hq⟩ := Nat.dvd_of_mod_eq_zero h
  refine groups_induction (P := fun l => swap4 l = swapGroups 4 l) rfl (fun g r hg _ ih => ?_) q l hq
  match g, hg with
  | [a, b, c, d], _ => rw [swapGroups_append 4 [a, b, c, d] r rfl, ← ih]; exact swap4_cons4 a b c d r

theorem endiannessSwap_eq (b : Bytes) (n : Int) :
    endiannessSwap b n =
      if n = 0 then .error .zeroDiv
      else if (n = 2 ∨ n = 4) ∧ (b.length : Int) % n = 0 then .ok (swapGroups n.toNat b)
      else .error .generic := by
  unfold endiannessSwap
  by_cases h0 : n = 0
  · rw [if_pos h0, if_pos h0]
  rw [if_neg h0, if_neg h0]
  by_cases hm : (b.length : Int) % n = 0
  · rw [if_neg (not_not_intro hm)]
    by_cases h2 : n = 2
    · subst h2
      rw [if_pos rfl, if_pos ⟨Or.inl rfl, hm⟩, swap2_eq_spec b (by omega)]
      rfl
    · rw [if_neg h2]
      by_cases h4 : n = 4
      · subst h4
        rw [if_pos rfl, if_pos ⟨Or.inr rfl, hm⟩, swap4_eq_spec b (by omega)]
        rfl
      · rw [if_neg h4, if_neg (fun h => h.1.elim h2 h4)]
  · rw [if_pos hm, if_neg (fun h => hm h.2)]

end Acra.Lemmas.Swap
