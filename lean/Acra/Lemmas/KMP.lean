/-
  Helper lemmas for KMP (C17): borders, the failure table computed by `KMP.partial`, the scan
  invariant of `KMP.search`.

  `PS p s l`  — the prefix of `p` of length `l` is a suffix of `s`.
  `Longest p s B j` — `j` is the longest such `l` below `B`.  For `s = p[0..k)` and `B = k` that is the longest
  proper border of `p[0..k)`, the failure table entry `tbl[k-1]`; the scan keeps `Longest p s |p| j` for the
  text `s` read so far, and has reported `occ s p`.
  `KMP.partial` is the same scan run on the text `p[1:]`, which is how its correctness is obtained.
-/
import Acra.Lemmas.Search
namespace Acra.Lemmas.KMP
open Acra.Py Acra.Model.Search Acra.Spec Acra.Lemmas.Search

def PS (p s : Bytes) (l : Nat) : Prop := l ≤ p.length ∧ p.take l <:+ s

theorem PS_zero (p s : Bytes) : PS p s 0 := ⟨Nat.zero_le _, by simp⟩

theorem PS.le_length {p s : Bytes} {l : Nat} (h : PS p s l) : l ≤ s.length := by
  have := h.2.length_le
  rwa [List.length_take, Nat.min_eq_left h.1] at this

theorem PS.chain {p s : Bytes} {l l' : Nat} (h : PS p s l) (h' : PS p s l') (hle : l' ≤ l) :
    PS p (p.take l) l' :=
  ⟨h'.1, List.suffix_of_suffix_length_le h'.2 h.2 (by have := h.1; have := h'.1; simp; omega)⟩

theorem PS.trans {p s : Bytes} {l l' : Nat} (h' : PS p (p.take l) l') (h : PS p s l) : PS p s l' :=
  ⟨h'.1, h'.2.trans h.2⟩

theorem PS_succ_snoc (p s : Bytes) (c : UInt8) (l : Nat) :
    PS p (s ++ [c]) (l + 1) ↔ PS p s l ∧ p[l]? = some c := by
  unfold PS
  by_cases hl : l < p.length
  · rw [← List.take_append_getElem hl, List.suffix_append_inj_of_length_eq (s₁ := [p[l]]) (s₂ := [c]) rfl,
      List.cons.injEq, eq_self, and_true, List.getElem?_eq_getElem hl, Option.some.injEq]
    exact ⟨fun h => ⟨⟨by omega, h.2.1⟩, h.2.2⟩, fun h => ⟨hl, h.1.2, h.2⟩⟩
  · rw [List.getElem?_eq_none (by omega)]
    exact ⟨fun h => absurd h.1 (by omega), fun h => absurd h.2 (by simp)⟩

def Longest (p s : Bytes) (B j : Nat) : Prop := j < B ∧ PS p s j ∧ ∀ l, l < B → PS p s l → l ≤ j

/-- below a prefix-suffix of length `k`, the prefix-suffixes of `s` are the borders of `p[0..k)` -/
theorem Longest.fall {p s : Bytes} {k b : Nat} (h : Longest p (p.take k) k b) (hk : PS p s k) :
    Longest p s k b :=
  ⟨h.1, h.2.1.trans hk, fun l hl hps => h.2.2 l hl (hk.chain hps (by omega))⟩

theorem Longest.full_iff {p s : Bytes} {r : Nat} (h : Longest p s (p.length + 1) r) : r = p.length ↔ p <:+ s := by
  constructor
  · intro hr
    have := h.2.1.2
    rwa [hr, List.take_length] at this
  · intro hs
    have h1 := h.2.2 p.length (by omega) ⟨Nat.le_refl _, by rwa [List.take_length]⟩
    have h2 := h.2.1.1
    omega

/-- the first `n` entries of the table are right: entry `k` is the longest proper border of `p[0..k]` -/
def TblOK (p : Bytes) (tbl : List Nat) (n : Nat) : Prop :=
  ∀ k, k < n → ∃ b, tbl[k]? = some b ∧ Longest p (p.take (k + 1)) (k + 1) b

/-- `PS` and `Longest` unfolded: the form in which C17 states the table -/
theorem TblOK.borders {p : Bytes} {tbl : List Nat} (h : TblOK p tbl p.length) (k : Nat) (hk : k < p.length) :
    ∃ b, tbl[k]? = some b ∧ b < k + 1 ∧ p.take b <:+ p.take (k + 1) ∧
      ∀ b', b' < k + 1 → p.take b' <:+ p.take (k + 1) → b' ≤ b := by
  obtain ⟨b, hb1, hb2, hb3, hb4⟩ := h k hk
  exact ⟨b, hb1, hb2, hb3.2, fun b' hb' hs => hb4 b' hb' ⟨by omega, hs⟩⟩

/-- invariant of the inner `while`: `j` is a prefix-suffix of `s`, and no longer one is followed by `c` in `p` -/
def Fall (p s : Bytes) (c : UInt8) (j : Nat) : Prop :=
  j < p.length ∧ PS p s j ∧ ∀ l, l < p.length → PS p s l → p[l]? = some c → l ≤ j

theorem kmpFall_spec (p : Bytes) (tbl : List Nat) (n : Nat) (htbl : TblOK p tbl n) (s : Bytes) (c : UInt8) :
    ∀ fuel j, j < fuel → j ≤ n → Fall p s c j →
      ∃ j', kmpFall p tbl c fuel j = .ok j' ∧ Fall p s c j' ∧ (j' = 0 ∨ p[j']? = some c)
  | 0, _, h, _, _ => by omega
  | fuel + 1, j, hf, hn, ⟨hj, hps, hex⟩ => by
    rw [kmpFall]
    by_cases hj0 : j > 0
    · rw [if_pos hj0, List.getElem?_eq_getElem hj]
      simp only
      by_cases hx : p[j] = c
      · rw [if_neg (fun h => h hx)]
        exact ⟨j, rfl, ⟨hj, hps, hex⟩, Or.inr (by rw [List.getElem?_eq_getElem hj, hx])⟩
      · rw [if_pos hx]
        obtain ⟨b, hb1, hb⟩ := htbl (j - 1) (by omega)
        rw [hb1]
        simp only
        rw [Nat.sub_add_cancel hj0] at hb
        have hb := hb.fall hps
        refine kmpFall_spec p tbl n htbl s c fuel b (by have := hb.1; omega) (by have := hb.1; omega)
          ⟨by have := hb.1; omega, hb.2.1, ?_⟩
        intro l hl hpl hc
        rcases Nat.lt_or_eq_of_le (hex l hl hpl hc) with hlt | rfl
        · exact hb.2.2 l hlt hpl
        · rw [List.getElem?_eq_getElem hj] at hc
          exact absurd (Option.some.inj hc) hx
    · rw [if_neg hj0]
      exact ⟨j, rfl, ⟨hj, hps, hex⟩, Or.inl (by omega)⟩

theorem Fall.step {p s : Bytes} {c : UInt8} {j : Nat} (h : Fall p s c j) (hend : j = 0 ∨ p[j]? = some c) :
    Longest p (s ++ [c]) (p.length + 1) (if p[j]? = some c then j + 1 else j) := by
  obtain ⟨hj, hps, hex⟩ := h
  refine ⟨by split <;> omega, ?_, ?_⟩
  · split
    · rename_i hc
      exact (PS_succ_snoc p s c j).2 ⟨hps, hc⟩
    · rename_i hc
      rw [hend.resolve_right hc]
      exact PS_zero _ _
  · intro l _ hl
    cases l with
    | zero => exact Nat.zero_le _
    | succ l =>
      -- a prefix-suffix of `s ++ [c]` of length `l + 1` extends one of `s` of length `l` by `c`
      obtain ⟨h1, h2⟩ := (PS_succ_snoc p s c l).1 hl
      have hlj := hex l (by have := hl.1; omega) h1 h2
      split
      · omega
      · rename_i hc
        have hj0 := hend.resolve_right hc
        have hl0 : l = 0 := by omega
        rw [hl0, ← hj0] at h2
        exact absurd h2 hc

theorem scan_step (p : Bytes) (tbl : List Nat) (n : Nat) (htbl : TblOK p tbl n) (s : Bytes) (c : UInt8) (j : Nat)
    (hn : j ≤ n) (h : Longest p s p.length j) :
    ∃ j' x, kmpFall p tbl c (j + 1) j = .ok j' ∧ p[j']? = some x ∧
      Longest p (s ++ [c]) (p.length + 1) (if x = c then j' + 1 else j') := by
  obtain ⟨j', h1, h2, h3⟩ := kmpFall_spec p tbl n htbl s c (j + 1) j (Nat.lt_succ_self j) hn
    ⟨h.1, h.2.1, fun l hl hps _ => h.2.2 l hl hps⟩
  have hm := h2.step h3
  simp only [List.getElem?_eq_getElem h2.1, Option.some.injEq] at hm
  exact ⟨j', p[j']'h2.1, h1, List.getElem?_eq_getElem h2.1, hm⟩

/-- read as a text, `p[1..i)` has the proper borders of `p[0..i)` as its prefix-suffixes -/
theorem longest_drop1 (p : Bytes) (i B j : Nat) (hi1 : 1 ≤ i) (hi : i ≤ p.length) (hB : i ≤ B) :
    Longest p ((p.take i).drop 1) B j ↔ Longest p (p.take i) i j := by
  have hlen : ((p.take i).drop 1).length = i - 1 := by simp; omega
  have hlt : ∀ {l}, PS p ((p.take i).drop 1) l → l < i := fun h => by have := h.le_length; omega
  have hiff : ∀ {l}, l < i → (PS p ((p.take i).drop 1) l ↔ PS p (p.take i) l) := fun hl =>
    and_congr_right fun _ =>
      ⟨fun h => h.trans (List.drop_suffix 1 _),
       fun h => List.suffix_of_suffix_length_le h (List.drop_suffix 1 _) (by simp; omega)⟩
  constructor
  · rintro ⟨_, h2, h3⟩
    exact ⟨hlt h2, (hiff (hlt h2)).1 h2, fun l hl hps => h3 l (by omega) ((hiff hl).2 hps)⟩
  · rintro ⟨h1, h2, h3⟩
    exact ⟨by omega, (hiff h1).2 h2, fun l _ hps => h3 l (hlt hps) ((hiff (hlt hps)).1 hps)⟩

theorem drop1_take_succ (p : Bytes) (i : Nat) (hi1 : 1 ≤ i) (hi : i < p.length) :
    (p.take (i + 1)).drop 1 = (p.take i).drop 1 ++ [p[i]] := by
  rw [← List.take_append_getElem hi, List.drop_append_of_le_length (by simp; omega)]

theorem kmpPartialLoop_spec (p : Bytes) :
    ∀ (cs : Bytes) (i : Nat) (ret : List Nat), 1 ≤ i → i ≤ p.length → cs = p.drop i → ret.length = i →
      TblOK p ret i →
      ∃ tbl, kmpPartialLoop p cs i ret = .ok tbl ∧ tbl.length = p.length ∧ TblOK p tbl p.length
  | [], i, ret, _, hi, hcs, hlen, htbl => by
    have := List.drop_eq_nil_iff.1 hcs.symm
    have e : i = p.length := by omega
    subst e
    exact ⟨ret, rfl, hlen, htbl⟩
  | c :: cs, i, ret, hi1, hi, hcs, hlen, htbl => by
    have hip : i < p.length := by
      have := congrArg List.length hcs
      simp at this; omega
    rw [List.drop_eq_getElem_cons hip] at hcs
    injection hcs with hc hcs
    subst hc
    obtain ⟨j, hj1, hj⟩ := htbl (i - 1) (by omega)
    rw [Nat.sub_add_cancel hi1] at hj
    -- the text read so far is p[1..i)
    obtain ⟨j', x, hf, hx, hmax⟩ := scan_step p ret i htbl _ p[i] j (by have := hj.1; omega)
      ((longest_drop1 p i p.length j hi1 hi hi).2 hj)
    rw [kmpPartialLoop, hj1]
    simp only
    rw [hf]
    simp only
    rw [hx]
    simp only [beq_iff_eq]
    rw [← drop1_take_succ p i hi1 hip, longest_drop1 p (i + 1) _ _ (by omega) hip (by omega)] at hmax
    apply kmpPartialLoop_spec p cs (i + 1) _ (by omega) hip hcs (by simp [hlen])
    intro k hk
    rcases Nat.lt_succ_iff_lt_or_eq.1 hk with hki | rfl
    · obtain ⟨b, hb1, hb2⟩ := htbl k hki
      exact ⟨b, by rw [List.getElem?_append_left (by omega)]; exact hb1, hb2⟩
    · exact ⟨_, by rw [List.getElem?_append_right (by omega), hlen, Nat.sub_self]; rfl, hmax⟩

theorem kmpPartial_spec (p : Bytes) (hp : p ≠ []) :
    ∃ tbl, kmpPartial p = .ok tbl ∧ tbl.length = p.length ∧ TblOK p tbl p.length := by
  apply kmpPartialLoop_spec p (p.drop 1) 1 [0] (Nat.le_refl 1) (List.length_pos_iff.2 hp) rfl rfl
  intro k hk
  have : k = 0 := by omega
  subst this
  exact ⟨0, rfl, by omega, PS_zero _ _, fun b hb _ => by omega⟩

theorem kmpSearchLoop_spec (p : Bytes) (hp : p ≠ []) (tbl : List Nat) (htbl : TblOK p tbl p.length) :
    ∀ (rest s : Bytes) (j : Nat), Longest p s p.length j →
      kmpSearchLoop p tbl rest s.length j ((occ s p).map Int.ofNat) = .ok ((occ (s ++ rest) p).map Int.ofNat)
  | [], s, j, _ => by rw [kmpSearchLoop, List.append_nil]
  | c :: rest, s, j, hj => by
    have hp1 := List.length_pos_iff.2 hp
    obtain ⟨j', x, hf, hx, hm⟩ := scan_step p tbl p.length htbl s c j (by have := hj.1; omega) hj
    rw [kmpSearchLoop, hf]
    simp only
    rw [hx]
    simp only
    have hr : (if (c == x) = true then j' + 1 else j') = (if x = c then j' + 1 else j') := by
      simp only [beq_iff_eq, eq_comm (a := c)]
    rw [hr]
    generalize (if x = c then j' + 1 else j') = r at hm
    have hs : s ++ c :: rest = (s ++ [c]) ++ rest := by simp
    have hlen : s.length + 1 = (s ++ [c]).length := by simp
    rw [hs, hlen]
    by_cases hrp : r = p.length
    · -- a match ends here; the scan restarts from the longest proper border of `p`
      rw [if_pos (by simp [hrp])]
      obtain ⟨b, hb1, hb⟩ := htbl (r - 1) (by omega)
      rw [hb1]
      simp only
      rw [show r - 1 + 1 = p.length by omega] at hb
      have ih := kmpSearchLoop_spec p hp tbl htbl rest (s ++ [c]) b (hb.fall (hrp ▸ hm.2.1))
      have hsuf := hm.full_iff.1 hrp
      have hle := hsuf.length_le
      rw [occ_concat s p c hp, if_pos hsuf, List.map_append] at ih
      rw [← hlen] at hle
      have hval : (s.length : Int) - ((r : Int) - 1) = Int.ofNat (s.length + 1 - p.length) := by
        rw [hrp]; simp only [Int.ofNat_eq_natCast]; omega
      rw [hval]
      exact ih
    · rw [if_neg (by simp [hrp])]
      have ih := kmpSearchLoop_spec p hp tbl htbl rest (s ++ [c]) r
        ⟨by have := hm.1; omega, hm.2.1, fun l hl => hm.2.2 l (by omega)⟩
      rwa [occ_concat s p c hp, if_neg (mt hm.full_iff.2 hrp), List.append_nil] at ih

theorem kmpSearch_eq_occ (t p : Bytes) (hp : p ≠ []) : kmpSearch t p = .ok ((occ t p).map Int.ofNat) := by
  have hm := List.length_pos_iff.2 hp
  obtain ⟨tbl, h1, _, h3⟩ := kmpPartial_spec p hp
  have := kmpSearchLoop_spec p hp tbl h3 t [] 0 ⟨hm, PS_zero _ _, fun l _ hl => hl.le_length⟩
  rw [occ_eq_nil [] p hm] at this
  rw [kmpSearch, h1]
  exact this

end Acra.Lemmas.KMP
