/-
  iNETPackage / iNET, the encoding side: the bytes `pack` emits under the well-formedness predicates, what `unpack`
  makes of them, and what `pack` and `__eq__` read of an object.
-/
import Acra.Model.iNET
import Acra.Lemmas.Bits
import Acra.Lemmas.iNETWalk
import Acra.Lemmas.ListAux
namespace Acra.Lemmas.iNET
open Acra.Py Acra.Model.iNET Acra.Gen.iNET Acra.Lemmas Acra.Lemmas.Bits Acra.Lemmas.Walk

/-- every field fits its width; the length field (header + payload, without padding) fits 16 bits -/
def Pkg_WF (p : Pkg) : Prop :=
  p.definitionID < 4294967296 ∧ p.flags < 256 ∧ p.timedelta < 4294967296 ∧ 12 + p.payload.length < 65536

def pad4 (n : Nat) : Bytes := if n % 4 ≠ 0 then List.replicate (4 - n % 4) 0 else []

theorem pad4_length (n : Nat) : (pad4 n).length = (4 - n % 4) % 4 := by
  rw [pad4, pad_mod4]; split <;> simp

theorem padBytes_eq (n : Nat) : padBytes n = List.replicate n 0 :=
  List.flatten_replicate_singleton

def pkgHdr (p : Pkg) : Bytes :=
  encInt true 4 p.definitionID ++ (encInt true 2 (12 + p.payload.length) ++ (encInt true 1 0 ++
    (encInt true 1 p.flags ++ encInt true 4 p.timedelta)))

def pkgBytes (p : Pkg) : Bytes := pkgHdr p ++ (p.payload ++ pad4 p.payload.length)

/-- the object `pack` leaves behind (and a decode produces): `_length` is header + payload -/
def norm (p : Pkg) : Pkg := { p with length := 12 + p.payload.length }

@[simp] theorem pkgHdr_length (p : Pkg) : (pkgHdr p).length = 12 := by simp [pkgHdr]
theorem pkgBytes_length (p : Pkg) : (pkgBytes p).length = 12 + p.payload.length + (4 - p.payload.length % 4) % 4 := by
  simp [pkgBytes, pad4_length]; omega
theorem pkgBytes_length_eq (p : Pkg) : (pkgBytes p).length = roundUp4 (12 + p.payload.length) := by
  rw [pkgBytes_length, roundUp4_mul4_add 3, roundUp4, Nat.add_assoc]
theorem pkgBytes_mod4 (p : Pkg) : (pkgBytes p).length % 4 = 0 := by
  rw [pkgBytes_length_eq]; exact roundUp4_mod _
theorem pkgBytes_norm (p : Pkg) : pkgBytes (norm p) = pkgBytes p := rfl
theorem Pkg_WF_norm (p : Pkg) (h : Pkg_WF p) : Pkg_WF (norm p) := h

theorem pkgHdr_fits (p : Pkg) (h : Pkg_WF p) :
    Fits PKG_FORMAT.codes [p.definitionID, 12 + p.payload.length, 0, p.flags, p.timedelta] := by
  obtain ⟨h1, h2, h3, h4⟩ := h
  exact ⟨h1, h4, by decide, h2, h3, trivial⟩

theorem pkgHdr_enc (p : Pkg) :
    encCodes PKG_FORMAT.big PKG_FORMAT.codes [p.definitionID, 12 + p.payload.length, 0, p.flags, p.timedelta] =
      pkgHdr p := by
  simp only [PKG_FORMAT, encCodes, Code.size, List.append_nil, pkgHdr]

theorem Pkg_pack_eq (p : Pkg) (h : Pkg_WF p) : Pkg.pack p = (norm p, .ok (pkgBytes p)) := by
  simp only [Pkg.pack, PKG_FORMAT_LEN, structPack_eq _ _ (pkgHdr_fits p h), pkgHdr_enc, padBytes_eq, List.append_assoc]
  rfl

theorem Pkg_unpack_eq (p t : Pkg) (rest : Bytes) (h : Pkg_WF p) :
    Pkg.unpack t (pkgBytes p ++ rest) = (norm p, .ok rest) := by
  have hhdr : structUnpackFrom PKG_FORMAT (pkgBytes p ++ rest) 0 =
      .ok [p.definitionID, 12 + p.payload.length, 0, p.flags, p.timedelta] := by
    have := structUnpackFrom_enc0 PKG_FORMAT _ ((p.payload ++ pad4 p.payload.length) ++ rest) (pkgHdr_fits p h)
    rwa [pkgHdr_enc, ← List.append_assoc] at this
  have hpl : slice (pkgBytes p ++ rest) 12 (12 + p.payload.length) = p.payload := by
    simp only [pkgBytes, List.append_assoc]
    exact slice_mid _ _ _ _ _ (by simp) (by simp)
  have hdrop : List.drop (roundUp4 (12 + p.payload.length)) (pkgBytes p ++ rest) = rest :=
    drop_append_len _ _ _ (pkgBytes_length_eq p).symm
  rw [Pkg_unpack_of_hdr t _ _ _ _ _ _ hhdr, if_neg (by omega), hpl, hdrop]
  rfl

theorem packPkgs_eq_packAll (ps : List Pkg) : packPkgs ps = packAll Pkg.pack ps := by
  induction ps with
  | nil => rfl
  | cons p ps ih =>
    rw [packPkgs, packAll, ih]
    rcases p.pack with ⟨p', _ | b⟩
    · rfl
    · rcases packAll Pkg.pack ps with ⟨ps', _ | bs⟩ <;> rfl

theorem packPkgs_eq (ps : List Pkg) (h : ∀ p ∈ ps, Pkg_WF p) :
    packPkgs ps = (ps.map norm, .ok (ps.flatMap pkgBytes)) := by
  rw [packPkgs_eq_packAll]
  exact packAll_eq Pkg.pack norm pkgBytes ps fun p hp => Pkg_pack_eq p (h p hp)

theorem decPkg_enc (p : Pkg) (rest : Bytes) (h : Pkg_WF p) :
    decPkg (pkgBytes p ++ rest) = .ok (norm p, (pkgBytes p).length) := by
  rw [decPkg, Pkg_unpack_eq p Pkg.fresh rest h, pkgBytes_length_eq]
  exact congrArg (fun n => Except.ok (norm p, n)) (roundUp4_eq _)

theorem flatMap_pkgBytes_norm (ps : List Pkg) : (ps.map norm).flatMap pkgBytes = ps.flatMap pkgBytes :=
  List.flatMap_map ..

theorem flatMap_pkgBytes_mod4 (ps : List Pkg) : (ps.flatMap pkgBytes).length % 4 = 0 :=
  flatMap_length_mod pkgBytes 4 ps pkgBytes_mod4

theorem decPkg_all (ps : List Pkg) (h : ∀ p ∈ ps, Pkg_WF p) :
    decOff decPkg moreRem (ps.flatMap pkgBytes) ((ps.flatMap pkgBytes).length + 1) 0 = .ok (ps.map norm) :=
  decPkg_eq ▸ pkgRec.loop_enc (more_iff fun _ _ => rfl) pkgBytes norm ps fun p hp rest => decPkg_eq ▸ decPkg_enc p rest (h p hp)

/-- the header and option words `iNET.pack` puts before the package area `pl`; reads the eight header attributes
    and the option words only -/
def frame (s : State) (pl : Bytes) : R Bytes :=
  match structPack INET_HEADER_FORMAT
      [s.app_fields.length + (s.version <<< 4), s.type, s.flags, s.definition_ID, s.sequence,
       pl.length + INET_HEADER_LENGTH + s.app_fields.length * 4, s.ptptimeseconds, s.ptptimenanoseconds] with
  | .error e => .error e
  | .ok h =>
    if s.app_fields.length > 0 then
      match structPack (iNET_pack_fmt0 s.app_fields.length) s.app_fields with
      | .error e => .error e
      | .ok a => .ok (h ++ a ++ pl)
    else .ok (h ++ pl)

theorem pack_eq (s : State) :
    pack s = match packPkgs s.packages with
      | (pk, .error e) => ({ s with packages := pk }, .error e)
      | (pk, .ok pl) =>
        ({ s with packages := pk, payload := pl, length := pl.length + INET_HEADER_LENGTH + s.app_fields.length * 4 },
          frame s pl) := by
  unfold pack frame
  cases packPkgs s.packages with
  | mk pk r =>
    cases r with
    | error e => rfl
    | ok pl =>
      simp only
      generalize structPack INET_HEADER_FORMAT _ = rh
      cases rh with
      | error e => rfl
      | ok h =>
        simp only
        split
        · generalize structPack (iNET_pack_fmt0 _) _ = ra
          cases ra <;> rfl
        · rfl

theorem pack_snd (s : State) :
    (pack s).2 = match (packPkgs s.packages).2 with
      | .error e => .error e
      | .ok pl => frame s pl := by
  rw [pack_eq]
  cases packPkgs s.packages with
  | mk pk r => cases r <;> rfl

theorem frame_congr (a b : State) (pl : Bytes) (h1 : a.flags = b.flags) (h2 : a.type = b.type)
    (h3 : a.version = b.version) (h4 : a.definition_ID = b.definition_ID) (h5 : a.sequence = b.sequence)
    (h6 : a.ptptimeseconds = b.ptptimeseconds) (h7 : a.ptptimenanoseconds = b.ptptimenanoseconds)
    (h8 : a.app_fields = b.app_fields) : frame a pl = frame b pl := by
  simp only [frame, h1, h2, h3, h4, h5, h6, h7, h8]

theorem eq_ok_true_iff (a b : State) :
    eq a b = .ok true ↔
      a.flags = b.flags ∧ a.type = b.type ∧ a.version = b.version ∧ a.definition_ID = b.definition_ID ∧
      a.sequence = b.sequence ∧ a.ptptimeseconds = b.ptptimeseconds ∧ a.ptptimenanoseconds = b.ptptimenanoseconds ∧
      a.app_fields = b.app_fields ∧
      ∃ p, (packPkgs a.packages).2 = .ok p ∧ (packPkgs b.packages).2 = .ok p := by
  simp only [eq, guard_ne_iff]
  cases (packPkgs a.packages).2 with
  | error e => simp only [reduceCtorEq, false_and, exists_false, and_false]
  | ok pa =>
    cases (packPkgs b.packages).2 with
    | error e => simp only [reduceCtorEq, and_false, exists_false]
    | ok pb =>
      simp only [Except.ok.injEq, beq_iff_eq, exists_eq_left']
      rw [@eq_comm _ pb pa]

/-- every header field fits its width (version and type four bits, at most 15 option words), every
    option word and package is well-formed, and the total length fits 32 bits -/
def iNET_WF (s : State) : Prop :=
  s.flags < 65536 ∧ s.type < 16 ∧ s.version < 16 ∧ s.definition_ID < 4294967296 ∧ s.sequence < 4294967296 ∧
  s.ptptimeseconds < 4294967296 ∧ s.ptptimenanoseconds < 4294967296 ∧ s.app_fields.length < 16 ∧
  (∀ a ∈ s.app_fields, a < 4294967296) ∧ (∀ p ∈ s.packages, Pkg_WF p) ∧
  (s.packages.flatMap pkgBytes).length + 24 + s.app_fields.length * 4 < 4294967296

def msgLen (s : State) : Nat := (s.packages.flatMap pkgBytes).length + 24 + s.app_fields.length * 4

def msgHdr (s : State) : Bytes :=
  encInt true 1 (s.app_fields.length + s.version * 16) ++ (encInt true 1 s.type ++ (encInt true 2 s.flags ++
  (encInt true 4 s.definition_ID ++ (encInt true 4 s.sequence ++ (encInt true 4 (msgLen s) ++
  (encInt true 4 s.ptptimeseconds ++ encInt true 4 s.ptptimenanoseconds))))))

def msgBytes (s : State) : Bytes := msgHdr s ++ (wordsC .u32 s.app_fields ++ s.packages.flatMap pkgBytes)

/-- the state `pack` leaves behind -/
def packed (s : State) : State :=
  { s with packages := s.packages.map norm, payload := s.packages.flatMap pkgBytes, length := msgLen s }

/-- the state a decode of the packed bytes produces: as `packed`, and the option word count recorded -/
def decoded (s : State) : State := { packed s with option_wc := s.app_fields.length }

@[simp] theorem msgHdr_length (s : State) : (msgHdr s).length = 24 := by simp [msgHdr]

theorem msgBytes_length (s : State) :
    (msgBytes s).length = 24 + (4 * s.app_fields.length + (s.packages.flatMap pkgBytes).length) := by
  simp only [msgBytes, List.length_append, msgHdr_length, wordsC_length, Code.size]

theorem msgHdr_fits (s : State) (h : iNET_WF s) :
    Fits INET_HEADER_FORMAT.codes [s.app_fields.length + s.version * 16, s.type, s.flags, s.definition_ID,
      s.sequence, msgLen s, s.ptptimeseconds, s.ptptimenanoseconds] := by
  obtain ⟨h1, h2, h3, h4, h5, h6, h7, h8, _, _, h11⟩ := h
  exact ⟨by show _ < 256; omega, by show _ < 256; omega, h1, h4, h5, h11, h6, h7, trivial⟩

theorem msgHdr_enc (s : State) :
    encCodes INET_HEADER_FORMAT.big INET_HEADER_FORMAT.codes [s.app_fields.length + s.version * 16, s.type, s.flags,
      s.definition_ID, s.sequence, msgLen s, s.ptptimeseconds, s.ptptimenanoseconds] = msgHdr s := by
  simp only [INET_HEADER_FORMAT, encCodes, Code.size, List.append_nil, msgHdr]

theorem frame_eq (s : State) (h : iNET_WF s) : frame s (s.packages.flatMap pkgBytes) = .ok (msgBytes s) := by
  have hp : structPack (iNET_pack_fmt0 s.app_fields.length) s.app_fields = .ok (wordsC .u32 s.app_fields) :=
    packCodes_wordsC .u32 _ h.2.2.2.2.2.2.2.2.1
  have hl : (s.packages.flatMap pkgBytes).length + 24 + s.app_fields.length * 4 = msgLen s := rfl
  simp only [frame, shl, Nat.reducePow, INET_HEADER_LENGTH, hl, structPack_eq _ _ (msgHdr_fits s h), msgHdr_enc, hp,
    msgBytes, List.append_assoc]
  split
  · rfl
  · next h0 => rw [List.length_eq_zero_iff.1 (by omega : s.app_fields.length = 0)]; rfl

theorem iNET_pack_eq (s : State) (h : iNET_WF s) : pack s = (packed s, .ok (msgBytes s)) := by
  rw [pack_eq, packPkgs_eq _ h.2.2.2.2.2.2.2.2.2.1]
  simp only [frame_eq s h]
  rfl

theorem wcver_split (a v : Nat) (ha : a < 16) (hv : v < 16) :
    (a + v * 16) % 16 = a ∧ (a + v * 16) / 16 % 16 = v := by
  rw [Nat.add_mul_mod_self_right, Nat.add_mul_div_right _ _ (by decide : 0 < 16), Nat.div_eq_of_lt ha, Nat.zero_add,
    Nat.mod_eq_of_lt ha, Nat.mod_eq_of_lt hv]
  exact ⟨rfl, rfl⟩

theorem iNET_unpack_eq (s t : State) (h : iNET_WF s) : unpack t (msgBytes s) = (decoded s, .ok ()) := by
  have hlen := msgBytes_length s
  have henc : structUnpackFrom INET_HEADER_FORMAT (msgBytes s) 0 =
      .ok [s.app_fields.length + s.version * 16, s.type, s.flags, s.definition_ID, s.sequence, msgLen s,
           s.ptptimeseconds, s.ptptimenanoseconds] := by
    have := structUnpackFrom_enc0 INET_HEADER_FORMAT _ (wordsC .u32 s.app_fields ++ s.packages.flatMap pkgBytes)
      (msgHdr_fits s h)
    rwa [msgHdr_enc] at this
  -- the eight header words read from the encoded bytes are the ones encoded
  have hv := (hdr_unpack (msgBytes s) (by omega)).symm.trans henc
  simp only [Except.ok.injEq, List.cons.injEq, and_true] at hv
  obtain ⟨e1, e2, e3, e4, e5, e6, e7, e8⟩ := hv
  obtain ⟨_, h2, h3, _, _, _, _, h8, h9, h10, _⟩ := h
  obtain ⟨ewc, ever⟩ := wcver_split _ _ h8 h3
  have hwc : optWc (msgBytes s) = s.app_fields.length := by rw [optWc, e1, ewc]
  have hd24 : List.drop 24 (msgBytes s) = wordsC .u32 s.app_fields ++ s.packages.flatMap pkgBytes :=
    drop_append_len _ _ _ (msgHdr_length s).symm
  have harea : area (msgBytes s) = s.packages.flatMap pkgBytes := by
    rw [area, hwc, msgBytes, ← List.append_assoc]
    exact drop_append_len _ _ _ (by rw [List.length_append, msgHdr_length, wordsC_length]; rfl)
  rw [iNET_decodes.of_run ((inetRun_ok_iff ..).2 ⟨by omega, s.packages.map norm, by rw [pkgLoop, harea]; exact decPkg_all _ h10, rfl⟩)]
  simp only [unpacked, hdrStored, hwc, e1, e2, e3, e4, e5, e6, e7, e8, hd24, harea, unpackCodes_wordsC .u32 _ _ h9, ever,
    Nat.mod_eq_of_lt h2]
  rfl

theorem iNET_WF_decoded (s : State) (h : iNET_WF s) : iNET_WF (decoded s) := by
  obtain ⟨h1, h2, h3, h4, h5, h6, h7, h8, h9, h10, h11⟩ := h
  refine ⟨h1, h2, h3, h4, h5, h6, h7, h8, h9, ?_, ?_⟩
  · intro p hp
    obtain ⟨y, hy, rfl⟩ := List.mem_map.1 hp
    exact Pkg_WF_norm y (h10 y hy)
  · show ((s.packages.map norm).flatMap pkgBytes).length + 24 + s.app_fields.length * 4 < 4294967296
    rwa [flatMap_pkgBytes_norm]

/-- a well-formed message: two option words, a package with a padded 5-byte payload and an empty one -/
theorem wf_witness :
    iNET_WF { fresh with type := 3, app_fields := [1, 2],
                         packages := [{ Pkg.fresh with definitionID := 7, payload := [1, 2, 3, 4, 5] }, Pkg.fresh] } := by
  refine ⟨by decide, by decide, by decide, by decide, by decide, by decide, by decide, by decide, by decide, ?_, ?_⟩
  · intro p hp
    rcases List.mem_cons.1 hp with rfl | hp
    · unfold Pkg_WF; decide
    · rw [List.mem_singleton.1 hp]; unfold Pkg_WF; decide
  · simp only [List.flatMap_cons, List.flatMap_nil, List.length_append, pkgBytes_length]
    decide

end Acra.Lemmas.iNET
