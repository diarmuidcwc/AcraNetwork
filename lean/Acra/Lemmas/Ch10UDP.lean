/-
  `pack` is header bytes, then the format's extension, then the payload
  (`pack_eq`), each part a function of the fields it reads; `unpack` on ARBITRARY bytes is a verdict
  computed from the first byte and the length, and on acceptance an object computed from the bytes alone
  (`run`, `decodes`).  Everything else — the Spec layouts per format, the round trips, totality, the
  accept/reject boundary, state independence — is read off these two.
-/
import Acra.Model.Ch10UDP
import Acra.Lemmas.Ch10
import Acra.Lemmas.Decoder
namespace Acra.Lemmas.Ch10UDP
open Acra.Py Acra.Model.Ch10UDP Acra.Gen.Ch10UDP Acra.Lemmas.Ch10 Acra.Lemmas.Bits Acra

def WF1 (s : State) : Prop := s.version = 1 ∧ s.type < 16 ∧ s.type ≠ 1 ∧ s.sequence < 2 ^ 24
def WF1seg (s : State) : Prop :=
  s.version = 1 ∧ s.type = 1 ∧ s.sequence < 2 ^ 24 ∧ s.channelID < 2 ^ 16 ∧ s.channelsequence < 2 ^ 8 ∧
  s.segmentoffset < 2 ^ 32
def WF2 (s : State) : Prop :=
  s.version = 2 ∧ s.type < 16 ∧ s.sequence < 2 ^ 24 ∧ s.segmentoffset < 2 ^ 24 ∧ s.channelID < 2 ^ 16 ∧
  s.payload.length / 4 < 2 ^ 24
def WF3 (s : State) (o : Nat) : Prop :=
  s.version = 3 ∧ s.sourceid_len ≤ 4 ∧ s.sourceid < 2 ^ (4 * s.sourceid_len) ∧
  s.sequence < 2 ^ (32 - 4 * s.sourceid_len) ∧ s.offset_pkt_start = some o ∧ o < 2 ^ 16

/-- the four header bytes `pack` emits first; `struct.error` for a format-3 object whose offset is `None` -/
def hdrR (s : State) : R Bytes :=
  if s.version = 3 then
    match s.offset_pkt_start with
    | none => .error .struct
    | some o => structPack CH10_UDP_HEADER_FORMAT1 [(s.sourceid_len <<< 4) + 3, 0, o]
  else if s.version = 2 then
    structPack CH10_UDP_HEADER_FORMAT2 [s.sequence >>> 8, s.sequence &&& 0xFF, (s.type <<< 4) + 2]
  else structPack CH10_UDP_HEADER_FORMAT1 [(s.type <<< 4) + s.version, s.sequence &&& 0xFF, s.sequence >>> 8]

/-- the bytes between those four and the payload, per format -/
def extR (s : State) : R Bytes :=
  if s.type = TYPE_SEG ∧ s.version = 1 then
    structPack CH10_UDP_SEG_HEADER_FORMAT1 [s.channelID, s.channelsequence, 0, s.segmentoffset]
  else if s.version = 2 then
    structPack UDP_pack_fmt0 [s.segmentoffset >>> 16, (s.payload.length / 4) >>> 16,
      (s.payload.length / 4) &&& 0xFFFF, s.segmentoffset &&& 0xFFFF, s.channelID]
  else if s.version = 3 then
    match srcField s with
    | none => .error .generic
    | some f => structPack UDP_pack_fmt1 [f]
  else .ok []

/-- format 2 overwrites `packetsize` once the header is packed, whether or not the extension then packs -/
theorem pack_eq (s : State) :
    pack s = (if s.version = 2 ∧ (hdrR s).isOk then { s with packetsize := some (s.payload.length / 4) } else s,
      hdrR s >>= fun hdr => extR s >>= fun ext => pure (hdr ++ ext ++ s.payload)) := by
  by_cases h3 : s.version = 3
  · simp only [pack, hdrR, extR, h3, Nat.reduceEqDiff, and_false, false_and, if_true, if_false]
    cases s.offset_pkt_start with
    | none => rfl
    | some o =>
      simp only
      cases structPack CH10_UDP_HEADER_FORMAT1 [(s.sourceid_len <<< 4) + 3, 0, o] with
      | error e => rfl
      | ok hdr =>
        cases srcField s with
        | none => rfl
        | some f => simp only; cases structPack UDP_pack_fmt1 [f] <;> rfl
  · by_cases h2 : s.version = 2
    · simp only [pack, hdrR, extR, h2, Nat.reduceEqDiff, and_false, true_and, if_true, if_false]
      cases structPack CH10_UDP_HEADER_FORMAT2 [s.sequence >>> 8, s.sequence &&& 0xFF, (s.type <<< 4) + 2] with
      | error e => rfl
      | ok hdr =>
        cases structPack UDP_pack_fmt0 [s.segmentoffset >>> 16, (s.payload.length / 4) >>> 16,
          (s.payload.length / 4) &&& 0xFFFF, s.segmentoffset &&& 0xFFFF, s.channelID] <;> rfl
    · simp only [pack, hdrR, extR, h3, h2, if_false, false_and]
      cases structPack CH10_UDP_HEADER_FORMAT1 [(s.type <<< 4) + s.version, s.sequence &&& 0xFF, s.sequence >>> 8] with
      | error e => rfl
      | ok hdr =>
        by_cases h1 : s.type = TYPE_SEG ∧ s.version = 1
        · simp only [h1, and_self, if_true]
          cases structPack CH10_UDP_SEG_HEADER_FORMAT1 [s.channelID, s.channelsequence, 0, s.segmentoffset] <;> rfl
        · simp only [h1, if_false]
          exact congrArg (fun b => (s, Except.ok b)) (by simp)

/-- source id and sequence number share one 32-bit word -/
theorem srcWord_lt (l sid seq : Nat) (hl : l ≤ 4) (hsid : sid < 2 ^ (4 * l)) (hseq : seq < 2 ^ (32 - 4 * l)) :
    sid * 2 ^ (32 - 4 * l) + seq < 2 ^ 32 := by
  have h : 2 ^ 32 = 2 ^ (4 * l) * 2 ^ (32 - 4 * l) := by rw [← Nat.pow_add]; congr 1; omega
  calc sid * 2 ^ (32 - 4 * l) + seq < (sid + 1) * 2 ^ (32 - 4 * l) := by rw [Nat.add_mul, Nat.one_mul]; omega
    _ ≤ 2 ^ 32 := h ▸ Nat.mul_le_mul_right _ hsid

theorem srcField_wf (s : State) (hl : s.sourceid_len ≤ 4) (hsid : s.sourceid < 2 ^ (4 * s.sourceid_len))
    (hseq : s.sequence < 2 ^ (32 - 4 * s.sourceid_len)) :
    srcField s = some (s.sourceid * 2 ^ (32 - 4 * s.sourceid_len) + s.sequence) := by
  obtain h | h | h | h | h : s.sourceid_len = 0 ∨ s.sourceid_len = 1 ∨ s.sourceid_len = 2 ∨ s.sourceid_len = 3 ∨
    s.sourceid_len = 4 := by omega
  · -- no source id: the hypothesis says `sourceid = 0`
    simp only [srcField, h, if_true, Option.some.injEq, Nat.reduceMul, Nat.reducePow] at hsid ⊢
    omega
  all_goals
    -- the mask keeps a sequence number that fits; the shift is the multiplication
    simp only [srcField, h, bits, Nat.reduceEqDiff, Nat.reduceMul, Nat.reduceSub, Nat.reducePow, if_true, if_false] at hseq ⊢
    rw [Nat.mod_eq_of_lt hseq, Nat.add_comm]

theorem hdrR_v1 (s : State) (hv : s.version = 1) (ht : s.type < 16) (hs : s.sequence < 2 ^ 24) :
    hdrR s = .ok (leBytes 1 (1 + 16 * s.type) ++ leBytes 3 s.sequence) := by
  have hf : Fits CH10_UDP_HEADER_FORMAT1.codes [s.type * 16 + 1, s.sequence % 256, s.sequence / 256] := by
    simp only [CH10_UDP_HEADER_FORMAT1, Fits, Code.bound, and_true]; omega
  simp only [hdrR, hv, Nat.reduceEqDiff, if_false, bits, Nat.reducePow]
  rw [structPack_eq _ _ hf, Nat.add_comm 1, Nat.mul_comm 16, leBytes_add 2 1, ← leBytes_mod 1 s.sequence]
  rfl

theorem pack_fmt1 (s : State) (h : WF1 s) :
    pack s = (s, .ok (Spec.Ch10UDP.fmt1 s.type s.sequence s.payload)) := by
  obtain ⟨hv, ht, ht1, hs⟩ := h
  have he : extR s = .ok [] := by
    simp only [extR, hv, TYPE_SEG, ht1, Nat.reduceEqDiff, false_and, if_false]
  rw [pack_eq, hdrR_v1 s hv ht hs, he, if_neg (by omega)]
  simp only [Spec.Ch10UDP.fmt1]
  rfl

theorem pack_fmt1seg (s : State) (h : WF1seg s) :
    pack s = (s, .ok (Spec.Ch10UDP.fmt1seg s.sequence s.channelID s.channelsequence s.segmentoffset s.payload)) := by
  obtain ⟨hv, ht, hs, hc, hcs, hso⟩ := h
  have hf : Fits CH10_UDP_SEG_HEADER_FORMAT1.codes [s.channelID, s.channelsequence, 0, s.segmentoffset] := by
    simp only [CH10_UDP_SEG_HEADER_FORMAT1, Fits, Code.bound, and_true]; omega
  have he : extR s = .ok (leBytes 2 s.channelID ++ leBytes 1 s.channelsequence ++ [0] ++ leBytes 4 s.segmentoffset) := by
    simp only [extR, hv, ht, TYPE_SEG, and_self, if_true]
    rw [structPack_eq _ _ hf]
    simp only [List.append_assoc]
    rfl
  rw [pack_eq, hdrR_v1 s hv (by omega) hs, he, if_neg (by omega), ht]
  simp only [Spec.Ch10UDP.fmt1seg, List.append_assoc]
  rfl

theorem pack_fmt2 (s : State) (h : WF2 s) :
    pack s = ({ s with packetsize := some (s.payload.length / 4) },
      .ok (Spec.Ch10UDP.fmt2 s.type s.sequence s.segmentoffset s.channelID s.payload)) := by
  obtain ⟨hv, ht, hs, hso, hc, hp⟩ := h
  have hf : Fits CH10_UDP_HEADER_FORMAT2.codes [s.sequence / 256, s.sequence % 256, s.type * 16 + 2] := by
    simp only [CH10_UDP_HEADER_FORMAT2, Fits, Code.bound, and_true]; omega
  have hf2 : Fits UDP_pack_fmt0.codes [s.segmentoffset / 65536, s.payload.length / 4 / 65536,
      s.payload.length / 4 % 65536, s.segmentoffset % 65536, s.channelID] := by
    simp only [UDP_pack_fmt0, Fits, Code.bound, and_true]; omega
  have hh : hdrR s = .ok (beBytes 3 s.sequence ++ beBytes 1 (16 * s.type + 2)) := by
    simp only [hdrR, hv, Nat.reduceEqDiff, if_true, if_false, bits, Nat.reducePow]
    rw [structPack_eq _ _ hf, Nat.mul_comm 16, beBytes_add 2 1]
    rfl
  have he : extR s = .ok (beBytes 1 (s.segmentoffset / 65536) ++ beBytes 3 (s.payload.length / 4) ++
      beBytes 2 (s.segmentoffset % 65536) ++ beBytes 2 s.channelID) := by
    simp only [extR, hv, Nat.reduceEqDiff, and_false, if_true, if_false, bits, Nat.reducePow]
    rw [structPack_eq _ _ hf2, beBytes_add 1 2]
    simp only [List.append_assoc]
    rfl
  rw [pack_eq, hh, he, if_pos ⟨hv, rfl⟩]
  simp only [Spec.Ch10UDP.fmt2, List.append_assoc]
  rfl

theorem pack_fmt3 (s : State) (o : Nat) (h : WF3 s o) :
    pack s = (s, .ok (Spec.Ch10UDP.fmt3 s.sourceid_len s.sourceid s.sequence o s.payload)) := by
  obtain ⟨hv, hl, hsid, hseq, ho, ho2⟩ := h
  have hw := srcWord_lt _ _ _ hl hsid hseq
  have hf : Fits CH10_UDP_HEADER_FORMAT1.codes [s.sourceid_len * 16 + 3, 0, o] := by
    simp only [CH10_UDP_HEADER_FORMAT1, Fits, Code.bound, and_true]; omega
  have hh : hdrR s = .ok (leBytes 1 (3 + 16 * s.sourceid_len) ++ [0] ++ leBytes 2 o) := by
    simp only [hdrR, hv, ho, if_true, bits, Nat.reducePow]
    rw [structPack_eq _ _ hf, Nat.add_comm 3, Nat.mul_comm 16]
    rfl
  have he : extR s = .ok (leBytes 4 (s.sourceid * 2 ^ (32 - 4 * s.sourceid_len) + s.sequence)) := by
    simp only [extR, hv, Nat.reduceEqDiff, and_false, if_true, if_false, srcField_wf s hl hsid hseq]
    rw [UDP_pack_fmt1, pack_word, if_pos hw]
    rfl
  rw [pack_eq, hh, he, if_neg (by omega)]
  simp only [Spec.Ch10UDP.fmt3, List.append_assoc]
  rfl

/-- what a fresh-or-used object holds after decoding a format-1 full header -/
def dec1 (type seq : Nat) (payload : Bytes) : State :=
  { version := 1, type := type, channelID := 0, channelsequence := 0, sequence := seq, segmentoffset := 0,
    packetsize := none, sourceid_len := 0, sourceid := 0, offset_pkt_start := none, payload := payload }
/-- … a format-2 header: `packetsize` is recomputed from the payload, as `pack` does -/
def dec2 (type seq segoff chid : Nat) (payload : Bytes) : State :=
  { version := 2, type := type, channelID := chid, channelsequence := 0, sequence := seq, segmentoffset := segoff,
    packetsize := some (payload.length / 4), sourceid_len := 0, sourceid := 0, offset_pkt_start := none,
    payload := payload }
/-- … a format-3 header.  `type := len`: in format 3 the high nibble of byte 0 is the source-id length and `unpack` stores it
    in `type` as well (the quirk listed in the header of Model/Ch10UDP.lean; `udp_fmt3_roundtrip_fields` is about it) -/
def dec3 (len sid seq off : Nat) (payload : Bytes) : State :=
  { version := 3, type := len, channelID := 0, channelsequence := 0, sequence := seq, segmentoffset := 0,
    packetsize := none, sourceid_len := len, sourceid := sid, offset_pkt_start := some off, payload := payload }

/-- the first byte of a buffer: format in the low nibble, type / source-id length in the high nibble -/
def byte0 (buf : Bytes) : Nat := decInt false (buf.take 1)

theorem byte0_eq (buf : Bytes) : byte0 buf = leNat (slice buf 0 1) := by
  rw [byte0, take_eq_slice0]; rfl

theorem byte0_cons (b : UInt8) (rest : Bytes) : byte0 (b :: rest) = b.toNat := by
  simp [byte0, decInt, leNat]

theorem byte0_leBytes (x : Nat) (rest : Bytes) : byte0 (leBytes 1 x ++ rest) = x % 256 :=
  (byte0_cons _ _).trans (toNat_ofNat_mod x)

/-- accepted, or the exception `unpack` raises: a function of the first byte and the length -/
def verdict (buf : Bytes) : R Unit :=
  if buf.length < 4 then .error .struct
  else if byte0 buf % 16 = 1 then (if byte0 buf / 16 = 1 then .error .generic else .ok ())
  else if byte0 buf % 16 = 3 then
    (if buf.length < 8 then .error .struct else if byte0 buf / 16 ≤ 4 then .ok () else .error .generic)
  else if buf.length < 12 then .error .struct else .ok ()

/-- what an accepted buffer leaves in the object, whatever it held before: the layout the decoder assumes,
    chosen by the low nibble of byte 0 (1 and 3: little-endian; anything else is read as the big-endian format 2) -/
def decode (buf : Bytes) : State :=
  if byte0 buf % 16 = 1 then dec1 (byte0 buf / 16) (leNat (slice buf 1 4)) (buf.drop 4)
  else if byte0 buf % 16 = 3 then
    dec3 (byte0 buf / 16)
      (if byte0 buf / 16 = 0 then 0 else leNat (slice buf 4 8) / 2 ^ (32 - 4 * (byte0 buf / 16)))
      (leNat (slice buf 4 8) % 2 ^ (32 - 4 * (byte0 buf / 16))) (leNat (slice buf 2 4)) (buf.drop 8)
  else
    { version := 2, type := beNat (slice buf 3 4) / 16, channelID := beNat (slice buf 10 12), channelsequence := 0,
      sequence := beNat (slice buf 0 3), segmentoffset := beNat (slice buf 8 10) + beNat (slice buf 4 5) * 65536,
      packetsize := some (beNat (slice buf 5 8)), sourceid_len := 0, sourceid := 0, offset_pkt_start := none,
      payload := buf.drop 12 }

theorem srcSplit_eq (len w : Nat) (hw : w < 2 ^ 32) :
    srcSplit len w =
      if len ≤ 4 then some (if len = 0 then 0 else w / 2 ^ (32 - 4 * len), w % 2 ^ (32 - 4 * len)) else none := by
  by_cases h : len ≤ 4
  · obtain rfl | rfl | rfl | rfl | rfl : len = 0 ∨ len = 1 ∨ len = 2 ∨ len = 3 ∨ len = 4 := by omega
    all_goals simp [srcSplit, bits, Nat.mod_eq_of_lt hw]
  · have : ¬ len = 0 ∧ ¬ len = 1 ∧ ¬ len = 2 ∧ ¬ len = 3 ∧ ¬ len = 4 := by omega
    simp only [srcSplit, this, h, if_false]

/-- `Chapter10UDP.unpack` as a parser of the bytes -/
def run (buf : Bytes) : R (State × Unit) := (verdict buf).map fun _ => (decode buf, ())

theorem decodes : Lemmas.Decodes unpack (fun _ => ()) fun _ => run := by
  intro t buf
  show Lemmas.Agree (unpack t buf) (run buf)
  by_cases h4 : buf.length < 4
  · simp only [unpack, run, verdict, structUnpackFrom_short _ _ _ (show buf.length < 0 + CH10_UDP_HEADER_FORMAT1.size from h4),
      if_pos h4]
    rfl
  · have e1 : structUnpackFrom CH10_UDP_HEADER_FORMAT1 buf 0 =
        .ok [byte0 buf, leNat (slice buf 1 2), leNat (slice buf 2 4)] := by
      rw [structUnpackFrom_flds, byte0_eq]; exact (if_pos (Nat.le_of_not_lt h4)).trans rfl
    simp only [unpack, run, verdict, decode, e1, h4, if_false, bits, Nat.reducePow, TYPE_SEG, CH10_UDP_HEADER_LENGTH]
    by_cases h1 : byte0 buf % 16 = 1
    · simp only [h1, if_true, leNat_slice_cat buf 1 2 4 (by omega) (by omega) (by omega)]
      by_cases ht : byte0 buf / 16 = 1
      · simp only [ht, if_true]
        rfl
      · simp only [ht, if_false]
        rfl
    · simp only [h1, if_false]
      by_cases h3 : byte0 buf % 16 = 3
      · simp only [h3, if_true]
        by_cases h8 : buf.length < 8
        · simp only [structUnpackFrom_short _ _ _ (show buf.length < 4 + UDP_unpack_fmt2.size from h8), if_pos h8]
          rfl
        · have e2 : structUnpackFrom UDP_unpack_fmt2 buf 4 = .ok [leNat (slice buf 4 8)] := by
            rw [structUnpackFrom_flds]; exact (if_pos (Nat.le_of_not_lt h8)).trans rfl
          simp only [e2, if_neg h8, srcSplit_eq _ _ (leNat_slice_lt buf 4 8)]
          by_cases hl : byte0 buf / 16 ≤ 4
          · simp only [hl, if_true]
            rfl
          · simp only [hl, if_false]
            rfl
      · have e3 : structUnpackFrom CH10_UDP_HEADER_FORMAT2 buf 0 =
            .ok [beNat (slice buf 0 2), beNat (slice buf 2 3), beNat (slice buf 3 4)] := by
          rw [structUnpackFrom_flds]; exact (if_pos (Nat.le_of_not_lt h4)).trans rfl
        simp only [h3, if_false, e3]
        by_cases h8 : buf.length < 8
        · simp only [structUnpackFrom_short _ _ _ (show buf.length < 5 + UDP_unpack_fmt0.size from h8),
            if_pos (show buf.length < 12 by omega)]
          rfl
        · rw [structUnpackFrom_of_le UDP_unpack_fmt0 buf 5 (Nat.le_of_not_lt h8)]
          by_cases h12 : buf.length < 12
          · simp only [structUnpackFrom_short _ _ _ (show buf.length < 4 + UDP_unpack_fmt1.size from h12), if_pos h12]
            rfl
          · have e4 : structUnpackFrom UDP_unpack_fmt1 buf 4 = .ok [beNat (slice buf 4 5), beNat (slice buf 5 6),
                beNat (slice buf 6 8), beNat (slice buf 8 10), beNat (slice buf 10 12)] := by
              rw [structUnpackFrom_flds]; exact (if_pos (Nat.le_of_not_lt h12)).trans rfl
            simp only [e4, if_neg h12, beNat_slice_cat buf 0 2 3 (by omega) (by omega) (by omega),
              beNat_slice_cat buf 5 6 8 (by omega) (by omega) (by omega)]
            rfl

theorem unpack_snd (t : State) (buf : Bytes) : (unpack t buf).2 = verdict buf := by
  rw [decodes.snd_eq, run]
  cases verdict buf <;> rfl

theorem unpack_ok (t : State) (buf : Bytes) (h : verdict buf = .ok ()) : unpack t buf = (decode buf, .ok ()) :=
  decodes.of_run (by rw [run, h]; rfl)

/-- the buffers `unpack` accepts: at least 4 bytes and, by the low nibble of byte 0, 1 → the high nibble (type) is not 1;
    3 → source-id length ≤ 4 and at least 8 bytes; anything else (format 2) → at least 12 bytes -/
def Accepted (buf : Bytes) : Prop :=
  4 ≤ buf.length ∧
    ((byte0 buf % 16 = 1 ∧ byte0 buf / 16 ≠ 1) ∨
     (byte0 buf % 16 = 3 ∧ byte0 buf / 16 ≤ 4 ∧ 8 ≤ buf.length) ∨
     (byte0 buf % 16 ≠ 1 ∧ byte0 buf % 16 ≠ 3 ∧ 12 ≤ buf.length))

theorem verdict_spec (buf : Bytes) :
    (Accepted buf ∧ verdict buf = .ok ()) ∨
    (¬ Accepted buf ∧ (verdict buf = .error .struct ∨ verdict buf = .error .generic)) := by
  unfold verdict Accepted
  by_cases h4 : buf.length < 4
  · rw [if_pos h4]; exact .inr ⟨by omega, .inl rfl⟩
  rw [if_neg h4]
  by_cases h1 : byte0 buf % 16 = 1
  · rw [if_pos h1]
    by_cases ht : byte0 buf / 16 = 1
    · rw [if_pos ht]; exact .inr ⟨by omega, .inr rfl⟩
    · rw [if_neg ht]; exact .inl ⟨by omega, rfl⟩
  rw [if_neg h1]
  by_cases h3 : byte0 buf % 16 = 3
  · rw [if_pos h3]
    by_cases h8 : buf.length < 8
    · rw [if_pos h8]; exact .inr ⟨by omega, .inl rfl⟩
    · rw [if_neg h8]
      by_cases hl : byte0 buf / 16 ≤ 4
      · rw [if_pos hl]; exact .inl ⟨by omega, rfl⟩
      · rw [if_neg hl]; exact .inr ⟨by omega, .inr rfl⟩
  rw [if_neg h3]
  by_cases h12 : buf.length < 12
  · rw [if_pos h12]; exact .inr ⟨by omega, .inl rfl⟩
  · rw [if_neg h12]; exact .inl ⟨by omega, rfl⟩

theorem verdict_ok_iff (buf : Bytes) : verdict buf = .ok () ↔ Accepted buf := by
  rcases verdict_spec buf with ⟨a, h⟩ | ⟨a, h | h⟩ <;> simp [a, h]

theorem verdict_cases (buf : Bytes) :
    verdict buf = .ok () ∨ verdict buf = .error .struct ∨ verdict buf = .error .generic := by
  rcases verdict_spec buf with ⟨_, h⟩ | ⟨_, h | h⟩ <;> simp [h]

theorem unpack_spec_fmt1 (t : State) (type seq : Nat) (payload : Bytes) (ht : type < 16) (ht1 : type ≠ 1)
    (hs : seq < 2 ^ 24) :
    unpack t (Spec.Ch10UDP.fmt1 type seq payload) = (dec1 type seq payload, .ok ()) := by
  have hb : byte0 (Spec.Ch10UDP.fmt1 type seq payload) = 1 + 16 * type := by
    rw [Spec.Ch10UDP.fmt1, List.append_assoc, byte0_leBytes]; omega
  have h1 : (1 + 16 * type) % 16 = 1 := by omega
  have h2 : ¬ (1 + 16 * type) / 16 = 1 := by omega
  have hl : ¬ (Spec.Ch10UDP.fmt1 type seq payload).length < 4 := by
    simp only [Spec.Ch10UDP.fmt1, List.length_append, leBytes_length]; omega
  rw [unpack_ok t _ (by simp only [verdict, hb, hl, h1, h2, if_true, if_false])]
  simp only [decode, hb, h1, if_true]
  rw [show (1 + 16 * type) / 16 = type by omega]
  simp only [Spec.Ch10UDP.fmt1, List.append_assoc]
  rw [slice_mid _ _ _ 1 4 (by simp) (by simp), leNat_leBytes_of_lt _ _ hs, ← List.append_assoc,
    drop_append_len _ _ 4 (by simp)]

theorem unpack_spec_fmt2 (t : State) (type seq segoff chid : Nat) (payload : Bytes) (ht : type < 16)
    (hs : seq < 2 ^ 24) (hso : segoff < 2 ^ 24) (hc : chid < 2 ^ 16) (hp : payload.length / 4 < 2 ^ 24)
    (hk : seq / 65536 % 16 ≠ 1 ∧ seq / 65536 % 16 ≠ 3) :
    unpack t (Spec.Ch10UDP.fmt2 type seq segoff chid payload) = (dec2 type seq segoff chid payload, .ok ()) := by
  have a0 : seq / 256 ^ 2 % 256 = seq / 65536 := Nat.mod_eq_of_lt (Nat.div_lt_of_lt_mul hs)
  have a1 : (16 * type + 2) % 256 / 16 = type := by omega
  have a2 : chid % 65536 = chid := Nat.mod_eq_of_lt hc
  have a3 : seq % 16777216 = seq := Nat.mod_eq_of_lt hs
  have a4 : segoff % 65536 % 65536 + segoff / 65536 % 256 * 65536 = segoff := by
    rw [Nat.mod_mod, Nat.mod_eq_of_lt (show segoff / 65536 < 256 from Nat.div_lt_of_lt_mul hso), Nat.mod_add_div']
  have a5 : payload.length / 4 % 16777216 = payload.length / 4 := Nat.mod_eq_of_lt hp
  have hb : byte0 (Spec.Ch10UDP.fmt2 type seq segoff chid payload) = seq / 65536 := by
    simp only [Spec.Ch10UDP.fmt2, beBytes_add 1 2 seq, List.append_assoc]
    exact (byte0_leBytes _ _).trans a0
  have hlen : ¬ (Spec.Ch10UDP.fmt2 type seq segoff chid payload).length < 4 ∧
      ¬ (Spec.Ch10UDP.fmt2 type seq segoff chid payload).length < 12 := by
    simp only [Spec.Ch10UDP.fmt2, List.length_append, beBytes_length]; omega
  rw [unpack_ok t _ (by simp only [verdict, hb, hlen, hk, if_false])]
  have e : ∀ i j, slice (Spec.Ch10UDP.fmt2 type seq segoff chid payload) i j =
      slice (beBytes 3 seq ++ (beBytes 1 (16 * type + 2) ++ (beBytes 1 (segoff / 65536) ++ (beBytes 3 (payload.length / 4) ++
        (beBytes 2 (segoff % 65536) ++ (beBytes 2 chid ++ payload)))))) i j := by
    intro i j; simp only [Spec.Ch10UDP.fmt2, List.append_assoc]
  simp only [decode, hb, hk, if_false, e]
  simp only [slice_skip, slice_prefix, beBytes_length, Nat.le_refl, Nat.reduceSub, Nat.reduceLeDiff, beNat_beBytes,
    Nat.reducePow, dec2, show List.drop 12 (Spec.Ch10UDP.fmt2 type seq segoff chid payload) = payload from
      drop_append_len _ _ 12 (by simp)]
  rw [a1, a2, a3, a4, a5]

theorem unpack_spec_fmt3 (t : State) (l sid seq o : Nat) (payload : Bytes) (hl : l ≤ 4) (hsid : sid < 2 ^ (4 * l))
    (hseq : seq < 2 ^ (32 - 4 * l)) (ho : o < 2 ^ 16) :
    unpack t (Spec.Ch10UDP.fmt3 l sid seq o payload) = (dec3 l sid seq o payload, .ok ()) := by
  have hb : byte0 (Spec.Ch10UDP.fmt3 l sid seq o payload) = 3 + 16 * l := by
    simp only [Spec.Ch10UDP.fmt3, List.append_assoc, byte0_leBytes]; omega
  have h1 : ¬ (3 + 16 * l) % 16 = 1 := by omega
  have h3 : (3 + 16 * l) % 16 = 3 := by omega
  have h2 : (3 + 16 * l) / 16 = l := by omega
  have hlen : ¬ (Spec.Ch10UDP.fmt3 l sid seq o payload).length < 4 ∧ ¬ (Spec.Ch10UDP.fmt3 l sid seq o payload).length < 8 := by
    simp only [Spec.Ch10UDP.fmt3, List.length_append, leBytes_length, List.length_cons, List.length_nil]; omega
  rw [unpack_ok t _ (by simp only [verdict, hb, hlen, h3, h2, hl, Nat.reduceEqDiff, if_true, if_false])]
  have hw := srcWord_lt l sid seq hl hsid hseq
  have e48 : leNat (slice (Spec.Ch10UDP.fmt3 l sid seq o payload) 4 8) = sid * 2 ^ (32 - 4 * l) + seq := by
    simp only [Spec.Ch10UDP.fmt3, List.append_assoc]
    rw [← List.append_assoc, ← List.append_assoc, slice_mid _ _ _ 4 8 (by simp) (by simp), leNat_leBytes_of_lt _ _ hw]
  have e24 : leNat (slice (Spec.Ch10UDP.fmt3 l sid seq o payload) 2 4) = o := by
    simp only [Spec.Ch10UDP.fmt3, List.append_assoc]
    rw [← List.append_assoc, slice_mid _ _ _ 2 4 (by simp) (by simp), leNat_leBytes_of_lt _ _ ho]
  have ed : List.drop 8 (Spec.Ch10UDP.fmt3 l sid seq o payload) = payload := by
    rw [Spec.Ch10UDP.fmt3, drop_append_len _ _ 8 (by simp)]
  obtain ⟨ehi, elo⟩ := field_low _ _ sid seq hseq rfl
  simp only [decode, hb, h3, h2, Nat.reduceEqDiff, if_true, if_false, e48, e24, ed, ehi, elo]
  by_cases h0 : l = 0
  · subst h0; rw [if_pos rfl, show sid = 0 by simpa using hsid]
  · rw [if_neg h0]

end Acra.Lemmas.Ch10UDP
