/-
  Calendar: `civilFromDays` and `daysFromCivil` of the time-format-1 model invert each other on every day
  number, the dates are valid, and 1 January of the date's year is the last 1 January not after the day.

  Both algorithms count in years that begin on 1 March (so that the leap day comes last).  `marchDay y`
  is the day number of 1 March of year `y`; `daysFromCivil` adds a day of the year to it, and all that
  `civilFromDays` has to do is find the `y` with `marchDay y ≤ z < marchDay (y + 1)`.  It does so with
  the quotient `yoeNum doe / 365` within a 400-year era; `le_yoeNum_iff` says why that is the right year.
-/
import Acra.Model.Ch11TimeFmt
namespace Acra.Lemmas.Ch11Calendar
open Acra.Model.Ch11Pay.TimeFmt

theorem isLeap_iff (y : Nat) : isLeap y = true ↔ y % 4 = 0 ∧ (y % 100 ≠ 0 ∨ y % 400 = 0) := by
  simp [isLeap]

/-- day number of 1 March of year `y` (0000-03-01 is day 0) -/
def marchDay (y : Nat) : Nat := 365 * y + y / 4 - y / 100 + y / 400

/-- The Gregorian rule on the three quotients of `marchDay`: each goes up by one at its multiples, and a
    multiple of 400 is one of 100, a multiple of 100 one of 4. -/
theorem leap_arith (n a b c : Nat) (p4 p100 p400 : Prop) [Decidable p4] [Decidable p100] [Decidable p400]
    (hle : b ≤ a) (h1 : p400 → p100) (h2 : p100 → p4) :
    n + (a + if p4 then 1 else 0) - (b + if p100 then 1 else 0) + (c + if p400 then 1 else 0) =
      n + a - b + c + if p4 ∧ (¬ p100 ∨ p400) then 1 else 0 := by
  by_cases h400 : p400
  · have h100 := h1 h400
    have h4 := h2 h100
    simp only [h4, h100, h400, if_true, or_true, and_true]
    omega
  · by_cases h100 : p100
    · have h4 := h2 h100
      simp only [h4, h100, h400, if_true, if_false, not_true, or_false, and_false]
      omega
    · by_cases h4 : p4 <;> simp only [h4, h100, h400, if_true, if_false, not_false_iff, true_or, and_true] <;> omega

/-- the year from 1 March `y` has 366 days exactly if it ends in a leap February -/
theorem marchDay_succ (y : Nat) : marchDay (y + 1) = marchDay y + 365 + (if isLeap (y + 1) then 1 else 0) := by
  have hle : y / 100 ≤ y / 4 := by omega
  have h1 : (y + 1) % 400 = 0 → (y + 1) % 100 = 0 := by omega
  have h2 : (y + 1) % 100 = 0 → (y + 1) % 4 = 0 := by omega
  have := leap_arith (365 * (y + 1)) (y / 4) (y / 100) (y / 400) _ _ _ hle h1 h2
  unfold marchDay
  simp only [Nat.succ_div, Nat.dvd_iff_mod_eq_zero, isLeap_iff, ne_eq]
  -- with the quotients as atoms what is left is linear
  generalize y / 4 = a at *
  generalize y / 100 = b at *
  generalize y / 400 = c at *
  omega

theorem marchDay_mono {a b : Nat} (h : a ≤ b) : marchDay a ≤ marchDay b := by
  obtain ⟨k, rfl⟩ := Nat.exists_eq_add_of_le h
  induction k with
  | zero => exact Nat.le_refl _
  | succ k ih => rw [← Nat.add_assoc, marchDay_succ]; have := ih (by omega); omega

theorem marchDay_add_era (y E : Nat) : marchDay (y + 400 * E) = marchDay y + 146097 * E := by
  unfold marchDay
  omega

theorem daysFromCivil_eq (y m d : Nat) :
    daysFromCivil y m d =
      marchDay (if m ≤ 2 then y - 1 else y) + ((153 * (if 2 < m then m - 3 else m + 9) + 2) / 5 + d - 1) := by
  unfold daysFromCivil
  simp only []
  generalize (if m ≤ 2 then y - 1 else y) = y'
  have h := marchDay_add_era (y' % 400) (y' / 400)
  rw [Nat.mod_add_div] at h
  have h0 : y' % 400 / 400 = 0 := by omega
  rw [h, marchDay, h0]
  omega

theorem jan1_eq (y : Nat) : daysFromCivil y 1 1 = marchDay (y - 1) + 306 := by
  rw [daysFromCivil_eq]
  rfl

theorem jan1_succ (y : Nat) (h : 1 ≤ y) :
    daysFromCivil (y + 1) 1 1 = daysFromCivil y 1 1 + 365 + (if isLeap y then 1 else 0) := by
  have := marchDay_succ (y - 1)
  rw [Nat.sub_add_cancel h] at this
  rw [jan1_eq, jan1_eq, Nat.add_sub_cancel, this]
  omega

theorem jan1_mono {a b : Nat} (h : a ≤ b) : daysFromCivil a 1 1 ≤ daysFromCivil b 1 1 := by
  rw [jan1_eq, jan1_eq]
  exact Nat.add_le_add_right (marchDay_mono (Nat.sub_le_sub_right h 1)) 306

/-! ### the year of a day within an era

  `yoeNum doe` is the numerator of `civilFromDays`' year-of-era estimate.  It does not decrease with `doe`
  and takes the value `365 * y` first at `doe = marchDay y`; hence dividing by 365 finds the year. -/

def yoeNum (doe : Nat) : Nat := doe - doe / 1460 + doe / 36524 - doe / 146096

theorem yoeNum_mono {a b : Nat} (h : a ≤ b) : yoeNum a ≤ yoeNum b := by
  unfold yoeNum
  -- with `q = doe / 36524` the last two terms are `q - q / 4`
  rw [show 146096 = 36524 * 4 from rfl, ← Nat.div_div_eq_div_mul, ← Nat.div_div_eq_div_mul]
  have hq : a / 36524 ≤ b / 36524 := Nat.div_le_div_right h
  generalize a / 36524 = p at *
  generalize b / 36524 = q at *
  omega

/- `omega` needs the three quotients one at a time: 1460 days are four years less a day, 36524 days a century. -/
theorem yoeNum_marchDay (y : Nat) (h : y < 400) : yoeNum (marchDay y) = 365 * y := by
  unfold yoeNum marchDay
  have q0 : y / 400 = 0 := by omega
  have q1 : (365 * y + y / 4 - y / 100) / 146096 = 0 := by omega
  have q2 : (365 * y + y / 4 - y / 100) / 36524 = y / 100 := by omega
  have q3 : (365 * y + y / 4 - y / 100) / 1460 = y / 4 := by omega
  rw [q0, Nat.add_zero, q1, q2, q3]
  omega

theorem yoeNum_lt (y doe : Nat) (hy : y < 400) (h : doe < marchDay y) : yoeNum doe < 365 * y := by
  apply Nat.lt_of_le_of_lt (yoeNum_mono (show doe ≤ marchDay y - 1 by omega))
  unfold yoeNum marchDay at *
  have q0 : y / 400 = 0 := by omega
  have q1 : (365 * y + y / 4 - y / 100 - 1) / 146096 = 0 := by omega
  have q2 : (365 * y + y / 4 - y / 100 - 1) / 36524 ≤ y / 100 := by omega
  have q3 : (365 * y + y / 4 - y / 100 - 1) / 1460 = y / 4 := by omega
  rw [q0, Nat.add_zero, q1, q3]
  omega

/-- the last day of an era is 29 February of year-of-era 399; there the estimate is still 399 -/
theorem yoeNum_le (doe : Nat) (hd : doe < 146097) : yoeNum doe ≤ 145999 :=
  yoeNum_mono (show doe ≤ 146096 by omega)

theorem le_yoeNum_iff (y doe : Nat) (hy : y ≤ 400) (hd : doe < 146097) : 365 * y ≤ yoeNum doe ↔ marchDay y ≤ doe := by
  rcases Nat.lt_or_eq_of_le hy with hy | rfl
  · constructor
    · intro h1
      exact Nat.le_of_not_lt fun h2 => Nat.not_lt.2 h1 (yoeNum_lt y doe hy h2)
    · intro h1
      rw [← yoeNum_marchDay y hy]
      exact yoeNum_mono h1
  · have := yoeNum_le doe hd
    rw [show marchDay 400 = 146097 from rfl]
    omega

theorem yearOfEra_spec (doe : Nat) (hd : doe < 146097) :
    marchDay (yoeNum doe / 365) ≤ doe ∧ doe < marchDay (yoeNum doe / 365 + 1) := by
  have hmax := yoeNum_le doe hd
  refine ⟨(le_yoeNum_iff _ doe (by omega) hd).1 (by omega), ?_⟩
  apply Nat.lt_of_not_le
  intro h
  have := (le_yoeNum_iff _ doe (by omega) hd).2 h
  omega

/-- the date of day `doy` (counted from 1 March) of the year that begins on 1 March `y` -/
def dateOf (y doy : Nat) : Nat × Nat × Nat :=
  let mp := (5 * doy + 2) / 153
  let m := if mp < 10 then mp + 3 else mp - 9
  (y + (if m ≤ 2 then 1 else 0), m, doy - (153 * mp + 2) / 5 + 1)

theorem civilFromDays_eq (z : Nat) :
    ∃ y, marchDay y ≤ z ∧ z < marchDay (y + 1) ∧ civilFromDays z = dateOf y (z - marchDay y) := by
  have hd : z % 146097 < 146097 := Nat.mod_lt _ (by omega)
  obtain ⟨hlo, hhi⟩ := yearOfEra_spec (z % 146097) hd
  have hY : yoeNum (z % 146097) / 365 < 400 := by have := yoeNum_le (z % 146097) hd; omega
  have hc : civilFromDays z = dateOf (yoeNum (z % 146097) / 365 + 400 * (z / 146097))
      (z % 146097 - (365 * (yoeNum (z % 146097) / 365) + yoeNum (z % 146097) / 365 / 4 - yoeNum (z % 146097) / 365 / 100)) := rfl
  have hz := Nat.mod_add_div z 146097
  generalize yoeNum (z % 146097) / 365 = Y at *
  have hm : marchDay Y = 365 * Y + Y / 4 - Y / 100 := by unfold marchDay; omega
  refine ⟨Y + 400 * (z / 146097), ?_, ?_, ?_⟩
  · rw [marchDay_add_era]; omega
  · rw [Nat.add_right_comm, marchDay_add_era]; omega
  · rw [hc, ← hm, marchDay_add_era]
    congr 1
    omega

theorem dateOf_mar_dec (y doy : Nat) (h : doy < 306) :
    dateOf y doy = (y, (5 * doy + 2) / 153 + 3, doy - (153 * ((5 * doy + 2) / 153) + 2) / 5 + 1) := by
  have h1 : (5 * doy + 2) / 153 < 10 := by omega
  simp only [dateOf, h1, if_true, show ¬ ((5 * doy + 2) / 153 + 3 ≤ 2) by omega, if_false, Nat.add_zero]

theorem dateOf_jan_feb (y doy : Nat) (h : 306 ≤ doy) (h' : doy ≤ 365) :
    dateOf y doy = (y + 1, (5 * doy + 2) / 153 - 9, doy - (153 * ((5 * doy + 2) / 153) + 2) / 5 + 1) := by
  have h1 : ¬ (5 * doy + 2) / 153 < 10 := by omega
  simp only [dateOf, h1, if_false, show (5 * doy + 2) / 153 - 9 ≤ 2 by omega, if_true]

theorem daysFromCivil_dateOf (y doy : Nat) (h : doy ≤ 365) :
    daysFromCivil (dateOf y doy).1 (dateOf y doy).2.1 (dateOf y doy).2.2 = marchDay y + doy := by
  rw [daysFromCivil_eq]
  rcases Nat.lt_or_ge doy 306 with h1 | h1
  · rw [dateOf_mar_dec y doy h1]
    simp only [show ¬ ((5 * doy + 2) / 153 + 3 ≤ 2) by omega, show 2 < (5 * doy + 2) / 153 + 3 by omega, if_true, if_false]
    omega
  · rw [dateOf_jan_feb y doy h1 h]
    simp only [show (5 * doy + 2) / 153 - 9 ≤ 2 by omega, show ¬ 2 < (5 * doy + 2) / 153 - 9 by omega, if_true, if_false,
      Nat.add_sub_cancel]
    omega

theorem dateOf_valid (y doy : Nat) (h : doy < 365 + (if isLeap (y + 1) then 1 else 0)) :
    1 ≤ (dateOf y doy).2.1 ∧ (dateOf y doy).2.1 ≤ 12 ∧ 1 ≤ (dateOf y doy).2.2 ∧
    (dateOf y doy).2.2 ≤ daysInMonth (dateOf y doy).1 (dateOf y doy).2.1 := by
  have h' : doy ≤ 365 := by split at h <;> omega
  unfold daysInMonth
  rcases Nat.lt_or_ge doy 306 with h1 | h1
  · rw [dateOf_mar_dec y doy h1]
    simp only [show ¬ ((5 * doy + 2) / 153 + 3 = 2) by omega, if_false]
    split <;> omega
  · rw [dateOf_jan_feb y doy h1 h']
    simp only []
    by_cases h2 : (5 * doy + 2) / 153 - 9 = 2
    · cases hl : isLeap (y + 1)
      · simp only [h2, hl, Bool.false_eq_true, if_true, if_false] at h ⊢
        omega
      · simp only [h2, hl, if_true] at h ⊢
        omega
    · rw [if_neg h2, if_neg (by omega)]
      omega

/-- `h0`: year 0 has no 1 January here -/
theorem dateOf_jan1 (y doy : Nat) (h : doy < 365 + (if isLeap (y + 1) then 1 else 0)) (h0 : 1 ≤ y ∨ 306 ≤ doy) :
    1 ≤ (dateOf y doy).1 ∧ daysFromCivil (dateOf y doy).1 1 1 ≤ marchDay y + doy ∧
    marchDay y + doy < daysFromCivil ((dateOf y doy).1 + 1) 1 1 := by
  have h' : doy ≤ 365 := by split at h <;> omega
  have hs := marchDay_succ y
  rw [jan1_eq, jan1_eq, Nat.add_sub_cancel]
  rcases Nat.lt_or_ge doy 306 with h1 | h1
  · rw [dateOf_mar_dec y doy h1]
    have hy : 1 ≤ y := by omega
    have := marchDay_succ (y - 1)
    rw [Nat.sub_add_cancel hy] at this
    simp only []
    omega
  · rw [dateOf_jan_feb y doy h1 h']
    simp only [Nat.add_sub_cancel]
    omega

theorem civilFromDays_inv (z : Nat) :
    daysFromCivil (civilFromDays z).1 (civilFromDays z).2.1 (civilFromDays z).2.2 = z := by
  obtain ⟨y, h1, h2, hc⟩ := civilFromDays_eq z
  have := marchDay_succ y
  rw [hc, daysFromCivil_dateOf y _ (by split at this <;> omega)]
  omega

theorem civilFromDays_valid (z : Nat) :
    1 ≤ (civilFromDays z).2.1 ∧ (civilFromDays z).2.1 ≤ 12 ∧ 1 ≤ (civilFromDays z).2.2 ∧
    (civilFromDays z).2.2 ≤ daysInMonth (civilFromDays z).1 (civilFromDays z).2.1 := by
  obtain ⟨y, h1, h2, hc⟩ := civilFromDays_eq z
  rw [hc]
  exact dateOf_valid y _ (by rw [marchDay_succ] at h2; omega)

/-- day numbers below 306 lie in year 0, before any 1 January the model can name -/
theorem civilFromDays_jan1 (z : Nat) (h : 306 ≤ z) :
    1 ≤ (civilFromDays z).1 ∧ daysFromCivil (civilFromDays z).1 1 1 ≤ z ∧
    z < daysFromCivil ((civilFromDays z).1 + 1) 1 1 := by
  obtain ⟨y, h1, h2, hc⟩ := civilFromDays_eq z
  have h0 : 1 ≤ y ∨ 306 ≤ z - marchDay y := by
    rcases Nat.eq_zero_or_pos y with rfl | hy
    · right; rw [show marchDay 0 = 0 from rfl]; omega
    · left; exact hy
  have := dateOf_jan1 y (z - marchDay y) (by rw [marchDay_succ] at h2; omega) h0
  rw [Nat.add_sub_cancel' h1] at this
  rw [hc]
  exact this

theorem le_year_iff (z a : Nat) (h : 306 ≤ z) : a ≤ (civilFromDays z).1 ↔ daysFromCivil a 1 1 ≤ z := by
  obtain ⟨_, h1, h2⟩ := civilFromDays_jan1 z h
  constructor
  · intro ha
    exact Nat.le_trans (jan1_mono ha) h1
  · intro ha
    apply Nat.le_of_not_lt
    intro hlt
    have := jan1_mono (show (civilFromDays z).1 + 1 ≤ a from hlt)
    omega

theorem year_eq (z a : Nat) (h1 : daysFromCivil a 1 1 ≤ z) (h2 : z < daysFromCivil (a + 1) 1 1) :
    (civilFromDays z).1 = a := by
  have h306 : 306 ≤ z := by rw [jan1_eq] at h1; omega
  have := (le_year_iff z a h306).2 h1
  have := (le_year_iff z (a + 1) h306).1
  omega

/-- the number of days from 1970-01-01 to 2099-12-31 inclusive.  No lemma of this file is restricted by the bound
    (`jan1_2100`, `year_le_2099` only locate it); the time-format-1 statements stop at 2099 because the four BCD year digits are checked for 1970 … 2099 only
    (`Lemmas.Ch11TimeFmt.bcdToInt_year`). -/
def DAYS : Nat := 47482

theorem jan1_1970 : daysFromCivil 1970 1 1 = EPOCH := by decide

theorem jan1_2100 : daysFromCivil 2100 1 1 = EPOCH + DAYS := by decide

theorem year_ge_1970 (z : Nat) (h : EPOCH ≤ z) : 1970 ≤ (civilFromDays z).1 :=
  (le_year_iff z 1970 (Nat.le_trans (by decide) h)).2 (by rw [jan1_1970]; exact h)

theorem jan1_near (z : Nat) (h : EPOCH ≤ z) :
    EPOCH ≤ daysFromCivil (civilFromDays z).1 1 1 ∧ daysFromCivil (civilFromDays z).1 1 1 ≤ z ∧
    z < daysFromCivil (civilFromDays z).1 1 1 + 366 := by
  obtain ⟨hy, hj1, hj2⟩ := civilFromDays_jan1 z (Nat.le_trans (by decide) h)
  have hj0 := jan1_mono (year_ge_1970 z h)
  rw [jan1_1970] at hj0
  rw [jan1_succ _ hy] at hj2
  exact ⟨hj0, hj1, by split at hj2 <;> omega⟩

theorem year_le_2099 (z : Nat) (h1 : EPOCH ≤ z) (h2 : z < EPOCH + DAYS) : (civilFromDays z).1 ≤ 2099 := by
  apply Nat.le_of_lt_succ
  apply Nat.lt_of_not_le
  intro h
  have := (le_year_iff z 2100 (Nat.le_trans (by decide) h1)).1 h
  rw [jan1_2100] at this
  omega

/-- 2099-12-31 is day `DAYS - 1` from 1970-01-01; 2100-01-01 is day `DAYS` -/
example : civilFromDays (47481 + EPOCH) = (2099, 12, 31) ∧ civilFromDays (47482 + EPOCH) = (2100, 1, 1) := by decide

end Acra.Lemmas.Ch11Calendar

/-! ### the Gregorian day count

  The inversion above is the consistency of two algorithms of the model.  What follows ties the model's
  dates to the calendar itself: the day number of a date from 1970 on is 365 days per year passed since
  1970, one more per leap year passed, the lengths of the months passed, and the day of the month. -/

-- the two counting functions of the textbook day count; the C04 statements name them under this namespace
namespace Acra.Lemmas.ReviewC04Calendar
open Acra.Model.Ch11Pay.TimeFmt

/-- number of leap years among 1970, …, 1970+k−1 (counted one by one with the Gregorian rule) -/
def leapsBefore : Nat → Nat
  | 0 => 0
  | k + 1 => leapsBefore k + (if isLeap (1970 + k) then 1 else 0)

/-- days of a year that lie before the first of month `m` (1…12); `lp`: the year is a leap year -/
def cumDays (lp : Bool) (m : Nat) : Nat :=
  [0, 31, 59, 90, 120, 151, 181, 212, 243, 273, 304, 334].getD (m - 1) 0 + (if lp && decide (2 < m) then 1 else 0)

end Acra.Lemmas.ReviewC04Calendar

namespace Acra.Lemmas.Ch11Calendar
open Acra.Model.Ch11Pay.TimeFmt Acra.Lemmas.ReviewC04Calendar

theorem daysFromCivil_day (y m d : Nat) (hd : 1 ≤ d) : daysFromCivil y m d = daysFromCivil y m 1 + (d - 1) := by
  unfold daysFromCivil
  simp only []
  omega

/-- the month table against the model's `(153 * mp + 2) / 5`, months counted from March: January and
    February come 306 days after 1 March of the year before, the others a year less 306 days after 1 January -/
theorem cumDays_march : ∀ lp : Bool, ∀ m, m < 13 → 1 ≤ m →
    cumDays lp m + 306 =
      (153 * (if 2 < m then m - 3 else m + 9) + 2) / 5 + (if 2 < m then 365 + (if lp then 1 else 0) else 0) := by
  decide

theorem monthOffset (y m : Nat) (hy : 1 ≤ y) (hm1 : 1 ≤ m) (hm2 : m ≤ 12) :
    daysFromCivil y m 1 = daysFromCivil y 1 1 + cumDays (isLeap y) m := by
  have hc := cumDays_march (isLeap y) m (by omega) hm1
  have hs := marchDay_succ (y - 1)
  rw [Nat.sub_add_cancel hy] at hs
  rw [daysFromCivil_eq, jan1_eq]
  by_cases h : 2 < m
  · simp only [h, if_true, show ¬ m ≤ 2 by omega, if_false] at hc ⊢
    omega
  · simp only [h, if_false, show m ≤ 2 by omega, if_true] at hc ⊢
    omega

theorem jan1_count (k : Nat) : daysFromCivil (1970 + k) 1 1 = EPOCH + 365 * k + leapsBefore k := by
  induction k with
  | zero => exact jan1_1970
  | succ k ih =>
    rw [← Nat.add_assoc, jan1_succ _ (by omega), ih, leapsBefore]
    omega

theorem monthStart (y m : Nat) (hy : 1970 ≤ y) (hm1 : 1 ≤ m) (hm2 : m ≤ 12) :
    daysFromCivil y m 1 = EPOCH + 365 * (y - 1970) + leapsBefore (y - 1970) + cumDays (isLeap y) m := by
  have := jan1_count (y - 1970)
  rw [Nat.add_sub_cancel' hy] at this
  rw [monthOffset y m (by omega) hm1 hm2, this]

theorem daysFromCivil_count (y m d : Nat) (hy : 1970 ≤ y) (hm1 : 1 ≤ m) (hm2 : m ≤ 12) (hd : 1 ≤ d) :
    daysFromCivil y m d =
      EPOCH + 365 * (y - 1970) + leapsBefore (y - 1970) + cumDays (isLeap y) m + (d - 1) := by
  rw [daysFromCivil_day y m d hd, monthStart y m hy hm1 hm2]

/-- Seconds since the start of the year: the days since 1 January (day number `J`; `E` is the epoch's) and the
    time of day of second `n` make up `n` less the seconds before 1 January.  `to_rtc` and the day-of-year
    variant of time format 1 both compute this. -/
theorem doy_seconds (n J E : Nat) (h1 : E ≤ J) (h2 : J ≤ n / 86400 + E) :
    (n / 86400 + E - J) * 86400 + (n % 86400 / 3600 * 3600 + n % 86400 / 60 % 60 * 60 + n % 86400 % 60) =
      n - 86400 * (J - E) ∧ 86400 * (J - E) ≤ n := by omega

end Acra.Lemmas.Ch11Calendar
