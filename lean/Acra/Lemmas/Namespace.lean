/-
  List facts behind the C19 statements (`Props/C19/Namespace.lean`): a check over the names a table of statements
  binds (`flatMap`) needs no evaluation for the statements whose names pass it by construction.
-/
namespace Acra.Lemmas.Namespace

theorem all_map_of_contains {α β : Type} [BEq α] [LawfulBEq α] {l : List α} {f : α → β} {p : β → Bool}
    (h : ∀ n, l.contains n = true → p (f n) = true) : (l.map f).all p = true := by
  rw [List.all_map, List.all_eq_true]
  exact fun n hn => h n (List.contains_iff_mem.2 hn)

/-- `q`: the kind of statement for which the check `p` holds by an argument (`hq`); the others are evaluated (`hr`) -/
theorem all_flatMap_of_or {κ σ β : Type} (q : σ → Bool) {F : σ → List β} {p : κ × List σ → β → Bool}
    {tbl : List (κ × List σ)}
    (hq : ∀ x ∈ tbl, ∀ s ∈ x.2, q s = true → (F s).all (p x) = true)
    (hr : tbl.all (fun x => x.2.all (fun s => q s || (F s).all (p x))) = true) :
    tbl.all (fun x => (x.2.flatMap F).all (p x)) = true := by
  rw [List.all_eq_true] at hr ⊢
  intro x hx
  have hr := List.all_eq_true.1 (hr x hx)
  rw [List.all_flatMap, List.all_eq_true]
  intro s hs
  cases hqs : q s with
  | true => exact hq x hx s hs hqs
  | false => simpa [hqs] using hr s hs

end Acra.Lemmas.Namespace
