/-
  MPEGTS.py (adaptation extension, adaptation field, transport packet, stream): the well-formedness predicates with
  their decision procedures, closed forms of what the models' `pack` functions emit under them (`*_bytes`, `*_packed`)
  and of what the `unpack` functions make of those bytes followed by anything (`*_unpack_bytes`, `Pkt_unpack_frame`),
  and the adaptation-field length byte of EVERY successful `pack`, well formed or not.
-/
import Acra.Model.MPEGTS
import Acra.Lemmas.MpegParse
import Acra.Lemmas.ListAux
import Acra.Lemmas.Bits

namespace Acra.Lemmas.MPEGTS
open Acra.Py Acra.Model.MPEGTS Acra.Gen.MPEGTS Acra.Lemmas.MpegParse Acra.Lemmas

theorem replicate_ff_length (n : Nat) : (List.replicate n (0xFF : UInt8)).length = n := by simp

theorem bit_toNat (b : Bool) (n : Nat) (h : n = b.toNat) : (n == 1) = b := by subst h; cases b <;> rfl

theorem flag_bits (b7 b6 b5 b4 b3 b2 b1 b0 : Bool) :
    let f := b7.toNat * 128 + b6.toNat * 64 + b5.toNat * 32 + b4.toNat * 16 + b3.toNat * 8 + b2.toNat * 4 +
      b1.toNat * 2 + b0.toNat
    (f / 128 % 2 == 1) = b7 ∧ (f / 64 % 2 == 1) = b6 ∧ (f / 32 % 2 == 1) = b5 ∧ (f / 16 % 2 == 1) = b4 ∧
    (f / 8 % 2 == 1) = b3 ∧ (f / 4 % 2 == 1) = b2 ∧ (f / 2 % 2 == 1) = b1 ∧ (f % 2 == 1) = b0 ∧ f < 256 := by
  intro f
  -- the flags are the binary digits of `f`: regrouped once, they come off one by one from the lowest
  have e : f = ((((((b7.toNat * 2 + b6.toNat) * 2 + b5.toNat) * 2 + b4.toNat) * 2 + b3.toNat) * 2 + b2.toNat) * 2 +
      b1.toNat) * 2 + b0.toNat := by omega
  obtain ⟨q0, r0⟩ := Bits.field_low f 2 _ _ b0.toNat_lt e
  obtain ⟨q1, r1⟩ := Bits.field_step f 2 2 _ _ b1.toNat_lt q0
  obtain ⟨q2, r2⟩ := Bits.field_step f 4 2 _ _ b2.toNat_lt q1
  obtain ⟨q3, r3⟩ := Bits.field_step f 8 2 _ _ b3.toNat_lt q2
  obtain ⟨q4, r4⟩ := Bits.field_step f 16 2 _ _ b4.toNat_lt q3
  obtain ⟨q5, r5⟩ := Bits.field_step f 32 2 _ _ b5.toNat_lt q4
  obtain ⟨q6, r6⟩ := Bits.field_step f 64 2 _ _ b6.toNat_lt q5
  exact ⟨bit_toNat _ _ ((congrArg (· % 2) q6).trans (Nat.mod_eq_of_lt b7.toNat_lt)), bit_toNat _ _ r6, bit_toNat _ _ r5,
    bit_toNat _ _ r4, bit_toNat _ _ r3, bit_toNat _ _ r2, bit_toNat _ _ r1, bit_toNat _ _ r0,
    (Nat.div_lt_iff_lt_mul (by decide)).1 (Nat.lt_of_le_of_lt (Nat.le_of_eq q6) b7.toNat_lt)⟩

def Ext_WF (e : Ext) : Prop :=
  (e.ltw.length = 0 ∨ e.ltw.length = 2) ∧ (e.piecewise.length = 0 ∨ e.piecewise.length = 3) ∧
  (e.seamless_splice.length = 0 ∨ e.seamless_splice.length = 5)

instance (e : Ext) : Decidable (Ext_WF e) := by unfold Ext_WF; infer_instance

/-- the object after `pack` (and after decoding its encoding): flags say which parts are present -/
def Ext_packed (e : Ext) : Ext :=
  { e with ltw_flag := e.ltw.length == 2, piecewise_rate_flag := e.piecewise.length == 3,
           seamless_splice_flag := e.seamless_splice.length == 5 }

def Ext_len (e : Ext) : Nat := 2 + e.ltw.length + e.piecewise.length + e.seamless_splice.length

def Ext_flags (e : Ext) : Nat :=
  0x1F + (e.ltw.length == 2).toNat * 128 + (e.piecewise.length == 3).toNat * 64 +
    (e.seamless_splice.length == 5).toNat * 32

/-- the bytes `MPEGAdaptionExtension.pack` emits -/
def Ext_bytes (e : Ext) : Bytes :=
  encInt true 1 (Ext_len e) ++ (encInt true 1 (Ext_flags e) ++ (e.ltw ++ (e.piecewise ++ e.seamless_splice)))

@[simp] theorem Ext_bytes_length (e : Ext) : (Ext_bytes e).length = Ext_len e := by
  simp [Ext_bytes, Ext_len]; omega

theorem Ext_len_le (e : Ext) (h : Ext_WF e) : Ext_len e ≤ 12 := by
  obtain ⟨h1, h2, h3⟩ := h
  unfold Ext_len; omega

theorem Ext_flag_bits (e : Ext) :
    (Ext_flags e / 128 % 2 == 1) = (e.ltw.length == 2) ∧ (Ext_flags e / 64 % 2 == 1) = (e.piecewise.length == 3) ∧
    (Ext_flags e / 32 % 2 == 1) = (e.seamless_splice.length == 5) ∧ Ext_flags e < 256 := by
  unfold Ext_flags
  cases (e.ltw.length == 2) <;> cases (e.piecewise.length == 3) <;> cases (e.seamless_splice.length == 5) <;> decide

theorem Ext_pack_eq (e : Ext) (h : Ext_WF e) : Ext.pack e = (Ext_packed e, .ok (Ext_bytes e)) := by
  have hl := Ext_len_le e h
  have hfl := (Ext_flag_bits e).2.2.2
  obtain ⟨h1, h2, h3⟩ := h
  have c1 : ¬ (e.ltw.length ≠ 2 ∧ e.ltw.length ≠ 0) := by omega
  have c2 : ¬ (e.piecewise.length ≠ 3 ∧ e.piecewise.length ≠ 0) := by omega
  have c3 : ¬ (e.seamless_splice.length ≠ 5 ∧ e.seamless_splice.length ≠ 0) := by omega
  have hf : Fits Ext_pack_fmt0.codes [Ext_len e, Ext_flags e] := by
    simp [Fits, Ext_pack_fmt0, Code.bound]; omega
  simp only [Ext.pack, c1, c2, c3, if_false]
  have : (2 + e.ltw.length + e.piecewise.length + e.seamless_splice.length) = Ext_len e := rfl
  rw [this]
  have : (31 + (e.ltw.length == 2).toNat * 128 + (e.piecewise.length == 3).toNat * 64 +
      (e.seamless_splice.length == 5).toNat * 32) = Ext_flags e := rfl
  rw [this, structPack_eq _ _ hf]
  simp [Ext_packed, Ext_bytes, Ext_pack_fmt0, encCodes, Code.size]

theorem Ext_pack_error (e : Ext) (h : ¬ Ext_WF e) : (Ext.pack e).2 = .error .generic := by
  unfold Ext_WF at h
  unfold Ext.pack
  by_cases c1 : e.ltw.length ≠ 2 ∧ e.ltw.length ≠ 0
  · rw [if_pos c1]
  · by_cases c2 : e.piecewise.length ≠ 3 ∧ e.piecewise.length ≠ 0
    · rw [if_neg c1, if_pos c2]
    · by_cases c3 : e.seamless_splice.length ≠ 5 ∧ e.seamless_splice.length ≠ 0
      · rw [if_neg c1, if_neg c2, if_pos c3]
      · exfalso; apply h; omega

theorem Ext_unpack_bytes (e t : Ext) (rest : Bytes) (h : Ext_WF e) :
    Ext.unpack t (Ext_bytes e ++ rest) = (Ext_packed e, .ok (Ext_len e)) := by
  have hl := Ext_len_le e h
  obtain ⟨hb1, hb2, hb3, hfl⟩ := Ext_flag_bits e
  obtain ⟨h1, h2, h3⟩ := h
  have e0 : (Ext_bytes e ++ rest).drop 0 = encInt true 1 (Ext_len e) ++ (encInt true 1 (Ext_flags e) ++
      (e.ltw ++ (e.piecewise ++ e.seamless_splice) ++ rest)) := by
    simp only [Ext_bytes, List.drop_zero, List.append_assoc]
  have v0 : decInt true (slice (Ext_bytes e ++ rest) 0 1) = Ext_len e := decInt_slice_enc 1 e0 (by omega)
  have v1 : decInt true (slice (Ext_bytes e ++ rest) 1 2) = Ext_flags e := decInt_slice_enc 1 (drop_step e0) hfl
  have htake : List.take (Ext_len e) (Ext_bytes e ++ rest) = Ext_bytes e := take_append_len _ _ _ (by simp)
  refine Ext_decodes.of_run (t := t) ?_
  show extRun (Ext_bytes e ++ rest) = _
  rw [extRun, if_neg (by simp [Ext_len]; omega), v0, if_neg (by simp)]
  simp only [v1, htake, hb1, hb2, hb3]
  -- the three parts, walked from offset 2
  have d0 : (Ext_bytes e).drop 2 = e.ltw ++ (e.piecewise ++ (e.seamless_splice ++ [])) := by
    rw [List.append_nil, Ext_bytes, ← List.append_assoc]; exact drop_append_len _ _ _ (by simp)
  obtain ⟨e1, o1⟩ := opt_slice _ _ _ 2 2 (e.ltw.length == 2) h1 (by rcases h1 with c | c <;> simp [c]) d0
  have d1 := drop_step d0
  obtain ⟨e2, o2⟩ := opt_slice _ _ _ 3 _ (e.piecewise.length == 3) h2 (by rcases h2 with c | c <;> simp [c]) d1
  have d2 := drop_step d1
  obtain ⟨e3, o3⟩ := opt_slice _ _ _ 5 _ (e.seamless_splice.length == 5) h3 (by rcases h3 with c | c <;> simp [c]) d2
  simp only [Nat.reduceAdd] at e1 o1
  rw [o1, e1, o2, e2, o3, e3]
  rfl

def AF_spl (a : AF) : Bytes := if 0 < a.splice_countdown then encInt true 1 a.splice_countdown else []
def AF_tl (a : AF) : Bytes := if 0 < a.private_data.length then encInt true 1 a.private_data.length else []
def AF_extb (a : AF) : Bytes :=
  match a.adaption_extension with
  | none => []
  | some x => Ext_bytes x

/-- number of bytes after the length byte that carry data (flags byte and the optional parts) -/
def AF_dataLen (a : AF) : Nat :=
  a.pcr.length + a.opcr.length + (AF_tl a).length + a.private_data.length + (AF_extb a).length +
    (AF_spl a).length + 1

/-- the emitted adaptation_field_length -/
def AF_lenByte (a : AF) : Nat := if a.length > AF_dataLen a then a.length else AF_dataLen a

def AF_flagsByte (a : AF) : Nat :=
  a.discontinutiy.toNat * 128 + a.random_access.toNat * 64 + a.es_priority.toNat * 32 +
  (decide (0 < a.pcr.length)).toNat * 16 + (decide (0 < a.opcr.length)).toNat * 8 +
  (decide (0 < a.splice_countdown)).toNat * 4 + (decide (0 < a.private_data.length)).toNat * 2 +
  a.adaption_extension.isSome.toNat

/-- every part absent or of its exact size, every value fits its byte, and no flag is set without
    its part (pack never clears a flag) -/
def AF_WF (a : AF) : Prop :=
  (a.pcr.length = 0 ∨ a.pcr.length = 6) ∧ (a.opcr.length = 0 ∨ a.opcr.length = 6) ∧
  a.splice_countdown < 256 ∧ a.private_data.length < 256 ∧
  (∀ x, a.adaption_extension = some x → Ext_WF x) ∧
  (a.pcr_flag = true → 0 < a.pcr.length) ∧ (a.opcr_flag = true → 0 < a.opcr.length) ∧
  (a.splicing_flag = true → 0 < a.splice_countdown) ∧ (a.transpart_flag = true → 0 < a.private_data.length) ∧
  (a.extension_flag = true → a.adaption_extension.isSome = true) ∧
  AF_lenByte a < 256

instance optForallDec {α : Type} (o : Option α) (P : α → Prop) [∀ x, Decidable (P x)] :
    Decidable (∀ x, o = some x → P x) :=
  match o with
  | none => isTrue (by simp)
  | some y => if h : P y then isTrue (by intro x hx; cases hx; exact h) else isFalse (fun hh => h (hh y rfl))

instance (a : AF) : Decidable (AF_WF a) := by unfold AF_WF; infer_instance

/-- the object after `pack` (and after decoding its encoding) -/
def AF_packed (a : AF) : AF :=
  { a with length := AF_lenByte a, pcr_flag := decide (0 < a.pcr.length), opcr_flag := decide (0 < a.opcr.length),
           splicing_flag := decide (0 < a.splice_countdown), transpart_flag := decide (0 < a.private_data.length),
           extension_flag := a.adaption_extension.isSome,
           adaption_extension := a.adaption_extension.map Ext_packed }

/-- the bytes `MPEGAdaption.pack` emits -/
def AF_bytes (a : AF) : Bytes :=
  encInt true 1 (AF_lenByte a) ++ (encInt true 1 (AF_flagsByte a) ++ (a.pcr ++ (a.opcr ++ (AF_spl a ++ (AF_tl a ++
    (a.private_data ++ (AF_extb a ++ List.replicate (AF_lenByte a - AF_dataLen a) (0xFF : UInt8))))))))

theorem AF_flagsByte_lt (a : AF) : AF_flagsByte a < 256 :=
  (flag_bits a.discontinutiy a.random_access a.es_priority _ _ _ _ _).2.2.2.2.2.2.2.2

theorem pack_u8 (f : Fmt) (hf : f = ⟨true, [.u8]⟩) (n : Nat) (h : n < 256) :
    structPack f [n] = .ok (encInt true 1 n) := by
  subst hf
  exact (pack_one true .u8 n).trans (if_pos h)

theorem pack_u8u8 (f : Fmt) (hf : f = ⟨true, [.u8, .u8]⟩) (n m : Nat) (h : n < 256) (h2 : m < 256) :
    structPack f [n, m] = .ok (encInt true 1 n ++ encInt true 1 m) := by
  subst hf
  have : Fits (⟨true, [.u8, .u8]⟩ : Fmt).codes [n, m] := by simp [Fits, Code.bound]; omega
  rw [structPack_eq _ _ this]; simp [encCodes, Code.size]

theorem flag_on (f : Bool) (n : Nat) (h : f = true → 0 < n) : (if 0 < n then true else f) = decide (0 < n) := by
  by_cases hn : 0 < n
  · simp [hn]
  · cases f <;> simp_all

theorem flag_or (f : Bool) (p : Prop) [Decidable p] (h : f = true → p) : (f || decide p) = decide p := by
  cases f <;> simp_all

theorem AF_spl_pack (a : AF) (hs : a.splice_countdown < 256) :
    (if 0 < a.splice_countdown then structPack AF_pack_fmt0 [a.splice_countdown] else .ok []) = .ok (AF_spl a) := by
  unfold AF_spl; split <;> simp [pack_u8 AF_pack_fmt0 rfl a.splice_countdown hs]

theorem AF_tl_pack (a : AF) (hd : a.private_data.length < 256) :
    (if 0 < a.private_data.length then structPack AF_pack_fmt1 [a.private_data.length] else .ok []) = .ok (AF_tl a) := by
  unfold AF_tl; split <;> simp [pack_u8 AF_pack_fmt1 rfl a.private_data.length hd]

theorem AF_pack_eq (a : AF) (h : AF_WF a) : AF.pack a = (AF_packed a, .ok (AF_bytes a)) := by
  obtain ⟨hp, ho, hs, hd, hx, f1, f2, f3, f4, f5, hlen⟩ := h
  have c0 : ¬ (0 < a.pcr.length ∧ a.pcr.length ≠ 6) := by omega
  have hfl := AF_flagsByte_lt a
  have p0 := AF_spl_pack a hs
  have p1 := AF_tl_pack a hd
  have p2 := pack_u8u8 AF_pack_fmt2 rfl (AF_lenByte a) (AF_flagsByte a) hlen hfl
  unfold AF.pack
  simp only [c0, if_false, p0, p1, flag_or _ _ f1, flag_or _ _ f2, flag_or _ _ f3, flag_or _ _ f4]
  cases hxx : a.adaption_extension with
  | none =>
    have e5 : a.extension_flag = false := by
      cases h5 : a.extension_flag
      · rfl
      · have := f5 h5; simp [hxx] at this
    have hd' : a.pcr.length + a.opcr.length + (AF_tl a).length + a.private_data.length + ([] : Bytes).length +
        (AF_spl a).length + 1 = AF_dataLen a := by simp [AF_dataLen, AF_extb, hxx]
    have hfb : a.discontinutiy.toNat * 128 + a.random_access.toNat * 64 + a.es_priority.toNat * 32 +
        (decide (0 < a.pcr.length)).toNat * 16 + (decide (0 < a.opcr.length)).toNat * 8 +
        (decide (0 < a.splice_countdown)).toNat * 4 + (decide (0 < a.private_data.length)).toNat * 2 +
        a.extension_flag.toNat = AF_flagsByte a := by simp [AF_flagsByte, hxx, e5]
    simp only [hd', hfb]
    have hlb : (if a.length > AF_dataLen a then a.length else AF_dataLen a) = AF_lenByte a := rfl
    simp only [hlb, p2]
    simp [AF_packed, AF_bytes, AF_extb, hxx, e5]
  | some x =>
    have hd' : a.pcr.length + a.opcr.length + (AF_tl a).length + a.private_data.length + (Ext_bytes x).length +
        (AF_spl a).length + 1 = AF_dataLen a := by simp [AF_dataLen, AF_extb, hxx]
    have hfb : a.discontinutiy.toNat * 128 + a.random_access.toNat * 64 + a.es_priority.toNat * 32 +
        (decide (0 < a.pcr.length)).toNat * 16 + (decide (0 < a.opcr.length)).toNat * 8 +
        (decide (0 < a.splice_countdown)).toNat * 4 + (decide (0 < a.private_data.length)).toNat * 2 +
        true.toNat = AF_flagsByte a := by simp [AF_flagsByte, hxx]
    simp only [Ext_pack_eq x (hx x hxx), hd', hfb]
    have hlb : (if a.length > AF_dataLen a then a.length else AF_dataLen a) = AF_lenByte a := rfl
    simp only [hlb, p2]
    simp [AF_packed, AF_bytes, AF_extb, hxx]

theorem AF_spl_length (a : AF) : (AF_spl a).length = if 0 < a.splice_countdown then 1 else 0 := by
  unfold AF_spl; split <;> simp
theorem AF_tl_length (a : AF) : (AF_tl a).length = if 0 < a.private_data.length then 1 else 0 := by
  unfold AF_tl; split <;> simp

def AF_hdr (a : AF) : Bytes := encInt true 1 (AF_lenByte a) ++ encInt true 1 (AF_flagsByte a)
@[simp] theorem AF_hdr_length (a : AF) : (AF_hdr a).length = 2 := by simp [AF_hdr]

theorem AF_unpack_bytes (a t : AF) (rest : Bytes) (h : AF_WF a) :
    AF.unpack t (AF_bytes a ++ rest) = (AF_packed a, .ok ()) := by
  obtain ⟨hp, ho, hs, hd, hx, f1, f2, f3, f4, f5, hlen⟩ := h
  have hfl := AF_flagsByte_lt a
  obtain ⟨b7, b6, b5, b4, b3, b2, b1, b0, _⟩ := flag_bits a.discontinutiy a.random_access a.es_priority
    (decide (0 < a.pcr.length)) (decide (0 < a.opcr.length)) (decide (0 < a.splice_countdown))
    (decide (0 < a.private_data.length)) a.adaption_extension.isSome
  have hfb : AF_flagsByte a = a.discontinutiy.toNat * 128 + a.random_access.toNat * 64 + a.es_priority.toNat * 32 +
        (decide (0 < a.pcr.length)).toNat * 16 + (decide (0 < a.opcr.length)).toNat * 8 +
        (decide (0 < a.splice_countdown)).toNat * 4 + (decide (0 < a.private_data.length)).toNat * 2 +
        a.adaption_extension.isSome.toNat := rfl
  rw [← hfb] at b7 b6 b5 b4 b3 b2 b1 b0
  -- the buffer: the two header bytes, then part after part; `T` is what follows the private data
  generalize hT : AF_extb a ++ (List.replicate (AF_lenByte a - AF_dataLen a) (0xFF : UInt8) ++ rest) = T
  have hB : AF_bytes a ++ rest = AF_hdr a ++ (a.pcr ++ (a.opcr ++ (AF_spl a ++ (AF_tl a ++ (a.private_data ++ T))))) := by
    simp only [AF_bytes, AF_hdr, List.append_assoc, ← hT]
  rw [hB]
  generalize hX : a.pcr ++ (a.opcr ++ (AF_spl a ++ (AF_tl a ++ (a.private_data ++ T)))) = X
  generalize hBuf : AF_hdr a ++ X = B
  have e0 : B.drop 0 = encInt true 1 (AF_lenByte a) ++ (encInt true 1 (AF_flagsByte a) ++ X) := by
    rw [← hBuf]; simp only [AF_hdr, List.drop_zero, List.append_assoc]
  have v0 : decInt true (slice B 0 1) = AF_lenByte a := decInt_slice_enc 1 e0 hlen
  have v1 : decInt true (slice B 1 2) = AF_flagsByte a := decInt_slice_enc 1 (drop_step e0) hfl
  have hB2 : ¬ B.length < 2 := by rw [← hBuf]; simp
  -- walk the parts: each step reads one and leaves `B.drop` at the next
  have d0 : B.drop 2 = a.pcr ++ (a.opcr ++ (AF_spl a ++ (AF_tl a ++ (a.private_data ++ T)))) := by
    rw [← hBuf, hX]; exact drop_append_len _ _ _ (AF_hdr_length a).symm
  obtain ⟨epcr, o1⟩ := opt_slice B _ _ 6 2 _ hp decide_eq_true_iff d0
  have d1 := drop_step d0
  obtain ⟨eopcr, o2⟩ := opt_slice B _ _ 6 _ _ ho decide_eq_true_iff d1
  have d2 := drop_step d1
  obtain ⟨gspl, espl, o3⟩ := opt_read_u8_closed B (AF_spl a) _ _ _ hs rfl d2
  have d3 := drop_step d2
  obtain ⟨gtl, etl, _⟩ := opt_read_u8_closed B (AF_tl a) _ _ _ hd rfl d3
  have d4 := drop_step d3
  have d5 := drop_step d4
  have epd : (if decide (0 < a.private_data.length) = true then
        slice B (2 + a.pcr.length + a.opcr.length + (AF_spl a).length + 1)
          (2 + a.pcr.length + a.opcr.length + (AF_spl a).length + 1 + a.private_data.length) else []) = a.private_data ∧
      (if decide (0 < a.private_data.length) = true then
        2 + a.pcr.length + a.opcr.length + (AF_spl a).length + 1 + a.private_data.length
      else 2 + a.pcr.length + a.opcr.length + (AF_spl a).length)
      = 2 + a.pcr.length + a.opcr.length + (AF_spl a).length + (AF_tl a).length + a.private_data.length := by
    rw [AF_tl_length] at d4 ⊢
    by_cases hpd : 0 < a.private_data.length
    · rw [if_pos hpd] at d4
      simp only [hpd, decide_true, if_true, and_true]
      rw [← take_drop_slice, d4, List.take_left]
    · rw [List.eq_nil_of_length_eq_zero (Nat.eq_zero_of_not_pos hpd)]
      exact ⟨rfl, rfl⟩
  simp only [Nat.reduceAdd] at epcr o1
  rw [AF_unpack_eq, if_neg hB2]
  simp only [afBody, afTail, v0, v1, b7, b6, b5, b4, b3, b2, b1, b0, o1, o2, epcr, eopcr, gspl, espl, o3, gtl, etl, epd.1,
    epd.2, d5, if_false]
  cases hxx : a.adaption_extension with
  | none => simp [AF_packed, hxx]
  | some x =>
    have : T = Ext_bytes x ++ (List.replicate (AF_lenByte a - AF_dataLen a) (0xFF : UInt8) ++ rest) := by
      rw [← hT]; simp [AF_extb, hxx]
    simp only [Option.isSome_some, if_true, this, Ext_unpack_bytes x Ext.fresh _ (hx x hxx)]
    simp [AF_packed, hxx]

theorem AF_bytes_length (a : AF) : (AF_bytes a).length = AF_lenByte a + 1 := by
  have : AF_dataLen a ≤ AF_lenByte a := by unfold AF_lenByte; split <;> omega
  simp only [AF_bytes, List.length_append, encInt_length, List.length_replicate]
  unfold AF_dataLen at *
  omega

theorem AF_lenByte_pos (a : AF) : 0 < AF_lenByte a := by
  unfold AF_lenByte AF_dataLen; split <;> omega

theorem AF_lenByte_eq_max (a : AF) : AF_lenByte a = max a.length (AF_dataLen a) := by
  unfold AF_lenByte; split <;> omega

def Pkt_WF (p : Pkt) : Prop :=
  p.sync < 256 ∧ p.pid < 8192 ∧ p.transport_priority < 2 ∧ p.tsc < 4 ∧ p.adaption_ctrl < 4 ∧
  p.continuitycounter < 16 ∧ (∀ a, p.adaption_field = some a → AF_WF a)

instance (p : Pkt) : Decidable (Pkt_WF p) := by unfold Pkt_WF; infer_instance

def Pkt_pidFull (p : Pkt) : Nat := p.pid + p.transport_priority * 8192 + p.pusi.toNat * 16384 + p.tei.toNat * 32768
def Pkt_cont (p : Pkt) : Nat := p.continuitycounter + p.adaption_ctrl * 16 + p.tsc * 64

def Pkt_hdr (p : Pkt) : Bytes :=
  encInt true 1 p.sync ++ (encInt true 2 (Pkt_pidFull p) ++ encInt true 1 (Pkt_cont p))
@[simp] theorem Pkt_hdr_length (p : Pkt) : (Pkt_hdr p).length = 4 := by simp [Pkt_hdr]

def hasAF (p : Pkt) : Prop := p.adaption_ctrl = 2 ∨ p.adaption_ctrl = 3
instance (p : Pkt) : Decidable (hasAF p) := by unfold hasAF; infer_instance

/-- the adaptation bytes `MPEGPacket.pack` places after the header -/
def Pkt_af (p : Pkt) : Bytes :=
  if hasAF p then
    match p.adaption_field with
    | none => encInt true 1 0
    | some a => AF_bytes a
  else []

def Pkt_used (p : Pkt) : Nat := 4 + (Pkt_af p).length + p.payload.length

def Pkt_unstuffed (p : Pkt) : Bytes := Pkt_hdr p ++ (Pkt_af p ++ p.payload)

def Pkt_bytes (p : Pkt) : Bytes :=
  Pkt_hdr p ++ (Pkt_af p ++ (p.payload ++ List.replicate (188 - Pkt_used p) (0xFF : UInt8)))

def Pkt_packed (p : Pkt) : Pkt :=
  if hasAF p then { p with adaption_field := p.adaption_field.map AF_packed } else p

theorem Pkt_bytes_length (p : Pkt) : (Pkt_bytes p).length = max 188 (Pkt_used p) := by
  simp only [Pkt_bytes, List.length_append, Pkt_hdr_length, List.length_replicate, Pkt_used]
  omega

theorem Pkt_used_of_af (p : Pkt) (a : AF) (haf : hasAF p) (hx : p.adaption_field = some a) :
    Pkt_used p = 4 + (AF_lenByte a + 1) + p.payload.length := by
  rw [Pkt_used, Pkt_af, if_pos haf, hx]
  simp only [AF_bytes_length]

theorem hdr_decode (p : Pkt) (h2 : p.pid < 8192) (h3 : p.transport_priority < 2) (h4 : p.tsc < 4)
    (h5 : p.adaption_ctrl < 4) (h6 : p.continuitycounter < 16) :
    Pkt_pidFull p % 8192 = p.pid ∧ (Pkt_pidFull p / 32768 % 2 == 1) = p.tei ∧ (Pkt_pidFull p / 16384 % 2 == 1) = p.pusi ∧
    Pkt_pidFull p / 8192 % 2 = p.transport_priority ∧ Pkt_cont p % 16 = p.continuitycounter ∧
    Pkt_cont p / 16 % 4 = p.adaption_ctrl ∧ Pkt_cont p / 64 % 4 = p.tsc ∧ Pkt_pidFull p < 65536 ∧ Pkt_cont p < 256 := by
  obtain ⟨q0, r0⟩ := Bits.field_low (Pkt_pidFull p) 8192 ((p.tei.toNat * 2 + p.pusi.toNat) * 2 + p.transport_priority)
    p.pid h2 (by unfold Pkt_pidFull; omega)
  obtain ⟨q1, r1⟩ := Bits.field_step _ 8192 2 _ _ h3 q0
  obtain ⟨q2, r2⟩ := Bits.field_step _ 16384 2 _ _ p.pusi.toNat_lt q1
  obtain ⟨c0, s0⟩ := Bits.field_low (Pkt_cont p) 16 (p.tsc * 4 + p.adaption_ctrl) p.continuitycounter h6
    (by unfold Pkt_cont; omega)
  obtain ⟨c1, s1⟩ := Bits.field_step _ 16 4 _ _ h5 c0
  exact ⟨r0, bit_toNat _ _ ((congrArg (· % 2) q2).trans (Nat.mod_eq_of_lt p.tei.toNat_lt)), bit_toNat _ _ r2, r1, s0, s1,
    (congrArg (· % 4) c1).trans (Nat.mod_eq_of_lt h4),
    (Nat.div_lt_iff_lt_mul (by decide)).1 (Nat.lt_of_le_of_lt (Nat.le_of_eq q2) p.tei.toNat_lt),
    (Nat.div_lt_iff_lt_mul (by decide)).1 (Nat.lt_of_le_of_lt (Nat.le_of_eq c1) h4)⟩

theorem Pkt_hdr_pack (p : Pkt) (h1 : p.sync < 256) (h2 : p.pid < 8192) (h3 : p.transport_priority < 2) (h4 : p.tsc < 4)
    (h5 : p.adaption_ctrl < 4) (h6 : p.continuitycounter < 16) :
    structPack Pkt_pack_fmt0 [p.sync, p.pid + p.transport_priority * 8192 + p.pusi.toNat * 16384 + p.tei.toNat * 32768,
      p.continuitycounter + p.adaption_ctrl * 16 + p.tsc * 64] = .ok (Pkt_hdr p) := by
  obtain ⟨_, _, _, _, _, _, _, hpid, hcont⟩ := hdr_decode p h2 h3 h4 h5 h6
  have hfit : Fits Pkt_pack_fmt0.codes [p.sync, Pkt_pidFull p, Pkt_cont p] := ⟨h1, hpid, hcont, trivial⟩
  exact (structPack_eq _ _ hfit).trans (by simp [Pkt_hdr, Pkt_pack_fmt0, encCodes, Code.size])

/-- the last step of `MPEGPacket.pack`: header, adaptation bytes and payload, stuffed to 188 bytes unless `nostuff` -/
theorem Pkt_pack_finish (p q : Pkt) (A : Bytes) (ns : Bool) (hq : q = Pkt_packed p) (hA : A = Pkt_af p) :
    (q, (Except.ok (Pkt_hdr p ++ A ++ p.payload ++
        if ns = true then [] else List.replicate (188 - (Pkt_hdr p ++ A ++ p.payload).length) (0xFF : UInt8)) : R Bytes)) =
      (Pkt_packed p, .ok (if ns = true then Pkt_unstuffed p else Pkt_bytes p)) := by
  subst hq hA
  have hl : (Pkt_hdr p ++ Pkt_af p ++ p.payload).length = Pkt_used p := by
    simp only [List.length_append, Pkt_hdr_length, Pkt_used]
  rw [hl]
  cases ns
  · simp only [Bool.false_eq_true, if_false, Pkt_bytes, List.append_assoc]
  · simp only [if_true, Pkt_unstuffed, List.append_nil, List.append_assoc]

theorem Pkt_pack_eq (p : Pkt) (ns : Bool) (h : Pkt_WF p) :
    Pkt.pack p ns = (Pkt_packed p, .ok (if ns then Pkt_unstuffed p else Pkt_bytes p)) := by
  obtain ⟨h1, h2, h3, h4, h5, h6, h7⟩ := h
  have hz := pack_u8 Pkt_pack_fmt1 rfl 0 (by omega)
  unfold Pkt.pack
  simp only [Pkt_hdr_pack p h1 h2 h3 h4 h5 h6, ADAPTION_ADAPTION_ONLY, ADAPTION_PAYLOAD_AND_ADAPTION]
  -- in each of the three cases the adaptation step leaves `Pkt_packed p` and yields `Pkt_af p`
  by_cases haf : hasAF p
  · have haf' : p.adaption_ctrl = 2 ∨ p.adaption_ctrl = 3 := haf
    simp only [haf', if_true]
    cases hx : p.adaption_field with
    | none =>
      simp only [hz]
      exact Pkt_pack_finish p _ _ ns (by rw [Pkt_packed, if_pos haf, hx]; cases p; cases hx; rfl)
        (by rw [Pkt_af, if_pos haf, hx])
    | some a =>
      simp only [AF_pack_eq a (h7 a hx)]
      exact Pkt_pack_finish p _ _ ns (by rw [Pkt_packed, if_pos haf, hx]; rfl) (by rw [Pkt_af, if_pos haf, hx])
  · have haf' : ¬ (p.adaption_ctrl = 2 ∨ p.adaption_ctrl = 3) := haf
    simp only [haf', if_false]
    exact Pkt_pack_finish p _ _ ns (by rw [Pkt_packed, if_neg haf]) (by rw [Pkt_af, if_neg haf])

theorem Pkt_pack_keeps (p : Pkt) (ns : Bool) :
    (Pkt.pack p ns).1.payload = p.payload ∧ (Pkt.pack p ns).1.pid = p.pid := by
  simp only [Pkt.pack]
  repeat' split
  all_goals simp_all

theorem pack_u8u8_ok (f : Fmt) (hf : f = ⟨true, [.u8, .u8]⟩) (n m : Nat) (b : Bytes)
    (h : structPack f [n, m] = .ok b) : n < 256 ∧ m < 256 ∧ b = encInt true 1 n ++ encInt true 1 m := by
  subst hf
  obtain ⟨⟨h1, h2, _⟩, rfl⟩ := packCodes_ok h
  exact ⟨h1, h2, by simp [encCodes, Code.size]⟩

theorem enc1_cons (n : Nat) (h : n < 256) (rest : Bytes) :
    encInt true 1 n ++ rest = UInt8.ofNat n :: rest := by
  simp [encInt, beBytes, leBytes, Nat.mod_eq_of_lt h]

theorem len_shape (L : Nat) (body : Bytes) (hL : body.length = L) (h : L < 256) :
    ∃ body', UInt8.ofNat L :: body = UInt8.ofNat body'.length :: body' ∧ body'.length < 256 :=
  ⟨body, by rw [hL], by omega⟩

theorem AF_pack_length_total (a : AF) (b : Bytes) (h : (AF.pack a).2 = .ok b) :
    ∃ body, b = UInt8.ofNat body.length :: body ∧ body.length < 256 := by
  unfold AF.pack at h
  split at h
  · simp at h
  · simp only at h
    split at h
    · simp at h
    · rename_i spl hspl
      split at h
      · simp at h
      · rename_i tl htl
        -- from here on the code does not depend on which extension branch was taken
        split at h
        · simp at h
        · rename_i eb heb
          split at h
          · simp at h
          · rename_i hd hhd
            obtain ⟨h1, h2, h3⟩ := pack_u8u8_ok _ rfl _ _ _ hhd
            simp only [Except.ok.injEq] at h
            subst h h3
            simp only [List.append_assoc]
            rw [enc1_cons _ h1]
            apply len_shape _ _ ?_ h1
            simp only [List.length_append, encInt_length, List.length_replicate]
            cases a.adaption_extension <;> (simp only []; split <;> omega)

/-- whenever `MPEGPacket.pack` succeeds on a packet with adaptation control 2 or 3 — no well-formedness
    assumed: any flags, any part sizes, any header field values, over-full or not, `nostuff` or not — byte 4 is
    the number of adaptation bytes that follow it and the payload starts right after them -/
theorem Pkt_pack_af_length_total (p : Pkt) (ns : Bool) (b : Bytes) (hb : (Pkt.pack p ns).2 = .ok b)
    (haf : p.adaption_ctrl = 2 ∨ p.adaption_ctrl = 3) :
    ∃ hdr body tail, hdr.length = 4 ∧ body.length < 256 ∧
      b = hdr ++ (UInt8.ofNat body.length :: body) ++ (p.payload ++ tail) := by
  unfold Pkt.pack at hb
  simp only [ADAPTION_ADAPTION_ONLY, ADAPTION_PAYLOAD_AND_ADAPTION, haf, if_true] at hb
  generalize hh : structPack Pkt_pack_fmt0 _ = r at hb
  cases r with
  | error e => simp at hb
  | ok hdr =>
    have hl : hdr.length = 4 := by
      have := structPack_length _ _ _ hh
      simpa [Pkt_pack_fmt0, Fmt.size, codesSize, Code.size] using this
    simp only at hb
    cases hx : p.adaption_field with
    | none =>
      have hz : structPack Pkt_pack_fmt1 [0] = .ok (encInt true 1 0) := pack_u8 _ rfl 0 (by omega)
      simp only [hx, hz, Except.ok.injEq] at hb
      subst hb
      refine ⟨hdr, [], if ns = true then [] else List.replicate (188 - (hdr ++ encInt true 1 0 ++ p.payload).length) 0xFF,
        hl, by simp, ?_⟩
      simp [encInt, beBytes, leBytes]
    | some a =>
      simp only [hx] at hb
      split at hb
      · simp at hb
      · rename_i af haf'
        obtain ⟨body, hbody, hlt⟩ := AF_pack_length_total a af haf'
        simp only [Except.ok.injEq] at hb
        subst hb hbody
        exact ⟨hdr, body, (if ns = true then [] else List.replicate (188 - (hdr ++ (UInt8.ofNat body.length :: body) ++ p.payload).length) 0xFF), hl, hlt, by simp⟩

def Pkt_stuffing (p : Pkt) : Bytes := List.replicate (188 - Pkt_used p) (0xFF : UInt8)

/-- what decoding the packed bytes gives: the header fields, the payload followed by the stuffing
    (the format carries no payload length), the adaptation field as `pack` left it -/
def Pkt_decoded (p : Pkt) : Pkt :=
  { p with payload := if p.adaption_ctrl = 1 ∨ p.adaption_ctrl = 3 then p.payload ++ Pkt_stuffing p else [],
           adaption_field := if hasAF p then p.adaption_field.map AF_packed else none }

theorem Pkt_stuffing_eq_nil (p : Pkt) : Pkt_stuffing p = [] ↔ 188 ≤ Pkt_used p := by
  simp only [Pkt_stuffing, List.replicate_eq_nil_iff]; omega

theorem Pkt_stuffing_length (p : Pkt) : (Pkt_stuffing p).length = 188 - Pkt_used p := List.length_replicate ..

theorem Pkt_bytes_length_of_fits (p : Pkt) (h : Pkt_used p ≤ 188) : (Pkt_bytes p).length = 188 := by
  rw [Pkt_bytes_length]; omega

theorem Pkt_decoded_payload (p : Pkt) (hc : p.adaption_ctrl = 1 ∨ p.adaption_ctrl = 3) :
    (Pkt_decoded p).payload = p.payload ++ Pkt_stuffing p := by simp only [Pkt_decoded, if_pos hc]

theorem Pkt_decoded_payload_nil (p : Pkt) (hc : ¬ (p.adaption_ctrl = 1 ∨ p.adaption_ctrl = 3)) :
    (Pkt_decoded p).payload = [] := by simp only [Pkt_decoded, if_neg hc]

theorem AF_WF.lenByte_lt {a : AF} (h : AF_WF a) : AF_lenByte a < 256 := h.2.2.2.2.2.2.2.2.2.2

/-- well-formedness looks at the `length` attribute only through the emitted length byte -/
theorem AF_WF.with_length {a : AF} (h : AF_WF a) (n : Nat) (hn : n < 256) : AF_WF { a with length := n } := by
  obtain ⟨hp, ho, hs, hd, hx, f1, f2, f3, f4, f5, hlen⟩ := h
  refine ⟨hp, ho, hs, hd, hx, f1, f2, f3, f4, f5, ?_⟩
  rw [AF_lenByte_eq_max] at hlen ⊢
  have : AF_dataLen { a with length := n } = AF_dataLen a := rfl
  rw [this]
  show max n (AF_dataLen a) < 256
  omega

theorem Pkt_WF.af {p : Pkt} (h : Pkt_WF p) {a : AF} (hx : p.adaption_field = some a) : AF_WF a := h.2.2.2.2.2.2 a hx

/-- what decoding gives when header and adaptation bytes of `p` are followed by ANY bytes `T`: the decoder looks at
    nothing else, and with adaptation control 1 or 3 `T` comes back as the payload -/
def Pkt_decodedWith (p : Pkt) (T : Bytes) : Pkt :=
  { p with payload := if p.adaption_ctrl = 1 ∨ p.adaption_ctrl = 3 then T else [],
           adaption_field := if hasAF p then p.adaption_field.map AF_packed else none }

/-- the parser `pktRun` evaluated on header and adaptation bytes of `p` followed by ANY bytes; `T` is arbitrary so that
    the same statement serves `Pkt_bytes` (`T` = payload ++ stuffing, `Pkt_unpack_bytes`) and tails that no `pack`
    produced.  `h2af` excludes the one asymmetric case: with control 2 and no adaptation object `pack` emits a single 0
    byte, yet `unpack` always builds an object from `buf.drop 4`, so the field comes back `some _`, not `none` (control 3
    reads the 0 length byte and builds none). -/
theorem Pkt_unpack_frame (p t : Pkt) (T : Bytes) (h : Pkt_WF p) (hs : p.sync = 0x47)
    (h2af : p.adaption_ctrl = 2 → p.adaption_field.isSome = true) :
    Pkt.unpack t (Pkt_hdr p ++ (Pkt_af p ++ T)) = (Pkt_decodedWith p T, .ok ()) := by
  obtain ⟨h1, h2, h3, h4, h5, h6, h7⟩ := h
  obtain ⟨d1, d2, d3, d4, d5, d6, d7, d8, d9⟩ := hdr_decode p h2 h3 h4 h5 h6
  generalize hB : Pkt_hdr p ++ (Pkt_af p ++ T) = B
  have e0 : B.drop 0 = encInt true 1 p.sync ++ (encInt true 2 (Pkt_pidFull p) ++ (encInt true 1 (Pkt_cont p) ++
      (Pkt_af p ++ T))) := by rw [← hB]; simp only [Pkt_hdr, List.drop_zero, List.append_assoc]
  have e1 : B.drop 1 = _ := drop_step e0
  have e3 : B.drop 3 = _ := drop_step e1
  have e4 : B.drop 4 = Pkt_af p ++ T := drop_step e3
  have v0 : decInt true (slice B 0 1) = p.sync := decInt_slice_enc 1 e0 h1
  have v1 : decInt true (slice B 1 3) = Pkt_pidFull p := decInt_slice_enc 2 e1 d8
  have v3 : decInt true (slice B 3 4) = Pkt_cont p := decInt_slice_enc 1 e3 d9
  have hlen : B.length = 4 + ((Pkt_af p).length + T.length) := by rw [← hB]; simp
  -- reads at offsets ≥ 4 are reads of `Pkt_af p ++ T`
  have s45 : slice B 4 5 = slice (Pkt_af p ++ T) 0 1 := by rw [← e4, slice_drop]
  have sA : ∀ n, slice B 4 (n + 1 + 4) = slice (Pkt_af p ++ T) 0 (n + 1) := fun n => by
    rw [← e4, slice_drop, Nat.add_comm 4 (n + 1)]
  have dA : ∀ n, B.drop (4 + 1 + n) = (Pkt_af p ++ T).drop (1 + n) := fun n => by
    rw [← e4, List.drop_drop, Nat.add_assoc]
  have d5' : B.drop (4 + 1) = (Pkt_af p ++ T).drop 1 := by rw [← e4, List.drop_drop]
  have hobj : pktObj B = Pkt_decodedWith p T ∧ ¬ (p.adaption_ctrl = 3 ∧ B.length < 5) := by
    unfold pktObj
    simp only [v0, v1, v3, d1, d2, d3, d4, d5, d6, d7, e4, s45, sA, dA, d5']
    have hafc : p.adaption_ctrl = 0 ∨ p.adaption_ctrl = 1 ∨ p.adaption_ctrl = 2 ∨ p.adaption_ctrl = 3 := by omega
    rcases hafc with ha | ha | ha | ha
    · exact ⟨by simp [ha, Pkt_decodedWith, hasAF, hs], by omega⟩
    · have : Pkt_af p = [] := by simp [Pkt_af, hasAF, ha]
      exact ⟨by simp [ha, Pkt_decodedWith, hasAF, this], by omega⟩
    · obtain ⟨a, hx⟩ := Option.isSome_iff_exists.mp (h2af ha)
      have : Pkt_af p = AF_bytes a := by simp [Pkt_af, hasAF, ha, hx]
      refine ⟨?_, by omega⟩
      simp only [ha, this, AF_unpack_bytes a AF.fresh _ (h7 a hx)]
      simp [Pkt_decodedWith, hasAF, ha, hx]
    · cases hx : p.adaption_field with
      | none =>
        have haf : Pkt_af p = encInt true 1 0 := by simp [Pkt_af, hasAF, ha, hx]
        have hr : decInt true (slice (Pkt_af p ++ T) 0 1) = 0 := by
          rw [haf]; exact decInt_slice_enc 1 (List.drop_zero) (by decide)
        have hd5 : (Pkt_af p ++ T).drop 1 = T := by rw [haf]; exact drop_append_len _ _ _ (by simp)
        refine ⟨?_, by rw [hlen, haf, encInt_length]; omega⟩
        simp [ha, hr, hd5, Pkt_decodedWith, hasAF, hx]
      | some a =>
        have haf : Pkt_af p = AF_bytes a := by simp [Pkt_af, hasAF, ha, hx]
        have hL := AF_bytes_length a
        have hpos := AF_lenByte_pos a
        have hwf := h7 a hx
        have hr : decInt true (slice (Pkt_af p ++ T) 0 1) = AF_lenByte a := by
          rw [haf]
          exact decInt_slice_enc 1 (by simp only [AF_bytes, List.drop_zero, List.append_assoc]; rfl) hwf.lenByte_lt
        have hd5 : (Pkt_af p ++ T).drop (1 + AF_lenByte a) = T := by
          rw [haf]; exact drop_append_len _ _ _ (by rw [hL]; omega)
        have hs4 : slice (Pkt_af p ++ T) 0 (AF_lenByte a + 1) = AF_bytes a := by
          rw [haf]; exact slice_prefix _ _ _ hL.symm
        have hu := AF_unpack_bytes a AF.fresh [] hwf
        rw [List.append_nil] at hu
        refine ⟨?_, by rw [hlen, haf, hL]; omega⟩
        simp [ha, hr, hpos, hd5, hs4, hu, Pkt_decodedWith, hasAF, hx]
  refine Pkt_decodes.of_run (t := t) ?_
  show pktRun B = _
  rw [pktRun, if_neg (by omega), v0, if_neg (fun c => c hs), v3, d6, if_neg hobj.2, hobj.1]

theorem Pkt_unpack_bytes (p t : Pkt) (h : Pkt_WF p) (hs : p.sync = 0x47)
    (h2af : p.adaption_ctrl = 2 → p.adaption_field.isSome = true) :
    Pkt.unpack t (Pkt_bytes p) = (Pkt_decoded p, .ok ()) :=
  Pkt_unpack_frame p t (p.payload ++ Pkt_stuffing p) h hs h2af

theorem Pkt_unpack_bytes13 (p t : Pkt) (h : Pkt_WF p) (hs : p.sync = 0x47)
    (hafc : p.adaption_ctrl = 1 ∨ p.adaption_ctrl = 3) :
    Pkt.unpack t (Pkt_bytes p) = (Pkt_decoded p, .ok ()) ∧ (Pkt_decoded p).payload = p.payload ++ Pkt_stuffing p :=
  ⟨Pkt_unpack_bytes p t h hs (fun c => by omega), by simp only [Pkt_decoded, if_pos hafc]⟩

theorem TS_unpack_chunks (t : TS) (cs : List Bytes) (hlen : ∀ c ∈ cs, c.length = 188)
    (hok : ∀ c ∈ cs, (Pkt.unpack Pkt.fresh c).2 = .ok ()) :
    TS.unpack t (cs.flatMap id) = ({ blocks := cs.map fun c => (Pkt.unpack Pkt.fresh c).1 }, .ok true) := by
  have hge : cs.length ≤ (cs.flatMap id).length :=
    flatMap_length_ge id cs fun c hc => by rw [id, hlen c hc]; decide
  have := decOff_encAll_map decBlock moreBlocks id (fun c => (Pkt.unpack Pkt.fresh c).1) cs [] ((cs.flatMap id).length + 1)
    (by omega)
    (fun c hc rest => by
      have hl := hlen c hc
      have htake : List.take 188 (c ++ rest) = c := take_append_len _ _ _ hl.symm
      have := hok c hc
      simp only [decBlock, id, htake, hl]
      cases hu : Pkt.unpack Pkt.fresh c with
      | mk p r =>
        rw [hu] at this
        simp only at this
        subst this
        rfl)
    (fun c hc p q => by
      have hl := hlen c hc
      simp [moreBlocks, id, hl]; omega)
    (fun n => by simp [moreBlocks])
  simp only [List.nil_append, List.length_nil] at this
  exact TS_decodes.of_run (t := t) (show tsRun _ = _ by rw [tsRun, this]; rfl)

theorem Ext_packed_WF (e : Ext) (h : Ext_WF e) : Ext_WF (Ext_packed e) := h

theorem AF_packed_WF (a : AF) (h : AF_WF a) : AF_WF (AF_packed a) ∧ AF_bytes (AF_packed a) = AF_bytes a := by
  obtain ⟨hp, ho, hs, hd, hx, f1, f2, f3, f4, f5, hlen⟩ := h
  have hext : AF_extb (AF_packed a) = AF_extb a := by
    unfold AF_extb AF_packed; cases a.adaption_extension <;> rfl
  have hdl : AF_dataLen (AF_packed a) = AF_dataLen a := by
    unfold AF_dataLen; rw [hext]; rfl
  have hlb : AF_lenByte (AF_packed a) = AF_lenByte a := by
    have hge : AF_dataLen a ≤ AF_lenByte a := by unfold AF_lenByte; split <;> omega
    have : AF_lenByte (AF_packed a) = if AF_lenByte a > AF_dataLen a then AF_lenByte a else AF_dataLen a := by
      unfold AF_lenByte; rw [hdl]; rfl
    rw [this]; split <;> omega
  have hfb : AF_flagsByte (AF_packed a) = AF_flagsByte a := by
    unfold AF_flagsByte AF_packed; cases a.adaption_extension <;> rfl
  refine ⟨⟨hp, ho, hs, hd, ?_, ?_, ?_, ?_, ?_, ?_, by rw [hlb]; exact hlen⟩, ?_⟩
  · intro x hxx
    simp only [AF_packed, Option.map_eq_some_iff] at hxx
    obtain ⟨y, hy, rfl⟩ := hxx
    exact Ext_packed_WF y (hx y hy)
  · exact of_decide_eq_true
  · exact of_decide_eq_true
  · exact of_decide_eq_true
  · exact of_decide_eq_true
  · intro h5; show (a.adaption_extension.map Ext_packed).isSome = true; rw [Option.isSome_map]; exact h5
  · unfold AF_bytes; rw [hlb, hfb, hext, hdl]; rfl

theorem AF_packed_idem (a : AF) (h : AF_WF a) : AF_packed (AF_packed a) = AF_packed a := by
  -- both are what the decoder makes of the same bytes
  obtain ⟨hw, hb⟩ := AF_packed_WF a h
  have hu1 := AF_unpack_bytes a AF.fresh [] h
  have hu2 := AF_unpack_bytes (AF_packed a) AF.fresh [] hw
  rw [hb, hu1] at hu2
  injection hu2 with hu2
  exact hu2.symm

theorem Pkt_af_of_packed (p q : Pkt) (h : Pkt_WF p) (hc : q.adaption_ctrl = p.adaption_ctrl)
    (hf : hasAF p → q.adaption_field = p.adaption_field.map AF_packed) : Pkt_af q = Pkt_af p := by
  by_cases haf : hasAF p
  · have haf' : hasAF q := by unfold hasAF at haf ⊢; rw [hc]; exact haf
    rw [Pkt_af, Pkt_af, if_pos haf, if_pos haf', hf haf]
    cases hx : p.adaption_field with
    | none => rfl
    | some a => simp [(AF_packed_WF a (h.af hx)).2]
  · have haf' : ¬ hasAF q := by unfold hasAF at haf ⊢; rw [hc]; exact haf
    rw [Pkt_af, Pkt_af, if_neg haf, if_neg haf']

theorem Pkt_af_payload (p : Pkt) (pl : Bytes) : Pkt_af { p with payload := pl } = Pkt_af p := rfl

theorem Pkt_af_decoded (p : Pkt) (h : Pkt_WF p) : Pkt_af (Pkt_decoded p) = Pkt_af p :=
  Pkt_af_of_packed p _ h rfl fun haf => if_pos haf

theorem Pkt_af_packed (p : Pkt) (h : Pkt_WF p) : Pkt_af (Pkt_packed p) = Pkt_af p :=
  Pkt_af_of_packed p _ h (by unfold Pkt_packed; split <;> rfl) fun haf => by unfold Pkt_packed; rw [if_pos haf]

theorem Pkt_packed_WF (p : Pkt) (h : Pkt_WF p) : Pkt_WF (Pkt_packed p) := by
  obtain ⟨h1, h2, h3, h4, h5, h6, h7⟩ := h
  refine ⟨?_, ?_, ?_, ?_, ?_, ?_, ?_⟩ <;> unfold Pkt_packed <;> split <;> try assumption
  intro a ha
  simp only [Option.map_eq_some_iff] at ha
  obtain ⟨y, hy, rfl⟩ := ha
  exact (AF_packed_WF y (h7 y hy)).1

theorem Pkt_packed_idem (p : Pkt) (h : Pkt_WF p) : Pkt_packed (Pkt_packed p) = Pkt_packed p := by
  by_cases hh : hasAF p
  · have e : Pkt_packed p = { p with adaption_field := p.adaption_field.map AF_packed } := if_pos hh
    have hh' : hasAF (Pkt_packed p) := by rw [e]; exact hh
    rw [Pkt_packed, if_pos hh', e]
    cases hx : p.adaption_field with
    | none => rfl
    | some a => simp [AF_packed_idem a (h.af hx)]
  · have e : Pkt_packed p = p := if_neg hh
    rw [e, e]

/-- the premise of the second part: the format cannot express a payload with adaptation control 0 or 2 -/
theorem Pkt_decoded_bytes (p : Pkt) (h : Pkt_WF p) (hf : Pkt_used p ≤ 188) :
    Pkt_WF (Pkt_decoded p) ∧
    (((p.adaption_ctrl = 0 ∨ p.adaption_ctrl = 2) → p.payload = []) → Pkt_bytes (Pkt_decoded p) = Pkt_bytes p) := by
  have haf := Pkt_af_decoded p h
  obtain ⟨h1, h2, h3, h4, h5, h6, h7⟩ := h
  constructor
  · refine ⟨h1, h2, h3, h4, h5, h6, ?_⟩
    intro a ha
    simp only [Pkt_decoded] at ha
    split at ha
    · simp only [Option.map_eq_some_iff] at ha
      obtain ⟨y, hy, rfl⟩ := ha
      exact (AF_packed_WF y (h7 y hy)).1
    · simp at ha
  · intro hpl
    have hhdr : Pkt_hdr (Pkt_decoded p) = Pkt_hdr p := rfl
    unfold Pkt_bytes Pkt_used
    rw [haf, hhdr]
    by_cases hc : p.adaption_ctrl = 1 ∨ p.adaption_ctrl = 3
    · rw [Pkt_decoded_payload p hc]
      have : 188 - (4 + (Pkt_af p).length + (p.payload ++ Pkt_stuffing p).length) = 0 := by
        simp [Pkt_stuffing, Pkt_used] at hf ⊢; omega
      rw [this]
      simp [Pkt_stuffing, Pkt_used]
    · have h02 : p.adaption_ctrl = 0 ∨ p.adaption_ctrl = 2 := by omega
      rw [Pkt_decoded_payload_nil p hc, hpl h02]

theorem Pkt_used_decoded_le (p : Pkt) (h : Pkt_WF p) (hf : Pkt_used p ≤ 188) : Pkt_used (Pkt_decoded p) ≤ 188 := by
  unfold Pkt_used at hf ⊢
  rw [Pkt_af_decoded p h]
  by_cases hc : p.adaption_ctrl = 1 ∨ p.adaption_ctrl = 3
  · rw [Pkt_decoded_payload p hc, List.length_append, Pkt_stuffing_length, Pkt_used]; omega
  · rw [Pkt_decoded_payload_nil p hc]; simp; omega

theorem Pkt_decoded_whole (ps : List Pkt) (h : ∀ p ∈ ps, Pkt_WF p ∧ Pkt_used p ≤ 188) :
    ∀ q ∈ ps.map Pkt_decoded, Pkt_WF q ∧ Pkt_used q ≤ 188 := by
  intro q hq
  obtain ⟨p, hp, rfl⟩ := List.mem_map.mp hq
  exact ⟨(Pkt_decoded_bytes p (h p hp).1 (h p hp).2).1, Pkt_used_decoded_le p (h p hp).1 (h p hp).2⟩

theorem flatMap_Pkt_bytes_length (qs : List Pkt) (h : ∀ q ∈ qs, Pkt_used q ≤ 188) :
    (qs.flatMap Pkt_bytes).length = 188 * qs.length :=
  flatMap_length_const Pkt_bytes 188 qs fun q hq => Pkt_bytes_length_of_fits q (h q hq)

theorem packBlocks_eq_packAll (ps : List Pkt) : packBlocks ps = packAll (Pkt.pack ·) ps := by
  induction ps with
  | nil => rfl
  | cons p ps ih =>
    rw [packBlocks, packAll, ih]
    rcases Pkt.pack p with ⟨p', _ | b⟩
    · rfl
    · rcases packAll (Pkt.pack ·) ps with ⟨ps', _ | r⟩ <;> rfl

theorem packBlocks_eq (ps : List Pkt) (h : ∀ p ∈ ps, Pkt_WF p) :
    packBlocks ps = (ps.map Pkt_packed, .ok (ps.flatMap Pkt_bytes)) := by
  rw [packBlocks_eq_packAll]
  exact packAll_eq _ Pkt_packed Pkt_bytes ps fun p hp => Pkt_pack_eq p false (h p hp)

theorem flatMap_decoded_bytes (ps : List Pkt) (h : ∀ p ∈ ps, Pkt_WF p ∧ Pkt_used p ≤ 188 ∧
      ((p.adaption_ctrl = 0 ∨ p.adaption_ctrl = 2) → p.payload = [])) :
    (ps.map Pkt_decoded).flatMap Pkt_bytes = ps.flatMap Pkt_bytes := by
  rw [List.flatMap_map]
  exact flatMap_congr' _ _ _ fun p hp => (Pkt_decoded_bytes p (h p hp).1 (h p hp).2.1).2 (h p hp).2.2

theorem TS_unpack_packed (t : TS) (ps : List Pkt) (hwf : ∀ p ∈ ps, Pkt_WF p ∧ p.sync = 0x47 ∧ Pkt_used p ≤ 188 ∧
      (p.adaption_ctrl = 2 → p.adaption_field.isSome = true)) :
    TS.unpack t (ps.flatMap Pkt_bytes) = ({ blocks := ps.map Pkt_decoded }, .ok true) := by
  have h1 := TS_unpack_chunks t (ps.map Pkt_bytes)
    (fun c hc => by
      obtain ⟨p, hp, rfl⟩ := List.mem_map.mp hc
      obtain ⟨_, _, hf, _⟩ := hwf p hp
      rw [Pkt_bytes_length]; omega)
    (fun c hc => by
      obtain ⟨p, hp, rfl⟩ := List.mem_map.mp hc
      obtain ⟨hw, hs, hf, h2⟩ := hwf p hp
      rw [Pkt_unpack_bytes p Pkt.fresh hw hs h2])
  have e1 : (ps.map Pkt_bytes).flatMap id = ps.flatMap Pkt_bytes := by
    simp [List.flatMap_map]
  have e2 : ((ps.map Pkt_bytes).map fun c => (Pkt.unpack Pkt.fresh c).1) = ps.map Pkt_decoded := by
    rw [List.map_map]
    apply List.map_congr_left
    intro p hp
    obtain ⟨hw, hs, hf, h2⟩ := hwf p hp
    simp [Pkt_unpack_bytes p Pkt.fresh hw hs h2]
  rw [e1, e2] at h1
  exact h1

end Acra.Lemmas.MPEGTS
