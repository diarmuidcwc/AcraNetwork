/-
  Loops of the shape "decode records while `off < len`" (`decOff` with that condition).
  * The loop: it returns (raises `e`) exactly on the predicate over the remaining bytes that unfolds one element at
    a time the way the loop does (`decOff_ok_iff_of_unfold`, `decOff_error_iff_of_unfold`).  The declarative
    readings of the element areas (NPD segments, iNET packages, IENA parameters, parser-aligned blocks) are such
    predicates; the inductive `Walk okP adv` is the one that says no more than that.  A new format states its
    acceptance theorem with an inductive of its own over the lengths it declares, proves the one-step unfolding and
    calls `Rec.loop_ok_iff`; `Rec.loop_walk` gives the reading as a `Walk` for nothing.  `decOff_encAll_whole` is the
    round trip over a whole buffer.
  * `roundUp4` and the ways the sources write the padding to a multiple of four.
  * `Rec`: one record of such a loop as data.  `hl` header bytes must be there (`struct.error` otherwise), the header
    must be acceptable (`ok`, exception `err` otherwise); then the record is `item rem` and the loop advances by
    `adv rem`.  IENA-M/Q parameters, iNET packages, NPD segments and parser-aligned blocks are instances; what the
    properties say about their steps and loops is said once, about `Rec.run`.
-/
import Acra.Py.Records
import Acra.Lemmas.ListAux

namespace Acra.Lemmas.Walk
open Acra.Py

/-- the loop condition is written `len - off > 0` -/
theorem more_iff {more : Nat → Nat → Bool} (h : ∀ off len, more off len = decide (0 < len - off)) (off len : Nat) :
    more off len = true ↔ off < len := by
  rw [h, decide_eq_true_eq]
  omega

/-- The unfolding `hP` has one solution, since what follows an element is shorter. -/
theorem decOff_ok_iff_of_unfold {α : Type} {dec1 : Bytes → R (α × Nat)} {more : Nat → Nat → Bool}
    (okP : Bytes → Prop) (adv : Bytes → Nat) (P : Bytes → Prop)
    (hmore : ∀ off len, more off len = true ↔ off < len)
    (hok : ∀ rem, (∃ x n, dec1 rem = .ok (x, n)) ↔ okP rem)
    (hadv : ∀ rem x n, dec1 rem = .ok (x, n) → n = adv rem ∧ 0 < n)
    (hP : ∀ rem, P rem ↔ rem = [] ∨ (okP rem ∧ P (rem.drop (adv rem))))
    (buf : Bytes) (fuel off : Nat) (hf : buf.length - off + 1 ≤ fuel) :
    (∃ xs, decOff dec1 more buf fuel off = .ok xs) ↔ P (buf.drop off) := by
  induction fuel generalizing off with
  | zero => omega
  | succ fuel ih =>
    rw [decOff, hP]
    by_cases hlt : off < buf.length
    · have hne : buf.drop off ≠ [] := by simp; omega
      rw [if_pos ((hmore _ _).2 hlt)]
      cases hd : dec1 (buf.drop off) with
      | error e =>
        have : ¬ okP (buf.drop off) := fun h => by
          obtain ⟨x, n, hx⟩ := (hok _).2 h
          rw [hd] at hx
          cases hx
        simp [hne, this]
      | ok r =>
        obtain ⟨x, n⟩ := r
        obtain ⟨rfl, hn⟩ := hadv _ _ _ hd
        have hokp := (hok _).1 ⟨x, _, hd⟩
        simp only [hne, hokp, false_or, true_and]
        rw [List.drop_drop, ← ih (off + adv (buf.drop off)) (by omega)]
        cases decOff dec1 more buf fuel (off + adv (buf.drop off)) <;> simp
    · rw [if_neg (mt (hmore _ _).1 hlt), List.drop_eq_nil_of_le (by omega)]
      simp

theorem decOff_error_iff_of_unfold {α : Type} {dec1 : Bytes → R (α × Nat)} {more : Nat → Nat → Bool}
    (okP : Bytes → Prop) (adv : Bytes → Nat) (Q : Bytes → Prop) (e : Err)
    (hmore : ∀ off len, more off len = true ↔ off < len)
    (hok : ∀ rem, (∃ x n, dec1 rem = .ok (x, n)) ↔ okP rem)
    (hadv : ∀ rem x n, dec1 rem = .ok (x, n) → n = adv rem ∧ 0 < n)
    (hQ : ∀ rem, Q rem ↔ rem ≠ [] ∧ (dec1 rem = .error e ∨ (okP rem ∧ Q (rem.drop (adv rem)))))
    (buf : Bytes) (fuel off : Nat) (hf : buf.length - off + 1 ≤ fuel) :
    decOff dec1 more buf fuel off = .error e ↔ Q (buf.drop off) := by
  induction fuel generalizing off with
  | zero => omega
  | succ fuel ih =>
    rw [decOff, hQ]
    by_cases hlt : off < buf.length
    · have hne : buf.drop off ≠ [] := by simp; omega
      rw [if_pos ((hmore _ _).2 hlt)]
      cases hd : dec1 (buf.drop off) with
      | error e' =>
        have : ¬ okP (buf.drop off) := fun h => by
          obtain ⟨x, n, hx⟩ := (hok _).2 h
          rw [hd] at hx
          cases hx
        simp [hne, this]
      | ok r =>
        obtain ⟨x, n⟩ := r
        obtain ⟨rfl, hn⟩ := hadv _ _ _ hd
        have hokp := (hok _).1 ⟨x, _, hd⟩
        simp only [ne_eq, hne, not_false_eq_true, hokp, reduceCtorEq, false_or, true_and]
        rw [List.drop_drop, ← ih (off + adv (buf.drop off)) (by omega)]
        cases decOff dec1 more buf fuel (off + adv (buf.drop off)) <;> simp
    · rw [if_neg (mt (hmore _ _).1 hlt), List.drop_eq_nil_of_le (by omega)]
      simp

/-- the form in which the models run such a loop: over the whole buffer, with fuel `len + 1` -/
theorem decOff_encAll_whole (dec1 : Bytes → R (α × Nat)) (more : Nat → Nat → Bool) (enc1 : β → Bytes) (out : β → α)
    (xs : List β) (hmore : ∀ off len, more off len = true ↔ off < len)
    (hdec : ∀ x ∈ xs, ∀ rest, dec1 (enc1 x ++ rest) = .ok (out x, (enc1 x).length))
    (hne : ∀ x ∈ xs, 1 ≤ (enc1 x).length) :
    decOff dec1 more (xs.flatMap enc1) ((xs.flatMap enc1).length + 1) 0 = .ok (xs.map out) := by
  have hlen := flatMap_length_ge enc1 xs hne
  refine decOff_encAll_map dec1 more enc1 out xs [] _ (by omega) hdec (fun x hx p q => ?_) (fun n => ?_)
  · have := hne x hx
    rw [hmore, List.length_append, List.length_append]
    omega
  · simpa using (hmore n n).1

/-- `Walk okP adv rem`: starting on `rem`, every element met is acceptable (`okP`), the walk advances by
    `adv` bytes each time, and it ends exactly when nothing is left -/
inductive Walk (okP : Bytes → Prop) (adv : Bytes → Nat) : Bytes → Prop
  | done : Walk okP adv []
  | step {rem : Bytes} : rem ≠ [] → okP rem → Walk okP adv (rem.drop (adv rem)) → Walk okP adv rem

theorem walk_cons_iff (okP : Bytes → Prop) (adv : Bytes → Nat) (rem : Bytes) (h : rem ≠ []) :
    Walk okP adv rem ↔ okP rem ∧ Walk okP adv (rem.drop (adv rem)) := by
  constructor
  · intro w
    cases w with
    | done => exact absurd rfl h
    | step _ h2 h3 => exact ⟨h2, h3⟩
  · rintro ⟨h2, h3⟩
    exact .step h h2 h3

theorem walk_iff (okP : Bytes → Prop) (adv : Bytes → Nat) (rem : Bytes) :
    Walk okP adv rem ↔ rem = [] ∨ (okP rem ∧ Walk okP adv (rem.drop (adv rem))) := by
  by_cases h : rem = []
  · subst h
    exact ⟨fun _ => Or.inl rfl, fun _ => .done⟩
  · rw [walk_cons_iff okP adv rem h]
    exact ⟨Or.inr, fun h' => h'.resolve_left h⟩

def roundUp4 (n : Nat) : Nat := n + (4 - n % 4) % 4

theorem roundUp4_ge (n : Nat) : n ≤ roundUp4 n := by simp only [roundUp4]; omega
theorem roundUp4_mod (n : Nat) : roundUp4 n % 4 = 0 := by simp only [roundUp4]; omega
theorem roundUp4_lt (n : Nat) : roundUp4 n < n + 4 := by simp only [roundUp4]; omega
theorem roundUp4_of_mod (n : Nat) (h : n % 4 = 0) : roundUp4 n = n := by simp only [roundUp4]; omega

theorem roundUp4_mul4_add (k n : Nat) : roundUp4 (4 * k + n) = 4 * k + roundUp4 n := by
  rw [roundUp4, roundUp4, Nat.mul_add_mod_self_left, Nat.add_assoc]

/-- the sources write the padding up to a multiple of four as `4 - n % 4 if n % 4 != 0 else 0` (or with `== 0` and
    the branches swapped) -/
theorem pad_mod4 (n : Nat) : (4 - n % 4) % 4 = if n % 4 ≠ 0 then 4 - n % 4 else 0 := by
  have hr := Nat.mod_lt n (by decide : 0 < 4)
  generalize n % 4 = r at hr ⊢
  split
  · exact Nat.mod_eq_of_lt (by omega)
  · rw [show r = 0 by omega]

theorem roundUp4_eq (n : Nat) : n + (if n % 4 ≠ 0 then 4 - n % 4 else 0) = roundUp4 n := by
  rw [roundUp4, pad_mod4]

theorem roundUp4_eq_beq (n : Nat) : n + (if n % 4 == 0 then 0 else 4 - n % 4) = roundUp4 n := by
  rw [← roundUp4_eq]
  by_cases h : n % 4 = 0 <;> simp [h]

open Acra.Py Acra.Lemmas.RecordsErr

/-- One record of a loop `while off < len`, described on the bytes `rem` that remain at the current offset.
    * `hl`: the length of the record header; with fewer bytes left the step raises `struct.error`.
    * `ok rem`: the test the decoder makes of a complete header (lower-case: the test alone; `Rec.Ok` below adds
      "the header is there"); when it fails the step raises `err`.
    * `item rem`: the record object decoded from the front of `rem`; `adv rem`: by how many bytes the loop advances.
    The laws are what the loop theorems need and every instance has: `hl_pos` makes the step fail on the empty
    string, `adv_ge` (an accepted record advances by at least its header) gives progress — so the fuel the models give
    the loop never runs out — and the bound `items · hl ≤ bytes + hl − 1`; `err_ne` keeps the model's `fuel` marker apart
    from the exceptions of the source.  The families' own acceptance predicates (`PkgOk`, `SegOk k`, `BlockOk`) unfold
    to `Rec.Ok` of their record, which is why they are passed for it without a rewrite. -/
structure Rec (α : Type) where
  hl : Nat
  ok : Bytes → Prop
  decOk : DecidablePred ok
  err : Err
  item : Bytes → α
  adv : Bytes → Nat
  hl_pos : 0 < hl
  adv_ge : ∀ rem, hl ≤ rem.length → ok rem → hl ≤ adv rem
  err_ne : err ≠ .fuel

namespace Rec
variable {α : Type} (S : Rec α)

instance : DecidablePred S.ok := S.decOk

def Ok (rem : Bytes) : Prop := S.hl ≤ rem.length ∧ S.ok rem

def run (rem : Bytes) : R (α × Nat) :=
  if rem.length < S.hl then .error .struct else if S.ok rem then .ok (S.item rem, S.adv rem) else .error S.err

theorem run_ok_iff (rem : Bytes) (x : α) (n : Nat) :
    S.run rem = .ok (x, n) ↔ S.Ok rem ∧ x = S.item rem ∧ n = S.adv rem := by
  rw [Rec.run, R.ite_error_eq_ok, Nat.not_lt, R.ite_ok_eq_ok, Prod.mk.injEq, Rec.Ok, and_assoc, eq_comm (a := x),
    eq_comm (a := n)]

theorem run_of_ok {rem : Bytes} (h : S.Ok rem) : S.run rem = .ok (S.item rem, S.adv rem) :=
  (S.run_ok_iff rem _ _).2 ⟨h, rfl, rfl⟩

theorem run_accepts (rem : Bytes) : (∃ x n, S.run rem = .ok (x, n)) ↔ S.Ok rem :=
  ⟨fun ⟨x, n, h⟩ => ((S.run_ok_iff rem x n).1 h).1, fun h => ⟨_, _, S.run_of_ok h⟩⟩

theorem run_error_iff (rem : Bytes) (e : Err) :
    S.run rem = .error e ↔ (rem.length < S.hl ∧ e = .struct) ∨ (S.hl ≤ rem.length ∧ ¬ S.ok rem ∧ e = S.err) := by
  rw [Rec.run, R.ite_error_eq_error, Nat.not_lt, ← ite_not, R.ite_error_eq_error]
  exact or_congr_right (and_congr_right fun _ => (or_iff_left fun h => nomatch h.2))

theorem run_error {rem : Bytes} {e : Err} (h : S.run rem = .error e) : e = .struct ∨ e = S.err :=
  ((S.run_error_iff rem e).1 h).elim (fun h => .inl h.2) (fun h => .inr h.2.2)

theorem run_advance (rem : Bytes) (x : α) (n : Nat) (h : S.run rem = .ok (x, n)) : n = S.adv rem ∧ 0 < n := by
  obtain ⟨hok, _, rfl⟩ := (S.run_ok_iff rem x n).1 h
  exact ⟨rfl, Nat.lt_of_lt_of_le S.hl_pos (S.adv_ge rem hok.1 hok.2)⟩

theorem progress : Progress S.run where
  pos := fun rem x n h => (S.run_advance rem x n h).2
  nofuel := fun rem h => by
    rcases S.run_error h with h' | h'
    · cases h'
    · exact S.err_ne h'.symm
  empty := fun x n h => absurd ((S.run_ok_iff [] x n).1 h).1.1 (Nat.not_le.2 S.hl_pos)

section loop
variable {more : Nat → Nat → Bool} (hmore : ∀ off len, more off len = true ↔ off < len)
  (buf : Bytes) (fuel off : Nat) (hf : buf.length - off + 1 ≤ fuel)
include hmore hf

theorem loop_ok_iff (P : Bytes → Prop) (hP : ∀ rem, P rem ↔ rem = [] ∨ (S.Ok rem ∧ P (rem.drop (S.adv rem)))) :
    (∃ xs, decOff S.run more buf fuel off = .ok xs) ↔ P (buf.drop off) :=
  decOff_ok_iff_of_unfold S.Ok S.adv P hmore S.run_accepts S.run_advance hP buf fuel off hf

theorem loop_walk : (∃ xs, decOff S.run more buf fuel off = .ok xs) ↔ Walk S.Ok S.adv (buf.drop off) :=
  S.loop_ok_iff hmore buf fuel off hf _ (walk_iff S.Ok S.adv)

theorem loop_error_iff (e : Err) (Q : Bytes → Prop)
    (hQ : ∀ rem, Q rem ↔ rem ≠ [] ∧ (S.run rem = .error e ∨ (S.Ok rem ∧ Q (rem.drop (S.adv rem))))) :
    decOff S.run more buf fuel off = .error e ↔ Q (buf.drop off) :=
  decOff_error_iff_of_unfold S.Ok S.adv Q e hmore S.run_accepts S.run_advance hQ buf fuel off hf

end loop

section
variable {more : Nat → Nat → Bool} (buf : Bytes) (fuel off : Nat) (hf : buf.length - off + 1 ≤ fuel)
include hf

theorem loop_error {e : Err} (h : decOff S.run more buf fuel off = .error e) : e = .struct ∨ e = S.err := by
  obtain ⟨_, o, _, _, ho⟩ := (decOff_error_iff _ _ _ S.progress _ off hf e).1 h
  exact S.run_error ho

end

section run
variable {more : Nat → Nat → Bool} {buf : Bytes} {fuel off : Nat} {xs : List α}

theorem loop_mem (h : decOff S.run more buf fuel off = .ok xs) :
    ∀ x ∈ xs, ∃ o, off ≤ o ∧ S.Ok (buf.drop o) ∧ x = S.item (buf.drop o) := by
  obtain ⟨_, hr, _⟩ := decOff_ok_reach h
  intro x hx
  obtain ⟨o, n, ho, _, hd⟩ := reach_mem hr x hx
  obtain ⟨hok, rfl, _⟩ := (S.run_ok_iff _ x n).1 hd
  exact ⟨o, ho, hok, rfl⟩

theorem loop_items_le (h : decOff S.run more buf fuel off = .ok xs) : xs.length ≤ buf.length - off :=
  decOff_items_le S.run more buf S.progress fuel off xs h

theorem loop_stride (h : decOff S.run more buf fuel off = .ok xs) : xs.length * S.hl ≤ (buf.length - off) + (S.hl - 1) :=
  Py.decOff_items_stride S.run more buf S.progress S.hl
    (fun b x n hb => by obtain ⟨hok, _, rfl⟩ := (S.run_ok_iff b x n).1 hb; exact S.adv_ge b hok.1 hok.2) fuel off xs h

end run

theorem loop_enc {β : Type} {more : Nat → Nat → Bool} (hmore : ∀ off len, more off len = true ↔ off < len)
    (enc : β → Bytes) (out : β → α) (xs : List β)
    (hdec : ∀ x ∈ xs, ∀ rest, S.run (enc x ++ rest) = .ok (out x, (enc x).length)) :
    decOff S.run more (xs.flatMap enc) ((xs.flatMap enc).length + 1) 0 = .ok (xs.map out) :=
  decOff_encAll_whole S.run more enc out xs hmore hdec fun x hx => by
    have := (S.run_advance _ _ _ (hdec x hx [])).2
    omega

end Rec
end Acra.Lemmas.Walk
