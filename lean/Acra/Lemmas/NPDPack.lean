/-
  What the NPD segment classes' `pack` emits under the well-formedness predicate `Seg_WF`, and what `unpack`
  (of any class) makes of those bytes: the base fields come back, the typed part is `typedUnpack` on the data.
  RS-232 segments, whose `pack` rebuilds status word and payload from the fields, come last.
-/
import Acra.Lemmas.NPDSegment
namespace Acra.Lemmas.NPD
open Acra.Py Acra.Model.NPD Acra.Gen.NPD Acra.Lemmas.Bits Acra.Lemmas.Walk

def padFF (n : Nat) : Bytes := if n % 4 = 0 then [] else List.replicate (4 - n % 4) 255

theorem padFF_length (n : Nat) : (padFF n).length = (4 - n % 4) % 4 := by
  unfold padFF; split <;> simp <;> omega

theorem flatten_replicate_single (k : Nat) (x : UInt8) : (List.replicate k [x]).flatten = List.replicate k x :=
  List.flatten_replicate_singleton

theorem pad_pack : structPack NPDSegment_pack_fmt0 [NPD_SEGMENT_PAD] = .ok [255] := rfl

def segHdr (td sl ec fl : Nat) : Bytes :=
  encInt true 4 td ++ (encInt true 2 sl ++ (encInt true 1 ec ++ encInt true 1 fl))

@[simp] theorem segHdr_length (td sl ec fl : Nat) : (segHdr td sl ec fl).length = 8 := by simp [segHdr]

/-- header (with the length field `sl`), data, pad -/
def segBytesL (td sl ec fl : Nat) (pl : Bytes) : Bytes := segHdr td sl ec fl ++ (pl ++ padFF pl.length)

theorem segBytesL_length (td sl ec fl : Nat) (pl : Bytes) :
    (segBytesL td sl ec fl pl).length = 8 + pl.length + (4 - pl.length % 4) % 4 := by
  simp [segBytesL, padFF_length]; omega

theorem segBytesL_mod4 (td sl ec fl : Nat) (pl : Bytes) : (segBytesL td sl ec fl pl).length % 4 = 0 := by
  rw [segBytesL_length]; omega

theorem segHdrFmt_fits (td sl ec fl : Nat) (h1 : td < 4294967296) (h2 : sl < 65536) (h3 : ec < 256) (h4 : fl < 256) :
    Fits NPD_SEGMENT_HDR_FORMAT.codes [td, sl, ec, fl] := ⟨h1, h2, h3, h4, trivial⟩

/-- `NPDSegment.pack` writes `segmentlen` AS STORED; it does not recompute it -/
theorem packBase_eq (g : Seg) (h1 : g.timedelta < 4294967296) (h2 : g.segmentlen < 65536) (h3 : g.errorcode < 256)
    (h4 : g.flags < 256) :
    g.packBase = .ok (segBytesL g.timedelta g.segmentlen g.errorcode g.flags g.payload) := by
  unfold Seg.packBase
  rw [structPack_eq _ _ (segHdrFmt_fits _ _ _ _ h1 h2 h3 h4)]
  by_cases hm : g.payload.length % 4 = 0
  · simp [hm, segBytesL, segHdr, padFF, encCodes, NPD_SEGMENT_HDR_FORMAT, Code.size]
  · simp [hm, pad_pack, segBytesL, segHdr, padFF, encCodes, NPD_SEGMENT_HDR_FORMAT, Code.size]

/-- the base-class fields after `NPDSegment.unpack` of a segment whose length field is right -/
def withBase (t : Seg) (td ec fl : Nat) (pl : Bytes) : Seg :=
  { t with timedelta := td, segmentlen := pl.length + 8, errorcode := ec, flags := fl, payload := pl }

theorem unpackBase_eq (t : Seg) (td ec fl : Nat) (pl rest : Bytes) (h1 : td < 4294967296) (h2 : 8 + pl.length < 65536)
    (h3 : ec < 256) (h4 : fl < 256) :
    Seg.unpackBase t (segBytesL td (8 + pl.length) ec fl pl ++ rest) = (withBase t td ec fl pl, .ok rest) := by
  have hhdr : structUnpackFrom NPD_SEGMENT_HDR_FORMAT (segBytesL td (8 + pl.length) ec fl pl ++ rest) 0 =
      .ok [td, 8 + pl.length, ec, fl] := by
    have := structUnpackFrom_enc0 NPD_SEGMENT_HDR_FORMAT _ ((pl ++ padFF pl.length) ++ rest)
      (segHdrFmt_fits td _ ec fl h1 h2 h3 h4)
    simpa [segBytesL, segHdr, encCodes, NPD_SEGMENT_HDR_FORMAT, Code.size] using this
  have hpl : slice (segBytesL td (8 + pl.length) ec fl pl ++ rest) 8 (8 + pl.length) = pl := by
    simp only [segBytesL, List.append_assoc]
    exact slice_mid _ _ _ _ _ (by simp) (by simp)
  have hdrop : List.drop (roundUp4 (pl.length + 8)) (segBytesL td (8 + pl.length) ec fl pl ++ rest) = rest :=
    drop_append_len _ _ _ (by rw [segBytesL_length, roundUp4]; omega)
  simp only [Seg.unpackBase, hhdr, Seg.setPayload, NPD_SEGMENT_HDR_LEN, hpl, roundUp4_eq_beq, hdrop]
  rfl

/-- the data a segment encodes: RS-232 segments rebuild it from block status, sync bytes and data
    (the low three bits of the status word are the sync byte count); every other class emits its payload -/
def effPayload (g : Seg) : Bytes :=
  match g.kind with
  | .rs232 => encInt true 2 (g.block_status % 65536 / 8 * 8 + g.sync_bytes.length) ++
      (g.sync_bytes.flatMap (encInt true 1) ++ g.data)
  | _ => g.payload

/-- every field fits its width; the length field is header + data (what the `payload` setter
    establishes, and `RS232Segment.pack` re-establishes); an RS-232 segment has at most seven sync bytes -/
def Seg_WF (g : Seg) : Prop :=
  g.timedelta < 4294967296 ∧ g.errorcode < 256 ∧ g.flags < 256 ∧ 8 + (effPayload g).length < 65536 ∧
  (g.kind = .rs232 → g.sync_bytes.length < 8 ∧ ∀ b ∈ g.sync_bytes, b < 256) ∧
  (g.kind ≠ .rs232 → g.segmentlen = 8 + g.payload.length)

def segBytes (g : Seg) : Bytes :=
  segBytesL g.timedelta (8 + (effPayload g).length) g.errorcode g.flags (effPayload g)

/-- the object `pack` leaves behind -/
def packedSeg (g : Seg) : Seg :=
  match g.kind with
  | .rs232 => { g with block_status := g.block_status % 65536 / 8 * 8 + g.sync_bytes.length,
                       payload := effPayload g, segmentlen := (effPayload g).length + 8 }
  | _ => g

/-- only `RS232Segment` overrides `pack` -/
theorem Seg_pack_closed (g : Seg) : g.pack = if g.kind = .rs232 then g.packRS232 else (g, g.packBase) := by
  unfold Seg.pack
  split
  · next hk => rw [if_pos hk]
  · next hk => rw [if_neg fun h => hk h]

theorem pack_rs232 (g : Seg) (hk : g.kind = .rs232) : g.pack = g.packRS232 := (Seg_pack_closed g).trans (if_pos hk)

theorem pack_of_ne (g : Seg) (hk : g.kind ≠ .rs232) : g.pack = (g, g.packBase) := (Seg_pack_closed g).trans (if_neg hk)

theorem packBase_congr (a b : Seg) (h1 : a.timedelta = b.timedelta) (h2 : a.segmentlen = b.segmentlen)
    (h3 : a.errorcode = b.errorcode) (h4 : a.flags = b.flags) (h5 : a.payload = b.payload) : a.packBase = b.packBase := by
  simp only [Seg.packBase, h1, h2, h3, h4, h5]

/-- the payload `RS232Segment.pack` rebuilds: the status word with the sync byte count, the sync bytes, the data -/
def rsPayload (g : Seg) : R Bytes :=
  (structPack RS232Segment_pack_fmt0 [(g.block_status &&& 0xFFF8) + g.sync_bytes.length]).bind fun h =>
    (packSync g.sync_bytes).bind fun sb => .ok (h ++ sb ++ g.data)

theorem packRS232_snd (g : Seg) :
    g.packRS232.2 = (rsPayload g).bind fun pl => Seg.packBase { g with payload := pl, segmentlen := pl.length + 8 } := by
  simp only [Seg.packRS232, rsPayload]
  cases structPack RS232Segment_pack_fmt0 _ with
  | error e => rfl
  | ok h => cases packSync g.sync_bytes <;> rfl

theorem Seg_eq_iff (l r : Seg) : Seg.eq l r = true ↔
    l.kind = r.kind ∧ l.timedelta = r.timedelta ∧ l.segmentlen = r.segmentlen ∧ l.errorcode = r.errorcode ∧
    l.flags = r.flags ∧
    if l.kind = .rs232 then l.block_status = r.block_status ∧ l.sync_bytes = r.sync_bytes ∧ l.data = r.data
    else l.payload = r.payload := by
  unfold Seg.eq
  by_cases hk : l.kind = r.kind
  · rw [if_pos hk]
    split
    · next h => simp only [Seg.eqRS232, Bool.and_eq_true, beq_iff_eq, and_assoc, hk, true_and, if_pos (hk ▸ h)]
    · next h =>
      have h' : ¬ r.kind = .rs232 := hk ▸ h
      simp only [Seg.eqBase, Bool.and_eq_true, beq_iff_eq, and_assoc, hk, true_and, if_neg h']
  · rw [if_neg hk]
    exact ⟨fun h => (nomatch h), fun h => absurd h.1 hk⟩

theorem effPayload_rs232 (g : Seg) (hk : g.kind = .rs232) :
    effPayload g = encInt true 2 (g.block_status % 65536 / 8 * 8 + g.sync_bytes.length) ++
      (g.sync_bytes.flatMap (encInt true 1) ++ g.data) := by
  simp only [effPayload, hk]

theorem effPayload_of_ne (g : Seg) (hk : g.kind ≠ .rs232) : effPayload g = g.payload := by
  unfold effPayload
  split
  · exact absurd ‹_› hk
  · rfl

theorem packedSeg_of_ne (g : Seg) (hk : g.kind ≠ .rs232) : packedSeg g = g := by
  unfold packedSeg
  split
  · exact absurd ‹_› hk
  · rfl

theorem packSync_eq (l : List Nat) (h : ∀ b ∈ l, b < 256) : packSync l = .ok (l.flatMap (encInt true 1)) :=
  packLoop_eq _ _ l rfl fun b hb ys r hr => by
    simp only [packSync, structPack_eq _ _ (show Fits RS232Segment_pack_fmt1.codes [b] from ⟨h b hb, trivial⟩), hr]; rfl

theorem Seg_pack_eq (g : Seg) (h : Seg_WF g) : Seg.pack g = (packedSeg g, .ok (segBytes g)) := by
  obtain ⟨h1, h2, h3, h4, h5, h6⟩ := h
  by_cases hk : g.kind = .rs232
  · obtain ⟨h7, h8⟩ := h5 hk
    have hbs : Fits RS232Segment_pack_fmt0.codes [g.block_status % 65536 / 8 * 8 + g.sync_bytes.length] :=
      ⟨by show _ < 65536; omega, trivial⟩
    have henc : encCodes RS232Segment_pack_fmt0.big RS232Segment_pack_fmt0.codes
        [g.block_status % 65536 / 8 * 8 + g.sync_bytes.length] =
        encInt true 2 (g.block_status % 65536 / 8 * 8 + g.sync_bytes.length) := by
      simp [encCodes, RS232Segment_pack_fmt0, Code.size]
    rw [pack_rs232 g hk]
    simp only [Seg.packRS232, and_FFF8, structPack_eq _ _ hbs, packSync_eq _ h8, henc, List.append_assoc,
      ← effPayload_rs232 g hk]
    have hpb := packBase_eq ({ g with block_status := g.block_status % 65536 / 8 * 8 + g.sync_bytes.length }.setPayload
      (effPayload g)) h1 (by simp only [Seg.setPayload, NPD_SEGMENT_HDR_LEN]; omega) h2 h3
    rw [hpb]
    simp [packedSeg, hk, Seg.setPayload, NPD_SEGMENT_HDR_LEN, segBytes, Nat.add_comm]
  · have hsl := h6 hk
    have heff := effPayload_of_ne g hk
    rw [pack_of_ne g hk, packBase_eq g h1 (by rw [hsl, ← heff]; omega) h2 h3, packedSeg_of_ne g hk, segBytes, heff, hsl]

theorem segBytes_length (g : Seg) : (segBytes g).length = 8 + (effPayload g).length + (4 - (effPayload g).length % 4) % 4 :=
  segBytesL_length _ _ _ _ _

theorem segBytes_mod4 (g : Seg) : (segBytes g).length % 4 = 0 := segBytesL_mod4 _ _ _ _ _

/-- MIL-STD-1553 segment data: block status(16) gap1(8) gap2(8) message data -/
def data1553 (bs g1 g2 : Nat) (data : Bytes) : Bytes :=
  encInt true 2 bs ++ (encInt true 1 g1 ++ (encInt true 1 g2 ++ data))

theorem unpack1553_eq (s : Seg) (bs g1 g2 : Nat) (data : Bytes) (hp : s.payload = data1553 bs g1 g2 data)
    (h1 : bs < 65536) (h2 : g1 < 256) (h3 : g2 < 256) :
    s.unpack1553 = ({ s with blockstatus := bs, gap1 := g1, gap2 := g2, data := data }, .ok ()) := by
  have hf : Fits MIL1553Segment_unpack_fmt0.codes [bs, g1, g2] := ⟨h1, h2, h3, trivial⟩
  have hu : structUnpackFrom MIL1553Segment_unpack_fmt0 s.payload 0 = .ok [bs, g1, g2] := by
    have := structUnpackFrom_enc0 MIL1553Segment_unpack_fmt0 _ data hf
    rw [hp]
    simpa [data1553, encCodes, MIL1553Segment_unpack_fmt0, Code.size] using this
  have hd : s.payload.drop 4 = data := by
    rw [hp]; simp only [data1553]
    rw [← List.append_assoc (encInt true 1 g1), ← List.append_assoc (encInt true 2 bs)]
    exact drop_append_len _ _ _ (by simp)
  simp only [Seg.unpack1553, hu, hd]

/-- ACQ segment data: sub-frame id(8), CAL flag byte(8), reserved(16), 16-bit words -/
def dataACQ (sfid calbyte reserved : Nat) (words : List Nat) : Bytes :=
  encInt true 1 sfid ++ (encInt true 1 calbyte ++ (encInt true 2 reserved ++ wordsC .u16 words))

theorem unpackACQ_eq (s : Seg) (sfid calbyte reserved : Nat) (words : List Nat)
    (hp : s.payload = dataACQ sfid calbyte reserved words)
    (h1 : sfid < 256) (h2 : calbyte < 256) (h3 : reserved < 65536) (h4 : ∀ w ∈ words, w < 65536) :
    s.unpackACQ = ({ s with sfid := sfid, cal := calbyte / 128, words := words }, .ok ()) := by
  have hf : Fits ACQSegment_unpack_fmt0.codes [sfid, calbyte, reserved] := ⟨h1, h2, h3, trivial⟩
  have hu : structUnpackFrom ACQSegment_unpack_fmt0 s.payload 0 = .ok [sfid, calbyte, reserved] := by
    have := structUnpackFrom_enc0 ACQSegment_unpack_fmt0 _ (wordsC .u16 words) hf
    rw [hp]
    simpa [dataACQ, encCodes, ACQSegment_unpack_fmt0, Code.size] using this
  have hl : s.payload.length = 4 + 2 * words.length := by
    rw [hp]; simp [dataACQ, wordsC_length, Code.size]; omega
  have hw : structUnpackFrom (ACQSegment_unpack_fmt1 ((s.payload.length - 4) / 2)) s.payload 4 = .ok words := by
    have hn : (s.payload.length - 4) / 2 = words.length := by omega
    rw [hn, hp]
    have := structUnpackFrom_wordsC .u16 (ACQSegment_unpack_fmt1 words.length) words
      (encInt true 1 sfid ++ (encInt true 1 calbyte ++ encInt true 2 reserved)) [] rfl
      (by intro w hw; exact h4 w hw) 4 (by simp)
    simpa [dataACQ] using this
  simp only [Seg.unpackACQ, hu, shr, Nat.reducePow, hw]

/-- RS-232 segment data: block status (high 13 bits, then the sync byte count), sync bytes, data -/
def dataRS232 (hi13 : Nat) (sync : List Nat) (data : Bytes) : Bytes :=
  encInt true 2 (hi13 * 8 + sync.length) ++ (wordsC .u8 sync ++ data)

theorem unpackRS232_eq (s : Seg) (hi13 : Nat) (sync : List Nat) (data : Bytes)
    (hp : s.payload = dataRS232 hi13 sync data) (h1 : hi13 < 8192) (h2 : sync.length < 8) (h3 : ∀ b ∈ sync, b < 256) :
    s.unpackRS232 = ({ s with block_status := hi13 * 8 + sync.length, sync_bytes := sync, data := data }, .ok ()) := by
  have hf : Fits RS232Segment_unpack_fmt0.codes [hi13 * 8 + sync.length] := ⟨by show _ < 65536; omega, trivial⟩
  have hu : structUnpackFrom RS232Segment_unpack_fmt0 s.payload 0 = .ok [hi13 * 8 + sync.length] := by
    have := structUnpackFrom_enc0 RS232Segment_unpack_fmt0 _ (wordsC .u8 sync ++ data) hf
    rw [hp]
    simpa [dataRS232, encCodes, RS232Segment_unpack_fmt0, Code.size] using this
  have hcnt : (hi13 * 8 + sync.length) % 8 = sync.length := by omega
  have hd2 : s.payload.drop 2 = wordsC .u8 sync ++ data := by
    rw [hp]; exact drop_append_len _ _ _ (by simp)
  simp only [Seg.unpackRS232, hu, BSL_SYNC_COUNT_MASK, and_7, hcnt]
  by_cases hpos : sync.length > 0
  · have hs : structUnpackFrom (RS232Segment_unpack_fmt1 sync.length) (s.payload.drop 2) 0 = .ok sync := by
      rw [hd2]
      have := structUnpackFrom_wordsC .u8 (RS232Segment_unpack_fmt1 sync.length) sync [] data rfl
        (by intro w hw; exact h3 w hw) 0 rfl
      simpa using this
    have hd : s.payload.drop (2 + sync.length) = data := by
      rw [hp]; simp only [dataRS232]
      rw [← List.append_assoc]
      exact drop_append_len _ _ _ (by simp [wordsC_length, Code.size])
    simp only [hpos, if_true, hs, hd]
  · have : sync = [] := by
      cases sync with
      | nil => rfl
      | cons a l => simp at hpos
    subst this
    simp [hd2, wordsC]

/-- the segment object a decode of `g`'s bytes into a new object of class `k` produces -/
def decodedSeg (k : Kind) (g : Seg) : Seg :=
  (typedUnpack k (withBase (Seg.fresh k) g.timedelta g.errorcode g.flags (effPayload g))).1

/-- the typed header of the data is complete (always true of the plain classes) -/
def TypedOK (k : Kind) (g : Seg) : Prop :=
  (typedUnpack k (withBase (Seg.fresh k) g.timedelta g.errorcode g.flags (effPayload g))).2 = .ok ()

theorem Seg_unpack_of_typed (k : Kind) (td ec fl : Nat) (pl rest : Bytes) (s' : Seg) (h1 : td < 4294967296)
    (h2 : 8 + pl.length < 65536) (h3 : ec < 256) (h4 : fl < 256)
    (hty : typedUnpack k (withBase (Seg.fresh k) td ec fl pl) = (s', .ok ())) :
    Seg.unpack (Seg.fresh k) (segBytesL td (8 + pl.length) ec fl pl ++ rest) = (s', .ok rest) := by
  rw [unpack_typed, unpackBase_eq _ td ec fl pl rest h1 h2 h3 h4]
  show ((typedUnpack k _).1, (typedUnpack k _).2.map _) = _
  rw [hty]
  rfl

theorem Seg_unpack_eq (k : Kind) (g : Seg) (rest : Bytes) (h : Seg_WF g) (hok : TypedOK k g) :
    Seg.unpack (Seg.fresh k) (segBytes g ++ rest) = (decodedSeg k g, .ok rest) :=
  Seg_unpack_of_typed k _ _ _ _ rest _ h.1 h.2.2.2.1 h.2.1 h.2.2.1 (Prod.ext rfl hok)

theorem decodedSeg_base (k : Kind) (g : Seg) :
    (decodedSeg k g).segmentlen = (effPayload g).length + 8 ∧ (decodedSeg k g).payload = effPayload g ∧
    (decodedSeg k g).timedelta = g.timedelta ∧ (decodedSeg k g).errorcode = g.errorcode ∧
    (decodedSeg k g).flags = g.flags ∧ (decodedSeg k g).kind = k :=
  typedUnpack_base k (withBase (Seg.fresh k) g.timedelta g.errorcode g.flags (effPayload g))

theorem decSeg_enc (k : Kind) (g : Seg) (rest : Bytes) (h : Seg_WF g) (hok : TypedOK k g) :
    decSeg k (segBytes g ++ rest) = .ok (decodedSeg k g, (segBytes g).length) := by
  simp only [decSeg, Seg_unpack_eq k g rest h hok, (decodedSeg_base k g).1, roundUp4_eq_beq, segBytes_length, roundUp4]
  congr 2
  omega

theorem typedUnpack_rs232 (g : Seg) (h : Seg_WF g) (hk : g.kind = .rs232) :
    typedUnpack .rs232 (withBase (Seg.fresh .rs232) g.timedelta g.errorcode g.flags (effPayload g)) =
      ({ withBase (Seg.fresh .rs232) g.timedelta g.errorcode g.flags (effPayload g) with
        block_status := g.block_status % 65536 / 8 * 8 + g.sync_bytes.length, sync_bytes := g.sync_bytes,
        data := g.data }, .ok ()) := by
  obtain ⟨h7, h8⟩ := h.2.2.2.2.1 hk
  have heff : effPayload g = dataRS232 (g.block_status % 65536 / 8) g.sync_bytes g.data := by
    simp [effPayload, hk, dataRS232, wordsC, Code.size]
  exact unpackRS232_eq _ (g.block_status % 65536 / 8) g.sync_bytes g.data heff (by omega) h7 h8

theorem decodedSeg_rs232 (g : Seg) (h : Seg_WF g) (hk : g.kind = .rs232) :
    decodedSeg .rs232 g = { withBase (Seg.fresh .rs232) g.timedelta g.errorcode g.flags (effPayload g) with
      block_status := g.block_status % 65536 / 8 * 8 + g.sync_bytes.length, sync_bytes := g.sync_bytes, data := g.data } :=
  congrArg Prod.fst (typedUnpack_rs232 g h hk)

theorem typedOK_rs232 (g : Seg) (h : Seg_WF g) (hk : g.kind = .rs232) : TypedOK .rs232 g :=
  congrArg Prod.snd (typedUnpack_rs232 g h hk)

theorem Seg_eq_decoded_rs232 (g : Seg) (h : Seg_WF g) (hgk : g.kind = .rs232) :
    Seg.eq (decodedSeg .rs232 g) (packedSeg g) = true := by
  rw [decodedSeg_rs232 g h hgk]
  simp [packedSeg, Seg_eq_iff, withBase, Seg.fresh, hgk]

theorem Seg_eq_decoded (g : Seg) (h : Seg_WF g) : Seg.eq (decodedSeg g.kind g) (packedSeg g) = true := by
  by_cases hk : g.kind = .rs232
  · rw [hk]
    exact Seg_eq_decoded_rs232 g h hk
  · obtain ⟨hsl, hpl, htd, hec, hfl, hkd⟩ := decodedSeg_base g.kind g
    rw [packedSeg_of_ne g hk]
    exact (Seg_eq_iff _ _).2 ⟨hkd, htd, by rw [hsl, h.2.2.2.2.2 hk, effPayload_of_ne g hk, Nat.add_comm], hec, hfl,
      by rw [if_neg (fun c => hk (hkd.symm.trans c)), hpl, effPayload_of_ne g hk]⟩

/-- the status word `pack` writes is a fixed point of the rewriting exactly when the sync byte count
    (mod 2¹⁶) fits the three bits the format gives it -/
theorem status_fix_iff (b n : Nat) :
    ((b &&& 0xFFF8) + n &&& 0xFFF8) + n = (b &&& 0xFFF8) + n ↔ n % 65536 ≤ 7 := by
  rw [and_FFF8, and_FFF8]; omega

theorem packRS232_fields (g : Seg) :
    (g.packRS232).1.block_status = (g.block_status &&& 0xFFF8) + g.sync_bytes.length ∧
    (g.packRS232).1.sync_bytes = g.sync_bytes ∧ (g.packRS232).1.kind = g.kind := by
  simp only [Seg.packRS232]
  repeat' split
  all_goals simp [Seg.setPayload]

theorem packRS232_idem_of_fix (g : Seg)
    (hbs : ((g.block_status &&& 0xFFF8) + g.sync_bytes.length &&& 0xFFF8) + g.sync_bytes.length =
      (g.block_status &&& 0xFFF8) + g.sync_bytes.length) :
    (g.packRS232).1.packRS232 = g.packRS232 := by
  simp only [Seg.packRS232]
  cases h1 : structPack RS232Segment_pack_fmt0 [(g.block_status &&& 0xFFF8) + g.sync_bytes.length] with
  | error e => simp only [hbs, h1]
  | ok hh =>
    cases h2 : packSync g.sync_bytes with
    | error e => simp only [Seg.setPayload, hbs, h1, h2]
    | ok sb => simp only [Seg.setPayload, hbs, h1, h2]

theorem packRS232_idem_iff (g : Seg) :
    (g.packRS232).1.packRS232 = g.packRS232 ↔ g.sync_bytes.length % 65536 ≤ 7 := by
  constructor
  · intro h
    have h1 := packRS232_fields g
    have h2 := packRS232_fields (g.packRS232).1
    rw [h] at h2
    rw [h1.1, h1.2.1] at h2
    exact (status_fix_iff _ _).1 h2.1.symm
  · intro h
    exact packRS232_idem_of_fix g ((status_fix_iff _ _).2 h)

theorem pack_idem_iff_rs232 (g : Seg) (hk : g.kind = .rs232) :
    Seg.pack (Seg.pack g).1 = Seg.pack g ↔ g.sync_bytes.length % 65536 ≤ 7 := by
  rw [pack_rs232 g hk, pack_rs232 _ ((packRS232_fields g).2.2.trans hk), packRS232_idem_iff]

end Acra.Lemmas.NPD
