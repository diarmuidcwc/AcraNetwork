/-
  Chapter 7: the frame layout of mixed traffic, as definitions with their algebra; the encapsulator is proved to produce
  it (Chapter7MixEnc), the decapsulator to read it (Chapter7Dec), independently of each other.
  A frame that holds the low-latency PTDPs `ll` (most recently inserted first) is
      llpBytes ll ++ S[c, c + cap L ll)         llpBytes ll = encB p₁ ++ [0xFF] ++ … ++ encB pₙ ++ [0x00]
  (`mixFrame`): LLP flag = (ll ≠ []), offset = |llpBytes ll| if ll ≠ [] else the first normal PTDP start in [c, c + L)
  (`offAt`, 0x7FF if none), `S` the stream of the normal PTDPs.  A frame holding `ll` carries `cap L ll = L - |llpBytes ll|`
  bytes of that stream, so the cuts are c₀ = 0, c_{k+1} = c_k + cap L ll_k (`cutAfter`, `mixFrames`); without low-latency
  data they are the multiples of L and frame `k` is `frameOf … k`.
  The frames determine the lists `ll_k` (`mixFrames_inj`), on PTDPs whose off-wire attributes are what the encapsulator sets
  (`LlpCanon`); proved THROUGH `PTDP.unpack ∘ encB`, so no separate injectivity of the Golay code is needed.
-/
import Acra.Lemmas.Chapter7Frag
namespace Acra.Lemmas.Chapter7
open Acra.Py Acra.Model Acra.Model.Chapter7 Acra.Gen.Chapter7
open Acra.Spec.Ch7 (offset startsAux)

/-- the low-latency prefix of a frame: each PTDP followed by its continuation byte -/
def llpBytes : List PTDP.State → Bytes
  | [] => []
  | [p] => encB p ++ [0x00]
  | p :: q :: rest => encB p ++ [0xFF] ++ llpBytes (q :: rest)

theorem llpBytes_cons (p : PTDP.State) (ps : List PTDP.State) :
    llpBytes (p :: ps) = encB p ++ [if ps = [] then 0x00 else 0xFF] ++ llpBytes ps := by
  cases ps with
  | nil => simp [llpBytes]
  | cons q rest => simp [llpBytes]

/-- a frame holding the low-latency PTDPs `llps` in front of the normal data `N` -/
structure LlpLayout (s : PTFR.State) (llps : List PTDP.State) (N : Bytes) : Prop where
  flag : s.llp = !llps.isEmpty
  payload : s.payload = llpBytes llps ++ N
  off : llps ≠ [] → s.ptdp_offset = (llpBytes llps).length

theorem llpBytes_pos (q : PTDP.State) (rest : List PTDP.State) : 0 < (llpBytes (q :: rest)).length := by
  cases rest <;> simp [llpBytes] <;> omega

theorem llpBytes_len_ge (llps : List PTDP.State) : llps.length ≤ (llpBytes llps).length := by
  induction llps with
  | nil => simp [llpBytes]
  | cons p ps ih => rw [llpBytes_cons]; simp only [List.length_append, List.length_cons, List.length_nil]; omega

theorem startsAux_append (pos : Nat) (a b : List Bytes) :
    startsAux pos (a ++ b) = startsAux pos a ++ startsAux (pos + a.flatten.length) b := by
  induction a generalizing pos with
  | nil => simp [startsAux]
  | cons x xs ih =>
    simp only [List.cons_append, startsAux, ih, List.flatten_cons, List.length_append, List.cons.injEq,
      true_and]
    rw [Nat.add_assoc]

theorem startsAux_snoc (bs : List Bytes) (b : Bytes) :
    startsAux 0 (bs ++ [b]) = startsAux 0 bs ++ [bs.flatten.length] := by
  rw [startsAux_append]; simp [startsAux]

theorem startsAux_lt (pos : Nat) (bs : List Bytes) (hne : ∀ b ∈ bs, b ≠ []) :
    ∀ p ∈ startsAux pos bs, p < pos + bs.flatten.length := by
  induction bs generalizing pos with
  | nil => simp [startsAux]
  | cons x xs ih =>
    intro p hp
    simp only [startsAux, List.mem_cons] at hp
    have hx : 0 < x.length := List.length_pos_iff.2 (hne x (by simp))
    simp only [List.flatten_cons, List.length_append]
    rcases hp with rfl | hp
    · omega
    · have := ih (pos + x.length) (fun b hb => hne b (by simp [hb])) p hp
      omega

/-- the test `offAt` searches the starts with; half-open, so a start exactly at the upper cut belongs to the next frame -/
def inRange (lo hi : Nat) (p : Nat) : Bool := decide (lo ≤ p) && decide (p < hi)

/-- offset field of a frame whose normal data are the bytes [lo, hi) of the stream: first PTDP start
    in that range, relative to `lo`; else the reserved 0x7FF -/
def offAt (st : List Nat) (lo hi : Nat) : Nat :=
  match st.find? (inRange lo hi) with
  | some p => p - lo
  | none => 0x7FF

theorem offset_eq_offAt (L : Nat) (st : List Nat) (k : Nat) : offset L st k = offAt st (k * L) ((k + 1) * L) := rfl

theorem findR_none (lo hi : Nat) (st : List Nat) (h : ∀ p ∈ st, p < lo ∨ hi ≤ p) :
    st.find? (inRange lo hi) = none := by
  rw [List.find?_eq_none]
  intro p hp
  have := h p hp
  simp [inRange]; omega

theorem offAt_none_of_lt (lo hi : Nat) (st : List Nat) (h : ∀ p ∈ st, p < lo) : offAt st lo hi = 0x7FF := by
  unfold offAt; rw [findR_none lo hi st fun p hp => .inl (h p hp)]

theorem offAt_append_one (lo hi : Nat) (st : List Nat) (y : Nat) (h : ∀ p ∈ st, p < lo) :
    offAt (st ++ [y]) lo hi = if lo ≤ y ∧ y < hi then y - lo else 0x7FF := by
  unfold offAt
  rw [List.find?_append, findR_none lo hi st fun p hp => .inl (h p hp)]
  simp only [Option.none_or, List.find?_cons, List.find?_nil, inRange]
  by_cases h1 : lo ≤ y ∧ y < hi
  · simp [h1]
  · simp only [h1, if_false]
    have : (decide (lo ≤ y) && decide (y < hi)) = false := by
      simp only [Bool.and_eq_false_imp, decide_eq_true_eq, decide_eq_false_iff_not]; omega
    simp [this]

theorem offAt_append_ge (lo hi : Nat) (st l : List Nat) (h : ∀ p ∈ l, hi ≤ p) :
    offAt (st ++ l) lo hi = offAt st lo hi := by
  unfold offAt
  rw [List.find?_append, findR_none lo hi l fun p hp => .inr (h p hp)]
  cases st.find? (inRange lo hi) <;> rfl

theorem offAt_append_hit (lo hi : Nat) (st l : List Nat) (h : (st.find? (inRange lo hi)).isSome) :
    offAt (st ++ l) lo hi = offAt st lo hi := by
  unfold offAt
  rw [List.find?_append]
  cases hf : st.find? (inRange lo hi) with
  | none => rw [hf] at h; cases h
  | some p => rfl

theorem findR_isSome_of_mem (lo hi : Nat) (st : List Nat) (y : Nat) (hy : y ∈ st)
    (h : lo ≤ y ∧ y < hi) : (st.find? (inRange lo hi)).isSome := by
  rw [List.find?_isSome]
  exact ⟨y, hy, by simp [inRange, h]⟩

theorem offAt_lt (st : List Nat) (lo L : Nat) (hL : L ≤ 2047) : offAt st lo (lo + L) < 2048 := by
  unfold offAt
  cases h : st.find? (inRange lo (lo + L)) with
  | none => simp
  | some p =>
    have := List.find?_some h
    simp only [inRange, Bool.and_eq_true, decide_eq_true_eq] at this
    simp only
    omega

theorem offAt_zero_at_boundary (L : Nat) (hL : 0 < L) (bs : List Bytes) (hne : ∀ b ∈ bs, b ≠ []) (c m : Nat)
    (ha : ((bs.take m).flatten).length = c) (hlt : c < bs.flatten.length) :
    offAt (startsAux 0 bs) c (c + L) = 0 := by
  have hsplit : bs = bs.take m ++ bs.drop m := (List.take_append_drop m bs).symm
  have hdne : bs.drop m ≠ [] := by
    intro h
    rw [h, List.append_nil] at hsplit
    rw [← hsplit] at ha; omega
  obtain ⟨b, rest, hd⟩ := List.exists_cons_of_ne_nil hdne
  rw [hsplit, startsAux_append, hd, Nat.zero_add, ha]
  simp only [startsAux]
  unfold offAt
  rw [List.find?_append, findR_none c (c + L) _ (by
    intro q hq
    have := startsAux_lt 0 (bs.take m) (fun x hx => hne x (List.mem_of_mem_take hx)) q hq
    omega)]
  have hin : inRange c (c + L) c = true := by simp [inRange]; omega
  simp [hin]

/-- offset of the frame under construction once the PTDP that began at `x` has been spread over frames and the
    stream ends at `e`, inside the frame that begins at `cc` (`a'`: the PTDP began exactly at `cc`) -/
theorem offAt_tail (st : List Nat) (x cc e L : Nat) (hst : ∀ q ∈ st, q < x) (a' : Bool)
    (ht : a' = true → x = cc) (hf : a' = false → x < cc) (hlo : cc < e) (hhi : e ≤ cc + L) :
    offAt (st ++ [x] ++ [e]) cc (cc + L) = if a' then 0x0 else if e - cc == L then 0x7FF else e - cc := by
  cases a' with
  | true =>
    have hx := ht rfl
    subst hx
    rw [offAt_append_hit _ _ _ _ (findR_isSome_of_mem _ _ _ x (by simp) (by omega)),
      offAt_append_one _ _ st x hst, if_pos (by omega), Nat.sub_self]
    rfl
  | false =>
    have hx := hf rfl
    rw [offAt_append_one cc _ _ _ (by
      intro q hq
      rcases List.mem_append.1 hq with hq | hq
      · exact Nat.lt_trans (hst q hq) hx
      · rw [List.mem_singleton.1 hq]; exact hx)]
    by_cases hfull : e - cc = L
    · rw [if_neg (by omega)]; simp [hfull]
    · rw [if_pos (by omega)]; simp [hfull]

/-- bytes of the normal stream a frame holding the low-latency PTDPs `ll` can carry -/
def cap (L : Nat) (ll : List PTDP.State) : Nat := L - (llpBytes ll).length

@[simp] theorem cap_nil (L : Nat) : cap L [] = L := by simp [cap, llpBytes]

/-- the frame that holds the low-latency PTDPs `ll` and the bytes of the normal stream from `c` on -/
def mixFrame (L sid : Nat) (S : Bytes) (st : List Nat) (c : Nat) (ll : List PTDP.State) : PTFR.State :=
  { newPtfr L sid with
      llp := !ll.isEmpty,
      ptdp_offset := if ll.isEmpty then offAt st c (c + L) else (llpBytes ll).length,
      payload := llpBytes ll ++ slice S c (c + cap L ll) }

def mixFrames (L sid : Nat) (S : Bytes) (st : List Nat) : Nat → List (List PTDP.State) → List PTFR.State
  | _, [] => []
  | c, ll :: r => mixFrame L sid S st c ll :: mixFrames L sid S st (c + cap L ll) r

/-- where the normal stream is cut after the frames `lls`, starting from `c` -/
def cutAfter (L : Nat) : Nat → List (List PTDP.State) → Nat
  | c, [] => c
  | c, ll :: r => cutAfter L (c + cap L ll) r

theorem cutAfter_ge (L : Nat) (lls : List (List PTDP.State)) (c : Nat) : c ≤ cutAfter L c lls := by
  induction lls generalizing c with
  | nil => simp [cutAfter]
  | cons ll r ih => simp only [cutAfter]; have := ih (c + cap L ll); omega

theorem cutAfter_append (L : Nat) (a b : List (List PTDP.State)) (c : Nat) :
    cutAfter L c (a ++ b) = cutAfter L (cutAfter L c a) b := by
  induction a generalizing c with
  | nil => simp [cutAfter]
  | cons ll r ih => simp only [List.cons_append, cutAfter, ih]

theorem cutAfter_snoc (L : Nat) (lls : List (List PTDP.State)) (ll : List PTDP.State) (c : Nat) :
    cutAfter L c (lls ++ [ll]) = cutAfter L c lls + cap L ll := by
  rw [cutAfter_append]; simp [cutAfter]

theorem mixFrames_append (L sid : Nat) (S : Bytes) (st : List Nat) (a b : List (List PTDP.State)) (c : Nat) :
    mixFrames L sid S st c (a ++ b) = mixFrames L sid S st c a ++ mixFrames L sid S st (cutAfter L c a) b := by
  induction a generalizing c with
  | nil => simp [mixFrames, cutAfter]
  | cons l r ih => simp only [List.cons_append, mixFrames, cutAfter, ih]

theorem mixFrames_snoc (L sid : Nat) (S : Bytes) (st : List Nat) (lls : List (List PTDP.State))
    (ll : List PTDP.State) (c : Nat) :
    mixFrames L sid S st c (lls ++ [ll]) =
      mixFrames L sid S st c lls ++ [mixFrame L sid S st (cutAfter L c lls) ll] := by
  rw [mixFrames_append]; rfl

theorem cutAfter_replicate (L n c : Nat) : cutAfter L c (List.replicate n []) = c + n * L := by
  induction n generalizing c with
  | zero => simp [cutAfter]
  | succ n ih => rw [List.replicate_succ, cutAfter, ih, cap_nil, Nat.succ_mul]; omega

theorem mixFrames_length (L sid : Nat) (S : Bytes) (st : List Nat) (lls : List (List PTDP.State)) (c : Nat) :
    (mixFrames L sid S st c lls).length = lls.length := by
  induction lls generalizing c with
  | nil => simp [mixFrames]
  | cons l r ih => simp [mixFrames, ih]

theorem mixFrames_getElem (L sid : Nat) (S : Bytes) (st : List Nat) (lls : List (List PTDP.State)) (c k : Nat)
    (hk : k < lls.length) (hk' : k < (mixFrames L sid S st c lls).length) :
    (mixFrames L sid S st c lls)[k] = mixFrame L sid S st (cutAfter L c (lls.take k)) lls[k] := by
  induction lls generalizing c k with
  | nil => cases hk
  | cons l r ih =>
    cases k with
    | zero => rfl
    | succ k =>
      simp only [mixFrames, List.getElem_cons_succ, List.take_succ_cons, cutAfter]
      exact ih (c + cap L l) k (by simpa using hk) _

theorem mixFrame_grow (L sid : Nat) (S b : Bytes) (st l : List Nat) (c : Nat) (ll : List PTDP.State)
    (hS : c + cap L ll ≤ S.length) (hl : ∀ p ∈ l, c + cap L ll ≤ p) :
    mixFrame L sid (S ++ b) (st ++ l) c ll = mixFrame L sid S st c ll := by
  unfold mixFrame
  rw [slice_append_left S b hS]
  cases ll with
  | nil =>
    simp only [List.isEmpty_nil, if_true]
    rw [offAt_append_ge c (c + L) st l (by simpa using hl)]
  | cons q r => simp

theorem mixFrames_grow (L sid : Nat) (S b : Bytes) (st l : List Nat) (lls : List (List PTDP.State)) (c : Nat)
    (hS : cutAfter L c lls ≤ S.length) (hl : ∀ p ∈ l, cutAfter L c lls ≤ p) :
    mixFrames L sid (S ++ b) (st ++ l) c lls = mixFrames L sid S st c lls := by
  induction lls generalizing c with
  | nil => simp [mixFrames]
  | cons ll r ih =>
    simp only [mixFrames, cutAfter] at hS hl ⊢
    have hge := cutAfter_ge L r (c + cap L ll)
    rw [ih (c + cap L ll) hS hl, mixFrame_grow L sid S b st l c ll (by omega)
      (fun p hp => by have := hl p hp; omega)]

theorem frame_congr {L sid : Nat} {l l' : Bool} {o o' : Nat} {p p' : Bytes} (hl : l = l') (ho : o = o') (hp : p = p') :
    ({ newPtfr L sid with llp := l, ptdp_offset := o, payload := p } : PTFR.State) =
      { newPtfr L sid with llp := l', ptdp_offset := o', payload := p' } := by
  subst hl ho hp; rfl

theorem mixFrame_layout (L sid : Nat) (S : Bytes) (st : List Nat) (c : Nat) (ll : List PTDP.State) :
    LlpLayout (mixFrame L sid S st c ll) ll (slice S c (c + cap L ll)) := by
  refine ⟨rfl, rfl, fun hne => ?_⟩
  show (if ll.isEmpty then _ else (llpBytes ll).length) = _
  cases ll with
  | nil => exact absurd rfl hne
  | cons q r => rfl

theorem mixFrame_wf (L sid : Nat) (hL2 : L ≤ 2047) (hs : sid < 16) (S : Bytes) (st : List Nat) (c : Nat)
    (ll : List PTDP.State) (hfit : (llpBytes ll).length ≤ L) (hc : c + cap L ll ≤ S.length) :
    PTFR_WF (mixFrame L sid S st c ll) ∧ (mixFrame L sid S st c ll).payload.length = L := by
  have hlen : (llpBytes ll ++ slice S c (c + cap L ll)).length = L := by
    rw [List.length_append, slice_length]; simp only [cap] at hc ⊢; omega
  refine ⟨⟨by simp [mixFrame, newPtfr, PTFR.fresh], by simpa [mixFrame, newPtfr, PTFR.fresh] using hs, ?_, ?_⟩, hlen⟩
  · show (if ll.isEmpty then offAt st c (c + L) else (llpBytes ll).length) < 2048
    split
    · exact offAt_lt st c L hL2
    · omega
  · exact hlen

theorem mixFrames_wf (L sid : Nat) (hL2 : L ≤ 2047) (hs : sid < 16) (S : Bytes) (st : List Nat)
    (lls : List (List PTDP.State)) (c : Nat) (hfit : ∀ l ∈ lls, (llpBytes l).length ≤ L)
    (hc : cutAfter L c lls ≤ S.length) :
    ∀ f ∈ mixFrames L sid S st c lls, PTFR_WF f ∧ f.payload.length = L := by
  induction lls generalizing c with
  | nil => simp [mixFrames]
  | cons ll r ih =>
    intro f hf
    simp only [mixFrames, List.mem_cons, cutAfter] at hf hc
    have hge := cutAfter_ge L r (c + cap L ll)
    rcases hf with rfl | hf
    · exact mixFrame_wf L sid hL2 hs S st c ll (hfit ll (by simp)) (by omega)
    · exact ih (c + cap L ll) (fun l hl => hfit l (by simp [hl])) hc f hf

/-- frame `k` of the stream `S` with PTDP starts `st` -/
def frameOf (L sid : Nat) (S : Bytes) (st : List Nat) (k : Nat) : PTFR.State :=
  { newPtfr L sid with ptdp_offset := offset L st k, payload := slice S (k * L) ((k + 1) * L) }

theorem frameOf_payload (L sid : Nat) (S : Bytes) (st : List Nat) (k : Nat) :
    (frameOf L sid S st k).payload = slice S (k * L) ((k + 1) * L) := rfl

theorem mixFrame_nil (L sid : Nat) (S : Bytes) (st : List Nat) (k : Nat) :
    mixFrame L sid S st (k * L) [] = frameOf L sid S st k := by
  simp [mixFrame, frameOf, newPtfr, PTFR.fresh, llpBytes, offset_eq_offAt, Nat.succ_mul]

theorem mixFrames_replicate (L sid : Nat) (S : Bytes) (st : List Nat) (n c : Nat) :
    mixFrames L sid S st c (List.replicate n []) =
      (List.range n).map fun i => mixFrame L sid S st (c + i * L) [] := by
  induction n generalizing c with
  | zero => rfl
  | succ n ih =>
    rw [List.replicate_succ, mixFrames, ih, List.range_succ_eq_map, List.map_cons, List.map_map]
    simp [Function.comp_def, Nat.succ_mul, Nat.add_assoc, Nat.add_comm L]

/-- the low-latency PTDPs of the frames, in the order in which they were inserted -/
def llpOrder (lls : List (List PTDP.State)) (ll : List PTDP.State) : List PTDP.State :=
  (lls.map List.reverse).flatten ++ ll.reverse

theorem llpOrder_spill (lls : List (List PTDP.State)) (ll : List PTDP.State) (n : Nat) :
    llpOrder (lls ++ [ll] ++ List.replicate n []) [] = llpOrder lls ll := by
  simp [llpOrder]

theorem mem_llpOrder (lls : List (List PTDP.State)) (ll l : List PTDP.State) (q : PTDP.State)
    (hl : l ∈ lls) (hq : q ∈ l) : q ∈ llpOrder lls ll := by
  simp only [llpOrder, List.mem_append, List.mem_flatten, List.mem_map]
  exact Or.inl ⟨l.reverse, ⟨l, hl, rfl⟩, by simpa using hq⟩

theorem llpOrder_eq_nil (lls : List (List PTDP.State)) (ll : List PTDP.State) (h : llpOrder lls ll = []) :
    lls = List.replicate lls.length [] ∧ ll = [] := by
  simp only [llpOrder, List.append_eq_nil_iff, List.flatten_eq_nil_iff, List.mem_map, List.reverse_eq_nil_iff,
    forall_exists_index, and_imp, forall_apply_eq_imp_iff₂] at h
  exact ⟨List.eq_replicate_iff.2 ⟨rfl, fun l hl => by simpa using h.1 l hl⟩, h.2⟩

theorem llpOrder_inj_right (lls : List (List PTDP.State)) (ll ll' : List PTDP.State)
    (h : llpOrder lls ll = llpOrder lls ll') : ll = ll' := by
  unfold llpOrder at h
  exact List.reverse_inj.1 (List.append_cancel_left h)

theorem map_payload_llpPtdp (bs : List Bytes) : (bs.map llpPtdp).map (·.payload) = bs := by
  rw [List.map_map]
  exact (List.map_congr_left fun b _ => rfl).trans (List.map_id bs)

theorem mem_lls_llpPtdp {lls : List (List PTDP.State)} {ll : List PTDP.State} {bs : List Bytes}
    (hord : llpOrder lls ll = bs.map llpPtdp) : ∀ l ∈ lls, ∀ q ∈ l, ∃ b ∈ bs, q = llpPtdp b := by
  intro l hl q hq
  have := mem_llpOrder lls ll l q hl hq
  rw [hord, List.mem_map] at this
  obtain ⟨b, hb, rfl⟩ := this
  exact ⟨b, hb, rfl⟩

/-- a low-latency PTDP as the encapsulator builds it: the attributes that are not on the wire are determined -/
def LlpCanon (q : PTDP.State) : Prop := PTDP_WF q ∧ q.low_latency = true ∧ q.length = q.payload.length

theorem llpPtdp_canon (b : Bytes) (h : b.length ≤ 2048) : LlpCanon (llpPtdp b) :=
  ⟨mkPtdp_complete_wf true b h, rfl, rfl⟩

theorem encB_inj (p p' : PTDP.State) (hp : LlpCanon p) (hp' : LlpCanon p') (r r' : Bytes)
    (h : encB p ++ r = encB p' ++ r') : p = p' ∧ r = r' := by
  have a := ptdp_unpack_clean p PTDP.fresh hp.1 r
  have b := ptdp_unpack_clean p' PTDP.fresh hp'.1 r'
  rw [h, b] at a
  simp only [Prod.mk.injEq, Except.ok.injEq] at a
  obtain ⟨e, hr⟩ := a
  refine ⟨?_, hr.symm⟩
  obtain ⟨_, h2, h3⟩ := hp
  obtain ⟨_, h2', h3'⟩ := hp'
  cases p; cases p'
  simp only [PTDP.State.mk.injEq] at e ⊢
  simp only at h2 h3 h2' h3'
  obtain ⟨e1, _, _, e4, e5⟩ := e
  subst e1
  exact ⟨rfl, by rw [h2, h2'], by rw [h3, h3'], e4.symm, e5.symm⟩

theorem llpBytes_inj : ∀ (l l' : List PTDP.State), (∀ q ∈ l, LlpCanon q) → (∀ q ∈ l', LlpCanon q) →
    llpBytes l = llpBytes l' → l = l' := by
  intro l
  induction l with
  | nil =>
    intro l' _ _ h
    cases l' with
    | nil => rfl
    | cons q r =>
      have := llpBytes_pos q r
      rw [← h] at this; simp [llpBytes] at this
  | cons p ps ih =>
    intro l' hl hl' h
    cases l' with
    | nil =>
      have := llpBytes_pos p ps
      rw [h] at this; simp [llpBytes] at this
    | cons p' ps' =>
      rw [llpBytes_cons, llpBytes_cons, List.append_assoc, List.append_assoc] at h
      obtain ⟨e1, e2⟩ := encB_inj p p' (hl p (by simp)) (hl' p' (by simp)) _ _ h
      subst e1
      simp only [List.singleton_append, List.cons.injEq] at e2
      rw [ih ps' (fun q hq => hl q (by simp [hq])) (fun q hq => hl' q (by simp [hq])) e2.2]

theorem mixFrame_inj (L sid : Nat) (S : Bytes) (st : List Nat) (c : Nat) (ll ll' : List PTDP.State)
    (h : ∀ q ∈ ll, LlpCanon q) (h' : ∀ q ∈ ll', LlpCanon q)
    (e : mixFrame L sid S st c ll = mixFrame L sid S st c ll') : ll = ll' := by
  have eflag : (!ll.isEmpty) = (!ll'.isEmpty) := congrArg PTFR.State.llp e
  have eoff := congrArg PTFR.State.ptdp_offset e
  have epay : llpBytes ll ++ slice S c (c + cap L ll) = llpBytes ll' ++ slice S c (c + cap L ll') :=
    congrArg PTFR.State.payload e
  cases ll with
  | nil =>
    cases ll' with
    | nil => rfl
    | cons _ _ => simp at eflag
  | cons p ps =>
    cases ll' with
    | nil => simp at eflag
    | cons p' ps' =>
      have elen : (llpBytes (p :: ps)).length = (llpBytes (p' :: ps')).length := by
        simpa [mixFrame] using eoff
      exact llpBytes_inj _ _ h h' (List.append_inj epay elen).1

theorem mixFrames_inj (L sid : Nat) (S : Bytes) (st : List Nat) :
    ∀ (lls lls' : List (List PTDP.State)) (c : Nat), (∀ l ∈ lls, ∀ q ∈ l, LlpCanon q) →
      (∀ l ∈ lls', ∀ q ∈ l, LlpCanon q) →
      mixFrames L sid S st c lls = mixFrames L sid S st c lls' → lls = lls' := by
  intro lls
  induction lls with
  | nil =>
    intro lls' c _ _ e
    cases lls' with
    | nil => rfl
    | cons _ _ => simp [mixFrames] at e
  | cons l r ih =>
    intro lls' c h h' e
    cases lls' with
    | nil => simp [mixFrames] at e
    | cons l' r' =>
      simp only [mixFrames, List.cons.injEq] at e
      have hl := mixFrame_inj L sid S st c l l' (h l (by simp)) (h' l' (by simp)) e.1
      subst hl
      rw [ih r' (c + cap L l) (fun x hx => h x (by simp [hx])) (fun x hx => h' x (by simp [hx])) e.2]

end Acra.Lemmas.Chapter7
