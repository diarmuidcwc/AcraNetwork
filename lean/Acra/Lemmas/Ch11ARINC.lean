/-
  ARINC-429 format 0.  A word is a 32-bit header of bit fields (`ipdh_eq`, read back by `ipdh_fields`) and four data
  bytes.  Both decoders as parsers of the bytes: `Word_decodes` (a length test, then `wordOf`), `Packet_decodes` (as many
  8-byte slices as fit, `wordsAt`, accepted when the header's count agrees: `packetRun`); `wordOf_bytes`, `decWords_enc`
  evaluate them on what the encoders emit.
-/
import Acra.Model.Ch11ARINC
import Acra.Lemmas.Ch11Pay
import Acra.Lemmas.Bits
namespace Acra.Lemmas.Ch11ARINC
open Acra.Py Acra.Model.Ch11Pay Acra.Model.Ch11Pay.ARINC Acra.Gen.Ch11ARINC Acra.Lemmas.Ch11Pay Acra.Lemmas

def Word_WF (w : Word) : Prop := w.gaptime < 2 ^ 20 ∧ w.bus_speed < 2 ∧ w.bus < 2 ^ 8

theorem ipdh_eq (w : Word) : w.ipdh = 16777216 * w.bus + 8388608 * (if w.format_error then 1 else 0) +
    4194304 * (if w.parity_error then 1 else 0) + 2097152 * w.bus_speed + w.gaptime := by
  unfold Word.ipdh
  cases w.format_error <;> cases w.parity_error <;> rfl

theorem ipdh_lt (w : Word) (h : Word_WF w) : w.ipdh < 4294967296 := by
  obtain ⟨h1, h2, h3⟩ := h
  have := Bits.flag_lt w.format_error
  have := Bits.flag_lt w.parity_error
  rw [ipdh_eq]
  omega

def wordBytes (w : Word) : Bytes := encInt false 4 w.ipdh ++ w.payload

theorem wordBytes_length (w : Word) : (wordBytes w).length = 4 + w.payload.length := by
  simp [wordBytes]

theorem Word_pack_eq (w : Word) (h : Word_WF w) : w.pack = .ok (wordBytes w) := by
  rw [Word.pack, HDR_FORMAT, pack_word, if_pos (ipdh_lt w h)]
  rfl

/-- `ARINC429DataPacket.pack` on every packet: `msgcount` is set to the number of words whether or not the header and the
    words then pack -/
theorem Packet_pack_closed (p : Packet) : p.pack =
    ({ p with msgcount := p.arincwords.length },
      (structPack PKT_pack_fmt0 [p.arincwords.length, 0]).bind fun hdr =>
        (packList Word.pack p.arincwords).map (hdr ++ ·)) := by
  unfold Packet.pack
  dsimp only
  cases structPack PKT_pack_fmt0 [p.arincwords.length, 0] with
  | error e => rfl
  | ok hdr => cases packList Word.pack p.arincwords <;> rfl

/-- what `ARINC429DataWord.unpack` makes of a buffer that holds the 4 header bytes -/
def wordOf (buf : Bytes) : Word :=
  { payload := buf.drop 4, bus := decInt false (buf.take 4) / 16777216,
    format_error := decide (decInt false (buf.take 4) / 8388608 % 2 ≠ 0),
    parity_error := decide (decInt false (buf.take 4) / 4194304 % 2 ≠ 0),
    bus_speed := decInt false (buf.take 4) / 2097152 % 2, gaptime := decInt false (buf.take 4) % 1048576 }

theorem Word_decodes : Decodes Word.unpack (fun _ => ()) fun _ => lenRun 4 wordOf := by
  intro t buf
  show Agree (Word.unpack t buf) (lenRun 4 wordOf buf)
  rw [Word.unpack, HDR_FORMAT, unpack_word, lenRun]
  by_cases h : 4 ≤ buf.length
  · rw [if_pos h, if_pos h]; rfl
  · rw [if_neg h, if_neg h]; rfl

theorem ipdh_fields (bus a b sp gap : Nat) (ha : a < 2) (hb : b < 2) (hs : sp < 2) (hg : gap < 1048576)
    (v : Nat) (hv : v = 16777216 * bus + 8388608 * a + 4194304 * b + 2097152 * sp + gap) :
    v / 16777216 = bus ∧ v / 8388608 % 2 = a ∧ v / 4194304 % 2 = b ∧ v / 2097152 % 2 = sp ∧ v % 1048576 = gap := by
  -- Horner form: above the gap time the fields are binary digits, peeled off one division by 2 at a time
  have e : v = 2097152 * (2 * (2 * (2 * bus + a) + b) + sp) + gap := by omega
  have h3 : v / 2097152 = 2 * (2 * (2 * bus + a) + b) + sp := by
    rw [e, Nat.mul_add_div (by decide), Nat.div_eq_of_lt (Nat.lt_trans hg (by decide)), Nat.add_zero]
  obtain ⟨h2, e3⟩ := Bits.bit_step v _ _ sp hs h3
  obtain ⟨h1, e2⟩ := Bits.bit_step v _ _ b hb h2
  obtain ⟨h0, e1⟩ := Bits.bit_step v _ _ a ha h1
  refine ⟨h0, e1, e2, e3, ?_⟩
  rw [e, show (2097152 : Nat) = 1048576 * 2 from rfl, Nat.mul_assoc, Nat.mul_add_mod, Nat.mod_eq_of_lt hg]

theorem wordOf_bytes (w : Word) (h : Word_WF w) : wordOf (wordBytes w) = w := by
  have hlt := ipdh_lt w h
  obtain ⟨h1, h2, h3⟩ := h
  have hd (c : Bool) : decide ((if c then 1 else 0) ≠ 0) = c := by cases c <;> rfl
  obtain ⟨e1, e2, e3, e4, e5⟩ := ipdh_fields w.bus (if w.format_error then 1 else 0) (if w.parity_error then 1 else 0)
    w.bus_speed w.gaptime (Bits.flag_lt _) (Bits.flag_lt _) h2 h1 w.ipdh (ipdh_eq w)
  simp only [wordOf, wordBytes, take_encInt_append, drop_encInt_append, decInt_encInt4 _ _ hlt, e1, e2, e3, e4, e5, hd]

theorem Word_unpack_bytes (w t : Word) (h : Word_WF w) : Word.unpack t (wordBytes w) = (w, .ok ()) := by
  rw [Word_decodes.len_of_le t _ (by rw [wordBytes_length]; omega), wordOf_bytes w h]

theorem Word_eq_iff (a b : Word) : Word.eq a b = true ↔ a = b := by
  cases a; cases b
  simp only [Word.eq, Bool.and_eq_true, beq_iff_eq, Word.mk.injEq, and_assoc]

theorem wordsEq_eq : wordsEq = listEq Word.eq := listEq_unique _ _ rfl (fun _ _ _ _ => rfl) (fun _ _ => rfl) (fun _ _ => rfl)

theorem wordsEq_iff (as bs : List Word) : wordsEq as bs = true ↔ as = bs := by
  rw [wordsEq_eq, listEq_iff_map _ id Word_eq_iff, List.map_id, List.map_id]

/-- the `n` words read from the 8-byte slices number `idx`, `idx + 1`, … of `buf` -/
def wordsAt (buf : Bytes) (n idx : Nat) : List Word :=
  (List.range' idx n).map fun i => wordOf (slice buf (i * 8 + 4) (i * 8 + 4 + 8))

theorem decWords_eq (buf : Bytes) (n idx : Nat) (h : (idx + n) * 8 + 4 ≤ buf.length) :
    decWords buf n idx = .ok (wordsAt buf n idx) := by
  induction n generalizing idx with
  | zero => rfl
  | succ n ih =>
    have hsl : 4 ≤ (slice buf (idx * 8 + 4) (idx * 8 + 4 + 8)).length := by rw [slice_length]; omega
    rw [decWords, Word_decodes.len_of_le _ _ hsl, ih (idx + 1) (by omega)]
    rfl

theorem wordsAt_length (buf : Bytes) (n idx : Nat) : (wordsAt buf n idx).length = n := by
  rw [wordsAt, List.length_map, List.length_range']

theorem wordsAt_payload (buf : Bytes) (n idx : Nat) (h : (idx + n) * 8 + 4 ≤ buf.length) :
    ∀ w ∈ wordsAt buf n idx, w.payload.length = 4 := by
  intro w hw
  obtain ⟨i, hi, rfl⟩ := List.mem_map.1 hw
  have := (List.mem_range'_1.1 hi).2
  simp only [wordOf, List.length_drop, slice_length]
  omega

/-- `ARINC429DataPacket.unpack` as a parser: as many words as fit after the 4-byte header, accepted when the header's
    count agrees -/
def packetRun (buf : Bytes) : R (Packet × Unit) :=
  if buf.length < 4 then .error .struct
  else if decInt false (buf.take 2) = (buf.length - 4) / 8 then
    .ok (⟨decInt false (buf.take 2), wordsAt buf ((buf.length - 4) / 8) 0⟩, ())
  else .error .generic

theorem Packet_decodes : Decodes Packet.unpack (fun _ => ()) fun _ => packetRun := by
  intro t buf
  refine .of_read PKT_unpack_fmt0 buf 0 rfl (fun h => by rw [Packet.unpack, h]) fun h h4 => ?_
  rw [Packet.unpack, h]
  simp only [PKT_unpack_fmt0, flds, Code.size, ← take_eq_slice0, decWords_eq buf ((buf.length - 4) / 8) 0 (by omega),
    wordsAt_length]
  by_cases hc : decInt false (buf.take 2) = (buf.length - 4) / 8
  · rw [if_neg (fun h => h hc), if_pos hc]; rfl
  · rw [if_pos hc, if_neg hc]; rfl

theorem packetRun_ok_iff (buf : Bytes) (x : Packet × Unit) :
    packetRun buf = .ok x ↔ 4 ≤ buf.length ∧ decInt false (buf.take 2) = (buf.length - 4) / 8 ∧
      x = (⟨decInt false (buf.take 2), wordsAt buf ((buf.length - 4) / 8) 0⟩, ()) := by
  rw [packetRun, R.ite_error_eq_ok, Nat.not_lt, R.ite_ok_eq_ok, eq_comm (a := x)]

theorem packetRun_error (buf : Bytes) (e : Err) (h : packetRun buf = .error e) : e = .struct ∨ e = .generic := by
  rcases R.ite_error_eq_error.1 h with ⟨_, rfl⟩ | ⟨_, h⟩
  · exact .inl rfl
  · split at h; cases h; exact .inr (Except.error.inj h).symm

theorem decWords_enc (pre : Bytes) (ws : List Word) (idx : Nat) (hpre : pre.length = idx * 8 + 4)
    (hw : ∀ w ∈ ws, Word_WF w ∧ w.payload.length = 4) :
    decWords (pre ++ ws.flatMap wordBytes) ws.length idx = .ok ws := by
  induction ws generalizing pre idx with
  | nil => rfl
  | cons w ws ih =>
    obtain ⟨hwf, hpl⟩ := hw w (by simp)
    have hlen : (wordBytes w).length = 8 := by rw [wordBytes_length]; omega
    have hsl : slice (pre ++ (wordBytes w ++ ws.flatMap wordBytes)) (idx * 8 + 4) (idx * 8 + 4 + 8) = wordBytes w :=
      slice_mid _ _ _ _ _ hpre.symm (by omega)
    simp only [List.flatMap_cons, List.length_cons, decWords, hsl, Word_unpack_bytes w Word.fresh hwf]
    have := ih (pre ++ wordBytes w) (idx + 1) (by simp [hpre, hlen]; omega) (fun x hx => hw x (by simp [hx]))
    simp only [List.append_assoc] at this
    rw [this]

theorem flatMap_wordBytes_length (ws : List Word) (hw : ∀ w ∈ ws, w.payload.length = 4) :
    (ws.flatMap wordBytes).length = 8 * ws.length :=
  flatMap_length_const wordBytes 8 ws fun w h => by rw [wordBytes_length, hw w h]

instance (w : Word) : Decidable (Word_WF w) := by unfold Word_WF; infer_instance

end Acra.Lemmas.Ch11ARINC
