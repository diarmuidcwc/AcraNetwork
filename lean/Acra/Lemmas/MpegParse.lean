/-
  The MPEG decoders as functions of the bytes.  The adaptation extension, `MPEGPacket.unpack` with its subclasses PES and
  STANAG 4609, and `MPEGTS.unpack` are parsers in the sense of `Lemmas/Decoder.lean` (the PMT subclass is in
  `Lemmas/PMTSection.lean`): every `struct` call resolved into big-endian slices of the buffer, the unreachable error
  branches gone, a subclass being the base-class parser followed by a function of the object it left.  The adaptation
  field keeps a closed form with the state it leaves when it raises, because `MPEGPacket.unpack` swallows that exception
  and keeps the object.
-/
import Acra.Model.MPEGTS
import Acra.Model.PES
import Acra.Lemmas.Decoder

namespace Acra.Lemmas.MpegParse
open Acra.Py Acra.Model.MPEGTS Acra.Gen.MPEGTS

/-- `MPEGAdaptionExtension.unpack` as a parser: two header bytes (`struct.error`), the declared length inside the buffer
    (bare `Exception`), then object and offset from the first `len` bytes only -/
def extRun (buf : Bytes) : R (Ext × Nat) :=
  if buf.length < 2 then .error .struct
  else if buf.length < decInt true (slice buf 0 1) then .error .generic
  else
    let payload := buf.take (decInt true (slice buf 0 1))
    let flags := decInt true (slice buf 1 2)
    let f1 := flags / 128 % 2 == 1
    let f2 := flags / 64 % 2 == 1
    let f3 := flags / 32 % 2 == 1
    let o1 := if f1 then 4 else 2
    let o2 := if f2 then o1 + 3 else o1
    .ok ({ ltw_flag := f1, piecewise_rate_flag := f2, seamless_splice_flag := f3,
           ltw := if f1 then slice payload 2 4 else [],
           piecewise := if f2 then slice payload o1 (o1 + 3) else [],
           seamless_splice := if f3 then slice payload o2 (o2 + 5) else [] }, if f3 then o2 + 5 else o2)

theorem Ext_decodes : Decodes Ext.unpack (fun _ => ()) fun _ => extRun := by
  intro t buf
  refine .of_read Ext_unpack_fmt0 buf 0 rfl (fun h => by rw [Ext.unpack, h]) fun h _ => ?_
  rw [Ext.unpack, h]
  exact .ite_error fun _ => rfl

/-- `MPEGAdaption.unpack` after the fixed part: `s0` holds what the two header bytes and the PCR / OPCR slices gave,
    `o2` is the offset behind them.  The only exceptions left are the `struct.error`s of a splice-countdown or
    private-data length byte past the end, and the object keeps what was assigned before them -/
def afTail (buf : Bytes) (s0 : AF) (splF tpF extF : Bool) (o2 : Nat) : AF × R Unit :=
  if splF = true ∧ buf.length < o2 + 1 then (s0, .error .struct) else
  let s1 := { s0 with splice_countdown := if splF then decInt true (slice buf o2 (o2 + 1)) else 0 }
  let o3 := if splF then o2 + 1 else o2
  if tpF = true ∧ buf.length < o3 + 1 then (s1, .error .struct) else
  let tl := if tpF then decInt true (slice buf o3 (o3 + 1)) else 0
  let s2 := { s1 with private_data := if tpF then slice buf (o3 + 1) (o3 + 1 + tl) else [] }
  let o4 := if tpF then o3 + 1 + tl else o3
  if extF then ({ s2 with adaption_extension := some (Ext.unpack Ext.fresh (buf.drop o4)).1 }, .ok ())
  else (s2, .ok ())

/-- `MPEGAdaption.unpack` once the two header bytes are there: every attribute is assigned from the bytes -/
def afBody (buf : Bytes) : AF × R Unit :=
  let flags := decInt true (slice buf 1 2)
  let pcrF := flags / 16 % 2 == 1
  let opcrF := flags / 8 % 2 == 1
  let o1 := if pcrF then 8 else 2
  afTail buf
    { length := decInt true (slice buf 0 1), discontinutiy := flags / 128 % 2 == 1, random_access := flags / 64 % 2 == 1,
      es_priority := flags / 32 % 2 == 1, pcr_flag := pcrF, opcr_flag := opcrF, splicing_flag := flags / 4 % 2 == 1,
      transpart_flag := flags / 2 % 2 == 1, extension_flag := flags % 2 == 1,
      pcr := if pcrF then slice buf 2 8 else [],
      opcr := if opcrF then slice buf o1 (o1 + 6) else [],
      splice_countdown := 0, private_data := [], adaption_extension := none }
    (flags / 4 % 2 == 1) (flags / 2 % 2 == 1) (flags % 2 == 1) (if opcrF then o1 + 6 else o1)

theorem AF_unpack_eq (t : AF) (buf : Bytes) :
    AF.unpack t buf = if buf.length < 2 then (t, .error .struct) else afBody buf := by
  unfold AF.unpack
  by_cases h2 : buf.length < 2
  · rw [structUnpackFrom_short _ _ _ h2, if_pos h2]
  · rw [unpack_u8u8 AF_unpack_fmt0 rfl, if_pos (by omega), if_neg h2]
    unfold afBody afTail
    simp only [Nat.zero_add, opt_u8 AF_unpack_fmt1 rfl, opt_u8 AF_unpack_fmt2 rfl]
    -- both sides branch on the same two flags and the same two length tests
    generalize decInt true (slice buf 1 2) = flags
    generalize (if (flags / 8 % 2 == 1) = true then (if (flags / 16 % 2 == 1) = true then 8 else 2) + 6
      else if (flags / 16 % 2 == 1) = true then 8 else 2) = o2
    generalize (flags / 4 % 2 == 1) = splF
    generalize (flags / 2 % 2 == 1) = tpF
    cases splF <;> cases tpF <;> simp only [Bool.false_eq_true, false_and, true_and, ↓reduceIte]
    · by_cases h : buf.length < o2 + 1 <;> simp only [h, ↓reduceIte]
    · by_cases h : buf.length < o2 + 1 <;> simp only [h, ↓reduceIte]
    · by_cases h : buf.length < o2 + 1 <;> simp only [h, ↓reduceIte]
      by_cases h' : buf.length < o2 + 1 + 1 <;> simp only [h', ↓reduceIte]

theorem afTail_snd (buf : Bytes) (s0 : AF) (splF tpF extF : Bool) (o2 : Nat) :
    (afTail buf s0 splF tpF extF o2).2 = .ok () ∨ (afTail buf s0 splF tpF extF o2).2 = .error .struct := by
  simp only [afTail]
  by_cases c1 : splF = true ∧ buf.length < o2 + 1
  · rw [if_pos c1]; exact .inr rfl
  · rw [if_neg c1]
    by_cases c2 : tpF = true ∧ buf.length < (if splF = true then o2 + 1 else o2) + 1
    · rw [if_pos c2]; exact .inr rfl
    · rw [if_neg c2]; split <;> exact .inl rfl

theorem AF_unpack_error {t : AF} {buf : Bytes} {e : Err} (h : (AF.unpack t buf).2 = .error e) : e = .struct := by
  rw [AF_unpack_eq] at h
  split at h
  · cases h; rfl
  · rcases afTail_snd .. with h' | h' <;> rw [afBody, h'] at h <;> cases h
    rfl

/-- the object `MPEGPacket.unpack` builds from an accepted buffer: every attribute is assigned, so nothing of the prior
    state is left -/
def pktObj (buf : Bytes) : Pkt :=
  let pidFull := decInt true (slice buf 1 3)
  let counterFull := decInt true (slice buf 3 4)
  let hdr : Pkt :=
    { sync := decInt true (slice buf 0 1), pid := pidFull % 8192, tei := pidFull / 32768 % 2 == 1,
      pusi := pidFull / 16384 % 2 == 1, transport_priority := pidFull / 8192 % 2,
      continuitycounter := counterFull % 16, adaption_ctrl := counterFull / 16 % 4, tsc := counterFull / 64 % 4,
      adaption_field := none, payload := [] }
  if counterFull / 16 % 4 = 3 then
    let alen := decInt true (slice buf 4 5)
    if 0 < alen then
      { hdr with payload := buf.drop (4 + 1 + alen),
                 adaption_field := some (AF.unpack AF.fresh (slice buf 4 (alen + 1 + 4))).1 }
    else { hdr with payload := buf.drop (4 + 1) }
  else if counterFull / 16 % 4 = 2 then { hdr with adaption_field := some (AF.unpack AF.fresh (buf.drop 4)).1 }
  else if counterFull / 16 % 4 = 1 then { hdr with payload := buf.drop 4 }
  else hdr

/-- `MPEGPacket.unpack` as a parser: `struct.error` under four bytes, a bare `Exception` for a wrong sync byte,
    `struct.error` when adaptation control 3 is not followed by the adaptation-field length byte -/
def pktRun (buf : Bytes) : R (Pkt × Unit) :=
  if buf.length < 4 then .error .struct
  else if decInt true (slice buf 0 1) ≠ 0x47 then .error .generic
  else if decInt true (slice buf 3 4) / 16 % 4 = 3 ∧ buf.length < 5 then .error .struct
  else .ok (pktObj buf, ())

theorem Pkt_decodes : Decodes Pkt.unpack (fun _ => ()) fun _ => pktRun := by
  intro t buf
  refine .of_read Pkt_unpack_fmt0 buf 0 rfl (fun h => by rw [Pkt.unpack, h]) fun h h4 => ?_
  rw [Pkt.unpack, h]
  refine .ite_error fun _ => ?_
  unfold pktObj
  simp only [Pkt_unpack_fmt0, Code.size, Nat.zero_add, Nat.reduceAdd, ADAPTION_PAYLOAD_AND_ADAPTION,
    ADAPTION_ADAPTION_ONLY, ADAPTION_PAYLOAD_ONLY]
  by_cases h3 : decInt true (slice buf 3 4) / 16 % 4 = 3
  · simp only [h3, ↓reduceIte, unpack_u8 Pkt_unpack_fmt1 rfl, List.length_drop, true_and]
    by_cases h5 : buf.length < 5
    · rw [if_neg (by omega), if_pos h5]; rfl
    · rw [if_pos (by omega), if_neg h5]
      simp only [slice_drop]
      split <;> rfl
  · simp only [h3, ↓reduceIte, false_and]
    by_cases h2 : decInt true (slice buf 3 4) / 16 % 4 = 2
    · simp only [h2, ↓reduceIte]; rfl
    · by_cases h1 : decInt true (slice buf 3 4) / 16 % 4 = 1 <;> simp only [h2, h1, ↓reduceIte] <;> rfl

theorem pktObj_payload (buf : Bytes) :
    (pktObj buf).adaption_ctrl = decInt true (slice buf 3 4) / 16 % 4 ∧
    ((pktObj buf).adaption_ctrl = 1 → (pktObj buf).payload = buf.drop 4) ∧
    ((pktObj buf).adaption_ctrl = 3 → 5 ≤ buf.length →
      (pktObj buf).payload = buf.drop (5 + decInt true (slice buf 4 5))) ∧
    ((pktObj buf).adaption_ctrl ≠ 1 → (pktObj buf).adaption_ctrl ≠ 3 → (pktObj buf).payload = []) := by
  unfold pktObj
  by_cases h3 : decInt true (slice buf 3 4) / 16 % 4 = 3
  · by_cases hz : 0 < decInt true (slice buf 4 5)
    · simp [h3, hz]
    · simp [h3, show decInt true (slice buf 4 5) = 0 by omega]
  · by_cases h2 : decInt true (slice buf 3 4) / 16 % 4 = 2
    · simp [h2]
    · by_cases h1 : decInt true (slice buf 3 4) / 16 % 4 = 1
      · simp [h1]
      · simp [h3, h2, h1]

theorem error_ite {c : Prop} [Decidable c] {e e' : Err} {r : R α} (h : (if c then .error e else r) = .error e')
    (h1 : e = .struct ∨ e = .generic) (h2 : r = .error e' → e' = .struct ∨ e' = .generic) :
    e' = .struct ∨ e' = .generic := by
  split at h
  · cases h; exact h1
  · exact h2 h

theorem ne_fuel_of_ok_or_struct_generic {r : R α}
    (h : (∃ a, r = .ok a) ∨ r = .error .struct ∨ r = .error .generic) : r ≠ .error .fuel := by
  rintro rfl
  rcases h with ⟨a, h⟩ | h | h <;> cases h

theorem pktRun_error {buf : Bytes} {e : Err} (h : pktRun buf = .error e) : e = .struct ∨ e = .generic :=
  error_ite h (.inl rfl) fun h => error_ite h (.inr rfl) fun h => error_ite h (.inl rfl) fun h => nomatch h

theorem pktRun_ok {buf : Bytes} {q : Pkt} (h : pktRun buf = .ok (q, ())) : q = pktObj buf := by
  rw [pktRun, R.ite_error_eq_ok, R.ite_error_eq_ok, R.ite_error_eq_ok] at h
  exact (congrArg Prod.fst (Except.ok.inj h.2.2.2)).symm

theorem Pkt_unpack_error {t : Pkt} {buf : Bytes} {e : Err} (h : (Pkt.unpack t buf).2 = .error e) :
    e = .struct ∨ e = .generic :=
  pktRun_error ((Pkt_decodes.error_iff t buf e).1 h)

/-- `MPEGTS.unpack` as a parser: the loop over 188-byte strides (the object's prior state is not read) -/
def tsRun (buf : Bytes) : R (TS × Bool) :=
  (decOff decBlock moreBlocks buf (buf.length + 1) 0).map fun bs => ({ blocks := bs }, true)

theorem TS_decodes : Decodes TS.unpack (fun _ => ()) fun _ => tsRun := by
  intro t buf
  show Agree _ (tsRun buf)
  unfold TS.unpack tsRun
  cases decOff decBlock moreBlocks buf (buf.length + 1) 0 <;> rfl

theorem tsRun_ok {buf : Bytes} {s : TS} {r : Bool} (h : tsRun buf = .ok (s, r)) :
    decOff decBlock moreBlocks buf (buf.length + 1) 0 = .ok s.blocks ∧ r = true := by
  obtain ⟨bs, hd, hp⟩ := R.map_eq_ok.1 h
  cases hp
  exact ⟨hd, rfl⟩

section
open Acra.Model.PES Acra.Gen.PES

/-- `PES.unpack` on the payload of the decoded transport packet: the six prefix bytes must be there (`struct.error`)
    and start with 00 00 01 (bare `Exception`); the optional header is taken to be present when at least three more
    bytes follow, the first has high nibble 8 and PES_packet_length says that the PES packet ends with the payload -/
def pesParse (p : Pkt) : R (PES × Unit) :=
  if p.payload.length < 6 then .error .struct
  else if decInt true (slice p.payload 0 1) * 65536 + decInt true (slice p.payload 1 3) ≠ 1 then .error .generic
  else if 9 ≤ p.payload.length ∧ decInt true (slice p.payload 6 7) / 16 = 8 ∧
      p.payload.length = decInt true (slice p.payload 4 6) + 6 then
    .ok ({ pkt := p, streamid := decInt true (slice p.payload 3 4),
           extension_w1 := some (decInt true (slice p.payload 6 7)),
           extension_w2 := some (decInt true (slice p.payload 7 8)),
           header_data := some (slice p.payload 9 (9 + decInt true (slice p.payload 8 9))),
           pesdata := p.payload.drop (9 + decInt true (slice p.payload 8 9)) }, ())
  else
    .ok ({ pkt := p, streamid := decInt true (slice p.payload 3 4), extension_w1 := none, extension_w2 := none,
           header_data := none, pesdata := p.payload.drop 6 }, ())

theorem PES_after (t : PES) (buf : Bytes) (p : Pkt) (hp : Pkt.unpack t.pkt buf = (p, .ok ())) :
    Agree (PES.unpack t buf) (pesParse p) := by
  unfold PES.unpack pesParse
  rw [hp]
  dsimp only
  refine .of_read PES_unpack_fmt0 p.payload 0 rfl (fun h => by rw [h]) fun h _ => ?_
  rw [h]
  refine .ite_error fun _ => ?_
  -- the two inner reads cannot fail where the parser looks at them: both sides are the same two tests
  simp only [structUnpackFrom_flds, PES_unpack_fmt0, PES_unpack_fmt1, PES_unpack_fmt2, Fmt.size, codesSize, flds,
    Code.size, Nat.reduceAdd, Nat.zero_add]
  by_cases h9 : p.payload.length < 9
  · simp only [h9, Nat.not_le.2 h9, false_and, ↓reduceIte, Agree]
  · simp only [h9, Nat.not_lt.1 h9, true_and, ↓reduceIte]
    by_cases hh : decInt true (slice p.payload 6 7) / 16 = 8 ∧ p.payload.length = decInt true (slice p.payload 4 6) + 6
    · simp only [hh, and_self, ↓reduceIte, Agree]
    · simp only [hh, ↓reduceIte, Agree]

theorem PES_decodes : Decodes PES.unpack (fun _ => ()) fun _ buf => (pktRun buf).bind fun x => pesParse x.1 :=
  Pkt_decodes.over (base := PES.pkt) (fun t buf p e hp => by unfold PES.unpack; rw [hp]) PES_after

theorem pesParse_error {p : Pkt} {e : Err} (h : pesParse p = .error e) : e = .struct ∨ e = .generic :=
  error_ite h (.inl rfl) fun h => error_ite h (.inr rfl) fun h => by split at h <;> cases h

theorem pesParse_ok_iff (p : Pkt) :
    (∃ s, pesParse p = .ok (s, ())) ↔
      6 ≤ p.payload.length ∧ decInt true (slice p.payload 0 1) * 65536 + decInt true (slice p.payload 1 3) = 1 := by
  simp only [pesParse, R.ite_error_eq_ok, exists_and_left, ne_eq, Decidable.not_not, Nat.not_lt, and_congr_right_iff]
  intro _
  refine and_iff_left ?_
  split <;> exact ⟨_, rfl⟩

theorem PES_unpack_error {t : PES} {buf : Bytes} {e : Err} (h : (PES.unpack t buf).2 = .error e) :
    e = .struct ∨ e = .generic := by
  rcases R.bind_eq_error ((PES_decodes.error_iff t buf e).1 h) with h | ⟨_, _, h⟩
  · exact pktRun_error h
  · exact pesParse_error h

/-- `STANAG4609.unpack` on the object `PES.unpack` left: the checks in the order the code makes them (each
    `struct.error` is a read past the end of the PES data).  Layout of the 36 bytes: counter (2), two undocumented fields
    (1 + 2) up to offset 5, the 16-byte universal key to 21, BER length, data tag, tag length (`BBB`) to 24, the time (`Q`)
    to 32, time tag and its length to 34, the checksum to 36.  The literals are the model's constants (260 =
    `STANAG4609_PID` = 0x104, 5 = `STANAG4609_UNKNOWN_OFFSET`, 21 = 5 + key length, 2 = `STANAG4609_DATA_TAG`, 8 =
    `STANAG4609_DTAG_LEN`): `STANAG_after` identifies them by `rfl` -/
def stanagParse (p : PES) : R (STANAG × Unit) :=
  if p.pkt.pid ≠ 260 then .error .generic
  else if p.pesdata.length < 5 then .error .struct
  else if slice p.pesdata 5 21 ≠ STANAG4609_UNIVERSAL_KEY then .error .generic
  else if p.pesdata.length < 24 then .error .struct
  else if decInt true (slice p.pesdata 22 23) ≠ 2 then .error .generic
  else if decInt true (slice p.pesdata 23 24) ≠ 8 then .error .generic
  else if p.pesdata.length < 36 then .error .struct
  else if checksum_stanag (slice p.pesdata 5 (p.pesdata.length - 2)) ≠ decInt true (slice p.pesdata 34 36) then
    .error .generic
  else
    .ok ({ pes := p, stanag_counter := decInt true (slice p.pesdata 0 2), unknown := decInt true (slice p.pesdata 2 3),
           unknown2 := decInt true (slice p.pesdata 3 5), time_us := decInt true (slice p.pesdata 24 32) }, ())

theorem STANAG_after (t : STANAG) (buf : Bytes) (p : PES) (hp : PES.unpack t.pes buf = (p, .ok ())) :
    Agree (STANAG.unpack t buf) (stanagParse p) := by
  unfold STANAG.unpack stanagParse
  rw [hp]
  refine .ite_error fun _ => .of_read STANAG_unpack_fmt0 p.pesdata 0 rfl (fun h => by rw [h]) fun h _ => ?_
  rw [h]
  refine .ite_error fun _ => .of_read STANAG_unpack_fmt1 p.pesdata
    (STANAG4609_UNIVERSAL_KEY.length + STANAG4609_UNKNOWN_OFFSET) rfl (fun h => by rw [h]) fun h _ => ?_
  rw [h]
  refine .ite_error fun _ => .ite_error fun _ => .of_read STANAG_unpack_fmt2 p.pesdata
    (STANAG4609_UNIVERSAL_KEY.length + STANAG4609_UNKNOWN_OFFSET + 3) rfl (fun h => by rw [h]) fun h _ => ?_
  rw [h]
  exact .ite_error fun _ => rfl

theorem STANAG_decodes : Decodes STANAG.unpack (fun _ => ())
    fun _ buf => ((pktRun buf).bind fun x => pesParse x.1).bind fun x => stanagParse x.1 :=
  PES_decodes.over (base := STANAG.pes) (fun t buf p e hp => by unfold STANAG.unpack; rw [hp]) STANAG_after

theorem stanagParse_error {p : PES} {e : Err} (h : stanagParse p = .error e) : e = .struct ∨ e = .generic :=
  error_ite h (.inr rfl) fun h => error_ite h (.inl rfl) fun h => error_ite h (.inr rfl) fun h =>
  error_ite h (.inl rfl) fun h => error_ite h (.inr rfl) fun h => error_ite h (.inr rfl) fun h =>
  error_ite h (.inl rfl) fun h => error_ite h (.inr rfl) fun h => nomatch h

theorem stanagParse_ok_iff (p : PES) :
    (∃ s, stanagParse p = .ok (s, ())) ↔
      p.pkt.pid = 260 ∧ 36 ≤ p.pesdata.length ∧ slice p.pesdata 5 21 = STANAG4609_UNIVERSAL_KEY ∧
      decInt true (slice p.pesdata 22 23) = 2 ∧ decInt true (slice p.pesdata 23 24) = 8 ∧
      checksum_stanag (slice p.pesdata 5 (p.pesdata.length - 2)) = decInt true (slice p.pesdata 34 36) := by
  simp only [stanagParse, R.ite_error_eq_ok, exists_and_left, ne_eq, Decidable.not_not, Nat.not_lt]
  constructor
  · rintro ⟨h1, _, h3, _, h5, h6, h7, h8, _⟩
    exact ⟨h1, h7, h3, h5, h6, h8⟩
  · rintro ⟨h1, h2, h3, h4, h5, h6⟩
    exact ⟨h1, by omega, h3, by omega, h4, h5, h2, h6, _, rfl⟩

theorem STANAG_unpack_error {t : STANAG} {buf : Bytes} {e : Err} (h : (STANAG.unpack t buf).2 = .error e) :
    e = .struct ∨ e = .generic := by
  rcases R.bind_eq_error ((STANAG_decodes.error_iff t buf e).1 h) with h | ⟨_, _, h⟩
  · rcases R.bind_eq_error h with h | ⟨_, _, h⟩
    · exact pktRun_error h
    · exact pesParse_error h
  · exact stanagParse_error h

end

end Acra.Lemmas.MpegParse
