/-
  `VideoFormat2` (Chapter 11 video format 2) over the MPEG family's transport-stream model: `unpack` as a parser of an
  arbitrary buffer, and closed forms of `pack` and of `unpack` on packed bytes, for streams of whole transport packets
  of any adaptation control.
-/
import Acra.Model.Ch11Video
import Acra.Lemmas.MPEGTS
import Acra.Lemmas.Decoder
namespace Acra.Lemmas.Ch11Video
open Acra.Py Acra.Model.Ch11Pay.Video Acra.Model.MPEGTS Acra.Gen.Ch11Video Acra.Lemmas.MPEGTS Acra.Lemmas Acra.Lemmas.MpegParse

/-- `VideoFormat2.unpack` as a parser: too short; intra-packet-header bit set; otherwise whatever `MPEGTS.unpack` makes
    of `buffer[4:]`, decoded into a new object -/
def videoRun (buf : Bytes) : R (State × Unit) :=
  if buf.length < 4 then .error .struct
  else if decInt false (buf.take 4) / 2 ^ IPH_OFFSET % 2 = 1 then .error .generic
  else (tsRun (buf.drop 4)).map fun x =>
    ({ channel_specific_word := decInt false (buf.take 4), datastream := decInt false (buf.take 4) / 2 ^ TP_OFFSET % 2,
       mpegts := x.1 }, ())

theorem tsRun_eq (b : Bytes) :
    tsRun b = (TS.unpack TS.fresh b).2.map fun r => ((TS.unpack TS.fresh b).1, r) :=
  ((TS_decodes TS.fresh b).step_eq (fun _ _ h => by rw [h]; rfl) (fun _ _ h => by rw [h]; rfl)).symm

theorem Video_decodes : Decodes unpack (fun _ => ()) fun _ => videoRun := by
  intro t buf
  refine .of_read VID_unpack_fmt0 buf 0 rfl (fun h => by rw [unpack, h]) fun h _ => ?_
  rw [unpack, h]
  refine .ite_error fun _ => ?_
  rw [tsRun_eq]; rcases TS.unpack TS.fresh (buf.drop 4) with ⟨ts, _ | _⟩ <;> rfl

/-- a whole transport-stream packet as the library can emit it in 188 bytes: every field fits its width (adaptation
    field and extension parts included), sync byte 0x47, header + adaptation field + payload at most 188 bytes,
    adaptation control 2 comes with its adaptation-field object -/
def TsWhole (p : Pkt) : Prop :=
  Pkt_WF p ∧ p.sync = 0x47 ∧ Pkt_used p ≤ 188 ∧ (p.adaption_ctrl = 2 → p.adaption_field.isSome = true)

/-- the bytes `VideoFormat2.pack` emits and the object it leaves -/
def Video_bytes (s : State) : Bytes := encInt false 4 s.channel_specific_word ++ s.mpegts.blocks.flatMap Pkt_bytes

def Video_packed (s : State) : State := { s with mpegts := { blocks := s.mpegts.blocks.map Pkt_packed } }

theorem Video_pack_eq (s : State) (hc : s.channel_specific_word < 2 ^ 32) (hw : ∀ p ∈ s.mpegts.blocks, Pkt_WF p) :
    pack s = (Video_packed s, .ok (Video_bytes s)) := by
  simp only [pack, VID_pack_fmt0, pack_word, if_pos hc, TS.pack, packBlocks_eq s.mpegts.blocks hw]
  rfl

/-- what decoding the packed bytes gives -/
def Video_decoded (s : State) : State :=
  { channel_specific_word := s.channel_specific_word,
    datastream := (s.channel_specific_word / 2 ^ TP_OFFSET) % 2,
    mpegts := { blocks := s.mpegts.blocks.map Pkt_decoded } }

theorem Video_unpack_bytes (s t : State) (hc : s.channel_specific_word < 2 ^ 32)
    (hiph : (s.channel_specific_word / 2 ^ IPH_OFFSET) % 2 = 0) (hwf : ∀ p ∈ s.mpegts.blocks, TsWhole p) :
    unpack t (Video_bytes s) = (Video_decoded s, .ok ()) := by
  have hi : ¬ (s.channel_specific_word / 2 ^ IPH_OFFSET % 2 = 1) := by omega
  have hw : decInt false ((Video_bytes s).take 4) = s.channel_specific_word := by
    rw [Video_bytes, take_encInt_append, decInt_encInt4 _ _ hc]
  refine Video_decodes.of_run (t := t) ?_
  show videoRun (Video_bytes s) = _
  rw [videoRun, if_neg (by simp [Video_bytes]), hw, if_neg hi, Video_bytes, drop_encInt_append,
    (TS_decodes.eq_ok_iff ..).1 (TS_unpack_packed TS.fresh _ hwf)]
  rfl

end Acra.Lemmas.Ch11Video
