/-
  Golay(24,12): the decode tables of the model hold, at the syndrome of every error pattern of weight
  ≤ 3, that pattern's upper half and weight (last write wins, and all writes to one slot agree because
  the code has minimum distance 8), and keep the initial "4 errors" at the syndrome of every pattern of
  weight 4.  Consequences: decoding corrects ≤ 3 errors, `_errors` flags 4.
-/
import Acra.Lemmas.GolayBase
namespace Acra.Lemmas.Golay
open Acra.Py Acra.Model.Golay Acra.Gen.Golay Acra.Lemmas.Bits

/-- value at index `s` after a sequence of writes `(key w, val w)` into a table that held `init` there -/
def lastW {W : Type} (key val : W → Nat) (ws : List W) (s init : Nat) : Nat :=
  ws.foldl (fun cur w => if key w = s then val w else cur) init

theorem lastW_const {W : Type} (key val : W → Nat) (ws : List W) (s init v : Nat)
    (hall : ∀ w ∈ ws, key w = s → val w = v) (hex : init = v ∨ ∃ w ∈ ws, key w = s) :
    lastW key val ws s init = v := by
  induction ws generalizing init with
  | nil => simpa [lastW] using hex
  | cons w ws ih =>
    simp only [lastW, List.foldl_cons]
    apply ih _ (fun w' hw' => hall w' (by simp [hw']))
    by_cases hk : key w = s
    · left; simp [hk, hall w (by simp) hk]
    · simp only [hk, if_false]
      rcases hex with h | ⟨w', hw', hk'⟩
      · exact Or.inl h
      · right
        simp only [List.mem_cons] at hw'
        rcases hw' with rfl | hw'
        · exact absurd hk' hk
        · exact ⟨w', hw', hk'⟩

theorem lastW_none {W : Type} (key val : W → Nat) (ws : List W) (s init : Nat)
    (h : ∀ w ∈ ws, key w ≠ s) : lastW key val ws s init = init :=
  lastW_const key val ws s init init (fun w hw hk => absurd hk (h w hw)) (Or.inl rfl)

theorem lastW_unique {W : Type} (key val : W → Nat) (ws : List W) (s init : Nat) (w₀ : W) (hm : w₀ ∈ ws)
    (hk : key w₀ = s) (h : ∀ w ∈ ws, key w = s → w = w₀) : lastW key val ws s init = val w₀ :=
  lastW_const key val ws s init _ (fun w hw hkw => by rw [h w hw hkw]) (Or.inr ⟨w₀, hm, hk⟩)

theorem applyWrites_get (ws : List (Nat × Nat × Nat)) (c e : Array Nat) (s : Nat)
    (hc : s < c.size) (he : s < e.size) :
    (applyWrites ws (c, e)).1[s]? = some (lastW (·.1) (·.2.1) ws s (c.getD s 0)) ∧
    (applyWrites ws (c, e)).2[s]? = some (lastW (·.1) (·.2.2) ws s (e.getD s 0)) := by
  induction ws generalizing c e with
  | nil => simp [applyWrites, lastW, Array.getD_eq_getD_getElem?, hc, he]
  | cons w ws ih =>
    have := ih (c.setIfInBounds w.1 w.2.1) (e.setIfInBounds w.1 w.2.2) (by simpa using hc) (by simpa using he)
    simp only [applyWrites, List.foldl_cons] at this ⊢
    rw [this.1, this.2]
    simp only [lastW, List.foldl_cons, Array.getD_eq_getD_getElem?, Array.getElem?_setIfInBounds]
    by_cases hk : w.1 = s
    · subst hk; simp [hc, he]
    · simp [hk]

theorem ones_all (i j k : Nat) (hi : i < 24) (hj : j < 24) (hk : k < 24) :
    onesincode (pat i j k) 24 = wt (pat i j k) :=
  onesincode_eq_wt _ (pat_lt i j k hi hj hk)

theorem mem_writes (w : Nat × Nat × Nat) :
    w ∈ writes ↔ ∃ i j k, i < 24 ∧ j < 24 ∧ k < 24 ∧ w = writeOf (i, j, k) := by
  simp only [writes, triples, List.mem_map, List.mem_flatMap, List.mem_range]
  constructor
  · rintro ⟨t, ⟨i, hi, j, hj, k, hk, rfl⟩, rfl⟩
    exact ⟨i, j, k, hi, hj, hk, rfl⟩
  · rintro ⟨i, j, k, hi, hj, hk, rfl⟩
    exact ⟨(i, j, k), ⟨i, hi, j, hj, k, hk, rfl⟩, rfl⟩

theorem writeOf_key (i j k : Nat) : (writeOf (i, j, k)).1 = synF (pat i j k) := by
  simp [writeOf, syndrome_eq]

theorem corTable0_size : corTable0.size = 4096 := by simp [corTable0, GOLAY_SIZE]
theorem errTable0_size : errTable0.size = 4096 := by simp [errTable0, GOLAY_SIZE]

/-! The triple loop over `range n`, of which the model is `n = 24`.  These mirror `triples`, `writes`, `tables`,
    `corTable`, `errTable` definition by definition, so that each has the definitional height of its original: the
    kernel then unfolds `corTable` and `corN 24` in the same step and never compares `corTable` with a projection of
    the closed term `tables` (which it would do by evaluating all 13 824 writes).  The read-back lemma `tablesN_get` and
    `corN_size` are proved for `n`; from `tables_pat` on the lemmas speak of the model's tables (`n = 24`). -/
def triplesN (n : Nat) : List (Nat × Nat × Nat) :=
  (List.range n).flatMap fun i => (List.range n).flatMap fun j => (List.range n).map fun k => (i, j, k)
def writesN (n : Nat) : List (Nat × Nat × Nat) := (triplesN n).map writeOf
def tablesN (n : Nat) : Array Nat × Array Nat := applyWrites (writesN n) (corTable0, errTable0)
def corN (n : Nat) : Array Nat := (tablesN n).1
def errN (n : Nat) : Array Nat := (tablesN n).2

theorem triplesN_24 : triplesN 24 = triples := rfl
theorem writesN_24 : writesN 24 = writes := rfl
theorem tables_eq : corTable = corN 24 ∧ errTable = errN 24 := ⟨rfl, rfl⟩

theorem tablesN_get (n s : Nat) (hs : s < 4096) :
    (corN n)[s]? = some (lastW (·.1) (·.2.1) (writesN n) s (corTable0.getD s 0)) ∧
    (errN n)[s]? = some (lastW (·.1) (·.2.2) (writesN n) s (errTable0.getD s 0)) :=
  applyWrites_get (writesN n) corTable0 errTable0 s (by rw [corTable0_size]; exact hs) (by rw [errTable0_size]; exact hs)

theorem tables_get (s : Nat) (hs : s < 4096) :
    corTable[s]? = some (lastW (·.1) (·.2.1) writes s (corTable0.getD s 0)) ∧
    errTable[s]? = some (lastW (·.1) (·.2.2) writes s (errTable0.getD s 0)) := by
  rw [tables_eq.1, tables_eq.2, ← writesN_24]
  exact tablesN_get 24 s hs

theorem applyWrites_size (ws : List (Nat × Nat × Nat)) (c e : Array Nat) :
    (applyWrites ws (c, e)).1.size = c.size := by
  induction ws generalizing c e with
  | nil => rfl
  | cons w ws ih =>
    simp only [applyWrites, List.foldl_cons] at ih ⊢
    rw [ih]
    simp

theorem corN_size (n : Nat) : (corN n).size = 4096 := by
  rw [← corTable0_size]
  exact applyWrites_size (writesN n) corTable0 errTable0

theorem corTable_size : corTable.size = 4096 := by
  rw [tables_eq.1, corN_size]

theorem corTable0_zero : corTable0.getD 0 0 = 0 := by
  simp [corTable0, Array.getD_eq_getD_getElem?, GOLAY_SIZE]
theorem errTable0_zero : errTable0.getD 0 0 = 0 := by
  simp [errTable0, Array.getD_eq_getD_getElem?, GOLAY_SIZE]
theorem errTable0_nz (s : Nat) (hs : s < 4096) (hne : s ≠ 0) : errTable0.getD s 0 = 4 := by
  have hne' : ¬ 0 = s := fun h => hne h.symm
  simp [errTable0, Array.getD_eq_getD_getElem?, GOLAY_SIZE, hne', hs, initEntry_snd, H_P,
    Nat.mod_eq_of_lt hs, hne]

-- from here on the tables are used only through the lemmas above; kept opaque, `rw` and `simp` do not try to
-- unfold the 13 824 writes when they compare terms
attribute [local irreducible] corTable errTable tables writes corTable0 errTable0 synTable

theorem tables_pat (i j k : Nat) (hi : i < 24) (hj : j < 24) (hk : k < 24) :
    corTable[synF (pat i j k)]? = some ((pat i j k >>> 12) &&& 0xfff) ∧
    errTable[synF (pat i j k)]? = some (onesincode (pat i j k) 24) := by
  have hm : writeOf (i, j, k) ∈ writes := (mem_writes _).2 ⟨i, j, k, hi, hj, hk, rfl⟩
  -- two patterns with the same syndrome are equal: their weights add up to at most 6
  have hsame : ∀ w ∈ writes, w.1 = synF (pat i j k) → w = writeOf (i, j, k) := by
    intro w hw hk'
    obtain ⟨i', j', k', hi', hj', hk'', rfl⟩ := (mem_writes w).1 hw
    rw [writeOf_key] at hk'
    have h6 : wt (pat i' j' k') + wt (pat i j k) < 8 := by
      have := wt_pat_le i' j' k'
      have := wt_pat_le i j k
      omega
    simp only [writeOf, synF_inj _ _ (pat_lt i' j' k' hi' hj' hk'') (pat_lt i j k hi hj hk) h6 hk']
  obtain ⟨hc, he⟩ := tables_get _ (synF_lt (pat i j k))
  rw [hc, he, lastW_unique _ _ _ _ _ _ hm (writeOf_key i j k) hsame,
    lastW_unique _ _ _ _ _ _ hm (writeOf_key i j k) hsame]
  exact ⟨rfl, rfl⟩

theorem no_write (e : Nat) (he : e < 2 ^ 24) (hw : wt e ≤ 4) (hne : ∀ i j k, pat i j k ≠ e) :
    ∀ w ∈ writes, w.1 ≠ synF e := by
  intro w hw' hk
  obtain ⟨i, j, k, hi, hj, hk', rfl⟩ := (mem_writes w).1 hw'
  rw [writeOf_key] at hk
  have h7 : wt (pat i j k) + wt e < 8 := by
    have := wt_pat_le i j k
    omega
  exact hne i j k (synF_inj _ _ (pat_lt i j k hi hj hk') he h7 hk)

theorem tables_zero : corTable[0]? = some 0 ∧ errTable[0]? = some 0 := by
  have hn := no_write 0 (by decide) (by decide) pat_ne_zero
  rw [synF_zero] at hn
  obtain ⟨hc, he⟩ := tables_get 0 (by decide)
  rw [hc, he, lastW_none _ _ _ _ _ hn, lastW_none _ _ _ _ _ hn, corTable0_zero, errTable0_zero]
  exact ⟨rfl, rfl⟩

theorem tables_w4 (e : Nat) (he : e < 2 ^ 24) (hw : wt e = 4) : errTable[synF e]? = some 4 := by
  have hs := synF_lt e
  have hne : synF e ≠ 0 := by
    intro h
    have h0 := synF_inj e 0 he (by decide) (by rw [wt_zero]; omega) (h.trans synF_zero.symm)
    rw [h0, wt_zero] at hw
    omega
  have hn : ∀ w ∈ writes, w.1 ≠ synF e := by
    apply no_write e he (by omega)
    intro i j k h
    have := wt_pat_le i j k
    rw [h] at this
    omega
  rw [(tables_get _ hs).2, lastW_none _ _ _ _ _ hn, errTable0_nz _ hs hne]

theorem syn_corrupt (x e : Nat) (hx : x < 4096) : synF (encode x ^^^ e) = synF e := by
  rw [synF_xor, (syn_encode_all x hx).1, Nat.zero_xor]

theorem hi_corrupt (x e : Nat) (hx : x < 4096) :
    ((encode x ^^^ e) >>> 12) &&& 0xfff = x ^^^ ((e >>> 12) &&& 0xfff) := by
  rw [Nat.shiftRight_xor_distrib, Nat.and_xor_distrib_right, (syn_encode_all x hx).2, and_low_of_lt x _ 12 rfl hx]

theorem syndrome2_inited (v : Nat) :
    syndrome2 { inited := true } ((v >>> 12) &&& 0xfff) (v &&& 0xfff) = synF v := by
  rw [← syndrome_eq]; simp only [syndrome2, syndrome, if_true]

theorem lookup_of (T : Array Nat) (idx : Nat) (f : Nat → Nat) (c : Nat) (h : T[idx]? = some c) :
    lookup T idx f = .ok (f c) := by
  simp [lookup, h]

theorem decodeInt_of (v c : Nat) (h : corTable[synF v]? = some c) :
    decodeInt v = .ok (((v >>> 12) &&& 0xfff) ^^^ c) := by
  unfold decodeInt
  rw [syndrome2_inited]
  exact lookup_of _ _ _ _ h

theorem errors_of (v c : Nat) (h : errTable[synF v]? = some c) :
    errors { inited := true } v = .ok c := by
  unfold errors
  simp only [syndrome2_inited, if_true]
  exact lookup_of _ _ _ _ h

theorem decode_coset (v e : Nat) (he : e < 2 ^ 24) (hw : wt e ≤ 3) (hs : synF v = synF e) :
    decodeInt v = .ok (((v >>> 12) &&& 0xfff) ^^^ ((e >>> 12) &&& 0xfff)) ∧
    errors { inited := true } v = .ok (wt e) := by
  rcases le3_cases e he hw with rfl | ⟨i, j, k, hi, hj, hk, rfl⟩
  · rw [synF_zero] at hs
    rw [decodeInt_of _ 0 (by rw [hs]; exact tables_zero.1), errors_of _ 0 (by rw [hs]; exact tables_zero.2),
      wt_zero]
    exact ⟨rfl, rfl⟩
  · obtain ⟨h1, h2⟩ := tables_pat i j k hi hj hk
    rw [decodeInt_of _ _ (by rw [hs]; exact h1), errors_of _ _ (by rw [hs]; exact h2),
      ones_all i j k hi hj hk]
    exact ⟨rfl, rfl⟩

theorem decode_corrects (x e : Nat) (hx : x < 4096) (he : e < 2 ^ 24) (hw : wt e ≤ 3) :
    decodeInt (encode x ^^^ e) = .ok x ∧
    errors { inited := true } (encode x ^^^ e) = .ok (wt e) := by
  have h := decode_coset _ e he hw (syn_corrupt x e hx)
  rwa [hi_corrupt x e hx, Nat.xor_assoc, Nat.xor_self, Nat.xor_zero] at h

theorem errors_flags4 (x e : Nat) (hx : x < 4096) (he : e < 2 ^ 24) (hw : wt e = 4) :
    errors { inited := true } (encode x ^^^ e) = .ok 4 :=
  errors_of _ 4 (by rw [syn_corrupt _ _ hx]; exact tables_w4 e he hw)

theorem decodeInt_ok (v : Nat) : ∃ r, decodeInt v = .ok r := by
  have h : synF v < corTable.size := by rw [corTable_size]; exact synF_lt v
  exact ⟨_, decodeInt_of v _ (Array.getElem?_eq_getElem h)⟩

theorem encode_mod (raw : Nat) : encode raw = encode (raw % 4096) := by
  rw [encode_eq, encode_eq, Nat.mod_mod]

theorem encode_lt (raw : Nat) : encode raw < 2 ^ 24 := by
  have hr : raw % 4096 < 4096 := Nat.mod_lt raw (by decide)
  have h := (syn_encode_all _ hr).2
  rw [← encode_mod, Nat.shiftRight_eq_div_pow] at h
  have h2 := (Nat.div_lt_iff_lt_mul (by decide : 0 < 2 ^ 12)).1 (show encode raw / 2 ^ 12 < 4096 by omega)
  omega

theorem beBytes3 (v : Nat) : beBytes 3 v = beBytes 1 (v / 65536) ++ beBytes 2 (v % 65536) := by
  have := beBytes_add 1 2 v
  simpa using this

theorem encodeStr_eq (raw : Nat) : encodeStr raw = .ok (beBytes 3 (encode raw)) := by
  have hlt := encode_lt raw
  have h1 : encode raw >>> 16 < 256 := by
    rw [shr]
    exact (Nat.div_lt_iff_lt_mul (by decide)).2 (by omega)
  have h2 : encode raw &&& 0xFFFF < 65536 := Nat.and_lt_two_pow _ (by decide : (0xFFFF : Nat) < 2 ^ 16)
  simp only [encodeStr, structPack, Golay_encode_fmt0, packCodes, Code.bound, Code.size, h1, h2, if_true,
    encInt]
  rw [beBytes3, shr, and_FFFF]
  simp

theorem decodeBytes_eq (b : Bytes) (h : b.length = 3) : decodeBytes b = decodeInt (beNat b) := by
  match b, h with
  | [b0, b1, b2], _ =>
    simp only [decodeBytes, structUnpack, Golay_decode_fmt0, Fmt.size, codesSize, Code.size, unpackCodes,
      decInt, List.length_cons, List.length_nil]
    simp only [beNat, leNat, List.reverse_cons, List.reverse_nil, List.nil_append, List.cons_append,
      List.take, List.drop, Nat.shiftLeft_eq]
    simp only [if_true, Nat.zero_add, Nat.reduceAdd, ne_eq, not_true_eq_false, if_false]
    congr 1
    omega

theorem decode_corrects_bytes (x e : Nat) (hx : x < 4096) (he : e < 2 ^ 24) (hw : wt e ≤ 3) :
    decodeBytes (beBytes 3 (encode x ^^^ e)) = .ok x := by
  have hlt : encode x ^^^ e < 256 ^ 3 := Nat.xor_lt_two_pow (n := 24) (encode_lt x) he
  rw [decodeBytes_eq _ (by simp), beNat_beBytes_of_lt 3 _ hlt]
  exact (decode_corrects x e hx he hw).1

theorem decodeBytes_bad (b : Bytes) (h : b.length ≠ 3) : decodeBytes b = .error .generic := by
  simp [decodeBytes, h]

end Acra.Lemmas.Golay
