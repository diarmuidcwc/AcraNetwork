/-
  Chapter 7: the decapsulator on frames with the layout of Chapter7Layout.
  `parse` = the greedy PTDP parser that the non-low-latency phase of `get_aligned_payload` runs;
  chunking: parsing `x ++ y` = parsing `x`, then parsing (what was left of x) ++ y;
  on a truncated valid stream the parser returns exactly the PTDPs that are complete (`doneCount`).
  One frame with the `LlpLayout`: `get_aligned_payload` returns the low-latency PTDPs of the frame (possibly none),
  flagged, then parses (carried remainder ++ normal data) (`gap_layout`; the two start phases `gap_normal_frame`,
  `gap_llp_frame`).
  The consumer loop over `mixFrames` (`decFold_mix`): every frame returns its low-latency PTDPs, then the normal PTDPs
  completed by the frame's share of the normal stream (`mixPtdps`).
  All of this is for a carried remainder (`rem = some r`), as the consumer loop `decap` passes it; the three
  `remainder is None` branches of `getAlignedPayload` (joining mid-capture) have no lemma beyond fuel and stride
  (Chapter7Gap).  Nothing is proved of the offset bookkeeping either (`GapOut.checks`, `bookkeep`'s `byteOffset` /
  `doCheck` / `checkCount`, `PTFR.checkOffsets`): the lemmas carry the check list `chk` along and never read it.
  The decoder theorem of the region, consumer loop and reassembly together, is `decap_mixFrames` at the end of
  Chapter7Asm.
-/
import Acra.Lemmas.Chapter7Gap
import Acra.Lemmas.Chapter7Layout
namespace Acra.Lemmas.Chapter7
open Acra.Py Acra.Model Acra.Model.Chapter7 Acra.Gen.Chapter7
open Acra.Spec.Ch7 (offset startsAux)

/-- what the encapsulator builds comes back unchanged: `Canon` pins the two attributes that are not on the wire to
    what the decoder assigns (`low_latency = false`, `length` = size of the payload) -/
theorem unpack_encB (p : PTDP.State) (h : Canon p) (rest : Bytes) :
    PTDP.unpack PTDP.fresh (encB p ++ rest) = (p, .ok rest) := by
  obtain ⟨h1, h2, h3⟩ := h
  rw [ptdp_unpack_clean p PTDP.fresh h1, ← h2, ← h3]

/-- PTDPs decoded from the front of `b` and what is left; the flag says the parser stopped on an
    illegal length rather than on incomplete data -/
def parse : Nat → Bytes → List PTDP.State × Bytes × Bool
  | 0, b => ([], b, false)
  | fuel + 1, b =>
    match PTDP.unpack PTDP.fresh b with
    | (p, .ok rest) =>
      let r := parse fuel rest
      (p :: r.1, r.2.1, r.2.2)
    | (_, .error .ptdpLength) => ([], b, true)
    | (_, .error _) => ([], b, false)

theorem parse_error (fuel : Nat) (b : Bytes) (e : Err) (h : (PTDP.unpack PTDP.fresh b).2 = .error e) :
    parse (fuel + 1) b = ([], b, e == .ptdpLength) := by
  rw [parse]
  cases hu : PTDP.unpack PTDP.fresh b with
  | mk p r =>
    rw [hu] at h
    cases h
    cases e <;> rfl

theorem parse_ok (fuel : Nat) (b : Bytes) (p : PTDP.State) (rest : Bytes)
    (h : PTDP.unpack PTDP.fresh b = (p, .ok rest)) :
    parse (fuel + 1) b = (p :: (parse fuel rest).1, (parse fuel rest).2.1, (parse fuel rest).2.2) := by
  rw [parse, h]

theorem parse_fuel : ∀ (f1 f2 : Nat) (b : Bytes), b.length < f1 → b.length < f2 → parse f1 b = parse f2 b := by
  intro f1
  induction f1 with
  | zero => intro _ _ h; omega
  | succ f1 ih =>
    intro f2 b h1 h2
    cases f2 with
    | zero => omega
    | succ f2 =>
      cases hu : PTDP.unpack PTDP.fresh b with
      | mk p r =>
        cases r with
        | error e => rw [parse_error f1 b e (by rw [hu]), parse_error f2 b e (by rw [hu])]
        | ok rest =>
          have := (ptdp_unpack_ok_len _ _ _ _ hu).1
          rw [parse_ok f1 b p rest hu, parse_ok f2 b p rest hu, ih f2 rest (by omega) (by omega)]

/-- the parser with the canonical amount of fuel -/
def parseB (b : Bytes) : List PTDP.State × Bytes × Bool := parse (b.length + 1) b

theorem parseB_ok (b : Bytes) (p : PTDP.State) (rest : Bytes) (h : PTDP.unpack PTDP.fresh b = (p, .ok rest)) :
    parseB b = (p :: (parseB rest).1, (parseB rest).2.1, (parseB rest).2.2) := by
  have hl := (ptdp_unpack_ok_len _ _ _ _ h).1
  rw [parseB, parse_ok _ b p rest h, parse_fuel b.length (rest.length + 1) rest (by omega) (by omega), parseB]

theorem parseB_error (b : Bytes) (e : Err) (h : (PTDP.unpack PTDP.fresh b).2 = .error e) :
    parseB b = ([], b, e == .ptdpLength) :=
  parse_error _ b e h

theorem parseB_nil : parseB [] = ([], [], false) :=
  parseB_error [] .ptdpRemaining (by rw [ptdp_unpack_short _ _ (by simp)])

theorem parseB_append (x y : Bytes) (ps : List PTDP.State) (t : Bytes) (hx : parseB x = (ps, t, false)) :
    parseB (x ++ y) = (ps ++ (parseB (t ++ y)).1, (parseB (t ++ y)).2.1, (parseB (t ++ y)).2.2) := by
  -- induction on a bound for the length of `x`: every decoded PTDP shortens it
  suffices ∀ (n : Nat) (x : Bytes) (ps : List PTDP.State), x.length < n → parseB x = (ps, t, false) →
      parseB (x ++ y) = (ps ++ (parseB (t ++ y)).1, (parseB (t ++ y)).2.1, (parseB (t ++ y)).2.2) from
    this _ x ps (Nat.lt_succ_self _) hx
  intro n
  induction n with
  | zero => intro _ _ h; omega
  | succ n ih =>
    intro x ps hn hx
    cases hu : PTDP.unpack PTDP.fresh x with
    | mk p r =>
      cases r with
      | ok rest =>
        have hl := (ptdp_unpack_ok_len _ _ _ _ hu).1
        rw [parseB_ok x p rest hu] at hx
        injection hx with h1 h2
        injection h2 with h2 h3
        have hrest : parseB rest = ((parseB rest).1, t, false) := by
          rw [← h2, ← h3]
        have := ih rest (parseB rest).1 (by omega) hrest
        rw [parseB_ok (x ++ y) p (rest ++ y) (ptdp_unpack_append _ _ _ _ _ hu), this, ← h1]
        rfl
      | error e =>
        rw [parseB_error x e (by rw [hu])] at hx
        injection hx with h1 h2
        injection h2 with h2 h3
        subst h1 h2
        simp

/-- number of leading encodings that fit completely into the first `c` bytes -/
def doneCount : List Bytes → Nat → Nat
  | [], _ => 0
  | b :: bs, c => if b.length ≤ c then 1 + doneCount bs (c - b.length) else 0

theorem doneCount_le (bs : List Bytes) (c : Nat) : doneCount bs c ≤ bs.length := by
  induction bs generalizing c with
  | nil => simp [doneCount]
  | cons b bs ih => simp only [doneCount]; split <;> simp <;> have := ih (c - b.length) <;> omega

theorem doneCount_fit (bs : List Bytes) (c : Nat) : ((bs.take (doneCount bs c)).flatten).length ≤ c := by
  induction bs generalizing c with
  | nil => simp [doneCount]
  | cons b bs ih =>
    simp only [doneCount]
    split
    · rw [Nat.add_comm, List.take_succ_cons]
      simp only [List.flatten_cons, List.length_append]
      have := ih (c - b.length); omega
    · simp

theorem doneCount_mono (bs : List Bytes) (c c' : Nat) (h : c ≤ c') : doneCount bs c ≤ doneCount bs c' := by
  induction bs generalizing c c' with
  | nil => simp [doneCount]
  | cons b bs ih =>
    simp only [doneCount]
    by_cases h1 : b.length ≤ c
    · have h2 : b.length ≤ c' := by omega
      simp only [h1, h2, if_true]
      have := ih (c - b.length) (c' - b.length) (by omega); omega
    · simp only [h1, if_false]; omega

theorem doneCount_zero (bs : List Bytes) (hne : ∀ b ∈ bs, b ≠ []) : doneCount bs 0 = 0 := by
  cases bs with
  | nil => rfl
  | cons b r =>
    have : 0 < b.length := List.length_pos_iff.2 (hne b (by simp))
    have h : ¬ b.length ≤ 0 := by omega
    simp [doneCount, h]

theorem doneCount_append (X Y : List Bytes) (c : Nat) :
    doneCount (X ++ Y) c =
      if X.flatten.length ≤ c then X.length + doneCount Y (c - X.flatten.length) else doneCount X c := by
  induction X generalizing c with
  | nil => simp
  | cons x X ih =>
    simp only [List.cons_append, doneCount, List.flatten_cons, List.length_append, List.length_cons]
    by_cases hx : x.length ≤ c
    · simp only [hx, if_true, ih]
      by_cases hX : X.flatten.length ≤ c - x.length
      · have : x.length + X.flatten.length ≤ c := by omega
        simp only [hX, this, if_true]
        rw [show c - x.length - X.flatten.length = c - (x.length + X.flatten.length) by omega]; omega
      · have : ¬ x.length + X.flatten.length ≤ c := by omega
        simp only [hX, this, if_false]
    · have : ¬ x.length + X.flatten.length ≤ c := by omega
      simp only [hx, this, if_false]

theorem doneCount_lt (X : List Bytes) (c : Nat) (h : c < X.flatten.length) : doneCount X c < X.length := by
  induction X generalizing c with
  | nil => simp at h
  | cons x X ih =>
    simp only [doneCount, List.length_cons]
    simp only [List.flatten_cons, List.length_append] at h
    split
    · have := ih (c - x.length) (by omega); omega
    · omega

theorem parseB_stream (ps : List PTDP.State) (hps : ∀ p ∈ ps, Canon p) (c : Nat)
    (hc : c < ((ps.map encB).flatten).length) :
    parseB (((ps.map encB).flatten).take c) =
      (ps.take (doneCount (ps.map encB) c),
       (((ps.map encB).flatten).take c).drop (((ps.map encB).take (doneCount (ps.map encB) c)).flatten).length,
       false) := by
  induction ps generalizing c with
  | nil => simp at hc
  | cons p ps ih =>
    simp only [List.map_cons, List.flatten_cons, doneCount]
    by_cases hle : (encB p).length ≤ c
    · simp only [hle, if_true]
      rw [take_prefix_append _ _ _ hle, parseB_ok _ p _ (unpack_encB p (hps p (by simp)) _)]
      simp only [List.map_cons, List.flatten_cons, List.length_append] at hc
      rw [ih (fun q hq => hps q (by simp [hq])) (c - (encB p).length) (by omega)]
      rw [Nat.add_comm 1, List.take_succ_cons, List.take_succ_cons]
      simp only [List.flatten_cons, List.length_append]
      congr 2
      rw [← List.drop_drop, List.drop_left' rfl]
    · simp only [hle, if_false, List.take_zero, List.flatten_nil, List.length_nil, List.drop_zero]
      rw [List.take_append_of_le_length (by omega)]
      exact parseB_error _ _ (ptdp_unpack_prefix p (hps p (by simp)).1 c (by omega) _)

/-- the last tuple the generator yields -/
def lastItem (r : List PTDP.State × Bytes × Bool) : Item := if r.2.2 then .lengthError else .remaining r.2.1

theorem gapLoop_parse (self : PTFR.State) (first : Bool) (rem : Option Bytes) :
    ∀ (fuel : Nat) (st : GapSt), st.isLlp = false → st.buf.length < fuel →
      (gapLoop self first rem fuel st).items = (parse fuel st.buf).1.map Item.pkt ++ [lastItem (parse fuel st.buf)] ∧
      (gapLoop self first rem fuel st).raised = none := by
  intro fuel
  induction fuel with
  | zero => intro _ _ h; omega
  | succ fuel ih =>
    intro st hl hf
    cases hu : PTDP.unpack PTDP.fresh st.buf with
    | mk p0 r =>
      cases r with
      | error e =>
        obtain ⟨h1, h2⟩ := gapLoop_stop self first rem fuel st e (by rw [hu])
        rw [h1, h2, parse_error fuel st.buf e (by rw [hu])]
        simp [lastItem]
      | ok rest =>
        have hlen := (ptdp_unpack_ok_len _ _ _ _ hu).1
        obtain ⟨st1, chk, hl1, he⟩ := gapLoop_ok self first rem fuel st p0 rest hu
        have := ih { st1 with buf := rest } (hl1.trans hl) (by simp only; omega)
        rw [he, hl, if_neg Bool.false_ne_true, items_cons, raised_cons, this.1, this.2, parse_ok fuel st.buf p0 rest hu]
        exact ⟨rfl, rfl⟩

/-- `hoff`: the code skips to `ptdp_offset` only for an empty remainder and 0 < offset < 0x7FF -/
theorem gap_normal_frame (self : PTFR.State) (first : Bool) (r : Bytes) (hl : self.llp = false)
    (hoff : r = [] → self.ptdp_offset = 0 ∨ 0x7FF ≤ self.ptdp_offset) :
    (getAlignedPayload self first (some r)).items =
      (parseB (r ++ self.payload)).1.map Item.pkt ++ [lastItem (parseB (r ++ self.payload))] ∧
    (getAlignedPayload self first (some r)).raised = none := by
  unfold getAlignedPayload
  simp only [hl, Bool.false_eq_true, if_false, Option.isNone_some, Bool.false_and, Option.getD_some]
  have hbuf : (if (some r == some []) = true ∧
        (decide (self.ptdp_offset > 0) && decide (self.ptdp_offset < 0x7FF)) = true
      then self.payload.drop self.ptdp_offset else r ++ self.payload) = r ++ self.payload := by
    by_cases hr : r = []
    · rcases hoff hr with h | h
      · simp [h]
      · have : ¬ self.ptdp_offset < 2047 := by omega
        simp [this]
    · have : (some r == some []) = false := by
        simp only [Option.some_beq_some, beq_eq_false_iff_ne, ne_eq]; exact hr
      simp [this]
  simp only [Bool.and_eq_true] at hbuf ⊢
  rw [hbuf]
  have := gapLoop_parse self first (some r) (self.payload.length + r.length + 2)
    { buf := r ++ self.payload, isLlp := false, byteOffset := -(r.length : Int), doCheck := true, checkCount := 0 }
    rfl (by simp; omega)
  simp only at this
  rw [parse_fuel _ ((r ++ self.payload).length + 1) _ (by simp; omega) (by omega)] at this
  exact this

theorem consume_fold (ps : List PTDP.State) (last : Item) (acc : List PTDP.State) (rm : Option Bytes) :
    (ps.map Item.pkt ++ [last]).foldl consume (acc, rm) = consume (acc ++ ps, rm) last := by
  induction ps generalizing acc with
  | nil => simp
  | cons p ps ih =>
    simp only [List.map_cons, List.cons_append, List.foldl_cons, consume]
    rw [ih, List.append_assoc]; rfl

theorem decStep_of_unpack (L : Nat) (st : DecSt) (frame : Bytes) (ptfr : PTFR.State)
    (hunp : PTFR.unpack { PTFR.fresh with length := L } frame = (ptfr, .ok ())) :
    decStep L st frame =
      ({ ptdps := ((getAlignedPayload ptfr st.first st.rem).items.foldl consume (st.ptdps, st.rem)).1,
         rem := ((getAlignedPayload ptfr st.first st.rem).items.foldl consume (st.ptdps, st.rem)).2,
         first := false }, (getAlignedPayload ptfr st.first st.rem).raised) := by
  unfold decStep
  rw [hunp]

/-- a low-latency PTDP as the decapsulator returns it: the two attributes that are not on the wire as the encapsulator
    sets them, so a PTDP the encapsulator built (`LlpCanon q`) comes back as itself, `asLlp q = q` -/
def asLlp (p : PTDP.State) : PTDP.State := { p with length := p.payload.length, low_latency := true }

/-- induction on `llps`, one loop iteration each; the iteration that reads continuation byte 0x00 hands over to
    `gapLoop_parse`. Fuel: one unit per low-latency PTDP, then more than `|r ++ N|` for the normal phase
    (`gapLoop_parse`, `parse_fuel`). `hjump`: on the first frame `afterLlp` jumps to `ptdp_offset` and discards the
    carried remainder, so the normal phase reads `r ++ N` only if `r` is empty there. -/
theorem gapLoop_llp (self : PTFR.State) (first : Bool) (r N : Bytes)
    (hjump : first = true → r = []) :
    ∀ (llps : List PTDP.State), llps ≠ [] → (∀ p ∈ llps, PTDP_WF p) →
      (∀ (fuel : Nat) (st : GapSt), st.isLlp = true → st.buf = llpBytes llps ++ N →
        self.payload.drop self.ptdp_offset = N →
        llps.length + (r ++ N).length < fuel →
        (gapLoop self first (some r) fuel st).items =
          llps.map (fun p => Item.pkt (asLlp p)) ++ (parseB (r ++ N)).1.map Item.pkt ++ [lastItem (parseB (r ++ N))] ∧
        (gapLoop self first (some r) fuel st).raised = none) := by
  intro llps
  induction llps with
  | nil => intro h; exact absurd rfl h
  | cons p ps ih =>
    intro _ hwf fuel st hl hbuf hN hfuel
    cases fuel with
    | zero => omega
    | succ fuel =>
      have hu := ptdp_unpack_clean p PTDP.fresh (hwf p (by simp)) ([if ps = [] then 0x00 else 0xFF] ++ (llpBytes ps ++ N))
      rw [← List.append_assoc, ← List.append_assoc, ← llpBytes_cons, ← hbuf] at hu
      obtain ⟨st1, chk, _, he⟩ := gapLoop_ok self first (some r) fuel st _ _ hu
      rw [he, hl, if_pos rfl]
      simp only [List.singleton_append]
      cases ps with
      | nil =>
        -- the last low-latency PTDP: continuation byte 0x00, switch to the normal data
        simp only [if_true, llpBytes, List.nil_append, show (0 : UInt8).toNat = 0 from rfl]
        obtain ⟨hs1, hs2⟩ := afterLlp_last self first st1
          ((PTDP.len { p with length := p.payload.length, low_latency := false } : Nat) : Int) 0 N r hjump hN
        have hpar := gapLoop_parse self first (some r) fuel _ hs1 (by rw [hs2]; simp at hfuel ⊢; omega)
        rw [items_cons, raised_cons, hpar.1, hpar.2, hs2,
          parse_fuel fuel ((r ++ N).length + 1) _ (by simp at hfuel ⊢; omega) (by omega)]
        simp [asLlp, parseB]
      | cons q rest =>
        simp only [List.cons_ne_nil, if_false, show (0xFF : UInt8).toNat = 0xFF from rfl]
        obtain ⟨hs1, hs2⟩ := afterLlp_more self first (some r) st1
          ((PTDP.len { p with length := p.payload.length, low_latency := false } : Nat) : Int)
          0xFF (llpBytes (q :: rest) ++ N)
        have := ih (List.cons_ne_nil q rest) (fun x hx => hwf x (by simp [hx])) fuel _ hs1 hs2 hN
          (by simp at hfuel ⊢; omega)
        rw [items_cons, raised_cons, this.1, this.2]
        simp [asLlp]

theorem gap_llp_frame (self : PTFR.State) (llps : List PTDP.State) (N : Bytes) (hne : llps ≠ [])
    (h : LlpLayout self llps N) (hwf : ∀ p ∈ llps, PTDP_WF p) (first : Bool) (r : Bytes)
    (hjump : first = true → r = []) :
    (getAlignedPayload self first (some r)).items =
      llps.map (fun p => Item.pkt (asLlp p)) ++ (parseB (r ++ N)).1.map Item.pkt ++ [lastItem (parseB (r ++ N))] ∧
    (getAlignedPayload self first (some r)).raised = none := by
  have hfl : self.llp = true := by
    rw [h.flag]; cases llps with
    | nil => exact absurd rfl hne
    | cons _ _ => rfl
  have hN : self.payload.drop self.ptdp_offset = N := by
    rw [h.off hne, h.payload, List.drop_left' rfl]
  unfold getAlignedPayload
  simp only [hfl, if_true, Option.getD_some]
  apply gapLoop_llp self first r N hjump llps hne hwf _ _ rfl h.payload hN
  have := llpBytes_len_ge llps
  rw [h.payload]
  simp only [List.length_append]; omega

/-- `hjump`/`hskip` say that the two shortcuts of the code (jump to `ptdp_offset` on the first frame after low-latency
    data; skip to `ptdp_offset` with an empty remainder) do not lose data. -/
theorem gap_layout (self : PTFR.State) (llps : List PTDP.State) (N : Bytes) (h : LlpLayout self llps N)
    (hwf : ∀ p ∈ llps, PTDP_WF p) (first : Bool) (r : Bytes)
    (hjump : llps ≠ [] → first = true → r = [])
    (hskip : llps = [] → r = [] → self.ptdp_offset = 0 ∨ 0x7FF ≤ self.ptdp_offset) :
    (getAlignedPayload self first (some r)).items =
      (llps.map asLlp).map Item.pkt ++ (parseB (r ++ N)).1.map Item.pkt ++ [lastItem (parseB (r ++ N))] ∧
    (getAlignedPayload self first (some r)).raised = none := by
  cases llps with
  | nil =>
    have hN : self.payload = N := h.payload
    rw [← hN]
    exact gap_normal_frame self first r h.flag (hskip rfl)
  | cons q qs =>
    rw [List.map_map]
    exact gap_llp_frame self (q :: qs) N (List.cons_ne_nil _ _) h hwf first r (hjump (List.cons_ne_nil _ _))

theorem decStep_layout (L : Nat) (st : DecSt) (f : PTFR.State) (ll : List PTDP.State) (N r : Bytes)
    (hlay : LlpLayout f ll N) (hllwf : ∀ p ∈ ll, PTDP_WF p) (hwf : PTFR_WF f) (hL : f.payload.length ≤ L)
    (hr : st.rem = some r) (hjump : ll ≠ [] → st.first = true → r = [])
    (hskip : ll = [] → r = [] → f.ptdp_offset = 0 ∨ 0x7FF ≤ f.ptdp_offset)
    (hflag : (parseB (r ++ N)).2.2 = false) :
    decStep L st (wire f) =
      ({ ptdps := st.ptdps ++ ll.map asLlp ++ (parseB (r ++ N)).1, rem := some (parseB (r ++ N)).2.1,
         first := false }, none) := by
  rw [decStep_of_unpack L st (wire f) _ (ptfr_unpack_clean f { PTFR.fresh with length := L } hwf hL), hr]
  have hg := gap_layout { f with length := L } ll N ⟨hlay.flag, hlay.payload, hlay.off⟩ hllwf st.first r hjump hskip
  rw [hg.1, hg.2, ← List.map_append, consume_fold, List.append_assoc]
  simp only [lastItem, hflag, Bool.false_eq_true, if_false, consume]

/-- what the consumer loop collects from the frames `lls` whose normal data start at `c` -/
def mixPtdps (L : Nat) (ps : List PTDP.State) : Nat → List (List PTDP.State) → List PTDP.State
  | _, [] => []
  | c, ll :: r =>
    ll.map asLlp ++
      (ps.take (doneCount (ps.map encB) (c + cap L ll))).drop (doneCount (ps.map encB) c) ++
      mixPtdps L ps (c + cap L ll) r

theorem decStep_mix (L sid : Nat) (hL2 : L ≤ 2047) (hs : sid < 16) (S : Bytes) (st : List Nat) (c : Nat)
    (ll : List PTDP.State) (hfit : (llpBytes ll).length ≤ L) (hllwf : ∀ p ∈ ll, PTDP_WF p)
    (hc : c + cap L ll ≤ S.length) (acc : List PTDP.State) (fst : Bool) (r : Bytes)
    (hjump : fst = true → r = [])
    (hoff : ll = [] → r = [] → offAt st c (c + L) = 0)
    (hflag : (parseB (r ++ slice S c (c + cap L ll))).2.2 = false) :
    decStep L { ptdps := acc, rem := some r, first := fst } (wire (mixFrame L sid S st c ll)) =
      ({ ptdps := acc ++ ll.map asLlp ++ (parseB (r ++ slice S c (c + cap L ll))).1,
         rem := some (parseB (r ++ slice S c (c + cap L ll))).2.1, first := false }, none) := by
  obtain ⟨hwf, hplen⟩ := mixFrame_wf L sid hL2 hs S st c ll hfit hc
  refine decStep_layout L _ _ ll _ r (mixFrame_layout L sid S st c ll) hllwf hwf (Nat.le_of_eq hplen) rfl
    (fun _ => hjump) (fun hl hr => .inl ?_) hflag
  subst hl
  exact hoff rfl hr

/-- The carried remainder is stated as what the parser leaves of the stream cut at `c`, `(parseB (S.take c)).2.1`: then
    `parseB_stream` at `c` and at `c + cap L ll` with the chunking lemma `parseB_append` between them is one step -/
theorem decFold_mix (L sid : Nat) (hL : 0 < L) (hL2 : L ≤ 2047) (hs : sid < 16)
    (ps : List PTDP.State) (hps : ∀ p ∈ ps, Canon p) :
    ∀ (lls : List (List PTDP.State)) (c : Nat) (acc : List PTDP.State) (fst : Bool),
      (∀ l ∈ lls, (llpBytes l).length ≤ L ∧ ∀ p ∈ l, PTDP_WF p) →
      cutAfter L c lls < ((ps.map encB).flatten).length →
      (fst = true → c = 0) →
      decFold L ((mixFrames L sid (ps.map encB).flatten (startsAux 0 (ps.map encB)) c lls).map wire)
        { ptdps := acc, rem := some (parseB (((ps.map encB).flatten).take c)).2.1, first := fst } =
      ({ ptdps := acc ++ mixPtdps L ps c lls,
         rem := some (parseB (((ps.map encB).flatten).take (cutAfter L c lls))).2.1,
         first := fst && lls.isEmpty }, none) := by
  intro lls
  induction lls with
  | nil => intro c acc fst _ _ _; simp [mixFrames, decFold, mixPtdps, cutAfter]
  | cons ll rest ih =>
    intro c acc fst hlls hcut hfst
    simp only [cutAfter] at hcut
    have hge := cutAfter_ge L rest (c + cap L ll)
    obtain ⟨hfit, hllwf⟩ := hlls ll (by simp)
    have hk1 := parseB_stream ps hps c (by omega)
    have hk2 := parseB_stream ps hps (c + cap L ll) (by omega)
    have happ := parseB_append (((ps.map encB).flatten).take c)
      (slice (ps.map encB).flatten c (c + cap L ll)) _ _ hk1
    rw [take_append_slice _ _ _ (by omega), hk2] at happ
    simp only [Prod.mk.injEq] at happ
    obtain ⟨h1, h2, h3⟩ := happ
    have hr := congrArg (fun x => x.2.1) hk1
    have hr' := congrArg (fun x => x.2.1) hk2
    simp only at hr hr'
    have hd : doneCount (ps.map encB) c ≤ ps.length := by
      have := doneCount_le (ps.map encB) c; simpa using this
    have hnew := congrArg (List.drop (doneCount (ps.map encB) c)) h1
    rw [List.drop_left' (by rw [List.length_take]; omega)] at hnew
    simp only [mixFrames, List.map_cons, decFold]
    rw [hr, decStep_mix L sid hL2 hs _ _ c ll hfit hllwf (by omega) acc fst _
      (by
        intro hf
        have hc0 := hfst hf
        subst hc0
        simp)
      (by
        intro _ hrn
        have hfit' := doneCount_fit (ps.map encB) c
        have hlen := congrArg List.length hrn
        simp only [List.length_drop, List.length_take, List.length_nil] at hlen
        exact offAt_zero_at_boundary L hL (ps.map encB) (map_encB_ne ps) c (doneCount (ps.map encB) c)
          (by omega) (by omega))
      h3.symm]
    simp only
    rw [← h2, ← hr', ← hnew]
    have hnext := ih (c + cap L ll)
      (acc ++ ll.map asLlp ++ (ps.take (doneCount (ps.map encB) (c + cap L ll))).drop (doneCount (ps.map encB) c))
      false (fun l hl => hlls l (by simp [hl])) hcut (by intro h; cases h)
    rw [hnext]
    simp [mixPtdps, cutAfter, List.append_assoc]

end Acra.Lemmas.Chapter7
