/-
  Helper lemmas for `SimpleEthernet.AFDX`: `unpack` by buffer length (it never returns normally, so what it leaves in
  the object is part of the statement), `pack` under the well-formedness predicate (the layout of Spec/AFDX.lean), what
  `unpack` reads in an emitted frame, and the shape of `__eq__`.
-/
import Acra.Model.AFDX
import Acra.Spec.AFDX
import Acra.Lemmas.Net
namespace Acra.Lemmas.AFDX
open Acra.Py Acra.Model.AFDX Acra.Gen.AFDX Acra.Lemmas.Net

theorem set_dstmac_eq (s : AFDX) (mac : Bytes) :
    AFDX.set_dstmac s mac =
      if 6 ≤ mac.length then ({ s with vlink := some (fld mac 4 6) }, .ok ()) else (s, .error .struct) := by
  rw [AFDX.set_dstmac, structUnpackFrom_flds _, show 0 + AFDX_set_dstmac_fmt0.size = 6 from rfl]
  by_cases h : 6 ≤ mac.length
  · rw [if_pos h, if_pos h]; rfl
  · rw [if_neg h, if_neg h]

theorem fld_take (buf : Bytes) (lo hi n : Nat) (h : hi ≤ n) : fld (buf.take n) lo hi = fld buf lo hi := by
  rw [fld, fld, slice_take _ _ _ _ h]

/-- Fewer than 6 bytes: `set_dstmac` fails.  6..13 bytes: `unpack48(buf[6:12])` (6..11) or the ethertype read (12, 13)
    fails.  14 bytes or more: the sequence-number statement raises TypeError, the last of `unpack`. -/
theorem unpack_eq (s : AFDX) (buf : Bytes) :
    AFDX.unpack s buf =
      if buf.length < 6 then (s, .error .struct)
      else if buf.length < 14 then ({ s with vlink := some (fld buf 4 6) }, .error .struct)
      else ({ s with vlink := some (fld buf 4 6), type := some (fld buf 12 14),
                     payload := some (slice buf 14 (buf.length - 1)) }, .error .type) := by
  have hty := structUnpackFrom_flds AFDX_unpack_fmt0 buf 12
  rw [show 12 + AFDX_unpack_fmt0.size = 14 from rfl] at hty
  by_cases h6 : buf.length < 6
  · simp only [AFDX.unpack, set_dstmac_eq, show ¬ 6 ≤ (buf.take 6).length by simp; omega, h6, if_true, if_false]
  · rw [if_neg h6]
    simp only [AFDX.unpack, set_dstmac_eq, show 6 ≤ (buf.take 6).length by simp; omega, if_true,
      fld_take buf 4 6 6 (by omega), unpack48_slice buf 6, Nat.reduceAdd, AFDX.unpacksrcmac, hty]
    by_cases h14 : buf.length < 14
    · rw [if_pos h14, if_neg (Nat.not_le.2 h14)]
      by_cases h12 : buf.length < 12 <;> simp only [h12, if_true, if_false]
    · rw [if_neg h14, if_neg (by omega), if_pos (Nat.le_of_not_lt h14)]
      rfl

/-- every attribute exists and fits the width the frame allots (interface ID: 3 bits; the payload has the minimum
    length the class demands) -/
structure WF (s : AFDX) (ty net equip iface vlink : Nat) (payload : Bytes) (sq : Nat) : Prop where
  e_type : s.type = some ty
  e_net : s.networkID = some net
  e_equip : s.equipmentID = some equip
  e_iface : s.interfaceID = some iface
  e_vlink : s.vlink = some vlink
  e_payload : s.payload = some payload
  e_sq : s.sequencenum = some sq
  hty : ty < 2 ^ 16
  hnet : net < 2 ^ 8
  hequip : equip < 2 ^ 8
  hiface : iface < 2 ^ 3
  hvlink : vlink < 2 ^ 16
  hpayload : AFDX_MIN_PAYLOAD_LEN ≤ payload.length
  hsq : sq < 2 ^ 8

/-- the object with all seven attributes assigned -/
def full (ty net equip iface vlink : Nat) (payload : Bytes) (sq : Nat) : AFDX :=
  { type := some ty, networkID := some net, equipmentID := some equip, interfaceID := some iface,
    vlink := some vlink, payload := some payload, sequencenum := some sq }

theorem WF.eq_full {s : AFDX} (h : WF s ty net equip iface vlink payload sq) : s = full ty net equip iface vlink payload sq := by
  cases s; cases h; simp_all [full]

theorem pack_eq (s : AFDX) (h : WF s ty net equip iface vlink payload sq) :
    AFDX.pack s = (s, .ok (Spec.AFDX.encode vlink net equip iface ty payload sq)) := by
  have h1 : Fits AFDX_pack_fmt0.codes [AFDX_DSTMAC_CONST, vlink, AFDX_SRCMAC_CONST >>> 8, 0, net, equip, iface <<< 5, ty] := by
    have := h.hty; have := h.hnet; have := h.hequip; have := h.hiface; have := h.hvlink
    simp only [Acra.Lemmas.Bits.shl, Nat.reducePow]
    simp [Fits, AFDX_pack_fmt0, Code.bound, AFDX_DSTMAC_CONST, AFDX_SRCMAC_CONST]; omega
  have h2 : Fits AFDX_pack_fmt1.codes [sq] := by
    have := h.hsq
    simp [Fits, AFDX_pack_fmt1, Code.bound]; omega
  have hp : ¬ payload.length < AFDX_MIN_PAYLOAD_LEN := by have := h.hpayload; omega
  have c1 : encInt true 4 AFDX_DSTMAC_CONST = Spec.AFDX.dstConst := by decide
  have c2 : encInt true 2 (AFDX_SRCMAC_CONST >>> 8) ++ encInt true 1 0 = Spec.AFDX.srcConst := by decide
  simp only [AFDX.pack, h.e_payload, h.e_vlink, h.e_net, h.e_equip, h.e_iface, h.e_type, h.e_sq, hp,
    if_false, structPack_eq _ _ h1, structPack_eq _ _ h2]
  simp only [Spec.AFDX.encode, Spec.AFDX.dstMac, Spec.AFDX.srcMac, ← c1, ← c2, Acra.Lemmas.Bits.shl, Nat.reducePow,
    AFDX_pack_fmt0, AFDX_pack_fmt1, encCodes, Code.size, encInt_big, List.append_nil, List.append_assoc]

theorem encode_length (ty net equip iface vlink : Nat) (payload : Bytes) (sq : Nat) :
    (Spec.AFDX.encode vlink net equip iface ty payload sq).length = 14 + payload.length + 1 := by
  simp [Spec.AFDX.encode, Spec.AFDX.dstMac, Spec.AFDX.srcMac, Spec.AFDX.dstConst, Spec.AFDX.srcConst]; omega

/-- what `unpack` reads in an emitted frame -/
theorem frame_fields (ty net equip iface vlink : Nat) (payload : Bytes) (sq : Nat) (hv : vlink < 2 ^ 16) (ht : ty < 2 ^ 16) :
    fld (Spec.AFDX.encode vlink net equip iface ty payload sq) 4 6 = vlink ∧
    fld (Spec.AFDX.encode vlink net equip iface ty payload sq) 12 14 = ty ∧
    slice (Spec.AFDX.encode vlink net equip iface ty payload sq) 14
      ((Spec.AFDX.encode vlink net equip iface ty payload sq).length - 1) = payload := by
  simp only [Nat.reducePow] at hv ht
  have hd : Spec.AFDX.dstConst.length = 4 := rfl
  have hs : Spec.AFDX.srcConst.length = 3 := rfl
  refine ⟨?_, ?_, ?_⟩
  · simp only [Spec.AFDX.encode, Spec.AFDX.dstMac, List.append_assoc, fld_skip, fld_head, hd, Nat.reduceSub,
      Nat.reducePow, Nat.le_refl, hv]
  · simp only [Spec.AFDX.encode, Spec.AFDX.dstMac, Spec.AFDX.srcMac, List.append_assoc, fld_skip, fld_head, hd, hs,
      beBytes_length, Nat.reduceLeDiff, Nat.reduceSub, Nat.reducePow, Nat.le_refl, Nat.sub_self, ht]
  · rw [encode_length, Spec.AFDX.encode, List.append_assoc]
    exact slice_mid _ _ _ _ _ (by simp [Spec.AFDX.dstMac, Spec.AFDX.srcMac, hd, hs]) (by simp [Spec.AFDX.dstMac, Spec.AFDX.srcMac, hd, hs])

theorem eqLoop_of_vals (a b : AFDX) (attrs : List String) (xs ys : List AVal)
    (ha : attrs.map a.getattr = xs.map .ok) (hb : attrs.map b.getattr = ys.map .ok) :
    AFDX.eqLoop a b attrs = .ok (decide (xs = ys)) := by
  induction attrs generalizing xs ys with
  | nil => cases xs <;> cases ys <;> simp_all [AFDX.eqLoop]
  | cons n rest ih =>
    match xs, ys, ha, hb with
    | x :: xs, y :: ys, ha, hb =>
      simp only [List.map_cons, List.cons.injEq] at ha hb
      simp only [AFDX.eqLoop, ha.1, hb.1, ih xs ys ha.2 hb.2, List.cons.injEq]
      by_cases hxy : x = y <;> simp [hxy]

/-- by the equations of `getattr`: evaluating the string comparisons is slow -/
theorem getattr_full (ty net equip iface vlink : Nat) (payload : Bytes) (sq : Nat) :
    AFDX_EQ_ATTRS.map (AFDX.getattr (full ty net equip iface vlink payload sq)) =
      [.ok (.nat ty), .ok (.nat net), .ok (.nat iface), .ok (.nat equip), .ok (.nat vlink), .ok (.nat sq),
       .ok (.bytes payload)] := by
  simp only [AFDX_EQ_ATTRS, List.map_cons, List.map_nil, AFDX.getattr, full, Option.map, AVal.lift]

theorem eq_full (ty net equip iface vlink : Nat) (payload : Bytes) (sq : Nat)
    (ty' net' equip' iface' vlink' : Nat) (payload' : Bytes) (sq' : Nat) :
    AFDX.eq (full ty net equip iface vlink payload sq) (full ty' net' equip' iface' vlink' payload' sq') =
      .ok (decide (full ty net equip iface vlink payload sq = full ty' net' equip' iface' vlink' payload' sq')) := by
  rw [AFDX.eq, eqLoop_of_vals _ _ _ [.nat ty, .nat net, .nat iface, .nat equip, .nat vlink, .nat sq, .bytes payload]
    [.nat ty', .nat net', .nat iface', .nat equip', .nat vlink', .nat sq', .bytes payload']
    (getattr_full ty net equip iface vlink payload sq) (getattr_full ty' net' equip' iface' vlink' payload' sq')]
  congr 1
  apply decide_eq_decide.2
  simp only [List.cons.injEq, AVal.nat.injEq, AVal.bytes.injEq, and_true, full, AFDX.mk.injEq, Option.some.injEq]
  ac_nf

theorem eqLoop_cons_true (a b : AFDX) (attr : String) (rest : List String) :
    AFDX.eqLoop a b (attr :: rest) = .ok true ↔
      ∃ x, a.getattr attr = .ok x ∧ b.getattr attr = .ok x ∧ AFDX.eqLoop a b rest = .ok true := by
  simp only [AFDX.eqLoop]
  cases ha : a.getattr attr with
  | error e => simp
  | ok x =>
    cases hb : b.getattr attr with
    | error e => simp
    | ok y =>
      by_cases hxy : x = y
      · subst hxy; simp
      · simp [hxy]; intro h; exact absurd h.symm hxy

theorem lift_map_ok {α : Type} (c : α → AVal) (o : Option α) (x : AVal) :
    AVal.lift (o.map c) = .ok x ↔ ∃ n, o = some n ∧ x = c n := by
  cases o <;> simp [Option.map, AVal.lift, eq_comm]

theorem eq_true_fields (a b : AFDX) (h : AFDX.eq a b = .ok true) :
    a = b ∧ ∃ ty net equip iface vlink payload sq, a = full ty net equip iface vlink payload sq := by
  -- seven times `eqLoop_cons_true`: each attribute exists on both sides (`lift_map_ok`) with one value; then both records
  -- are taken apart and their fields replaced by those values
  simp only [AFDX.eq, AFDX_EQ_ATTRS, eqLoop_cons_true, AFDX.getattr, lift_map_ok] at h
  obtain ⟨_, ⟨t, ht, rfl⟩, ⟨t', ht', e1⟩, _, ⟨n, hn, rfl⟩, ⟨n', hn', e2⟩, _, ⟨i, hi, rfl⟩, ⟨i', hi', e3⟩,
    _, ⟨q, hq, rfl⟩, ⟨q', hq', e4⟩, _, ⟨v, hv, rfl⟩, ⟨v', hv', e5⟩, _, ⟨sq, hs, rfl⟩, ⟨sq', hs', e6⟩,
    _, ⟨p, hp, rfl⟩, ⟨p', hp', e7⟩, _⟩ := h
  cases e1; cases e2; cases e3; cases e4; cases e5; cases e6; cases e7
  obtain ⟨_, _, _, _, _, _, _⟩ := a
  obtain ⟨_, _, _, _, _, _, _⟩ := b
  simp only at ht ht' hn hn' hi hi' hq hq' hv hv' hs hs' hp hp'
  subst ht ht' hn hn' hi hi' hq hq' hv hv' hs hs' hp hp'
  exact ⟨rfl, _, _, _, _, _, _, _, rfl⟩

end Acra.Lemmas.AFDX
