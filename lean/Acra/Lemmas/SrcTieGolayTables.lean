/-
  Helper lemmas for the source tie of `Golay._initgolaydecode` (C11 / C20): loops that fill three tables cell by
  cell (raising item stores), the nested write loop, and the string idiom of `_onesincode`.
-/
import Acra.Py.IntOps
import Acra.Model.Golay
import Acra.Lemmas.SrcTieGolay
namespace Acra.Lemmas.SrcTieGolayTables
open Acra Acra.Py Acra.Lemmas.SrcTieGolay Acra.Lemmas.SrcTieLoop

theorem set_getD_self (T : List Int) (x : Nat) : T.set x (T.getD x 0) = T := by
  by_cases h : x < T.length
  · simp [List.getD_eq_getElem?_getD, h]
  · rw [List.set_eq_of_length_le (by omega)]

theorem getD_set_self (T : List Int) (x : Nat) (v : Int) (h : x < T.length) : (T.set x v).getD x 0 = v := by
  simp [List.getD_eq_getElem?_getD, h]

/-- a loop whose every pass rewrites cell `x` of three tables with a function of the three old cell values is ONE
    rewrite of the three cells with the folded function -/
theorem foldlM_cell3 (x : Nat) (cell : Int → Int × Int × Int → Int × Int × Int)
    (step : List Int × List Int × List Int → Int → R (List Int × List Int × List Int))
    (hstep : ∀ (S E C : List Int) (i : Int), x < S.length → x < E.length → x < C.length →
      step (S, E, C) i = .ok (S.set x (cell i (S.getD x 0, E.getD x 0, C.getD x 0)).1,
        E.set x (cell i (S.getD x 0, E.getD x 0, C.getD x 0)).2.1,
        C.set x (cell i (S.getD x 0, E.getD x 0, C.getD x 0)).2.2)) :
    ∀ (is : List Int) (S E C : List Int), x < S.length → x < E.length → x < C.length →
      List.foldlM step (S, E, C) is =
        .ok (S.set x (is.foldl (fun t i => cell i t) (S.getD x 0, E.getD x 0, C.getD x 0)).1,
          E.set x (is.foldl (fun t i => cell i t) (S.getD x 0, E.getD x 0, C.getD x 0)).2.1,
          C.set x (is.foldl (fun t i => cell i t) (S.getD x 0, E.getD x 0, C.getD x 0)).2.2) := by
  intro is
  induction is with
  | nil =>
    intro S E C _ _ _
    simp only [List.foldlM_nil, List.foldl_nil, set_getD_self]; rfl
  | cons i is ih =>
    intro S E C hS hE hC
    rw [List.foldlM_cons, hstep S E C i hS hE hC, ok_bind,
      ih _ _ _ (by simpa using hS) (by simpa using hE) (by simpa using hC)]
    simp only [getD_set_self _ _ _ hS, getD_set_self _ _ _ hE, getD_set_self _ _ _ hC, List.set_set, List.foldl_cons]

theorem foldlM_table3 (N : Nat) (f g h : Nat → Int)
    (step : List Int × List Int × List Int → Int → R (List Int × List Int × List Int))
    (hstep : ∀ k, k < N → step (mk N f k, mk N g k, mk N h k) (k : Int) =
      .ok (mk N f (k + 1), mk N g (k + 1), mk N h (k + 1))) :
    List.foldlM step (List.replicate N 0, List.replicate N 0, List.replicate N 0) (Py.range (N : Int)) =
      .ok ((List.range N).map f, (List.range N).map g, (List.range N).map h) := by
  obtain ⟨s, h1, h2⟩ := for_ok Int.ofNat (fun n s => s = (mk N f n, mk N g n, mk N h n)) step N
    (fun n s hn hs => ⟨_, hs ▸ hstep n hn, rfl⟩) (List.replicate N 0, List.replicate N 0, List.replicate N 0)
    (by simp only [mk_zero])
  rw [Py.range_natCast, h1, h2, mk_full, mk_full, mk_full]

/-- `M` is the bound as the source writes it, a literal -/
theorem foldlM_range {σ : Type} (N : Nat) (M : Int) (hM : M = (N : Int)) (P : σ → Prop) (step : σ → Int → R σ)
    (g : σ → Nat → σ) (h : ∀ st n, n < N → P st → step st (n : Int) = .ok (g st n) ∧ P (g st n)) (st : σ) (hP : P st) :
    List.foldlM step st (Py.range M) = .ok ((List.range N).foldl g st) ∧ P ((List.range N).foldl g st) := by
  subst hM
  obtain ⟨s, h1, h2, h3⟩ := for_ok Int.ofNat (fun n s => s = (List.range n).foldl g st ∧ P s) step N
    (fun n s hn ⟨hs, hPs⟩ => ⟨_, (h s n hn hPs).1, by rw [List.range_succ, List.foldl_append, ← hs]; rfl, (h s n hn hPs).2⟩)
    st ⟨rfl, hP⟩
  exact ⟨h1.trans (congrArg _ h2), h2 ▸ h3⟩

/-- the first loop of `_initgolaydecode` for one `x` -/
theorem init_fold (x : Nat) :
    List.foldl (fun (t : Int × Int × Int) (i : Int) =>
        if band (shr (x : Int) (11 - i)) 1 ≠ 0 then (bxor t.1 (intAt Gen.Src.Golay.H_P i), 4, 4095) else t)
      (0, 0, 0) (Py.range 12)
    = ((((Model.Golay.initEntry Gen.Golay.H_P x (0, 0, 0)).1 : Nat) : Int),
       (((Model.Golay.initEntry Gen.Golay.H_P x (0, 0, 0)).2.1 : Nat) : Int),
       (((Model.Golay.initEntry Gen.Golay.H_P x (0, 0, 0)).2.2 : Nat) : Int)) :=
  rows_fold (fun t : Nat × Nat × Nat => ((t.1 : Int), (t.2.1 : Int), (t.2.2 : Int))) Model.Golay.initEntry
    (fun t r => (t.1 ^^^ r, 4, 0xFFF)) (fun _ _ => rfl) (fun _ _ _ ⟨_, _, _⟩ => rfl)
    (fun t r => (bxor t.1 r, 4, 4095)) (fun _ _ => rfl) Gen.Golay.H_P x (0, 0, 0)

theorem setItem_zero (T : List Int) (v : Int) (h : 0 < T.length) : setItem T 0 v = .ok (T.set 0 v) :=
  setItem_lt T 0 v h

theorem ofFn_eq_map_range {α : Type} (N : Nat) (F : Nat → α) :
    List.ofFn (n := N) (fun x => F x.val) = (List.range N).map F := by
  apply List.ext_getElem
  · simp
  · intro i h1 h2; simp

theorem pyList_ofFn (F : Nat → Nat) :
    pyList (Array.ofFn (n := Gen.Golay.GOLAY_SIZE) fun x => F x.val) = (List.range 4096).map (fun x => ((F x : Nat) : Int)) := by
  unfold pyList
  rw [Array.toList_ofFn, ofFn_eq_map_range, List.map_map]; rfl

theorem pyList_set (T : Array Nat) (i v : Nat) : pyList (T.setIfInBounds i v) = (pyList T).set i (v : Int) := by
  unfold pyList
  rw [Array.toList_setIfInBounds, List.map_set]; rfl

/-- the writes of the triple loop on the Python lists -/
def applyW (st : List Int × List Int) (t : Nat × Nat × Nat) : List Int × List Int :=
  (st.1.set (Model.Golay.writeOf t).1 ((Model.Golay.writeOf t).2.1 : Nat),
   st.2.set (Model.Golay.writeOf t).1 ((Model.Golay.writeOf t).2.2 : Nat))

theorem pyList_applyWrites (ts : List (Nat × Nat × Nat)) : ∀ (ce : Array Nat × Array Nat),
    ts.foldl applyW (pyList ce.1, pyList ce.2) =
      (pyList (Model.Golay.applyWrites (ts.map Model.Golay.writeOf) ce).1,
       pyList (Model.Golay.applyWrites (ts.map Model.Golay.writeOf) ce).2) := by
  induction ts with
  | nil => intro ce; rfl
  | cons t ts ih =>
    intro ce
    rw [List.foldl_cons, List.map_cons]
    unfold Model.Golay.applyWrites
    rw [List.foldl_cons]
    have := ih (ce.1.setIfInBounds (Model.Golay.writeOf t).1 (Model.Golay.writeOf t).2.1,
      ce.2.setIfInBounds (Model.Golay.writeOf t).1 (Model.Golay.writeOf t).2.2)
    unfold Model.Golay.applyWrites at this
    rw [← this]
    simp only [applyW, pyList_set]

/-- the same with the two tables as separate variables: at concrete tables the projections of the pair are then not
    reduced by looking into the tables (instantiating the form above directly runs out of recursion depth) -/
theorem pyList_applyWrites' (ts : List (Nat × Nat × Nat)) (c e : Array Nat) :
    ts.foldl applyW (pyList c, pyList e) =
      (pyList (Model.Golay.applyWrites (ts.map Model.Golay.writeOf) (c, e)).1,
       pyList (Model.Golay.applyWrites (ts.map Model.Golay.writeOf) (c, e)).2) :=
  pyList_applyWrites ts (c, e)

theorem pyList_tablesN (n : Nat) :
    (Lemmas.Golay.triplesN n).foldl applyW (pyList Model.Golay.corTable0, pyList Model.Golay.errTable0) =
      (pyList (Lemmas.Golay.corN n), pyList (Lemmas.Golay.errN n)) :=
  pyList_applyWrites' (Lemmas.Golay.triplesN n) Model.Golay.corTable0 Model.Golay.errTable0

theorem pyList_tables :
    Model.Golay.triples.foldl applyW (pyList Model.Golay.corTable0, pyList Model.Golay.errTable0) =
      (pyList Model.Golay.corTable, pyList Model.Golay.errTable) := by
  rw [Lemmas.Golay.tables_eq.1, Lemmas.Golay.tables_eq.2, ← Lemmas.Golay.triplesN_24]
  exact pyList_tablesN 24

/-- why the stores of the triple loop never leave the tables -/
theorem syndrome_lt (v : Nat) : Model.Golay.syndrome v < 4096 := by
  rw [Lemmas.Golay.syndrome_eq]; exact Lemmas.Golay.synF_lt v

/-! ### `_onesincode`: the string idiom `bin(code)[2:size+2].count('1')` -/

theorem binDigitsAux_eq : ∀ (fuel n : Nat) (acc : List Bool),
    Py.binDigitsAux fuel n acc = Model.Golay.binDigitsAux fuel n acc := by
  intro fuel
  induction fuel with
  | zero => intro n acc; rfl
  | succ f ih =>
    intro n acc
    unfold Py.binDigitsAux Model.Golay.binDigitsAux
    split
    · rfl
    · exact ih _ _

theorem bin_natCast (n : Nat) :
    Py.bin (n : Int) = '0' :: 'b' :: (Model.Golay.binDigits n).map (fun b => if b then '1' else '0') := by
  unfold Py.bin Model.Golay.binDigits
  have h0 : ¬ ((n : Int) < 0) := by omega
  rw [if_neg h0, Int.natAbs_natCast, binDigitsAux_eq]
  rfl

theorem count_bits (l : List Bool) :
    (l.map (fun b => if b then '1' else '0')).count '1' = l.count true := by
  induction l with
  | nil => rfl
  | cons b l ih =>
    cases b
    · rw [List.map_cons, List.count_cons, List.count_cons, ih]; rfl
    · rw [List.map_cons, List.count_cons, List.count_cons, ih]; rfl

theorem onesincode_tie (code size : Nat) :
    strCount '1' (sliceI (Py.bin (code : Int)) 2 ((size : Int) + 2)) = ((Model.Golay.onesincode code size : Nat) : Int) := by
  unfold strCount sliceI slice Model.Golay.onesincode
  rw [bin_natCast]
  have h2 : ((size : Int) + 2).toNat = size + 2 := by omega
  rw [h2, toNat_lit]
  simp only [List.take_succ_cons, List.drop_succ_cons, List.drop_zero]
  rw [← List.map_take, count_bits]

end Acra.Lemmas.SrcTieGolayTables
