/-
  Parser-aligned block / packet: the bytes `pack` emits under the well-formedness predicate, `unpack` in closed
  form on every buffer and as a parser (`blockRec.run`, `packetRun`), and what `unpack` makes of the bytes `pack` emitted.
-/
import Acra.Model.ParserAligned
import Acra.Lemmas.Bits
import Acra.Lemmas.ListAux
import Acra.Lemmas.Walk
import Acra.Lemmas.Decoder
namespace Acra.Lemmas.ParserAligned
open Acra.Py Acra.Model.ParserAligned Acra.Gen.ParserAligned Acra.Lemmas Acra.Lemmas.Bits

/-- every field fits the width the block header allots (error code 6 bits, quad-byte count 9 bits
    including the two header quad-bytes, message count and bus id 8 bits, elapsed time 32 bits) and the
    payload is a whole number of quad-bytes -/
def Block_WF (s : Block) : Prop :=
  s.errorcode < 64 ∧ s.messagecount < 256 ∧ s.busid < 256 ∧ s.elapsedtime < 4294967296 ∧
  s.payload.length % 4 = 0 ∧ 2 + s.payload.length / 4 < 512

/-- the first header word: error flag, error code, quad-byte count -/
def eaq (s : Block) : Nat :=
  (if s.error then 1 else 0) * 32768 + s.errorcode * 512 + (2 + s.payload.length / 4)

def blockHdr (s : Block) : Bytes :=
  encInt true 2 (eaq s) ++ (encInt true 1 s.messagecount ++ (encInt true 1 s.busid ++ encInt true 4 s.elapsedtime))

def blockBytes (s : Block) : Bytes := blockHdr s ++ s.payload

/-- the object `pack` leaves behind (and a decode produces): `quadbytes` is the computed count -/
def norm (s : Block) : Block := { s with quadbytes := 2 + s.payload.length / 4 }

@[simp] theorem blockHdr_length (s : Block) : (blockHdr s).length = 8 := by simp [blockHdr]
theorem blockBytes_length (s : Block) : (blockBytes s).length = 8 + s.payload.length := by simp [blockBytes]

theorem blockBytes_norm (s : Block) : blockBytes (norm s) = blockBytes s := rfl
theorem Block_WF_norm (s : Block) (h : Block_WF s) : Block_WF (norm s) := h

/-- a well-formed block: error flag and the largest error code, one quad-byte of payload -/
theorem wfBlock_witness : Block_WF { Block.fresh with error := true, errorcode := 63, payload := [1, 2, 3, 4] } := by
  unfold Block_WF; decide

/-- a list of two: one quad-byte of payload, none -/
theorem wfBlocks_witness : ∀ b ∈ [{ Block.fresh with payload := [1, 2, 3, 4] }, Block.fresh], Block_WF b := by
  intro b hb
  rcases List.mem_cons.1 hb with rfl | hb
  · unfold Block_WF; decide
  · rw [List.mem_singleton.1 hb]; unfold Block_WF; decide

theorem eaq_split (e c q : Nat) (he : e < 2) (hc : c < 64) (hq : q < 512) :
    (e * 32768 + c * 512 + q) / 32768 = e ∧ (e * 32768 + c * 512 + q) / 512 % 64 = c ∧
    (e * 32768 + c * 512 + q) % 512 = q ∧ e * 32768 + c * 512 + q < 65536 := by
  omega

theorem decide_errBit (b : Bool) : decide ((if b then 1 else 0) = 1) = b := by cases b <;> rfl

theorem eaq_lt (s : Block) (h : Block_WF s) : eaq s < 65536 :=
  (eaq_split _ _ _ (flag_lt s.error) h.1 h.2.2.2.2.2).2.2.2

theorem blockHdr_fits (s : Block) (h : Block_WF s) :
    Fits PAB_FORMAT.codes [eaq s, s.messagecount, s.busid, s.elapsedtime] :=
  ⟨eaq_lt s h, h.2.1, h.2.2.1, h.2.2.2.1, trivial⟩

theorem blockHdr_enc (s : Block) :
    encCodes PAB_FORMAT.big PAB_FORMAT.codes [eaq s, s.messagecount, s.busid, s.elapsedtime] = blockHdr s := by
  simp only [PAB_FORMAT, encCodes, Code.size, List.append_nil, blockHdr]

/-- the bytes `ParserAlignedBlock.pack` emits for a payload of whole quad-bytes; reads every attribute but
    `quadbytes` -/
def packed (s : Block) : R Bytes :=
  match structPack PAB_FORMAT
      [((if s.error then 1 else 0) <<< 15) + ((s.errorcode &&& 0x3F) <<< 9) + (2 + s.payload.length / 4),
       s.messagecount, s.busid, s.elapsedtime] with
  | .ok h => .ok (h ++ s.payload)
  | .error e => .error e

theorem Block_pack_closed (s : Block) :
    Block.pack s = if s.payload.length % 4 ≠ 0 then (s, .error .generic) else (norm s, packed s) := by
  rw [Block.pack, packed]
  split
  · rfl
  · simp only
    generalize structPack PAB_FORMAT _ = r
    cases r <;> rfl

theorem packed_eq (s : Block) (h : Block_WF s) : packed s = .ok (blockBytes s) := by
  have he : (if s.error = true then 1 else 0) * 32768 + s.errorcode % 64 * 512 + (2 + s.payload.length / 4) = eaq s := by
    rw [Nat.mod_eq_of_lt h.1]; rfl
  simp only [packed, bits, Nat.reducePow, he, structPack_eq _ _ (blockHdr_fits s h), blockHdr_enc]
  rfl

theorem Block_pack_eq (s : Block) (h : Block_WF s) : Block.pack s = (norm s, .ok (blockBytes s)) := by
  rw [Block_pack_closed, if_neg (fun hne => hne h.2.2.2.2.1), packed_eq s h]

/-- `ParserAlignedBlock.__eq__` compares every attribute -/
theorem Block_eq_iff (a b : Block) : Block.eq a b = true ↔
    a.quadbytes = b.quadbytes ∧ a.error = b.error ∧ a.errorcode = b.errorcode ∧ a.busid = b.busid ∧
    a.messagecount = b.messagecount ∧ a.elapsedtime = b.elapsedtime ∧ a.payload = b.payload := by
  simp only [Block.eq, Bool.and_eq_true, beq_iff_eq, and_assoc]

theorem PAB_FORMAT_size : PAB_FORMAT.size = 8 := rfl

/-- the quad-byte count a block header declares: the low nine bits of its first (big-endian) word -/
def quads (buf : Bytes) : Nat := beNat (buf.take 2) % 512

theorem blockHdr_unpack (buf : Bytes) (h : 8 ≤ buf.length) :
    structUnpackFrom PAB_FORMAT buf 0 =
      .ok [beNat (buf.take 2), beNat ((buf.drop 2).take 1), beNat ((buf.drop 3).take 1), beNat ((buf.drop 4).take 4)] := by
  simp only [take_drop_slice]
  rw [take_eq_slice0]
  exact (structUnpackFrom_flds _ buf 0).trans (if_pos h)

/-- the block once the header words `w mc bi et` are stored -/
def stored (t : Block) (w mc bi et : Nat) : Block :=
  { t with messagecount := mc, busid := bi, elapsedtime := et, error := decide (w / 32768 = 1),
           errorcode := w / 512 % 64, quadbytes := w % 512 }

theorem Block_unpack_of_hdr (t : Block) (buf : Bytes) (w mc bi et : Nat)
    (h : structUnpackFrom PAB_FORMAT buf 0 = .ok [w, mc, bi, et]) :
    Block.unpack t buf =
      if w % 512 < 2 ∨ buf.length < 4 * (w % 512) then (stored t w mc bi et, .error .value)
      else ({ stored t w mc bi et with payload := slice buf 8 (4 * (w % 512)) }, .ok (4 * (w % 512))) := by
  simp only [Block.unpack, h, bits, Nat.reducePow, PAB_HEADERLEN, Nat.mul_comm (w % 512) 4]
  by_cases h2 : w % 512 < 2
  · rw [if_pos h2, if_pos (Or.inl h2)]; rfl
  · have hc : buf.length < 8 + (w % 512 - 2) * 4 ↔ buf.length < 4 * (w % 512) := by omega
    rw [if_neg h2]
    by_cases h4 : buf.length < 4 * (w % 512)
    · rw [if_pos (hc.2 h4), if_pos (Or.inr h4)]; rfl
    · rw [if_neg (mt hc.1 h4), if_neg (not_or.2 ⟨h2, h4⟩)]; rfl

/-- the block once the 8-byte header is stored -/
def hdrStored (t : Block) (buf : Bytes) : Block :=
  stored t (beNat (buf.take 2)) (beNat ((buf.drop 2).take 1)) (beNat ((buf.drop 3).take 1)) (beNat ((buf.drop 4).take 4))

/-- the object a successful `ParserAlignedBlock.unpack` leaves behind -/
def blockDecoded (t : Block) (buf : Bytes) : Block := { hdrStored t buf with payload := slice buf 8 (4 * quads buf) }

theorem Block_unpack_closed (t : Block) (buf : Bytes) :
    Block.unpack t buf =
      if buf.length < 8 then (t, .error .struct)
      else if quads buf < 2 ∨ buf.length < 4 * quads buf then (hdrStored t buf, .error .value)
      else (blockDecoded t buf, .ok (4 * quads buf)) := by
  split
  · next h => simp only [Block.unpack, structUnpackFrom_short PAB_FORMAT buf 0 (by rw [PAB_FORMAT_size]; omega)]
  · next h => exact Block_unpack_of_hdr t buf _ _ _ _ (blockHdr_unpack buf (by omega))

/-- a block at the front of `rem` is accepted: header complete, at least the two header quad-bytes declared, and
    all `4·quadbytes` bytes there -/
def BlockOk (rem : Bytes) : Prop := 8 ≤ rem.length ∧ 2 ≤ quads rem ∧ 4 * quads rem ≤ rem.length

/-- each block is decoded into a new object (`Block.fresh`) -/
def blockRec : Walk.Rec Block where
  hl := 8
  ok rem := 2 ≤ quads rem ∧ 4 * quads rem ≤ rem.length
  decOk := fun _ => inferInstance
  err := .value
  item := blockDecoded Block.fresh
  adv rem := 4 * quads rem
  hl_pos := by decide
  adv_ge := fun rem _ h => by omega
  err_ne := by decide

theorem Block_decodes : Decodes Block.unpack (fun _ => ()) fun _ => blockRec.run := by
  intro t buf
  show Agree _ (blockRec.run buf)
  rw [Block_unpack_closed]
  by_cases h8 : buf.length < 8
  · rw [if_pos h8, (blockRec.run_error_iff buf .struct).2 (.inl ⟨h8, rfl⟩)]; rfl
  · rw [if_neg h8]
    by_cases hb : quads buf < 2 ∨ buf.length < 4 * quads buf
    · rw [if_pos hb, (blockRec.run_error_iff buf .value).2
        (.inr ⟨Nat.not_lt.1 h8, fun h => by have : 2 ≤ quads buf ∧ 4 * quads buf ≤ buf.length := h; omega, rfl⟩)]
      rfl
    · rw [if_neg hb, blockRec.run_of_ok ⟨Nat.not_lt.1 h8, show 2 ≤ quads buf ∧ 4 * quads buf ≤ buf.length by omega⟩]
      rfl

theorem decBlock_eq : decBlock = blockRec.run := funext fun rem =>
  (Block_decodes Block.fresh rem).step_eq (fun _ _ h => by rw [decBlock, h]) (fun _ _ h => by rw [decBlock, h])

theorem moreLt_iff (off len : Nat) : moreLt off len = true ↔ off < len := decide_eq_true_iff

theorem Block_unpack_eq (s t : Block) (rest : Bytes) (h : Block_WF s) :
    Block.unpack t (blockBytes s ++ rest) = (norm s, .ok ((2 + s.payload.length / 4) * 4)) := by
  have hhdr : structUnpackFrom PAB_FORMAT (blockBytes s ++ rest) 0 =
      .ok [eaq s, s.messagecount, s.busid, s.elapsedtime] := by
    have := structUnpackFrom_enc0 PAB_FORMAT _ (s.payload ++ rest) (blockHdr_fits s h)
    rwa [blockHdr_enc, ← List.append_assoc] at this
  have hq : 4 * (2 + s.payload.length / 4) = 8 + s.payload.length := by have := h.2.2.2.2.1; omega
  have hpl : slice (blockBytes s ++ rest) 8 (8 + s.payload.length) = s.payload := by
    rw [blockBytes, List.append_assoc]
    exact slice_mid _ _ _ _ _ (by simp) (by simp)
  have hc : ¬ (2 + s.payload.length / 4 < 2 ∨ (blockBytes s ++ rest).length < 8 + s.payload.length) := by
    rw [List.length_append, blockBytes_length]; omega
  obtain ⟨e1, e2, e3, _⟩ : eaq s / 32768 = (if s.error then 1 else 0) ∧ eaq s / 512 % 64 = s.errorcode ∧
      eaq s % 512 = 2 + s.payload.length / 4 ∧ _ := eaq_split _ _ _ (flag_lt s.error) h.1 h.2.2.2.2.2
  rw [Block_unpack_of_hdr t _ _ _ _ _ hhdr, e3, hq, if_neg hc, hpl, Nat.mul_comm, hq]
  simp only [stored, e1, e2, e3, decide_errBit]
  rfl

theorem packBlocks_eq_packAll (bs : List Block) : packBlocks bs = packAll Block.pack bs := by
  induction bs with
  | nil => rfl
  | cons b bs ih =>
    rw [packBlocks, packAll, ih]
    rcases b.pack with ⟨b', _ | x⟩
    · rfl
    · rcases packAll Block.pack bs with ⟨bs', _ | r⟩ <;> rfl

theorem packBlocks_eq (bs : List Block) (h : ∀ b ∈ bs, Block_WF b) :
    packBlocks bs = (bs.map norm, .ok (bs.flatMap blockBytes)) := by
  rw [packBlocks_eq_packAll]
  exact packAll_eq Block.pack norm blockBytes bs fun b hb => Block_pack_eq b (h b hb)

theorem blocksEq_eq : blocksEq = listEq Block.eq :=
  listEq_unique _ _ rfl (fun _ _ _ _ => rfl) (fun _ _ => rfl) (fun _ _ => rfl)

theorem decBlock_enc (s : Block) (rest : Bytes) (h : Block_WF s) :
    decBlock (blockBytes s ++ rest) = .ok (norm s, (blockBytes s).length) := by
  rw [decBlock, Block_unpack_eq s Block.fresh rest h, blockBytes_length]
  have := h.2.2.2.2.1
  exact congrArg (fun n => Except.ok (norm s, n)) (by omega)

theorem flatMap_blockBytes_norm (bs : List Block) : (bs.map norm).flatMap blockBytes = bs.flatMap blockBytes :=
  List.flatMap_map ..

theorem decBlock_all (bs : List Block) (h : ∀ b ∈ bs, Block_WF b) :
    decOff decBlock moreLt (bs.flatMap blockBytes) ((bs.flatMap blockBytes).length + 1) 0 = .ok (bs.map norm) :=
  decBlock_eq ▸ blockRec.loop_enc moreLt_iff blockBytes norm bs fun b hb rest => decBlock_eq ▸ decBlock_enc b rest (h b hb)

theorem Packet_pack_closed (s : Packet) :
    Packet.pack s = ({ s with parserblocks := (packBlocks s.parserblocks).1 }, (packBlocks s.parserblocks).2) := rfl

/-- `ParserAlignedPacket.unpack` as a parser: the block loop over the whole buffer -/
def packetRun (buf : Bytes) : R (Packet × Unit) :=
  (decOff decBlock moreLt buf (buf.length + 1) 0).map fun bs => ({ parserblocks := bs, numberofblocks := bs.length }, ())

theorem Packet_decodes : Decodes Packet.unpack (fun _ => ()) fun _ => packetRun := by
  intro t buf
  show Agree _ (packetRun buf)
  rw [Packet.unpack, packetRun]
  cases decOff decBlock moreLt buf (buf.length + 1) 0 <;> rfl

theorem packetRun_ok_iff (buf : Bytes) (s : Packet) : packetRun buf = .ok (s, ()) ↔
    ∃ bs, decOff decBlock moreLt buf (buf.length + 1) 0 = .ok bs ∧ s = { parserblocks := bs, numberofblocks := bs.length } := by
  simp only [packetRun, R.map_eq_ok, Prod.mk.injEq, and_true]

theorem decBlock_loop_iff (P : Bytes → Prop)
    (hP : ∀ rem, P rem ↔ rem = [] ∨ (BlockOk rem ∧ P (rem.drop (4 * quads rem)))) (buf : Bytes) (off : Nat) :
    (∃ bs, decOff decBlock moreLt buf (buf.length - off + 1) off = .ok bs) ↔ P (buf.drop off) :=
  decBlock_eq ▸ blockRec.loop_ok_iff moreLt_iff buf _ off (Nat.le_refl _) P hP

end Acra.Lemmas.ParserAligned
