/-
  MPEG/PMT.py, the program map section in its transport packet: `pack` factored for every object and in closed form under
  well-formedness, what `MPEGPacketPMT.unpack` makes of the packed bytes, re-encoding of the decoded object, where the CRC
  stands in the emitted bytes, and what the decoder returns when ONE BYTE of the emitted section has changed (C07): not
  True whenever the 12 bits of `section_length` are kept (`PMT_flip_rejected`); a value, not an exception, when the loops
  are untouched and both length fields kept; the comparison at the moved position when `section_length` itself is hit.
  Descriptors, streams and the section parser are in `Lemmas/PMTSection.lean`.
-/
import Acra.Lemmas.MPEGTS
import Acra.Lemmas.PMTSection
import Acra.Spec.MPEG

/-! ### `pack` as "build the payload from fields that `pack` does not write", then `MPEGPacket.pack`: every object,
    including those on which a nested `struct.pack` fails -/

-- shared with Lemmas/PES.lean (`STANAG_dataR`): the namespace of the `pack = build the payload, then MPEGPacket.pack` forms
-- that the idempotence statements of Props/C13/MpegPack.lean are stated with
namespace Acra.Lemmas.MpegPackVia
open Acra.Py Acra.Model.MPEGTS Acra.Model.PMT Acra.Gen.PMT

/-- the TS payload `MPEGPacketPMT.pack` builds (or the `struct.error` of the first failing part); reads neither
    `pkt` nor `program_info_len` nor `_crc` -/
def PMT_payloadR (s : PMT) : R Bytes :=
  let pil := (s.descriptor_tags.map Desc.len).sum
  let len := PMT_FMT.size - PMT_HDR_LEN_NOT_INCL_IN_LEN + PMT_CRC_LEN + (s.streams.map Stream.len).sum + pil
  match structPack PMT_FMT_POINTER [0] with
  | .error e => .error e
  | .ok ptr =>
    match structPack PMT_FMT [s.tableid, s.syntax_indicator * 32768 + 3 * 4096 + len, s.program_number,
        3 * 64 + s.version * 2 + s.current_next_indicator, s.sectionNo, s.last_section,
        7 * 8192 + s.pcr_pid, 15 * 4096 + pil] with
    | .error e => .error e
    | .ok hdr =>
      match packDescs s.descriptor_tags with
      | .error e => .error e
      | .ok db =>
        match packStreams s.streams with
        | .error e => .error e
        | .ok sb =>
          match structPack PMT_pack_fmt0 [crc32mpeg2 (hdr ++ db ++ sb)] with
          | .error e => .error e
          | .ok cb => .ok (ptr ++ (hdr ++ db ++ sb) ++ cb)

/-- the recomputed `program_info_len` -/
def PMT_pil (s : PMT) : Nat := (s.descriptor_tags.map Desc.len).sum

theorem PMT_payloadR_irrel (s : PMT) (q : Pkt) (n : Nat) :
    PMT_payloadR { s with pkt := q, program_info_len := n } = PMT_payloadR s := rfl

theorem PMT_pil_irrel (s : PMT) (q : Pkt) (n : Nat) :
    PMT_pil { s with pkt := q, program_info_len := n } = PMT_pil s := rfl

end Acra.Lemmas.MpegPackVia

namespace Acra.Lemmas.PMT
open Acra.Py Acra.Model.MPEGTS Acra.Model.PMT Acra.Gen.MPEGTS Acra.Gen.PMT Acra.Lemmas.MPEGTS Acra.Lemmas.MpegSteer Acra.Lemmas.PMTSection
open Acra.Lemmas.MpegBytes Acra.Lemmas.MpegParse Acra.Lemmas.CRCMpeg Acra.Lemmas.MpegPackVia

theorem PMT_pack_via (s : PMT) :
    PMT.pack s =
      match PMT_payloadR s with
      | .error e => ({ s with program_info_len := PMT_pil s }, .error e)
      | .ok pl => ({ s with program_info_len := PMT_pil s, pkt := (Pkt.pack { s.pkt with payload := pl }).1 },
                   (Pkt.pack { s.pkt with payload := pl }).2) := by
  unfold PMT.pack PMT_payloadR PMT_pil
  simp only
  -- both sides branch on the same five results, in the same order
  generalize structPack PMT_FMT_POINTER [0] = r0
  generalize structPack PMT_FMT _ = r1
  generalize packDescs s.descriptor_tags = r2
  generalize packStreams s.streams = r3
  cases r0 with
  | error e => rfl
  | ok ptr =>
    cases r1 with
    | error e => rfl
    | ok hdr =>
      cases r2 with
      | error e => rfl
      | ok db =>
        cases r3 with
        | error e => rfl
        | ok sb =>
          simp only
          cases structPack PMT_pack_fmt0 [crc32mpeg2 (hdr ++ db ++ sb)] <;> rfl

def PMT_dbytes (s : PMT) : Bytes := s.descriptor_tags.flatMap Desc_bytes
def PMT_sbytes (s : PMT) : Bytes := s.streams.flatMap Stream_bytes

/-- section_length: bytes after the length field, including the CRC: 9 more fixed bytes and the 4 CRC bytes, then the loops -/
def PMT_slen (s : PMT) : Nat := 13 + (PMT_sbytes s).length + (PMT_dbytes s).length

def PMT_hdr (s : PMT) : Bytes :=
  encInt true 1 s.tableid ++ (encInt true 2 (s.syntax_indicator * 32768 + 3 * 4096 + PMT_slen s) ++
  (encInt true 2 s.program_number ++ (encInt true 1 (3 * 64 + s.version * 2 + s.current_next_indicator) ++
  (encInt true 1 s.sectionNo ++ (encInt true 1 s.last_section ++ (encInt true 2 (7 * 8192 + s.pcr_pid) ++
   encInt true 2 (15 * 4096 + (PMT_dbytes s).length)))))))

/-- the section without its CRC -/
def PMT_body (s : PMT) : Bytes := PMT_hdr s ++ (PMT_dbytes s ++ PMT_sbytes s)

/-- the TS payload `MPEGPacketPMT.pack` builds: pointer field, section, CRC -/
def PMT_payload (s : PMT) : Bytes := encInt true 1 0 ++ (PMT_body s ++ encInt true 4 (crc32mpeg2 (PMT_body s)))

def PMT_pkt (s : PMT) : Pkt := { s.pkt with payload := PMT_payload s }

def PMT_WF (s : PMT) : Prop :=
  Pkt_WF s.pkt ∧ s.tableid < 256 ∧ s.syntax_indicator < 2 ∧ s.program_number < 65536 ∧ s.version < 32 ∧
  s.current_next_indicator < 2 ∧ s.sectionNo < 256 ∧ s.last_section < 256 ∧ s.pcr_pid < 8192 ∧
  (∀ d ∈ s.descriptor_tags, Desc_WF d) ∧ (∀ x ∈ s.streams, Stream_WF x) ∧ PMT_slen s < 4096

instance (s : PMT) : Decidable (PMT_WF s) := by unfold PMT_WF; infer_instance

theorem PMT_payloadR_eq (s : PMT) (h : PMT_WF s) :
    PMT_payloadR s = .ok (PMT_payload s) ∧ PMT_pil s = (PMT_dbytes s).length := by
  obtain ⟨hw, h1, h2, h3, h4, h5, h6, h7, h8, hd, hs, hl⟩ := h
  have hp := pack_u8 PMT_FMT_POINTER rfl 0 (by omega)
  have hdl := descLen_sum s.descriptor_tags hd
  have hsl := streamLen_sum s.streams
  have hlen : PMT_FMT.size - PMT_HDR_LEN_NOT_INCL_IN_LEN + PMT_CRC_LEN + (s.streams.map Stream.len).sum +
      (s.descriptor_tags.flatMap Desc_bytes).length = PMT_slen s := by
    rw [hsl]; simp only [PMT_slen, PMT_dbytes, PMT_sbytes, PMT_FMT, Fmt.size, codesSize, Code.size,
      PMT_HDR_LEN_NOT_INCL_IN_LEN, PMT_CRC_LEN]
  have hdl2 : (PMT_dbytes s).length < 4096 := by unfold PMT_slen at hl; omega
  refine ⟨?_, hdl⟩
  unfold PMT_payloadR
  simp only [hp, hdl]
  simp only [hlen]
  have hf : Fits PMT_FMT.codes [s.tableid, s.syntax_indicator * 32768 + 3 * 4096 + PMT_slen s, s.program_number,
      3 * 64 + s.version * 2 + s.current_next_indicator, s.sectionNo, s.last_section, 7 * 8192 + s.pcr_pid,
      15 * 4096 + (s.descriptor_tags.flatMap Desc_bytes).length] := by
    have : (s.descriptor_tags.flatMap Desc_bytes).length < 4096 := hdl2
    simp only [Fits, PMT_FMT, Code.bound, and_true]
    omega
  have hcrc : ∀ b, crc32mpeg2 b < 4294967296 := fun b => by unfold crc32mpeg2; omega
  have hfc : ∀ b, Fits PMT_pack_fmt0.codes [crc32mpeg2 b] := fun b => by
    simp only [Fits, PMT_pack_fmt0, Code.bound, and_true]; exact hcrc b
  simp only [structPack_eq _ _ hf, packDescs_eq _ hd, packStreams_eq _ hs, structPack_eq _ _ (hfc _)]
  have hpay : encInt true 1 0 ++ (encCodes PMT_FMT.big PMT_FMT.codes [s.tableid, s.syntax_indicator * 32768 + 3 * 4096 + PMT_slen s,
      s.program_number, 3 * 64 + s.version * 2 + s.current_next_indicator, s.sectionNo, s.last_section, 7 * 8192 + s.pcr_pid,
      15 * 4096 + (s.descriptor_tags.flatMap Desc_bytes).length] ++ s.descriptor_tags.flatMap Desc_bytes ++
      s.streams.flatMap Stream_bytes) ++ encCodes PMT_pack_fmt0.big PMT_pack_fmt0.codes
        [crc32mpeg2 (encCodes PMT_FMT.big PMT_FMT.codes [s.tableid, s.syntax_indicator * 32768 + 3 * 4096 + PMT_slen s,
      s.program_number, 3 * 64 + s.version * 2 + s.current_next_indicator, s.sectionNo, s.last_section, 7 * 8192 + s.pcr_pid,
      15 * 4096 + (s.descriptor_tags.flatMap Desc_bytes).length] ++ s.descriptor_tags.flatMap Desc_bytes ++
      s.streams.flatMap Stream_bytes)] = PMT_payload s := by
    simp [PMT_payload, PMT_body, PMT_hdr, PMT_dbytes, PMT_sbytes, encCodes, PMT_FMT, PMT_pack_fmt0, Code.size,
      List.append_assoc]
  rw [hpay]

theorem PMT_pack_eq (s : PMT) (h : PMT_WF s) :
    PMT.pack s = ({ s with program_info_len := (PMT_dbytes s).length, pkt := Pkt_packed (PMT_pkt s) },
                  .ok (Pkt_bytes (PMT_pkt s))) := by
  rw [PMT_pack_via, (PMT_payloadR_eq s h).1, (PMT_payloadR_eq s h).2]
  show ({ s with program_info_len := _, pkt := (Pkt.pack (PMT_pkt s)).1 }, (Pkt.pack (PMT_pkt s)).2) = _
  rw [Pkt_pack_eq _ false (show Pkt_WF (PMT_pkt s) from h.1)]
  rfl

def PMT_crc4 (s : PMT) : Bytes := encInt true 4 (crc32mpeg2 (PMT_body s))

/-- what decoding the packed bytes gives: every field as encoded, `program_info_len` as `pack`
    recomputed it, `_crc` the stored CRC -/
def PMT_decoded (s : PMT) : PMT :=
  { s with pkt := Pkt_decoded (PMT_pkt s), program_info_len := (PMT_dbytes s).length,
           crc := some (crc32mpeg2 (PMT_body s)) }

theorem PMT_hdr_length (s : PMT) : (PMT_hdr s).length = 12 := by simp [PMT_hdr]
theorem PMT_body_length (s : PMT) : (PMT_body s).length + 1 = PMT_slen s := by
  simp [PMT_body, PMT_hdr_length, PMT_slen]; omega

theorem PMT_crc4_length (s : PMT) : (PMT_crc4 s).length = 4 := by simp [PMT_crc4]

theorem PMT_crc4_beNat (s : PMT) : beNat (PMT_crc4 s) = crc32mpeg2 (PMT_body s) := by
  have : crc32mpeg2 (PMT_body s) < 256 ^ 4 := by unfold crc32mpeg2; omega
  simp only [PMT_crc4, encInt, if_true]
  exact beNat_beBytes_of_lt 4 _ this

/-- the twelve fixed section bytes followed by anything, read back once: the two 12-bit steering fields (which the
    decoder takes byte by byte) and the object -/
theorem PMT_hdr_reads (s : PMT) (h : PMT_WF s) (Y : Bytes) :
    fieldL (PMT_hdr s ++ Y) = PMT_slen s ∧ fieldPil (PMT_hdr s ++ Y) = (PMT_dbytes s).length ∧
    ∀ ds ss crc, secObj (PMT_hdr s ++ Y) ds ss crc =
      { s with pkt := Pkt.fresh, program_info_len := (PMT_dbytes s).length, streams := ss, descriptor_tags := ds,
               crc := some crc } := by
  obtain ⟨_, h1, h2, h3, h4, h5, h6, h7, h8, _, _, hl⟩ := h
  have hdl : (PMT_dbytes s).length < 4096 := by unfold PMT_slen at hl; omega
  have a2 : (s.syntax_indicator * 32768 + 3 * 4096 + PMT_slen s) / 32768 = s.syntax_indicator := by omega
  have a3 : (3 * 64 + s.version * 2 + s.current_next_indicator) / 2 % 32 = s.version := by omega
  have a4 : (3 * 64 + s.version * 2 + s.current_next_indicator) % 2 = s.current_next_indicator := by omega
  have a5 : (7 * 8192 + s.pcr_pid) % 8192 = s.pcr_pid := by omega
  have hlen : 12 ≤ (PMT_hdr s ++ Y).length := by simp [PMT_hdr_length]
  have d0 : (PMT_hdr s ++ Y).drop 0 = encInt true 1 s.tableid ++ (encInt true 2 (s.syntax_indicator * 32768 + 3 * 4096 + PMT_slen s) ++
      (encInt true 2 s.program_number ++ (encInt true 1 (3 * 64 + s.version * 2 + s.current_next_indicator) ++
      (encInt true 1 s.sectionNo ++ (encInt true 1 s.last_section ++ (encInt true 2 (7 * 8192 + s.pcr_pid) ++
      (encInt true 2 (15 * 4096 + (PMT_dbytes s).length) ++ Y))))))) := by
    simp only [PMT_hdr, List.drop_zero, List.append_assoc]
  have d1 : (PMT_hdr s ++ Y).drop 1 = _ := drop_step d0
  have d3 : (PMT_hdr s ++ Y).drop 3 = _ := drop_step d1
  have d5 : (PMT_hdr s ++ Y).drop 5 = _ := drop_step d3
  have d6 : (PMT_hdr s ++ Y).drop 6 = _ := drop_step d5
  have d7 : (PMT_hdr s ++ Y).drop 7 = _ := drop_step d6
  have d8 : (PMT_hdr s ++ Y).drop 8 = _ := drop_step d7
  have d10 : (PMT_hdr s ++ Y).drop 10 = _ := drop_step d8
  have v0 : decInt true (slice (PMT_hdr s ++ Y) 0 1) = s.tableid := decInt_slice_enc 1 d0 h1
  have v1 : decInt true (slice (PMT_hdr s ++ Y) 1 3) = _ := decInt_slice_enc 2 d1 (by omega)
  have v3 : decInt true (slice (PMT_hdr s ++ Y) 3 5) = s.program_number := decInt_slice_enc 2 d3 h3
  have v5 : decInt true (slice (PMT_hdr s ++ Y) 5 6) = _ := decInt_slice_enc 1 d5 (by omega)
  have v6 : decInt true (slice (PMT_hdr s ++ Y) 6 7) = s.sectionNo := decInt_slice_enc 1 d6 h6
  have v7 : decInt true (slice (PMT_hdr s ++ Y) 7 8) = s.last_section := decInt_slice_enc 1 d7 h7
  have v8 : decInt true (slice (PMT_hdr s ++ Y) 8 10) = _ := decInt_slice_enc 2 d8 (by omega)
  have v10 : decInt true (slice (PMT_hdr s ++ Y) 10 12) = _ := decInt_slice_enc 2 d10 (by omega)
  have eL : fieldL (PMT_hdr s ++ Y) = PMT_slen s := by
    rw [fieldL, ← decInt_pair _ 1 (by omega), v1]; omega
  have ePil : fieldPil (PMT_hdr s ++ Y) = (PMT_dbytes s).length := by
    rw [fieldPil, ← decInt_pair _ 10 (by omega), v10]; omega
  refine ⟨eL, ePil, fun ds ss crc => ?_⟩
  unfold secObj
  rw [v0, v1, v3, v5, v6, v7, v8, a2, a3, a4, a5, ePil]

theorem PMT_section_fieldL (s : PMT) (h : PMT_WF s) (Y : Bytes) : fieldL (PMT_hdr s ++ Y) = PMT_slen s :=
  (PMT_hdr_reads s h Y).1

theorem PMT_section_fieldPil (s : PMT) (h : PMT_WF s) (Y : Bytes) : fieldPil (PMT_hdr s ++ Y) = (PMT_dbytes s).length :=
  (PMT_hdr_reads s h Y).2.1

theorem PMT_unpack_bytes (s t : PMT) (h : PMT_WF s) (hs : s.pkt.sync = 0x47)
    (hafc : s.pkt.adaption_ctrl = 1 ∨ s.pkt.adaption_ctrl = 3) :
    PMT.unpack t (Pkt_bytes (PMT_pkt s)) = (PMT_decoded s, .ok true) := by
  obtain ⟨hu, e⟩ := Pkt_unpack_bytes13 (PMT_pkt s) t.pkt h.1 hs hafc
  have hpl : (Pkt_decoded (PMT_pkt s)).payload = (0 : UInt8) ::
      (PMT_hdr s ++ ((s.descriptor_tags.flatMap Desc_bytes ++ s.streams.flatMap Stream_bytes) ++
        (PMT_crc4 s ++ Pkt_stuffing (PMT_pkt s)))) := by
    rw [e]; simp [PMT_pkt, PMT_payload, PMT_body, PMT_crc4, PMT_dbytes, PMT_sbytes, encInt, beBytes, leBytes, List.append_assoc]
  have := PMT_after t _ _ hu
  rw [pmtParse_section _ _ hpl (by simp [PMT_hdr_length]),
    secParse_wf _ _ _ _ _ h.2.2.2.2.2.2.2.2.2.1 h.2.2.2.2.2.2.2.2.2.2.1 (PMT_hdr_length s) (PMT_crc4_length s)
      ((PMT_section_fieldL s h _).trans (by unfold PMT_slen PMT_dbytes PMT_sbytes; simp; omega))
      (PMT_section_fieldPil s h _),
    (PMT_hdr_reads s h _).2.2, PMT_crc4_beNat] at this
  rw [show PMT.unpack t (Pkt_bytes (PMT_pkt s)) = _ from this]
  simp [PMT_decoded, PMT_body, PMT_dbytes, PMT_sbytes]

/-- `Pkt_bytes ∘ PMT_pkt` rebuilds the payload from the fields -/
theorem PMT_decoded_pack (s : PMT) (h : PMT_WF s) (hf : Pkt_used (PMT_pkt s) ≤ 188) :
    PMT_WF (PMT_decoded s) ∧ Pkt_bytes (PMT_pkt (PMT_decoded s)) = Pkt_bytes (PMT_pkt s) := by
  have hwd := (Pkt_decoded_bytes (PMT_pkt s) h.1 hf).1
  have haf := Pkt_af_decoded (PMT_pkt s) h.1
  obtain ⟨hw, h1, h2, h3, h4, h5, h6, h7, h8, hd, hss, hl⟩ := h
  constructor
  · exact ⟨hwd, h1, h2, h3, h4, h5, h6, h7, h8, hd, hss, hl⟩
  · have e1 : Pkt_hdr (PMT_pkt (PMT_decoded s)) = Pkt_hdr (PMT_pkt s) := rfl
    have e2 : Pkt_af (PMT_pkt (PMT_decoded s)) = Pkt_af (Pkt_decoded (PMT_pkt s)) := rfl
    have e3 : (PMT_pkt (PMT_decoded s)).payload = (PMT_pkt s).payload := rfl
    unfold Pkt_bytes Pkt_used
    rw [e1, e2, e3, haf]

end Acra.Lemmas.PMT

-- where the section lies in the packet: the C07 statements on one changed byte (Props/C07/MpegFlip.lean, MpegSteer.lean)
-- give their offsets with these two
namespace Acra.Lemmas.MpegFlip
open Acra.Py Acra.Model.MPEGTS Acra.Model.PMT Acra.Lemmas.MPEGTS Acra.Lemmas.PMT

/-- offset of the section (its `table_id` byte) in the packet: header, adaptation bytes, pointer field -/
def PMT_secOff (s : PMT) : Nat := 5 + (Pkt_af (PMT_pkt s)).length

def PMT_loops (s : PMT) : Bytes := PMT_dbytes s ++ PMT_sbytes s

end Acra.Lemmas.MpegFlip

namespace Acra.Lemmas.PMT
open Acra.Py Acra.Model.MPEGTS Acra.Model.PMT Acra.Gen.MPEGTS Acra.Gen.PMT Acra.Lemmas.MPEGTS Acra.Lemmas.MpegSteer Acra.Lemmas.PMTSection
open Acra.Lemmas.MpegBytes Acra.Lemmas.MpegParse Acra.Lemmas.CRCMpeg Acra.Lemmas.MpegFlip

theorem PMT_loops_length (s : PMT) : 13 + (PMT_loops s).length = PMT_slen s := by
  simp [PMT_loops, PMT_slen]; omega

theorem PMT_bytes_parts (s : PMT) :
    Pkt_bytes (PMT_pkt s) = (Pkt_hdr (PMT_pkt s) ++ Pkt_af (PMT_pkt s) ++ [0]) ++
      (PMT_hdr s ++ (PMT_loops s ++ (PMT_crc4 s ++ Pkt_stuffing (PMT_pkt s)))) := by
  have : (PMT_pkt s).payload = PMT_payload s := rfl
  simp [Pkt_bytes, this, PMT_payload, PMT_body, PMT_loops, PMT_crc4, Pkt_stuffing, encInt, beBytes, leBytes,
    List.append_assoc]

theorem PMT_frame_length (s : PMT) : (Pkt_hdr (PMT_pkt s) ++ Pkt_af (PMT_pkt s) ++ [0]).length = PMT_secOff s := by
  simp [PMT_secOff]; omega

theorem PMT_section_le (s : PMT) : PMT_secOff s + PMT_slen s + 3 ≤ (Pkt_bytes (PMT_pkt s)).length := by
  have := PMT_loops_length s
  rw [PMT_bytes_parts s, List.length_append, PMT_frame_length]
  simp only [List.length_append, PMT_hdr_length, PMT_crc4, encInt_length]
  omega

theorem PMT_slen_ge (s : PMT) : 13 ≤ PMT_slen s := by unfold PMT_slen; omega

theorem PMT_frame_unpack (s t : PMT) (h : Pkt_WF s.pkt) (hs : s.pkt.sync = 0x47)
    (hafc : s.pkt.adaption_ctrl = 1 ∨ s.pkt.adaption_ctrl = 3) (P : Bytes) (hP : 12 ≤ P.length) :
    (PMT.unpack t ((Pkt_hdr (PMT_pkt s) ++ Pkt_af (PMT_pkt s) ++ [0]) ++ P)).2 = sectionResultAny P := by
  have hwp : Pkt_WF (PMT_pkt s) := h
  have h2af : (PMT_pkt s).adaption_ctrl = 2 → (PMT_pkt s).adaption_field.isSome = true := by
    intro c; have : s.pkt.adaption_ctrl = 2 := c; omega
  have hafc' : (PMT_pkt s).adaption_ctrl = 1 ∨ (PMT_pkt s).adaption_ctrl = 3 := hafc
  have hbuf : (Pkt_hdr (PMT_pkt s) ++ Pkt_af (PMT_pkt s) ++ [0]) ++ P =
      Pkt_hdr (PMT_pkt s) ++ (Pkt_af (PMT_pkt s) ++ ((0 : UInt8) :: P)) := by
    simp [List.append_assoc]
  rw [hbuf]
  exact PMT_unpack_any t _ _ P (Pkt_unpack_frame (PMT_pkt s) t.pkt ((0 : UInt8) :: P) hwp hs h2af)
    (by simp only [Pkt_decodedWith, if_pos hafc']) hP

theorem PMT_any_section (s t : PMT) (h : Pkt_WF s.pkt) (hs : s.pkt.sync = 0x47)
    (hafc : s.pkt.adaption_ctrl = 1 ∨ s.pkt.adaption_ctrl = 3) (P : Bytes) (hP : 12 ≤ P.length) (b : Bool)
    (hb : (PMT.unpack t ((Pkt_hdr (PMT_pkt s) ++ Pkt_af (PMT_pkt s) ++ [0]) ++ P)).2 = .ok b) :
    b = steerCoincides P (fieldL P) (fieldPil P) := by
  rw [PMT_frame_unpack s t h hs hafc P hP] at hb
  exact sectionResultAny_ok P b hb

theorem PMT_section_returns (s : PMT) (h : PMT_WF s) (Hd C R : Bytes) (hH : Hd.length = 12) (hC : C.length = 4)
    (hL : fieldL (Hd ++ (PMT_loops s ++ (C ++ R))) = PMT_slen s)
    (hpil : fieldPil (Hd ++ (PMT_loops s ++ (C ++ R))) = (PMT_dbytes s).length) :
    sectionResultAny (Hd ++ (PMT_loops s ++ (C ++ R))) = .ok (beNat C == crc32mpeg2 (Hd ++ PMT_loops s)) := by
  rw [sectionResultAny]
  exact congrArg _ (secParse_wf Hd C R s.descriptor_tags s.streams h.2.2.2.2.2.2.2.2.2.1 h.2.2.2.2.2.2.2.2.2.2.1 hH hC
    (hL.trans (PMT_loops_length s).symm) hpil)

theorem PMT_section_cut (s : PMT) (pre suf : Bytes) (a : UInt8) (hbuf : Pkt_bytes (PMT_pkt s) = pre ++ a :: suf)
    (hlo : PMT_secOff s ≤ pre.length) :
    ∃ p, pre = (Pkt_hdr (PMT_pkt s) ++ Pkt_af (PMT_pkt s) ++ [0]) ++ p ∧ pre.length = PMT_secOff s + p.length ∧
      PMT_hdr s ++ (PMT_loops s ++ (PMT_crc4 s ++ Pkt_stuffing (PMT_pkt s))) = p ++ a :: suf ∧
      ∀ a', 12 ≤ (p ++ a' :: suf).length := by
  rw [PMT_bytes_parts s] at hbuf
  have hFl := PMT_frame_length s
  obtain ⟨p, rfl, hsec⟩ := split_right _ _ pre suf a hbuf (by omega)
  refine ⟨p, rfl, by rw [List.length_append, hFl], hsec, fun a' => ?_⟩
  rw [length_changed p suf a a', ← hsec]; simp [PMT_hdr_length]

/-- **one byte of the section of a packed PMT packet changed** (anywhere from `table_id` to the last CRC byte, the low
    12 bits of `section_length` kept): the decoder does not return True — if it returns at all (it may raise when the
    change mis-frames the descriptor or stream loop) it returns False.  `section_length` being intact, the CRC is still
    read at its place and computed over the section as it now is, and the two differ from the original in one byte;
    `program_info_length` may be hit, it only moves the boundary between the two loops. -/
theorem PMT_flip_rejected (s t : PMT) (h : PMT_WF s) (hs : s.pkt.sync = 0x47)
    (hafc : s.pkt.adaption_ctrl = 1 ∨ s.pkt.adaption_ctrl = 3)
    (pre suf : Bytes) (a a' : UInt8) (hbuf : Pkt_bytes (PMT_pkt s) = pre ++ a :: suf) (hne : a ≠ a')
    (hlo : PMT_secOff s ≤ pre.length) (hhi : pre.length < PMT_secOff s + PMT_slen s + 3)
    (h2 : pre.length ≠ PMT_secOff s + 2) (h1 : pre.length = PMT_secOff s + 1 → a.toNat % 16 = a'.toNat % 16)
    (b : Bool) (hb : (PMT.unpack t (pre ++ a' :: suf)).2 = .ok b) : b = false := by
  obtain ⟨p, rfl, hp, hsec, hlen⟩ := PMT_section_cut s pre suf a hbuf hlo
  have hbl := PMT_body_length s
  have hsec' : PMT_body s ++ (PMT_crc4 s ++ Pkt_stuffing (PMT_pkt s)) = p ++ a :: suf := by
    rw [← hsec]; simp [PMT_body, PMT_loops]
  rw [List.append_assoc, PMT_frame_unpack s t h.1 hs hafc _ (hlen a')] at hb
  have hL : fieldL (p ++ a' :: suf) = (PMT_body s).length + 1 := by
    rw [fieldL_changed p suf a a' (by omega) (fun c => h1 (by omega)), ← hsec, PMT_section_fieldL s h, hbl]
  rw [sectionResultAny_ok _ b hb, hL]
  exact steerCoincides_changed _ _ _ p suf a a' _ (PMT_crc4_length s) (PMT_crc4_beNat s) hne hsec' (by omega)

/-- when the changed byte lies in the 12 fixed bytes of the section or in the CRC and both length fields are kept, the
    two loops see the bytes `pack` wrote: the decoder returns (no exception) -/
theorem PMT_flip_returns (s t : PMT) (h : PMT_WF s) (hs : s.pkt.sync = 0x47)
    (hafc : s.pkt.adaption_ctrl = 1 ∨ s.pkt.adaption_ctrl = 3)
    (pre suf : Bytes) (a a' : UInt8) (hbuf : Pkt_bytes (PMT_pkt s) = pre ++ a :: suf)
    (hlo : PMT_secOff s ≤ pre.length) (hhi : pre.length < PMT_secOff s + PMT_slen s + 3)
    (hwhere : pre.length < PMT_secOff s + 12 ∨ PMT_secOff s + PMT_slen s - 1 ≤ pre.length)
    (h2 : pre.length ≠ PMT_secOff s + 2) (h11 : pre.length ≠ PMT_secOff s + 11)
    (h1 : pre.length = PMT_secOff s + 1 → a.toNat % 16 = a'.toNat % 16)
    (h10 : pre.length = PMT_secOff s + 10 → a.toNat % 16 = a'.toNat % 16) :
    ∃ b, (PMT.unpack t (pre ++ a' :: suf)).2 = .ok b := by
  obtain ⟨p, rfl, hp, hsec, hlen⟩ := PMT_section_cut s pre suf a hbuf hlo
  rw [hp] at hhi hwhere h2 h11 h1 h10
  clear hp hlo
  have hLL := PMT_loops_length s
  have hHl := PMT_hdr_length s
  have hL : fieldL (p ++ a' :: suf) = PMT_slen s := by
    rw [fieldL_changed p suf a a' (by omega) (fun c => h1 (by omega)), ← hsec, PMT_section_fieldL s h]
  have hpil : fieldPil (p ++ a' :: suf) = (PMT_dbytes s).length := by
    rw [fieldPil_changed p suf a a' (by omega) (fun c => h10 (by omega)), ← hsec, PMT_section_fieldPil s h]
  rw [List.append_assoc, PMT_frame_unpack s t h.1 hs hafc _ (hlen a')]
  by_cases c1 : p.length < 12
  · obtain ⟨q, hHd, rfl⟩ := split_left _ _ p suf a hsec (by omega)
    have e : p ++ a' :: (q ++ (PMT_loops s ++ (PMT_crc4 s ++ Pkt_stuffing (PMT_pkt s)))) =
        (p ++ a' :: q) ++ (PMT_loops s ++ (PMT_crc4 s ++ Pkt_stuffing (PMT_pkt s))) := by simp
    rw [e] at hL hpil ⊢
    exact ⟨_, PMT_section_returns s h _ _ _ (by rw [length_changed p q a a', ← hHd, hHl]) (PMT_crc4_length s) hL hpil⟩
  · have hw := hwhere.resolve_left (by omega)
    clear hwhere h2 h11 h1 h10
    obtain ⟨p2, rfl, hsec2⟩ := split_right _ _ p suf a hsec (by omega)
    rw [List.length_append, hHl] at hhi hw
    obtain ⟨p3, rfl, hsec3⟩ := split_right _ _ p2 suf a hsec2 (by omega)
    rw [List.length_append] at hhi
    obtain ⟨q, hC, rfl⟩ := split_left _ _ p3 suf a hsec3 (by have := PMT_crc4_length s; omega)
    have e : PMT_hdr s ++ (PMT_loops s ++ p3) ++ a' :: (q ++ Pkt_stuffing (PMT_pkt s)) =
        PMT_hdr s ++ (PMT_loops s ++ ((p3 ++ a' :: q) ++ Pkt_stuffing (PMT_pkt s))) := by simp
    rw [e] at hL hpil ⊢
    exact ⟨_, PMT_section_returns s h _ _ _ hHl (by rw [length_changed p3 q a a', ← hC, PMT_crc4_length]) hL hpil⟩

/-- **`section_length` corrupted** (section byte 1 or 2 replaced): if the decoder returns a value, it is the comparison
    at the MOVED position — `steerCoincides` on the corrupted section, with the new `section_length` and the intact
    `program_info_length` -/
theorem PMT_slen_byte_result (s t : PMT) (h : PMT_WF s) (hs : s.pkt.sync = 0x47)
    (hafc : s.pkt.adaption_ctrl = 1 ∨ s.pkt.adaption_ctrl = 3)
    (pre suf : Bytes) (a a' : UInt8) (hbuf : Pkt_bytes (PMT_pkt s) = pre ++ a :: suf)
    (hpos : pre.length = PMT_secOff s + 1 ∨ pre.length = PMT_secOff s + 2)
    (b : Bool) (hb : (PMT.unpack t (pre ++ a' :: suf)).2 = .ok b) :
    b = steerCoincides ((pre ++ a' :: suf).drop (PMT_secOff s))
          (fieldL ((pre ++ a' :: suf).drop (PMT_secOff s))) (PMT_dbytes s).length := by
  obtain ⟨p, rfl, hp, hsec, hlen⟩ := PMT_section_cut s pre suf a hbuf (by omega)
  rw [List.append_assoc] at hb ⊢
  rw [drop_append_len _ _ _ (PMT_frame_length s).symm]
  have hres := PMT_any_section s t h.1 hs hafc _ (hlen a') b hb
  rwa [fieldPil_changed p suf a a' (by omega) (fun c => absurd c (by omega)), ← hsec, PMT_section_fieldPil s h] at hres

/-- **one changed byte that leaves a well-formed section with a stale CRC.**  `s'` is any well-formed
    object in the same packet frame (`s'.pkt = s.pkt`) such that the corrupted buffer is: the packet
    header, adaptation bytes and pointer field of `s`, the section fields of `s'`, the CRC and stuffing
    of `s`.  Then the decoder RETURNS False.  This covers every one-byte change of a descriptor tag or
    data byte, a stream type, elementary PID or ES descriptor byte, and of the non-length bits of the
    fixed part — wherever the result is again the encoding of well-formed field values. -/
theorem PMT_stale_crc_false (s s' t : PMT) (h' : PMT_WF s') (hpkt : s'.pkt = s.pkt)
    (hs : s.pkt.sync = 0x47) (hafc : s.pkt.adaption_ctrl = 1 ∨ s.pkt.adaption_ctrl = 3)
    (pre suf : Bytes) (a a' : UInt8) (hbuf : Pkt_bytes (PMT_pkt s) = pre ++ a :: suf) (hne : a ≠ a')
    (hbuf' : pre ++ a' :: suf = (Pkt_hdr (PMT_pkt s) ++ Pkt_af (PMT_pkt s) ++ [0]) ++
      (PMT_hdr s' ++ (PMT_loops s' ++ (PMT_crc4 s ++ Pkt_stuffing (PMT_pkt s))))) :
    (PMT.unpack t (pre ++ a' :: suf)).2 = .ok false := by
  rw [PMT_bytes_parts s] at hbuf
  have hl : (PMT_hdr s ++ PMT_loops s).length = (PMT_hdr s' ++ PMT_loops s').length := by
    have l1 := congrArg List.length hbuf
    have l2 := congrArg List.length hbuf'
    simp only [List.length_append, List.length_cons] at l1 l2 ⊢
    omega
  obtain ⟨p, q, b1, b2⟩ := one_diff_middle (Pkt_hdr (PMT_pkt s) ++ Pkt_af (PMT_pkt s) ++ [0])
    (PMT_hdr s ++ PMT_loops s) (PMT_hdr s' ++ PMT_loops s') (PMT_crc4 s ++ Pkt_stuffing (PMT_pkt s)) pre suf a a' hne hl
    (by rw [← hbuf]; simp [List.append_assoc]) (by rw [hbuf']; simp [List.append_assoc])
  rw [hbuf', PMT_frame_unpack s t (hpkt ▸ h'.1) hs hafc _ (by simp [PMT_hdr_length]),
    PMT_section_returns s' h' _ _ _ (PMT_hdr_length s') (PMT_crc4_length s) (PMT_section_fieldL s' h' _)
      (PMT_section_fieldPil s' h' _), PMT_crc4_beNat s]
  have e : PMT_body s = PMT_hdr s ++ PMT_loops s := rfl
  rw [e, b1, b2]
  simpa using crc_detects_byte p q a a' hne

theorem PMT_pack_bytes (s : PMT) (h : PMT_WF s) :
    (PMT.pack s).2 = .ok
      ((Pkt_hdr (PMT_pkt s) ++ Pkt_af (PMT_pkt s) ++ [0]) ++
        (PMT_body s ++ (beBytes 4 (Spec.MPEG.crc32mpeg2 (PMT_body s)) ++
          List.replicate (188 - Pkt_used (PMT_pkt s)) 0xFF))) := by
  rw [PMT_pack_eq s h, PMT_bytes_parts s]
  simp [PMT_body, PMT_loops, PMT_crc4, Pkt_stuffing, crc_eq_spec, encInt, List.append_assoc]

/-- the `section_length` field inside the emitted section: the CRC range (`PMT_body`) plus the 4 CRC bytes is the
    3 bytes up to and including `section_length` plus `section_length` bytes -/
theorem PMT_body_section_length (s : PMT) (h : PMT_WF s) :
    (((PMT_body s).getD 1 0).toNat * 256 + ((PMT_body s).getD 2 0).toNat) % 4096 + 3 = (PMT_body s).length + 4 := by
  have h1 : fieldL (PMT_body s) = PMT_slen s := PMT_section_fieldL s h _
  have := PMT_body_length s
  rw [fieldL] at h1
  omega

end Acra.Lemmas.PMT
