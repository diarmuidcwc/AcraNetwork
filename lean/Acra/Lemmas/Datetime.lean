/-
  Seconds of the Unix era as dates: `dateOfSeconds n` is what `datetime.fromtimestamp(n, tz=utc)` returns for a
  second `n ≥ 0`, `yearStart n` the first second of its year (`Ch11Calendar` speaks of day numbers).  Time format 1,
  `PTPTime.to_rtc` and `ptptime.py` rest on it.
-/
import Acra.Lemmas.Ch11Calendar

namespace Acra.Lemmas.PTPToRtc
open Acra.Model.Ch11Pay.TimeFmt

/-- the first second (since 1970-01-01) of the year that contains second `n`.  In this namespace because the `to_rtc`
    theorems state it as `Lemmas.PTPToRtc.yearStart`, while its lemmas are needed below `Lemmas/PTPToRtc`;
    `C04.startOfYear` (time format 1) unfolds to the same term. -/
def yearStart (n : Nat) : Nat := 86400 * (daysFromCivil (civilFromDays (n / 86400 + EPOCH)).1 1 1 - EPOCH)

end Acra.Lemmas.PTPToRtc

namespace Acra.Lemmas.Datetime
open Acra.Py Acra.Model.Ch11Pay.TimeFmt Acra.Lemmas.Ch11Calendar Acra.Lemmas.ReviewC04Calendar
open Acra.Lemmas.PTPToRtc (yearStart)

/-- (year, month, day, hour, minute, second) of second `n` since 1970-01-01 -/
def dateOfSeconds (n : Nat) : Nat × Nat × Nat × Nat × Nat × Nat :=
  ((civilFromDays (n / 86400 + EPOCH)).1, (civilFromDays (n / 86400 + EPOCH)).2.1,
    (civilFromDays (n / 86400 + EPOCH)).2.2, n % 86400 / 3600, n % 86400 / 60 % 60, n % 86400 % 60)

/-- `9999` is `datetime.MAXYEAR` -/
theorem fromTimestamp_of_year_le (n : Nat) (hy : (dateOfSeconds n).1 ≤ 9999) :
    fromTimestamp (n : Int) = .ok (dateOfSeconds n) := by
  have ht : ¬ ((n : Int) + (EPOCH : Int) * 86400 < 306 * 86400) := by unfold EPOCH; omega
  have hn : ((n : Int) + (EPOCH : Int) * 86400).toNat = n + 62162035200 := by unfold EPOCH; omega
  have hq : (n + 62162035200) / 86400 = n / 86400 + EPOCH := by unfold EPOCH; omega
  have hr : (n + 62162035200) % 86400 = n % 86400 := by omega
  simp only [dateOfSeconds] at hy ⊢
  simp only [fromTimestamp, ht, if_false, hn, hq, hr]
  generalize civilFromDays (n / 86400 + EPOCH) = c at hy ⊢
  obtain ⟨y, m, d⟩ := c
  simp only [if_neg (Nat.not_lt.2 hy)]

/-- the model of `datetime.fromtimestamp` raises nothing but the ValueError for a year outside 1 … 9999 (CPython turns to
    OSError / OverflowError from about 2^55 s on, which is outside the model: see `Model/PTPToRtc.lean`) -/
theorem fromTimestamp_error (s : Int) (e : Err) (h : fromTimestamp s = .error e) : e = .value := by
  unfold fromTimestamp at h
  simp only at h
  split at h
  · simp at h; exact h.symm
  · split at h
    · simp at h; exact h.symm
    · simp at h

theorem toTimestamp_dateOfSeconds (n : Nat) :
    toTimestamp (dateOfSeconds n).1 (dateOfSeconds n).2.1 (dateOfSeconds n).2.2.1 (dateOfSeconds n).2.2.2.1
      (dateOfSeconds n).2.2.2.2.1 (dateOfSeconds n).2.2.2.2.2 = (n : Int) := by
  simp only [dateOfSeconds, toTimestamp, civilFromDays_inv]
  omega

/-- 1970 … 2099: `0 ≤ n < 4102444800` -/
theorem day_facts (n : Nat) (h : n < 86400 * DAYS) :
    let d := dateOfSeconds n
    daysFromCivil d.1 d.2.1 d.2.2.1 = n / 86400 + EPOCH ∧ 1970 ≤ d.1 ∧ d.1 ≤ 2099 ∧ 1 ≤ d.2.1 ∧ d.2.1 ≤ 12 ∧
    1 ≤ d.2.2.1 ∧ d.2.2.1 ≤ daysInMonth d.1 d.2.1 ∧ EPOCH ≤ daysFromCivil d.1 1 1 ∧
    daysFromCivil d.1 1 1 ≤ n / 86400 + EPOCH ∧ n / 86400 + EPOCH < daysFromCivil d.1 1 1 + 366 := by
  have h1 : EPOCH ≤ n / 86400 + EPOCH := Nat.le_add_left _ _
  have h2 : n / 86400 + EPOCH < EPOCH + DAYS := by unfold DAYS at h ⊢; omega
  simp only [dateOfSeconds]
  generalize n / 86400 + EPOCH = z at h1 h2 ⊢
  obtain ⟨hm1, hm2, hd1, hd2⟩ := civilFromDays_valid z
  obtain ⟨hj0, hj1, hj2⟩ := jan1_near z h1
  exact ⟨civilFromDays_inv z, year_ge_1970 z h1, year_le_2099 z h1 h2, hm1, hm2, hd1, hd2, hj0, hj1, hj2⟩

theorem daysInMonth_le (y m : Nat) : daysInMonth y m ≤ 31 := by
  unfold daysInMonth; repeat' split
  all_goals omega

theorem year_le_9999 (n : Nat) (h : n < 86400 * DAYS) : (dateOfSeconds n).1 ≤ 9999 :=
  Nat.le_trans (day_facts n h).2.2.1 (by decide)

theorem fromTimestamp_eq (n : Nat) (h : n < 86400 * DAYS) : fromTimestamp (n : Int) = .ok (dateOfSeconds n) :=
  fromTimestamp_of_year_le n (year_le_9999 n h)

theorem validDate_dateOfSeconds (n : Nat) (h : n < 86400 * DAYS) :
    validDate (dateOfSeconds n).1 (dateOfSeconds n).2.1 (dateOfSeconds n).2.2.1 (dateOfSeconds n).2.2.2.1
      (dateOfSeconds n).2.2.2.2.1 (dateOfSeconds n).2.2.2.2.2 = true := by
  have hf := day_facts n h
  simp only [dateOfSeconds] at hf ⊢
  simp only [validDate, Bool.and_eq_true, decide_eq_true_eq]
  omega

/-- the model's calendar is the Gregorian one from 1970 on: the date it assigns to second `n` is the one whose
    textbook day count is `n / 86400` -/
theorem civil_gregorian (n : Nat) :
    let d := dateOfSeconds n
    n / 86400 = 365 * (d.1 - 1970) + leapsBefore (d.1 - 1970) + cumDays (isLeap d.1) d.2.1 + (d.2.2.1 - 1) ∧
    daysFromCivil d.1 1 1 = EPOCH + 365 * (d.1 - 1970) + leapsBefore (d.1 - 1970) := by
  have hy := year_ge_1970 _ (Nat.le_add_left EPOCH (n / 86400))
  obtain ⟨hm1, hm2, hd, _⟩ := civilFromDays_valid (n / 86400 + EPOCH)
  have hi := civilFromDays_inv (n / 86400 + EPOCH)
  simp only [dateOfSeconds]
  generalize civilFromDays (n / 86400 + EPOCH) = c at *
  have hc := daysFromCivil_count c.1 c.2.1 c.2.2 hy hm1 hm2 hd
  have hj := jan1_count (c.1 - 1970)
  rw [Nat.add_sub_cancel' hy] at hj
  exact ⟨by omega, hj⟩

theorem yearStart_facts (n : Nat) :
    yearStart n = 86400 * (365 * ((dateOfSeconds n).1 - 1970) + leapsBefore ((dateOfSeconds n).1 - 1970)) ∧
    yearStart n ≤ n ∧ n < yearStart n + 366 * 86400 := by
  obtain ⟨_, hj1, hj2⟩ := jan1_near (n / 86400 + EPOCH) (Nat.le_add_left _ _)
  have hg := (civil_gregorian n).2
  simp only [dateOfSeconds, yearStart] at hg ⊢
  generalize civilFromDays (n / 86400 + EPOCH) = c at *
  rw [hg] at hj1 hj2 ⊢
  omega

theorem yearStart_le (n : Nat) : yearStart n ≤ n ∧ n - yearStart n < 366 * 86400 := by
  have := yearStart_facts n
  omega

theorem yearStart_zero_iff (n : Nat) : yearStart n = 0 ↔ n < 365 * 86400 := by
  have h1971 : daysFromCivil 1971 1 1 = EPOCH + 365 := by decide
  unfold yearStart
  constructor
  · intro h0
    apply Nat.lt_of_not_le
    intro hn
    have hy := (le_year_iff (n / 86400 + EPOCH) 1971 (Nat.le_trans (by decide) (Nat.le_add_left _ _))).2
      (by rw [h1971]; omega)
    have := jan1_mono hy
    omega
  · intro hn
    rw [year_eq _ 1970 (by rw [jan1_1970]; exact Nat.le_add_left _ _) (by rw [h1971]; omega), jan1_1970, Nat.sub_self]

/-- `to_rtc`'s `(ptp_as_date - start_of_year).total_seconds()` -/
theorem since_yearStart (n : Nat) :
    let d := dateOfSeconds n
    (daysFromCivil d.1 d.2.1 d.2.2.1 - daysFromCivil d.1 1 1) * 86400 +
      (d.2.2.2.1 * 3600 + d.2.2.2.2.1 * 60 + d.2.2.2.2.2) = n - yearStart n := by
  obtain ⟨hj0, hj1, _⟩ := jan1_near (n / 86400 + EPOCH) (Nat.le_add_left _ _)
  simp only [dateOfSeconds, yearStart]
  rw [civilFromDays_inv]
  exact (doy_seconds n _ _ hj0 hj1).1

end Acra.Lemmas.Datetime
