/-
  Chapter 7: the decapsulator loop (`get_aligned_payload`), one iteration at a time, and its
  termination: the fuel the model gives it never runs out, and the number of yielded tuples is bounded
  by the STRIDE of the loop, for every fuel.
  Measure `gapNeed P R st` = iterations still possible: a low-latency iteration consumes ≥ 7 bytes of
  the frame payload (6 header bytes and the continuation byte), a normal one ≥ 6 bytes of the current
  buffer, which after the (single) switch from the low-latency phase is at most `payload` again (jump
  to `ptdp_offset`) or `remainder ++ rest of the payload`; + 1 for the tuple that ends the loop.
-/
import Acra.Lemmas.Chapter7
namespace Acra.Lemmas.Chapter7
open Acra.Py Acra.Model Acra.Model.Chapter7 Acra.Gen.Chapter7

variable (self : PTFR.State) (first : Bool) (rem : Option Bytes)

theorem bookkeep_buf (st : GapSt) (plen : Int) :
    (bookkeep st plen).1.buf = st.buf ∧ (bookkeep st plen).1.isLlp = st.isLlp := by
  unfold bookkeep
  repeat' split
  all_goals exact ⟨rfl, rfl⟩

theorem raised_cons (i : Item) (c : List Int) (o : GapOut) : (o.cons i c).raised = o.raised := rfl
theorem items_cons (i : Item) (c : List Int) (o : GapOut) : (o.cons i c).items = i :: o.items := rfl

theorem gapLoop_stop (fuel : Nat) (st : GapSt) (e : Err) (h : (PTDP.unpack PTDP.fresh st.buf).2 = .error e) :
    (gapLoop self first rem (fuel + 1) st).items = [if e = .ptdpLength then .lengthError else .remaining st.buf] ∧
    (gapLoop self first rem (fuel + 1) st).raised = none := by
  unfold gapLoop
  cases hu : PTDP.unpack PTDP.fresh st.buf with
  | mk p0 r =>
    rw [hu] at h
    cases h
    -- `e` is one of the two PTDP exceptions, so the catch-all branch of the model is not taken
    rcases ptdp_unpack_total PTDP.fresh st.buf with ⟨_, h⟩ | h | h
    all_goals
      rw [hu] at h
      cases h
    all_goals exact ⟨rfl, rfl⟩

/-- `st1` is the state after the offset bookkeeping; in the low-latency phase without a continuation byte
    `struct.error` is raised before the yield -/
theorem gapLoop_ok (fuel : Nat) (st : GapSt) (p0 : PTDP.State) (rest : Bytes)
    (hu : PTDP.unpack PTDP.fresh st.buf = (p0, .ok rest)) :
    ∃ st1 chk, st1.isLlp = st.isLlp ∧ gapLoop self first rem (fuel + 1) st =
      if st.isLlp then
        match rest with
        | [] => { items := [], checks := chk, raised := some .struct }
        | m :: _ =>
          (gapLoop self first rem fuel (afterLlp self first rem st1 ((PTDP.len p0 : Nat) : Int) rest m.toNat)).cons
            (.pkt { p0 with low_latency := true }) chk
      else (gapLoop self first rem fuel { st1 with buf := rest }).cons (.pkt p0) chk := by
  refine ⟨(bookkeep st ((PTDP.len p0 : Nat) : Int)).1, (bookkeep st ((PTDP.len p0 : Nat) : Int)).2, (bookkeep_buf st _).2, ?_⟩
  rw [gapLoop]
  simp only [hu]
  cases st.isLlp with
  | false =>
    have hp : ({ p0 with low_latency := false } : PTDP.State) = p0 := by
      have := ptdp_unpack_ok_ll _ _ _ _ hu
      cases p0
      cases this
      rfl
    simp only [Bool.false_eq_true, if_false, hp]
  | true =>
    cases rest with
    | nil => rfl
    | cons m more =>
      have hb : structUnpackFrom PTFR_gap_fmt0 (m :: more) 0 = .ok [m.toNat] := by
        simp [structUnpackFrom, PTFR_gap_fmt0, Fmt.size, codesSize, Code.size, unpackCodes, decInt, beNat, leNat]
      simp only [if_true, hb]

/-- iterations the loop can still make (file header). Normal phase: ≥ 6 bytes of `buf` per iteration, + 1 for the tuple
    that ends the loop. Low-latency phase: ≥ 7 bytes of `buf` per iteration that stays in the phase; the buffer after
    the switch is NOT a suffix of `buf` (jump to `ptdp_offset`, or remainder prepended), only bounded by `P + R`
    (`afterLlp_cases`), so the whole normal-phase need `(P + R) / 6 + 1` is reserved up front, and the second + 1 pays
    for the switching iteration itself, to which no 7 bytes are credited (`gapNeed_switch`). -/
def gapNeed (P R : Nat) (st : GapSt) : Nat :=
  if st.isLlp then st.buf.length / 7 + (P + R) / 6 + 2 else st.buf.length / 6 + 1

theorem gapNeed_pos (P R : Nat) (st : GapSt) : 1 ≤ gapNeed P R st := by
  unfold gapNeed; split <;> omega

/-- a normal-phase buffer of at most `P + R` bytes needs no more iterations than any low-latency state -/
theorem gapNeed_switch (x B P R : Nat) (h : x ≤ P + R) : x / 6 + 1 + 1 ≤ B / 7 + (P + R) / 6 + 2 := by
  have := Nat.div_le_div_right (c := 6) h
  omega

/-- after a low-latency PTDP that left `rest`: still in that phase, one byte further; or switched to the
    payload from `ptdp_offset`, or to remainder and `rest` together -/
theorem afterLlp_cases (st1 : GapSt) (plen : Int) (rest : Bytes) (n : Nat)
    (hr : rest.length ≤ self.payload.length + 1) :
    ((afterLlp self first rem st1 plen rest n).isLlp = true ∧
      (afterLlp self first rem st1 plen rest n).buf = rest.drop 1) ∨
    ((afterLlp self first rem st1 plen rest n).isLlp = false ∧
      (afterLlp self first rem st1 plen rest n).buf.length ≤ self.payload.length + (rem.getD []).length) := by
  simp only [afterLlp]
  split
  · exact .inl ⟨rfl, rfl⟩
  · split
    · exact .inr ⟨rfl, by rw [List.length_drop]; omega⟩
    · cases rem with
      | none => exact .inr ⟨rfl, by rw [List.length_drop]; omega⟩
      | some r => exact .inr ⟨rfl, by rw [List.length_append, List.length_drop, Option.getD_some]; omega⟩

/-- continuation byte 0xFF: the next low-latency PTDP follows.  Trap: `m` is NOT tied to the literal `0xFF`; `afterLlp`
    receives the byte's value as its own argument and only drops the head of `rest`. `gapLoop_ok` supplies `m.toNat`,
    and the caller (`gapLoop_llp`) has to make `m` the matching byte. -/
theorem afterLlp_more (st1 : GapSt) (plen : Int) (m : UInt8) (more : Bytes) :
    (afterLlp self first rem st1 plen (m :: more) 0xFF).isLlp = true ∧
    (afterLlp self first rem st1 plen (m :: more) 0xFF).buf = more :=
  ⟨rfl, rfl⟩

/-- continuation byte 0x00, carried remainder `r` (empty on the first frame), `ptdp_offset` pointing behind the
    low-latency data: the normal phase reads `r ++` what follows them, whether or not it jumps to the offset.
    As in `afterLlp_more`, the head `m` is unrelated to the literal `0`. -/
theorem afterLlp_last (st1 : GapSt) (plen : Int) (m : UInt8) (more r : Bytes) (hjump : first = true → r = [])
    (hN : self.payload.drop self.ptdp_offset = more) :
    (afterLlp self first (some r) st1 plen (m :: more) 0).isLlp = false ∧
    (afterLlp self first (some r) st1 plen (m :: more) 0).buf = r ++ more := by
  unfold afterLlp
  rw [if_neg (by decide)]
  by_cases hj : ((some r == some ([] : Bytes)) && decide (self.ptdp_offset > 0) || first) = true
  · have hr : r = [] := by
      simp only [Bool.or_eq_true, Bool.and_eq_true] at hj
      rcases hj with ⟨h1, _⟩ | h1
      · simpa using h1
      · exact hjump h1
    rw [if_pos hj, hN, hr]
    exact ⟨rfl, rfl⟩
  · rw [if_neg hj]
    exact ⟨rfl, rfl⟩

/-- `hinv`: the low-latency phase reads the frame payload only -/
theorem gapLoop_step (fuel : Nat) (st : GapSt) (hinv : st.isLlp = true → st.buf.length ≤ self.payload.length) :
    ((gapLoop self first rem (fuel + 1) st).items.length ≤ 1 ∧
      (gapLoop self first rem (fuel + 1) st).raised ≠ some .fuel) ∨
    ∃ st' i chk, gapLoop self first rem (fuel + 1) st = (gapLoop self first rem fuel st').cons i chk ∧
      (st'.isLlp = true → st'.buf.length ≤ self.payload.length) ∧
      gapNeed self.payload.length (rem.getD []).length st' + 1 ≤
        gapNeed self.payload.length (rem.getD []).length st := by
  cases hu : PTDP.unpack PTDP.fresh st.buf with
  | mk p0 r =>
    cases r with
    | error e =>
      obtain ⟨h1, h2⟩ := gapLoop_stop self first rem fuel st e (by rw [hu])
      exact .inl ⟨by rw [h1]; exact Nat.le_refl 1, by rw [h2]; exact nofun⟩
    | ok rest =>
      have hlen := (ptdp_unpack_ok_len _ _ _ _ hu).1
      obtain ⟨st1, chk, hl1, he⟩ := gapLoop_ok self first rem fuel st p0 rest hu
      rw [he]
      unfold gapNeed
      cases hl : st.isLlp with
      | false =>
        rw [hl] at hl1
        refine .inr ⟨_, _, chk, rfl, ?_, ?_⟩
        · simp only [hl1]
          exact nofun
        · simp only [hl1, Bool.false_eq_true, if_false]
          omega
      | true =>
        cases rest with
        | nil => exact .inl ⟨Nat.zero_le 1, nofun⟩
        | cons m more =>
          have hP := hinv hl
          simp only [List.length_cons] at hlen
          refine .inr ⟨_, _, chk, rfl, ?_⟩
          rcases afterLlp_cases self first rem st1 ((PTDP.len p0 : Nat) : Int) (m :: more) m.toNat
            (by rw [List.length_cons]; omega) with ⟨h1, h2⟩ | ⟨h1, h2⟩
          · simp only [h1, h2, if_true, List.drop_succ_cons, List.drop_zero]
            exact ⟨fun _ => by omega, by omega⟩
          · simp only [h1, Bool.false_eq_true, if_false]
            exact ⟨nofun, gapNeed_switch _ _ _ _ h2⟩

theorem gapLoop_need (fuel : Nat) (st : GapSt) (hinv : st.isLlp = true → st.buf.length ≤ self.payload.length) :
    (gapLoop self first rem fuel st).items.length ≤ gapNeed self.payload.length (rem.getD []).length st ∧
    (gapNeed self.payload.length (rem.getD []).length st ≤ fuel →
      (gapLoop self first rem fuel st).raised ≠ some .fuel) := by
  induction fuel generalizing st with
  | zero =>
    have := gapNeed_pos self.payload.length (rem.getD []).length st
    exact ⟨Nat.zero_le _, fun h => by omega⟩
  | succ fuel ih =>
    rcases gapLoop_step self first rem fuel st hinv with ⟨h1, h2⟩ | ⟨st', i, chk, he, hinv', hdec⟩
    · exact ⟨Nat.le_trans h1 (gapNeed_pos _ _ _), fun _ => h2⟩
    · obtain ⟨ih1, ih2⟩ := ih st' hinv'
      rw [he, items_cons, raised_cons, List.length_cons]
      exact ⟨by omega, fun h => ih2 (by omega)⟩

theorem gapNeed_init :
    ∃ st, getAlignedPayload self first rem =
        gapLoop self first rem (self.payload.length + (rem.getD []).length + 2) st ∧
      (st.isLlp = true → st.buf.length ≤ self.payload.length) ∧
      gapNeed self.payload.length (rem.getD []).length st ≤
        (if self.llp then self.payload.length / 7 + 1 else 0) +
          (self.payload.length + (rem.getD []).length) / 6 + 1 := by
  refine ⟨_, rfl, fun h => ?_, ?_⟩
  · simp only at h; simp [h]
  · simp only [gapNeed]
    cases hl : self.llp with
    | true => simp only [if_true]; omega
    | false =>
      simp only [Bool.false_eq_true, if_false, Nat.zero_add]
      -- whichever buffer the start takes, it is no longer than remainder and payload together
      refine Nat.add_le_add_right (Nat.div_le_div_right ?_) 1
      split
      · rw [List.length_drop]; omega
      · split
        · rw [List.length_drop]; omega
        · cases rem with
          | none =>
            simp only [Option.getD_none, List.length_nil, Nat.add_zero]
            split <;> simp
          | some r => rw [List.length_append, Option.getD_some]; omega

theorem gap_fuel :
    (getAlignedPayload self first rem).raised ≠ some .fuel := by
  obtain ⟨st, he, hinv, hn⟩ := gapNeed_init self first rem
  rw [he]
  refine (gapLoop_need self first rem _ st hinv).2 (Nat.le_trans hn ?_)
  split <;> omega

theorem decStep_no_fuel (L : Nat) (st : DecSt) (f : Bytes) : (decStep L st f).2 ≠ some .fuel := by
  unfold decStep
  cases hu : PTFR.unpack { PTFR.fresh with length := L } f with
  | mk s r =>
    cases r with
    | ok u => exact gap_fuel s st.first st.rem
    | error e =>
      -- the parser raises `struct.error` or `Exception` only
      have h := (PTFR_decodes.error_iff _ f e).1 (congrArg Prod.snd hu)
      intro he
      cases he
      unfold ptfrRun at h
      split at h
      · cases h
      · split at h <;> cases h

/-- work bound by stride: 6 bytes per normal PTDP, 7 per low-latency PTDP, at most two passes -/
theorem gap_items_stride :
    (getAlignedPayload self first rem).items.length ≤
      (if self.llp then self.payload.length / 7 + 1 else 0) + (self.payload.length + (rem.getD []).length) / 6 + 1 := by
  obtain ⟨st, he, hinv, hn⟩ := gapNeed_init self first rem
  rw [he]
  exact Nat.le_trans (gapLoop_need self first rem _ st hinv).1 hn

end Acra.Lemmas.Chapter7
