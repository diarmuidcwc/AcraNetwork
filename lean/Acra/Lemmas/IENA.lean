/-
  The IENA family.  Positional IENA: the bytes `pack` emits under the well-formedness predicate and `unpack` on
  an arbitrary buffer, each as one equation, and `unpack` as a parser (`baseRun`, `IENA_decodes`).  The typed classes
  (IENA-M/Q/D/N) all run the base decoder and then a parameter loop over the decoded payload (`afterBase`): as
  parsers they are the base's, then the loop (`typedRun`, `typed_decodes`).  The IENA-M and IENA-Q parameters are two
  instances of one length-prefixed record (`lpRec`).
-/
import Acra.Model.IENA
import Acra.Lemmas.Walk
import Acra.Lemmas.Decoder
import Acra.Lemmas.ListAux
namespace Acra.Lemmas.IENA
open Acra.Py Acra.Model.IENA Acra.Gen.IENA Acra.Lemmas Acra.Lemmas.RecordsErr

/-- every field fits its width (the time is 16 + 32 bits on the wire), the payload is a whole number of 16-bit words
    and the size in words, with the 14 header and 2 trailer bytes, fits its 16-bit field -/
def IENA_WF (s : Base) : Prop :=
  s.key < 2^16 ∧ s.timeusec < 2^48 ∧ s.keystatus < 2^8 ∧ s.status < 2^8 ∧ s.sequence < 2^16 ∧
  s.endfield < 2^16 ∧ s.payload.length % 2 = 0 ∧ (s.payload.length + 16) / 2 < 2^16

/-- the seven values `pack` hands to `struct.pack(">HHHIBBH", …)`: the 48-bit time goes out as 16 + 32 bits -/
def hdrVals (s : Base) : List Nat :=
  [s.key, (s.payload.length + 16) / 2, s.timeusec / 4294967296, s.timeusec % 4294967296, s.keystatus, s.status,
    s.sequence]

/-- the bytes `IENA.pack` emits for a well-formed packet -/
def IENA_bytes (s : Base) : Bytes :=
  encCodes IENA_HEADER_FORMAT.big IENA_HEADER_FORMAT.codes (hdrVals s) ++ (s.payload ++ encInt true 2 s.endfield)

@[simp] theorem IENA_hdr_length (s : Base) :
    (encCodes IENA_HEADER_FORMAT.big IENA_HEADER_FORMAT.codes (hdrVals s)).length = 14 := by
  simp [hdrVals, IENA_HEADER_FORMAT, encCodes, Code.size]

theorem IENA_bytes_length (s : Base) : (IENA_bytes s).length = s.payload.length + 16 := by
  simp [IENA_bytes]; omega

theorem hdrVals_fits (s : Base) (h : IENA_WF s) : Fits IENA_HEADER_FORMAT.codes (hdrVals s) := by
  obtain ⟨h1, h2, h3, h4, h5, h6, h7, h8⟩ := h
  simp only [hdrVals, Fits, IENA_HEADER_FORMAT, Code.bound, and_true]
  omega

theorem IENA_pack_closed (s : Base) :
    Base.pack s = ({ s with size := (s.payload.length + IENA_HEADER_LENGTH + IENA_TRAILER_LENGTH) / 2 },
      (structPack IENA_HEADER_FORMAT (hdrVals s)).bind fun h =>
        (structPack IENA_pack_fmt0 [s.endfield]).bind fun t => .ok (h ++ s.payload ++ t)) := by
  simp only [Base.pack, IENA_HEADER_LENGTH, IENA_TRAILER_LENGTH, Nat.add_assoc, hdrVals]
  cases structPack IENA_HEADER_FORMAT _ with
  | error e => rfl
  | ok h => cases structPack IENA_pack_fmt0 _ <;> rfl

theorem IENA_pack_fst (s : Base) :
    (Base.pack s).1 = { s with size := (s.payload.length + IENA_HEADER_LENGTH + IENA_TRAILER_LENGTH) / 2 } :=
  congrArg Prod.fst (IENA_pack_closed s)

theorem IENA_pack_snd (s : Base) :
    (Base.pack s).2 =
      (structPack IENA_HEADER_FORMAT (hdrVals s)).bind fun h =>
        (structPack IENA_pack_fmt0 [s.endfield]).bind fun t => .ok (h ++ s.payload ++ t) :=
  congrArg Prod.snd (IENA_pack_closed s)

theorem IENA_pack_eq (s : Base) (h : IENA_WF s) :
    Base.pack s = ({ s with size := (s.payload.length + 16) / 2 }, .ok (IENA_bytes s)) := by
  have hf2 : Fits IENA_pack_fmt0.codes [s.endfield] := by
    simp only [Fits, IENA_pack_fmt0, Code.bound, and_true]; exact h.2.2.2.2.2.1
  rw [IENA_pack_closed, structPack_eq _ _ (hdrVals_fits s h), structPack_eq _ _ hf2, IENA_bytes]
  simp [Except.bind, IENA_pack_fmt0, encCodes, Code.size, IENA_HEADER_LENGTH, IENA_TRAILER_LENGTH, Nat.add_assoc]

/-- `IENA.__eq__` compares seven attributes (not `size`, not the length-check option) -/
theorem Base_eq_iff (a b : Base) : Base.eq a b = true ↔
    a.key = b.key ∧ a.timeusec = b.timeusec ∧ a.keystatus = b.keystatus ∧ a.status = b.status ∧
    a.sequence = b.sequence ∧ a.endfield = b.endfield ∧ a.payload = b.payload := by
  simp only [Base.eq, Bool.and_eq_true, beq_iff_eq, and_assoc]

theorem hdr_unpack (buf : Bytes) (h : 14 ≤ buf.length) :
    structUnpackFrom IENA_HEADER_FORMAT buf 0 =
      .ok [beNat (slice buf 0 2), beNat (slice buf 2 4), beNat (slice buf 4 6), beNat (slice buf 6 10),
        beNat (slice buf 10 11), beNat (slice buf 11 12), beNat (slice buf 12 14)] :=
  (structUnpackFrom_flds _ buf 0).trans (if_pos h)

theorem trailer_unpack (buf : Bytes) (h : 2 ≤ buf.length) :
    structUnpackFrom IENA_unpack_fmt0 buf (buf.length - 2) = .ok [beNat (slice buf (buf.length - 2) buf.length)] := by
  refine (structUnpackFrom_flds _ buf _).trans ((if_pos (Nat.le_of_eq (Nat.sub_add_cancel h))).trans ?_)
  exact congrArg (fun n => Except.ok [beNat (slice buf (buf.length - 2) n)]) (Nat.sub_add_cancel h)

/-- the state an accepted buffer decodes to; `le` is the decoder's own length-check option -/
def IENA_ofBytes (le : Bool) (buf : Bytes) : Base :=
  { key := beNat (slice buf 0 2), size := beNat (slice buf 2 4),
    timeusec := beNat (slice buf 6 10) + beNat (slice buf 4 6) * 4294967296,
    keystatus := beNat (slice buf 10 11), status := beNat (slice buf 11 12), sequence := beNat (slice buf 12 14),
    endfield := beNat (slice buf (buf.length - 2) buf.length), payload := slice buf 14 (buf.length - 2),
    lengthError := le }

/-- The header fields are stored before the size field is compared, so a buffer rejected for its size leaves them
    behind, around the old payload and end field.  The 2-byte trailer is not part of the 14-byte minimum. -/
theorem IENA_unpack_closed (t : Base) (buf : Bytes) :
    Base.unpack t buf =
      if buf.length < 14 then (t, .error .value)
      else if beNat (slice buf 2 4) * 2 ≠ buf.length ∧ t.lengthError = true then
        ({ IENA_ofBytes t.lengthError buf with payload := t.payload, endfield := t.endfield }, .error .generic)
      else (IENA_ofBytes t.lengthError buf, .ok ()) := by
  by_cases h : buf.length < 14
  · simp only [Base.unpack, IENA_HEADER_LENGTH, h, if_true]
  · simp only [Base.unpack, IENA_HEADER_LENGTH, h, if_false, hdr_unpack buf (by omega),
      trailer_unpack buf (by omega), Bool.and_eq_true, decide_eq_true_eq]
    rfl

/-- `IENA.unpack` as a parser of the bytes and the object's length-check option -/
def baseRun (le : Bool) (buf : Bytes) : R (Base × Unit) :=
  if buf.length < 14 then .error .value
  else if beNat (slice buf 2 4) * 2 ≠ buf.length ∧ le = true then .error .generic
  else .ok (IENA_ofBytes le buf, ())

theorem IENA_decodes : Decodes Base.unpack (·.lengthError) baseRun := by
  intro t buf
  show Agree _ (baseRun _ buf)
  rw [IENA_unpack_closed, baseRun]
  split
  · rfl
  · split <;> rfl

theorem baseRun_ok_iff (le : Bool) (buf : Bytes) (b : Base) : baseRun le buf = .ok (b, ()) ↔
    (14 ≤ buf.length ∧ (le = true → beNat (slice buf 2 4) * 2 = buf.length)) ∧ b = IENA_ofBytes le buf := by
  simp only [baseRun, R.ite_error_eq_ok, Except.ok.injEq, Prod.mk.injEq, and_true, Nat.not_lt, ne_eq, not_and, and_assoc,
    eq_comm (a := b), Decidable.not_imp_not]

theorem baseRun_error {le : Bool} {buf : Bytes} {e : Err} (h : baseRun le buf = .error e) :
    e = .value ∨ e = .generic := by
  simp only [baseRun, R.ite_error_eq_error, reduceCtorEq, and_false, or_false] at h
  rcases h with ⟨_, rfl⟩ | ⟨_, _, rfl⟩ <;> simp

theorem IENA_unpack_eq (s t : Base) (h : IENA_WF s) :
    Base.unpack t (IENA_bytes s) =
      ({ s with size := (s.payload.length + 16) / 2, lengthError := t.lengthError }, .ok ()) := by
  have hlen := IENA_bytes_length s
  -- the header read field by field is the header read as a whole
  have hh := (hdr_unpack (IENA_bytes s) (by omega)).symm
  rw [IENA_bytes, structUnpackFrom_enc0 _ _ _ (hdrVals_fits s h), ← IENA_bytes] at hh
  simp only [hdrVals, Except.ok.injEq, List.cons.injEq, and_true] at hh
  obtain ⟨e1, e2, e3, e4, e5, e6, e7⟩ := hh
  have hpl : slice (IENA_bytes s) 14 (s.payload.length + 16 - 2) = s.payload :=
    slice_mid _ _ _ _ _ (by simp) (by simp; omega)
  have hend : beNat (slice (IENA_bytes s) (s.payload.length + 16 - 2) (s.payload.length + 16)) = s.endfield := by
    have : slice (IENA_bytes s) (s.payload.length + 16 - 2) (s.payload.length + 16) = encInt true 2 s.endfield := by
      rw [← hlen, slice, List.take_length, IENA_bytes, ← List.append_assoc]
      exact drop_append_len _ _ _ (by simp; omega)
    rw [this]
    exact decInt_encInt2 true _ h.2.2.2.2.2.1
  obtain ⟨_, _, _, _, _, _, h7, _⟩ := h
  have hsz : ¬ ((s.payload.length + 16) / 2 * 2 ≠ s.payload.length + 16 ∧ t.lengthError = true) := by omega
  have ht : s.timeusec % 4294967296 + s.timeusec / 4294967296 * 4294967296 = s.timeusec := by omega
  rw [IENA_unpack_closed, if_neg (by omega)]
  simp only [IENA_ofBytes, hlen, e1, e2, e3, e4, e5, e6, e7, hpl, hend, hsz, if_false, ht]

theorem IENA_repack (s : Base) (le : Bool) (h : IENA_WF s) :
    (Base.pack { s with size := (s.payload.length + 16) / 2, lengthError := le }).2 = .ok (IENA_bytes s) :=
  congrArg Prod.snd (IENA_pack_eq { s with size := (s.payload.length + 16) / 2, lengthError := le } h)

/-- The shape of `IENAM/Q/D/N.unpack`: `setBase` is "this object with a new base", `mk` builds the object from the
    decoded base and parameters.  When the loop raises, the model leaves an empty parameter list: a modelling choice (Python keeps the
    parameters appended before the failing one; what a raising `unpack` leaves behind is not specified, DESIGN §3). -/
def afterBase (mk : Base → List π → σ) (loop : Base → R (List π)) (setBase : Base → σ) (tb : Base) (buf : Bytes) :
    σ × R Unit :=
  let (b', r) := Base.unpack tb buf
  match r with
  | .error e => (setBase b', .error e)
  | .ok () =>
    match loop b' with
    | .ok ps => (mk b' ps, .ok ())
    | .error e => (mk b' [], .error e)

/-- `afterBase` as a parser: the base's, then the loop on the payload it decoded -/
def typedRun (mk : Base → List π → σ) (loop : Base → R (List π)) (le : Bool) (buf : Bytes) : R (σ × Unit) :=
  (baseRun le buf).bind fun x => (loop x.1).map fun ps => (mk x.1 ps, ())

section typed
variable {π σ : Type} {mk : Base → List π → σ} {loop : Base → R (List π)} {unpack : σ → Bytes → σ × R Unit}
  {base : σ → Base}

theorem typed_decodes (setBase : σ → Base → σ) (h : ∀ t buf, unpack t buf = afterBase mk loop (setBase t) (base t) buf) :
    Decodes unpack (fun t => (base t).lengthError) (typedRun mk loop) :=
  IENA_decodes.over (base := base) (G := fun p => (loop p).map fun ps => (mk p ps, ()))
    (fun t buf p e hb => by rw [h, afterBase, hb])
    (fun t buf p hb => by
      rw [h, afterBase, hb]
      cases hl : loop p <;> simp only [hl, Except.map, Agree])

variable (D : Decodes unpack (fun t => (base t).lengthError) (typedRun mk loop)) {t : σ} {buf : Bytes}
include D

theorem typed_ok (h : (unpack t buf).2 = .ok ()) :
    ∃ ps, (Base.unpack (base t) buf).2 = .ok () ∧ loop (Base.unpack (base t) buf).1 = .ok ps ∧
      unpack t buf = (mk (Base.unpack (base t) buf).1 ps, .ok ()) := by
  obtain ⟨⟨b, u⟩, hx, hm⟩ := R.bind_eq_ok.1 (D.of_ok h)
  obtain ⟨ps, hl, hp⟩ := R.map_eq_ok.1 hm
  rw [IENA_decodes.of_run (t := base t) hx]
  exact ⟨ps, rfl, hl, Prod.ext (congrArg Prod.fst hp : _) h⟩

theorem typed_ok_iff :
    (unpack t buf).2 = .ok () ↔ (Base.unpack (base t) buf).2 = .ok () ∧ ∃ ps, loop (Base.unpack (base t) buf).1 = .ok ps := by
  refine ⟨fun h => have ⟨ps, hb, hl, _⟩ := typed_ok D h; ⟨hb, ps, hl⟩, fun ⟨hb, ps, hl⟩ => ?_⟩
  exact (D.ok_iff t buf ()).2 ⟨_, R.bind_eq_ok.2 ⟨_, IENA_decodes.of_ok hb, R.map_eq_ok.2 ⟨ps, hl, rfl⟩⟩⟩

theorem typed_error {e : Err} (h : (unpack t buf).2 = .error e) :
    (Base.unpack (base t) buf).2 = .error e ∨ loop (Base.unpack (base t) buf).1 = .error e := by
  rcases R.bind_eq_error ((D.error_iff _ _ _).1 h) with hb | ⟨⟨b, u⟩, hx, hl⟩
  · exact .inl ((IENA_decodes.error_iff _ _ _).2 hb)
  · rw [IENA_decodes.of_run (t := base t) hx]
    exact .inr (R.map_eq_error.1 hl)

end typed

/-- `hl` header bytes, among which `d` reads the dataset length; the dataset, refused with a bare `Exception` when it
    does not lie inside what remains; one pad byte after an odd dataset.
    `decM` is the instance with header `>HHH`, `decQ` the one with `>HH`. -/
def lpRec (hl : Nat) (hpos : 0 < hl) (d : Bytes → Nat) (mk : Bytes → π) : Walk.Rec π where
  hl := hl
  ok rem := d rem ≤ rem.length - hl
  decOk := fun _ => inferInstance
  err := .generic
  item := mk
  adv rem := hl + d rem + d rem % 2
  hl_pos := hpos
  adv_ge := fun _ _ _ => by omega
  err_ne := by decide

theorem lpRec_ok {π : Type} {hl : Nat} {hpos : 0 < hl} {d : Bytes → Nat} {mk : Bytes → π} {rem : Bytes} {p : π} {n : Nat}
    (h : (lpRec hl hpos d mk).run rem = .ok (p, n)) :
    p = mk rem ∧ n = hl + d rem + d rem % 2 ∧ hl + d rem ≤ rem.length := by
  obtain ⟨⟨h1, h2⟩, hp, hn⟩ := ((lpRec hl hpos d mk).run_ok_iff rem p n).1 h
  exact ⟨hp, hn, by show hl + d rem ≤ _; have : hl ≤ _ := h1; have : d rem ≤ _ := h2; omega⟩

/-- the parameter loop of `IENAM/Q.unpack` over the decoded payload -/
def loopLP (S : Walk.Rec π) (b : Base) : R (List π) := decOff S.run moreRem b.payload (b.payload.length + 1) 0

section loopLP
variable {π σ : Type} {hl : Nat} {hpos : 0 < hl} {d : Bytes → Nat} {mkP : Bytes → π} {mk : Base → List π → σ}
  {unpack : σ → Bytes → σ × R Unit} {base : σ → Base}
  (D : Decodes unpack (fun t => (base t).lengthError) (typedRun mk (loopLP (lpRec hl hpos d mkP)))) {t : σ} {buf : Bytes}
include D

theorem loopLP_error {e : Err} (h : (unpack t buf).2 = .error e) : e = .value ∨ e = .generic ∨ e = .struct := by
  rcases typed_error D h with hb | hlp
  · rcases baseRun_error ((IENA_decodes.error_iff _ _ _).1 hb) with rfl | rfl <;> simp
  · rcases (lpRec hl hpos d mkP).loop_error _ _ 0 (Nat.le_refl _) hlp with rfl | rfl
    · simp
    · exact .inr (.inl rfl)

/-- `+ (hl - 1)`: the last parameter may lack its pad byte -/
theorem loopLP_ok (h : (unpack t buf).2 = .ok ()) :
    ∃ ps, unpack t buf = (mk (Base.unpack (base t) buf).1 ps, .ok ()) ∧
      (Base.unpack (base t) buf).1.payload.length = buf.length - 16 ∧
      ps.length ≤ (Base.unpack (base t) buf).1.payload.length ∧
      ps.length * hl ≤ (buf.length - 16) + (hl - 1) ∧
      ∀ p ∈ ps, ∃ o, o + hl + d ((Base.unpack (base t) buf).1.payload.drop o) ≤ (Base.unpack (base t) buf).1.payload.length ∧
        p = mkP ((Base.unpack (base t) buf).1.payload.drop o) := by
  obtain ⟨ps, hb, hlp, he⟩ := typed_ok D h
  obtain ⟨⟨h14, _⟩, hu⟩ := (baseRun_ok_iff ..).1 (IENA_decodes.of_ok hb)
  have hlen : (Base.unpack (base t) buf).1.payload.length = buf.length - 16 := by
    rw [hu]; simp only [IENA_ofBytes, slice_length]; omega
  have hle := (lpRec hl hpos d mkP).loop_items_le hlp
  have hs : ps.length * hl ≤ _ - 0 + (hl - 1) := (lpRec hl hpos d mkP).loop_stride hlp
  refine ⟨ps, he, hlen, Nat.le_trans hle (Nat.sub_le _ _), by omega, fun p hp => ?_⟩
  obtain ⟨o, _, ⟨h1, h2⟩, hpo⟩ := (lpRec hl hpos d mkP).loop_mem hlp p hp
  have h1 : hl ≤ _ := h1
  have h2 : d _ ≤ _ := h2
  rw [List.length_drop] at h1 h2
  exact ⟨o, by omega, hpo⟩

end loopLP

def MParam_WF (p : MParam) : Prop := p.paramid < 65536 ∧ p.delay < 65536 ∧ p.dataset.length < 65536

def padM (n : Nat) : Bytes := if n % 2 = 1 then [0] else []

/-- one IENA-M parameter on the wire: id, delay, dataset length (big-endian 16-bit), dataset, pad to 16 bits -/
def encMb (p : MParam) : Bytes :=
  encInt true 2 p.paramid ++ (encInt true 2 p.delay ++ (encInt true 2 p.dataset.length ++
    (p.dataset ++ padM p.dataset.length)))

/-- the parameter an IENA-M step reads off the front of `rem` -/
def mkM (rem : Bytes) : MParam :=
  { paramid := beNat (slice rem 0 2), delay := beNat (slice rem 2 4),
    dataset := slice rem 6 (6 + beNat (slice rem 4 6)) }

/-- the IENA-M parameter as a record of the loop: header `>HHH`, the dataset length its third word -/
abbrev mRec : Walk.Rec MParam := lpRec 6 (by decide) (fun r => beNat (slice r 4 6)) mkM

/-- `struct.unpack` on `rem[:6]` reads three slices of `rem` itself; `(rem.take 6).length = min 6 rem.length` is 6
    exactly when the header is there, which is `struct.unpack`'s length test.  `decQ_eq` goes the same way. -/
theorem decM_eq : decM = mRec.run := by
  funext rem
  show _ = if rem.length < 6 then _ else if beNat (slice rem 4 6) ≤ rem.length - 6 then _ else _
  rw [decM, IENAM_FORMAT_LEN, structUnpack_flds _, List.length_take]
  by_cases h : rem.length < 6
  · rw [if_pos h, if_neg (by show ¬ min 6 rem.length = 6; omega)]
  · rw [if_neg h, if_pos (by show min 6 rem.length = 6; omega), show flds _ (rem.take 6) 0 IENAM_FORMAT.codes =
      [beNat (slice (rem.take 6) 0 2), beNat (slice (rem.take 6) 2 4), beNat (slice (rem.take 6) 4 6)] from rfl]
    simp only [slice_take _ 6 4 6 (Nat.le_refl 6), slice_take _ 6 0 2 (by omega), slice_take _ 6 2 4 (by omega),
      List.length_drop, pad_eq]
    split <;> split <;> first | rfl | omega

theorem mkM_dataset_length (rem : Bytes) (h : 6 + beNat (slice rem 4 6) ≤ rem.length) :
    (mkM rem).dataset.length = beNat (slice rem 4 6) := by
  simp only [mkM, slice_length]; omega

theorem unpackM_eq (t : MState) (buf : Bytes) :
    MState.unpack t buf =
      afterBase MState.mk (loopLP mRec) (fun b => { t with base := b }) t.base buf := by
  unfold loopLP MState.unpack afterBase
  rw [← decM_eq]
  rcases Base.unpack t.base buf with ⟨b, _ | ⟨⟨⟩⟩⟩
  · rfl
  · dsimp only
    cases decOff decM moreRem b.payload (b.payload.length + 1) 0 <;> rfl

theorem IENAM_decodes : Decodes MState.unpack (·.base.lengthError) (typedRun MState.mk (loopLP mRec)) :=
  typed_decodes (fun t b => { t with base := b }) unpackM_eq

theorem encMb_length (p : MParam) : (encMb p).length = 6 + p.dataset.length + p.dataset.length % 2 := by
  simp only [encMb, padM, List.length_append, encInt_length]
  split <;> simp <;> omega

theorem encMb_even (p : MParam) : (encMb p).length % 2 = 0 := by
  rw [encMb_length]; omega

theorem fitsM (p : MParam) (h : MParam_WF p) : Fits IENAM_FORMAT.codes [p.paramid, p.delay, p.dataset.length] := by
  simp only [Fits, IENAM_FORMAT, Code.bound, and_true]; exact h

theorem encMb_eq (p : MParam) :
    encMb p = encCodes IENAM_FORMAT.big IENAM_FORMAT.codes [p.paramid, p.delay, p.dataset.length] ++ (p.dataset ++ padM p.dataset.length) := by
  simp [encMb, encCodes, IENAM_FORMAT, Code.size]

theorem encM_eq (p : MParam) (h : MParam_WF p) : encM p = .ok (encMb p) := by
  have hz : Fits IENAM_pack_fmt0.codes [0] := by simp [Fits, IENAM_pack_fmt0, Code.bound]
  simp only [encM, structPack_eq _ _ (fitsM p h), structPack_eq _ _ hz, encMb_eq]
  by_cases hodd : p.dataset.length % 2 = 1
  · simp [hodd, padM, encCodes, IENAM_pack_fmt0, Code.size, encInt, beBytes, leBytes]
  · simp [hodd, padM]

theorem decM_encMb (p : MParam) (rest : Bytes) (h : MParam_WF p) :
    decM (encMb p ++ rest) = .ok (p, (encMb p).length) := by
  have hf := fitsM p h
  have hl : (encCodes IENAM_FORMAT.big IENAM_FORMAT.codes [p.paramid, p.delay, p.dataset.length]).length = 6 := encCodes_length _ _ _ hf
  have hlt : ¬ (p.dataset ++ (padM p.dataset.length ++ rest)).length < p.dataset.length := by simp
  rw [encMb_length, encMb_eq, List.append_assoc, List.append_assoc]
  simp only [decM, IENAM_FORMAT_LEN, take_append_len _ _ 6 hl.symm, drop_append_len _ _ 6 hl.symm,
    structUnpack_enc _ _ hf, slice_mid _ p.dataset _ 6 (6 + p.dataset.length) hl.symm (by rw [hl]), hlt, if_false,
    pad_eq]

theorem encAllM_eq (ps : List MParam) (h : ∀ p ∈ ps, MParam_WF p) :
    encAllM ps = .ok (ps.flatMap encMb) :=
  packLoop_eq _ _ ps rfl fun p hp ys r hr => by simp only [encAllM, encM_eq p (h p hp), hr]

theorem flatMap_encMb_even (ps : List MParam) : (ps.flatMap encMb).length % 2 = 0 :=
  flatMap_length_mod encMb 2 ps encMb_even

theorem decM_all (ps : List MParam) (h : ∀ p ∈ ps, MParam_WF p) :
    decOff decM moreRem (ps.flatMap encMb) ((ps.flatMap encMb).length + 1) 0 = .ok ps := by
  have := decM_eq ▸ mRec.loop_enc (Walk.more_iff fun _ _ => rfl) encMb id ps fun x hx rest => decM_eq ▸ decM_encMb x rest (h x hx)
  rwa [List.map_id] at this

/-! ### The packets the examples use as witnesses of the well-formedness predicates -/

theorem wf_witness : IENA_WF { Base.fresh with key := 0x1A, timeusec := 10000000, payload := [5, 0] } := by
  simp [IENA_WF, Base.fresh, IENA_DEFAULT_ENDFIELD]

/-- an odd dataset with its pad byte, then an empty dataset -/
theorem wfM_witness :
    (∀ p ∈ [(⟨1, 2, [0xAA, 0xBB, 0xCC]⟩ : MParam), ⟨3, 4, []⟩], MParam_WF p) ∧
    IENA_WF { Base.fresh with payload := [(⟨1, 2, [0xAA, 0xBB, 0xCC]⟩ : MParam), ⟨3, 4, []⟩].flatMap encMb } := by
  refine ⟨by simp [MParam_WF], ?_⟩
  simp [IENA_WF, Base.fresh, IENA_DEFAULT_ENDFIELD, encMb, padM]

end Acra.Lemmas.IENA
