/-
  Small classes outside the packet families, for the totality and state-independence statements of C08 / C13: ADTS and
  `ParserAligned.ARINC429` as parsers (`adtsRun`, `a429Run`), `H264.unpack` in closed form, the one error kind of the
  calendar step of `STANAG4609_SEI` (`fromTimestampF_error`), the UTF-8 length bound.
-/
import Acra.Model.ExtraMpeg
import Acra.Model.ExtraMisc
import Acra.Lemmas.Datetime
import Acra.Lemmas.Decoder
namespace Acra.Lemmas.Extra
open Acra.Py Acra.Py.Float Acra.Model.Extra Acra.Lemmas
open Acra.Gen.ExtraH264 Acra.Gen.ExtraADTS Acra.Gen.ExtraSEI Acra.Gen.ExtraPA Acra.Gen.ExtraNet
open Acra.Model.Ch11Pay.TimeFmt

theorem fromTimestampF_error (x : Rat) (e : Err) (h : fromTimestampF x = .error e) : e = .value := by
  unfold fromTimestampF at h
  cases hf : fromTimestamp ((splitSeconds x).1 : Int) with
  | error e' =>
    rw [hf] at h
    have : e' = e := by simpa [Except.map] using h
    subst this; exact Datetime.fromTimestamp_error _ _ hf
  | ok v => rw [hf] at h; simp [Except.map] at h

/-- `ADTS.unpack` as a parser: seven header bytes, the sync test, the fields; `version` is the object's -/
def adtsRun (version : Nat) (buf : Bytes) : R (ADTS × Unit) :=
  if buf.length < 7 then .error .struct else
  let w (i : Nat) := decInt true (slice buf i (i + 1))
  if ((w 1 >>> 4) <<< 8) + w 0 ≠ ADTS_SYNC then .error .generic else
  .ok ({ aac := if (w 1 &&& 1) != 0 then buf.drop 7 else buf.drop 9, version := version,
         sampling_freq := (w 2 >>> 2) &&& 0xF, length := (w 5 >>> 5) + (w 4 <<< 3) + ((w 3 &&& 0x3) <<< 11),
         no_crc := (w 1 &&& 1) != 0 }, ())

theorem ADTS_decodes : Decodes ADTS.unpack (·.version) adtsRun := by
  intro t buf
  refine .of_read ADTS_unpack_fmt0 buf 0 rfl (fun h => by rw [ADTS.unpack, h]) fun h _ => ?_
  rw [ADTS.unpack, h]
  simp only [ADTS_unpack_fmt0, flds, Code.size, Nat.zero_add, Nat.reduceAdd]
  split <;> rfl

theorem label_total (b : UInt8) : ∃ l, A429_LABEL_REVERSE[b.toNat]? = some l := by
  have h1 : A429_LABEL_REVERSE.length = 257 := by decide +kernel
  have h2 := b.toNat_lt
  have : b.toNat < A429_LABEL_REVERSE.length := by omega
  exact ⟨A429_LABEL_REVERSE[b.toNat], List.getElem?_eq_getElem this⟩

/-- the object a four-byte message decodes to -/
def a429Of (b1 b2 b3 : UInt8) (l : Nat) : A429 :=
  { parity := .float ((b1.toNat : Rat) / 128),
    ssm := .float (ratMod ((b1.toNat : Rat) / 32) 4),
    data := .float ((((b1.toNat % 32) * 256 + b2.toNat) * 64 : Nat) + (b3.toNat : Rat) / 4),
    sdi := .int (b3.toNat % 4),
    label := .int l }

theorem len4 (buf : Bytes) (h : buf.length = 4) : ∃ b1 b2 b3 b4, buf = [b1, b2, b3, b4] := by
  match buf, h with
  | [b1, b2, b3, b4], _ => exact ⟨b1, b2, b3, b4, rfl⟩

/-- `ARINC429.unpack` as a parser: exactly four bytes; the label table has an entry for every byte (`label_total`) -/
def a429Run (buf : Bytes) : R (A429 × Unit) :=
  match buf with
  | [b1, b2, b3, b4] => .ok (a429Of b1 b2 b3 (A429_LABEL_REVERSE.getD b4.toNat 0), ())
  | _ => .error .value

theorem A429_decodes : Decodes A429.unpack (fun _ => ()) fun _ => a429Run := by
  intro t buf
  show Agree _ (a429Run buf)
  unfold a429Run
  split
  · next b1 b2 b3 b4 =>
    obtain ⟨l, hl⟩ := label_total b4
    simp [A429.unpack, A429_MESSAGE_LEN, structUnpack, A429_unpack_fmt0, Fmt.size, codesSize, Code.size, unpackCodes,
      decInt, leNat, hl, a429Of, Agree]
  · next hne =>
    have : buf.length ≠ 4 := fun h => by obtain ⟨b1, b2, b3, b4, rfl⟩ := len4 buf h; exact hne _ _ _ _ rfl
    simp [A429.unpack, A429_MESSAGE_LEN, this, Agree]

theorem utf8Len_le (buf : Bytes) (n : Nat) (h : utf8Len buf = some n) : n ≤ buf.length := by
  fun_induction utf8Len buf generalizing n
  -- the rejecting branches return `none`
  all_goals try (cases h; done)
  · cases h; exact Nat.le_refl 0
  -- an accepting branch counts one character for the one to four bytes it consumes
  all_goals
    obtain ⟨m, hm, rfl⟩ := Option.map_eq_some_iff.mp h
    rename_i ih
    have := ih m hm
    simp only [List.length_cons]
    omega

/-- `H264.unpack` on every buffer: the object is left with no NAL, and the UTF-8 reading of the buffer alone decides
    between `True`, `UnicodeDecodeError` (a `ValueError`) and `TypeError` -/
theorem H264_unpack_eq (t : H264) (buf : Bytes) :
    H264.unpack t buf = (H264.fresh,
      match utf8Len buf with
      | none => .error .value
      | some n => if n < 4 then .ok true else .error .type) := by
  simp only [H264.unpack, horspoolStr, NAL_HEADER_TEXT_LEN, PY3, H264.fresh]
  cases utf8Len buf with
  | none => rfl
  | some n => by_cases h : n < 4 <;> simp [h]

end Acra.Lemmas.Extra
