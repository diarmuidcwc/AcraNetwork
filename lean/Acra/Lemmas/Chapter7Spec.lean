/-
  Chapter 7: the model's fragmentation / encapsulation on normal traffic versus the
  declarative Spec (`Spec.Ch7.chunks/codes/ptdpsOf/stream/starts/frames`).
-/
import Acra.Lemmas.Chapter7Layout
namespace Acra.Lemmas.Chapter7
open Acra.Py Acra.Model Acra.Model.Chapter7 Acra.Gen.Chapter7
open Acra.Spec.Ch7 (offset startsAux)

/-- `Spec.Ch7.chunks` stops silently when its fuel runs out; `cnt ≤ fuel` is what makes the `length + 1` that
    `Spec.Ch7.ptdpsOf` passes enough -/
theorem chunks_drop (b : Bytes) (n : Nat) (hn : b.length ≤ 2048 * n) (hn2 : 2048 * n < b.length + 2048) :
    ∀ fuel cnt i, i + cnt = n → 0 < cnt → cnt ≤ fuel →
      Spec.Ch7.chunks 2048 fuel (b.drop (2048 * i)) =
        (List.range' i cnt).map (fun j => slice b (2048 * j) (2048 * (j + 1))) := by
  intro fuel
  induction fuel with
  | zero => intro cnt i _ h1 h2; omega
  | succ fuel ih =>
    intro cnt i hi hc hf
    unfold Spec.Ch7.chunks
    by_cases hlen : (b.drop (2048 * i)).length ≤ 2048
    · rw [if_pos hlen]
      simp only [List.length_drop] at hlen
      have hc1 : cnt = 1 := by omega
      subst hc1
      simp only [List.range'_one, List.map_cons, List.map_nil, List.cons.injEq, and_true, slice]
      rw [List.take_of_length_le (by omega)]
    · rw [if_neg hlen]
      simp only [List.length_drop] at hlen
      obtain ⟨c, rfl⟩ : ∃ c, cnt = c + 1 := ⟨cnt - 1, by omega⟩
      rw [List.range'_succ, List.map_cons, List.drop_drop,
        show 2048 * i + 2048 = 2048 * (i + 1) by omega,
        ih c (i + 1) (by omega) (by omega) (by omega)]
      congr 1
      simp only [slice]
      rw [List.take_drop]
      congr 2

/-- the Spec's fragment code of piece `i` of `n` -/
def fragCode (n i : Nat) : Nat :=
  if i = 0 then PTDP_FRAGMENT_FIRST else if i = n - 1 then PTDP_FRAGMENT_LAST else PTDP_FRAGMENT_MIDDLE

theorem codes_eq (m : Nat) : Spec.Ch7.codes (m + 2) = (List.range (m + 2)).map (fragCode (m + 2)) := by
  apply List.ext_getElem
  · simp [Spec.Ch7.codes]
  · intro i h1 h2
    simp only [List.getElem_map, List.getElem_range, fragCode, PTDP_FRAGMENT_FIRST, PTDP_FRAGMENT_LAST,
      PTDP_FRAGMENT_MIDDLE, Spec.Ch7.codes]
    cases i with
    | zero => simp
    | succ i =>
      simp only [List.getElem_cons_succ, Nat.add_eq_zero_iff, Nat.succ_ne_self, and_false, if_false]
      by_cases hi : i = m
      · subst hi
        simp [List.getElem_append_right]
      · have hlt : i < m := by
          simp [Spec.Ch7.codes] at h1; omega
        rw [List.getElem_append_left (by simpa using hlt)]
        simp [hi]

theorem encB_fragOf (b : Bytes) (llp : Bool) (n i : Nat) :
    encB (fragOf b llp n i) =
      Spec.PTDP.encode (fragCode n i) 4 (slice b (2048 * i) (2048 * (i + 1))) := by
  rw [ptdp_wire_spec _ (fragOf_wf b llp n i).2.2]
  rfl

theorem ptdpsOf_encB_spec (b : Bytes) :
    (Model.Chapter7.ptdpsOf b false).map encB = Spec.Ch7.ptdpsOf b := by
  by_cases h : b.length ≤ 2048
  · have hc : Spec.Ch7.chunks 2048 (b.length + 1) b = [b] := by
      unfold Spec.Ch7.chunks; rw [if_pos h]
    rw [ptdpsOf_small b false h]
    simp only [Spec.Ch7.ptdpsOf, hc, List.length_singleton, Spec.Ch7.codes, List.zip_cons_cons,
      List.zip_nil_right, List.map_cons, List.map_nil, ptdp_wire_spec (mkPtdp false PTDP_FRAGMENT_COMPLETE b) h]
    rfl
  · have hn : b.length ≤ 2048 * ((b.length + 2047) / 2048) := by omega
    have hn2 : 2048 * ((b.length + 2047) / 2048) < b.length + 2048 := by omega
    have hc : Spec.Ch7.chunks 2048 (b.length + 1) b =
        (List.range ((b.length + 2047) / 2048)).map (fun j => slice b (2048 * j) (2048 * (j + 1))) := by
      have := chunks_drop b _ hn hn2 (b.length + 1) ((b.length + 2047) / 2048) 0 (by omega) (by omega)
        (by omega)
      rw [List.range_eq_range']
      simpa using this
    obtain ⟨m, hmn⟩ : ∃ m, (b.length + 2047) / 2048 = m + 2 := ⟨(b.length + 2047) / 2048 - 2, by omega⟩
    rw [ptdpsOf_large b false (by omega)]
    simp only [Spec.Ch7.ptdpsOf, hc, List.length_map, List.length_range]
    rw [hmn, codes_eq, List.map_map]
    apply List.ext_getElem
    · simp
    · intro i h1 h2
      simp [encB_fragOf]

theorem encs_eq_spec (pkts : List Bytes) : encs pkts = pkts.flatMap Spec.Ch7.ptdpsOf := by
  simp only [encs, ptdps, datapktsToPtdp, normal, List.flatMap_map, List.map_flatMap, ptdpsOf_encB_spec]

theorem stream_eq_spec (pkts : List Bytes) : stream pkts = Spec.Ch7.stream pkts := by
  simp only [stream, Spec.Ch7.stream, encs_eq_spec]

theorem starts_eq_spec (pkts : List Bytes) : startsAux 0 (encs pkts) = Spec.Ch7.starts pkts := by
  simp only [Spec.Ch7.starts, encs_eq_spec]

theorem spec_frames_eq (pkts : List Bytes) (L sid : Nat) :
    Spec.Ch7.frames L sid pkts =
      (mixFrames L sid (stream pkts) (startsAux 0 (encs pkts)) 0
        (List.replicate (((stream pkts).length - 1) / L) [])).map wire := by
  rw [mixFrames_replicate, List.map_map]
  simp only [Spec.Ch7.frames, ← stream_eq_spec, ← starts_eq_spec]
  apply List.map_congr_left
  intro k _
  simp only [Function.comp_def, Nat.zero_add, mixFrame_nil, ptfr_wire_spec]
  rfl

end Acra.Lemmas.Chapter7
