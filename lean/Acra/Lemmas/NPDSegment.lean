/-
  The NPD segment decoders on ANY bytes, in closed form: `NPDSegment.unpack` (the declared length is clamped
  and REWRITTEN), the typed parts of the ACQ, RS-232 and MIL-STD-1553 classes, `<segment class>.unpack` as
  "base, then typed part" for every class at once, and the loop step `decSeg`.

  Six acceptance notions occur in this file, NPDPack and NPDWalk; what each speaks about:
    `TypedHdrOk k pl`   the STORED payload `pl` of a decoded segment holds the typed header of class `k`
    `TypedFits k rem`   the same read on the RAW bytes `rem` (declared length and buffer length), before any clamping
    `SegOk k rem`       one loop step accepts: 8 header bytes and `TypedHdrOk k (segPayload rem)`
    `TypedOK k g`       (NPDPack) an OBJECT `g` about to be packed: its typed part reads back from the payload `pack` emits
    `SegWalk k` / `FitsSegs k`   (NPDWalk) the whole segment area: the inductive walk of `SegOk`, and its declarative reading
-/
import Acra.Model.NPD
import Acra.Lemmas.Bits
import Acra.Lemmas.Walk
namespace Acra.Lemmas.NPD
open Acra.Py Acra.Model.NPD Acra.Gen.NPD Acra.Lemmas.Bits Acra.Lemmas.Walk

/-- the length a segment header declares: big-endian 16 bits at bytes 4..5 -/
def segDeclared (rem : Bytes) : Nat := beNat ((rem.drop 4).take 2)

/-- the length the decoder ends up with: the declared one clamped into `[8, len(buffer)]`
    (`buffer[8:segmentlen]` clamps at the end of the buffer and is empty below 8; the `payload` setter then
    rewrites `segmentlen` to `8 + len(payload)`) -/
def segLen (rem : Bytes) : Nat := max 8 (min (segDeclared rem) rem.length)

def segAdvance (rem : Bytes) : Nat := roundUp4 (segLen rem)

/-- the payload the decoder stores: `buffer[8 : segLen]` -/
def segPayload (rem : Bytes) : Bytes := slice rem 8 (segLen rem)

theorem segPayload_eq (rem : Bytes) : segPayload rem = slice rem 8 (segDeclared rem) := slice_clamp rem 8 _

theorem segPayload_length (rem : Bytes) : (segPayload rem).length = segLen rem - 8 := by
  simp only [segPayload, slice_length, segLen]
  omega

theorem segLen_ge (rem : Bytes) : 8 ≤ segLen rem := by simp only [segLen]; omega

theorem segLen_le (rem : Bytes) (h8 : 8 ≤ rem.length) : segLen rem ≤ rem.length := by simp only [segLen]; omega

theorem segLen_exact (rem : Bytes) (h1 : 8 ≤ segDeclared rem) (h2 : segDeclared rem ≤ rem.length) :
    segLen rem = segDeclared rem := by simp only [segLen]; omega

theorem segAdvance_eq (rem : Bytes) : segAdvance rem = roundUp4 (max 8 (min (segDeclared rem) rem.length)) := rfl

theorem segAdvance_ge (rem : Bytes) : 8 ≤ segAdvance rem :=
  Nat.le_trans (segLen_ge rem) (roundUp4_ge _)

theorem segHdr_unpack (buf : Bytes) (h : 8 ≤ buf.length) :
    structUnpackFrom NPD_SEGMENT_HDR_FORMAT buf 0 =
      .ok [beNat (buf.take 4), segDeclared buf, beNat ((buf.drop 6).take 1), beNat ((buf.drop 7).take 1)] := by
  simp only [segDeclared, take_drop_slice]
  rw [take_eq_slice0]
  exact (structUnpackFrom_flds _ buf 0).trans (if_pos h)

/-- the object `NPDSegment.unpack` leaves behind, for any buffer holding the 8-byte header -/
def baseDecoded (t : Seg) (buf : Bytes) : Seg :=
  { t with timedelta := beNat (buf.take 4), segmentlen := segLen buf, errorcode := beNat ((buf.drop 6).take 1),
           flags := beNat ((buf.drop 7).take 1), payload := segPayload buf }

theorem unpackBase_closed (t : Seg) (buf : Bytes) :
    Seg.unpackBase t buf =
      if 8 ≤ buf.length then (baseDecoded t buf, .ok (buf.drop (segAdvance buf))) else (t, .error .struct) := by
  by_cases h8 : 8 ≤ buf.length
  · have hlen : (slice buf 8 (segDeclared buf)).length + 8 = segLen buf := by
      simp only [slice_length, segLen]; omega
    simp only [Seg.unpackBase, segHdr_unpack buf h8, Seg.setPayload, NPD_SEGMENT_HDR_LEN, hlen, roundUp4_eq_beq, baseDecoded,
      segPayload_eq, segAdvance, if_pos h8]
  · simp only [Seg.unpackBase, structUnpackFrom_short NPD_SEGMENT_HDR_FORMAT buf 0 (Nat.not_le.1 h8), if_neg h8]

/-- `ACQSegment`: `>BBH` (the top bit of the second byte is CAL), then as many 16-bit words as fit -/
theorem unpackACQ_closed (s : Seg) : s.unpackACQ =
    if 4 ≤ s.payload.length then
      ({ s with sfid := beNat (s.payload.take 1), cal := beNat ((s.payload.drop 1).take 1) / 128,
                words := unpackCodes true (List.replicate ((s.payload.length - 4) / 2) .u16) (s.payload.drop 4) }, .ok ())
    else (s, .error .struct) := by
  rw [Seg.unpackACQ, structUnpackFrom_flds _]
  simp only [take_drop_slice, structUnpackFrom_replicate (ACQSegment_unpack_fmt1 _) .u16 _ rfl]
  rw [take_eq_slice0]
  by_cases h : 4 ≤ s.payload.length
  · rw [if_pos h, if_pos (by exact h)]
    simp only [if_pos (show 4 + Code.u16.size * ((s.payload.length - 4) / 2) ≤ s.payload.length by show 4 + 2 * _ ≤ _; omega), shr, Nat.reducePow]
    rfl
  · rw [if_neg h, if_neg (by exact h)]

/-- `MIL1553Segment`: `>HBB`, the rest is message data -/
theorem unpack1553_closed (s : Seg) : s.unpack1553 =
    if 4 ≤ s.payload.length then
      ({ s with blockstatus := beNat (s.payload.take 2), gap1 := beNat ((s.payload.drop 2).take 1),
                gap2 := beNat ((s.payload.drop 3).take 1), data := s.payload.drop 4 }, .ok ())
    else (s, .error .struct) := by
  rw [Seg.unpack1553, structUnpackFrom_flds _]
  simp only [take_drop_slice]
  rw [take_eq_slice0]
  by_cases h : 4 ≤ s.payload.length
  · rw [if_pos h, if_pos (by exact h)]; rfl
  · rw [if_neg h, if_neg (by exact h)]

/-- `RS232Segment`: the status word, then as many sync bytes as its low three bits say, then data -/
theorem unpackRS232_closed (s : Seg) : s.unpackRS232 =
    if 2 ≤ s.payload.length then
      if 2 + beNat (s.payload.take 2) % 8 ≤ s.payload.length then
        ({ s with block_status := beNat (s.payload.take 2),
                  sync_bytes := unpackCodes true (List.replicate (beNat (s.payload.take 2) % 8) .u8) (s.payload.drop 2),
                  data := s.payload.drop (2 + beNat (s.payload.take 2) % 8) }, .ok ())
      else ({ s with block_status := beNat (s.payload.take 2) }, .error .struct)
    else (s, .error .struct) := by
  rw [Seg.unpackRS232, structUnpackFrom_flds _]
  simp only [structUnpackFrom_replicate (RS232Segment_unpack_fmt1 _) .u8 _ rfl, BSL_SYNC_COUNT_MASK, and_7]
  rw [take_eq_slice0]
  by_cases h2 : 2 ≤ s.payload.length
  · rw [if_pos h2, if_pos (by exact h2)]
    rw [show flds _ s.payload 0 RS232Segment_unpack_fmt0.codes = [beNat (slice s.payload 0 2)] from rfl]
    simp only [List.drop_zero, List.length_drop]
    by_cases hc : beNat (slice s.payload 0 2) % 8 > 0
    · by_cases hn : 2 + beNat (slice s.payload 0 2) % 8 ≤ s.payload.length
      · rw [if_pos hc, if_pos hn, if_pos (by show 0 + 1 * _ ≤ _; omega)]
      · rw [if_pos hc, if_neg hn, if_neg (by show ¬ 0 + 1 * _ ≤ _; omega)]
    · have h0 : beNat (slice s.payload 0 2) % 8 = 0 := by omega
      rw [if_neg hc, h0, if_pos (by omega)]
      rfl
  · rw [if_neg h2, if_neg (by exact h2)]

/-- the class-specific part of `<segment class>.unpack`, run after the base-class unpack -/
def typedUnpack (k : Kind) (s : Seg) : Seg × R Unit :=
  match k with
  | .acq => s.unpackACQ
  | .rs232 => s.unpackRS232
  | .mil1553 => s.unpack1553
  | _ => (s, .ok ())

/-- what the typed part of a segment class asks of the payload: ACQ reads `>BBH` (4 bytes; the word count is
    then derived from the length), MIL-STD-1553 reads `>HBB` (4 bytes), RS-232 reads the block status word and
    as many sync bytes as its low three bits say; the plain classes read nothing -/
def TypedHdrOk (k : Kind) (pl : Bytes) : Prop :=
  match k with
  | .acq => 4 ≤ pl.length
  | .mil1553 => 4 ≤ pl.length
  | .rs232 => 2 ≤ pl.length ∧ 2 + beNat (pl.take 2) % 8 ≤ pl.length
  | _ => True

instance (k : Kind) (pl : Bytes) : Decidable (TypedHdrOk k pl) := by
  unfold TypedHdrOk; cases k <;> exact inferInstance

theorem typedUnpack_snd (k : Kind) (s : Seg) :
    (typedUnpack k s).2 = if TypedHdrOk k s.payload then .ok () else .error .struct := by
  cases k <;> simp only [typedUnpack, TypedHdrOk, unpackACQ_closed, unpackRS232_closed, unpack1553_closed,
    apply_ite Prod.snd, ↓reduceIte]
  -- left over: RS-232, whose closed form nests the two checks that `TypedHdrOk` conjoins
  split <;> simp only [*, true_and, false_and, ↓reduceIte]

theorem typedUnpack_nofuel (k : Kind) (s : Seg) : (typedUnpack k s).2 ≠ .error .fuel := by
  rw [typedUnpack_snd]
  split <;> simp

theorem typedUnpack_ok_iff (k : Kind) (s : Seg) : (typedUnpack k s).2 = .ok () ↔ TypedHdrOk k s.payload := by
  rw [typedUnpack_snd]
  split <;> simp [*]

theorem typedUnpack_base (k : Kind) (s : Seg) :
    (typedUnpack k s).1.segmentlen = s.segmentlen ∧ (typedUnpack k s).1.payload = s.payload ∧
    (typedUnpack k s).1.timedelta = s.timedelta ∧ (typedUnpack k s).1.errorcode = s.errorcode ∧
    (typedUnpack k s).1.flags = s.flags ∧ (typedUnpack k s).1.kind = s.kind := by
  cases k <;> simp only [typedUnpack, unpackACQ_closed, unpackRS232_closed, unpack1553_closed]
  all_goals repeat' split
  all_goals trivial

theorem unpack_typed (s : Seg) (buf : Bytes) : s.unpack buf =
    match s.unpackBase buf with
    | (s1, .error e) => (s1, .error e)
    | (s1, .ok r) => ((typedUnpack s.kind s1).1, (typedUnpack s.kind s1).2.map fun _ => r) := by
  have hp (r : Bytes) (p : Seg × R Unit) : (match p with
      | (s2, .ok ()) => (s2, .ok r)
      | (s2, .error e) => (s2, .error e)) = (p.1, p.2.map fun _ => r) := by
    rcases p with ⟨s2, _ | ⟨⟨⟩⟩⟩ <;> rfl
  rcases hb : s.unpackBase buf with ⟨s1, e | r⟩ <;> simp only [Seg.unpack, hb]
  cases s.kind <;> first | rfl | exact hp r _

theorem Seg_unpack_closed (s : Seg) (buf : Bytes) (h8 : 8 ≤ buf.length) :
    s.unpack buf = ((typedUnpack s.kind (baseDecoded s buf)).1,
      (typedUnpack s.kind (baseDecoded s buf)).2.map fun _ => buf.drop (segAdvance buf)) := by
  rw [unpack_typed, unpackBase_closed, if_pos h8]

theorem Seg_unpack_short (s : Seg) (buf : Bytes) (h8 : ¬ 8 ≤ buf.length) : s.unpack buf = (s, .error .struct) := by
  rw [unpack_typed, unpackBase_closed, if_neg h8]

def SegOk (k : Kind) (rem : Bytes) : Prop := 8 ≤ rem.length ∧ TypedHdrOk k (segPayload rem)

instance (k : Kind) (rem : Bytes) : Decidable (SegOk k rem) := by unfold SegOk; exact inferInstance

theorem Seg_unpack_snd (s : Seg) (buf : Bytes) :
    (s.unpack buf).2 = if SegOk s.kind buf then .ok (buf.drop (segAdvance buf)) else .error .struct := by
  by_cases h8 : 8 ≤ buf.length
  · have hpl : (baseDecoded s buf).payload = segPayload buf := rfl
    simp only [Seg_unpack_closed s buf h8, typedUnpack_snd, hpl, SegOk, h8, true_and]
    split <;> rfl
  · simp only [Seg_unpack_short s buf h8, SegOk, h8, false_and, if_false]

theorem Seg_unpack_ok (s : Seg) (buf : Bytes) (h : SegOk s.kind buf) :
    s.unpack buf = ((typedUnpack s.kind (baseDecoded s buf)).1, .ok (buf.drop (segAdvance buf))) := by
  have hpl : (baseDecoded s buf).payload = segPayload buf := rfl
  rw [Seg_unpack_closed s buf h.1, (typedUnpack_ok_iff _ _).2 (hpl ▸ h.2)]
  rfl

theorem Seg_unpack_fields (s : Seg) (buf : Bytes) (g : Seg) (r : Bytes) (h : s.unpack buf = (g, .ok r)) :
    SegOk s.kind buf ∧ r = buf.drop (segAdvance buf) ∧ g.segmentlen = segLen buf ∧ g.payload = segPayload buf := by
  have hsnd := Seg_unpack_snd s buf
  rw [h] at hsnd
  by_cases hok : SegOk s.kind buf
  · rw [Seg_unpack_ok s buf hok, Prod.mk.injEq, Except.ok.injEq] at h
    obtain ⟨rfl, rfl⟩ := h
    exact ⟨hok, rfl, (typedUnpack_base _ _).1, (typedUnpack_base _ _).2.1⟩
  · simp only [hok, if_false, reduceCtorEq] at hsnd

theorem Seg_unpack_ok_iff (s : Seg) (buf : Bytes) : (∃ g r, s.unpack buf = (g, .ok r)) ↔ SegOk s.kind buf :=
  ⟨fun ⟨g, r, h⟩ => (Seg_unpack_fields s buf g r h).1, fun h => ⟨_, _, Seg_unpack_ok s buf h⟩⟩

/-- `struct.error` also when the typed header is incomplete; each segment is decoded into a new object; the loop
    advances by the REWRITTEN length rounded up to four -/
def segRec (k : Kind) : Rec Seg where
  hl := 8
  ok rem := TypedHdrOk k (segPayload rem)
  decOk := fun _ => inferInstance
  err := .struct
  item rem := (typedUnpack k (baseDecoded (Seg.fresh k) rem)).1
  adv := segAdvance
  hl_pos := by decide
  adv_ge := fun rem _ _ => segAdvance_ge rem
  err_ne := by decide

theorem decSeg_eq (k : Kind) : decSeg k = (segRec k).run := by
  funext rem
  have hk : (Seg.fresh k).kind = k := rfl
  show _ = if rem.length < 8 then _ else if TypedHdrOk k (segPayload rem) then _ else _
  by_cases hok : SegOk k rem
  · have hsl : (typedUnpack k (baseDecoded (Seg.fresh k) rem)).1.segmentlen = segLen rem := (typedUnpack_base _ _).1
    rw [if_neg (Nat.not_lt.2 hok.1), if_pos hok.2]
    simp only [decSeg, Seg_unpack_ok (Seg.fresh k) rem hok, hk, hsl, roundUp4_eq_beq]
    rfl
  · have hsnd : (Seg.unpack (Seg.fresh k) rem).2 = .error .struct := by rw [Seg_unpack_snd, hk, if_neg hok]
    rcases hu : Seg.unpack (Seg.fresh k) rem with ⟨g, r⟩
    rw [hu] at hsnd
    subst hsnd
    simp only [decSeg, hu]
    split
    · rfl
    · rw [if_neg fun h => hok ⟨by omega, h⟩]; rfl

theorem decSeg_ok (k : Kind) (rem : Bytes) (g : Seg) (n : Nat) (h : decSeg k rem = .ok (g, n)) :
    SegOk k rem ∧ n = segAdvance rem ∧ g.segmentlen = segLen rem ∧ g.payload = segPayload rem := by
  obtain ⟨hok, rfl, rfl⟩ := ((segRec k).run_ok_iff rem g n).1 (decSeg_eq k ▸ h)
  exact ⟨hok, rfl, (typedUnpack_base _ _).1, (typedUnpack_base _ _).2.1⟩

theorem progress_decSeg (k : Kind) : Progress (decSeg k) := decSeg_eq k ▸ (segRec k).progress

/-- the number of sync bytes an RS-232 segment announces: low three bits of the block status word, the
    big-endian 16 bits at bytes 8..9 of the segment -/
def rsSyncCount (rem : Bytes) : Nat := beNat ((rem.drop 8).take 2) % 8

/-- what the typed header of segment class `k` asks of the segment at the front of `rem`, on the bytes:
    ACQ (`>BBH`) and MIL-STD-1553 (`>HBB`): four bytes after the 8-byte segment header, inside the declared
    length and inside the buffer; RS-232: the status word and the sync bytes it counts, likewise;
    the plain classes (NPDSegment, PCMPacketizer, A429Segment): nothing -/
def TypedFits (k : Kind) (rem : Bytes) : Prop :=
  match k with
  | .acq => 12 ≤ segDeclared rem ∧ 12 ≤ rem.length
  | .mil1553 => 12 ≤ segDeclared rem ∧ 12 ≤ rem.length
  | .rs232 => 10 + rsSyncCount rem ≤ segDeclared rem ∧ 10 + rsSyncCount rem ≤ rem.length
  | _ => True

instance (k : Kind) (rem : Bytes) : Decidable (TypedFits k rem) := by
  unfold TypedFits; cases k <;> exact inferInstance

theorem segPayload_take2 (rem : Bytes) (h : 10 ≤ min (segDeclared rem) rem.length) :
    (segPayload rem).take 2 = (rem.drop 8).take 2 := by
  simp only [segPayload, slice, segLen]
  rw [List.drop_take, List.take_take]
  congr 1
  omega

theorem typedFits_plain (k : Kind) (rem : Bytes) (hk : k = .base ∨ k = .pcmpkt ∨ k = .a429) :
    TypedFits k rem ∧ TypedHdrOk k (segPayload rem) := by
  rcases hk with rfl | rfl | rfl <;> exact ⟨trivial, trivial⟩

theorem typedFits_rs232 (rem : Bytes) :
    TypedHdrOk .rs232 (segPayload rem) ↔
      10 + rsSyncCount rem ≤ segDeclared rem ∧ 10 + rsSyncCount rem ≤ rem.length := by
  simp only [TypedHdrOk, segPayload_length rem, rsSyncCount]
  by_cases h10 : 10 ≤ min (segDeclared rem) rem.length
  · rw [segPayload_take2 rem h10]
    simp only [segLen]
    omega
  · simp only [segLen]
    omega

theorem typedHdrOk_iff_fits (k : Kind) (rem : Bytes) :
    TypedHdrOk k (segPayload rem) ↔ TypedFits k rem := by
  cases k
  case rs232 => exact typedFits_rs232 rem
  all_goals simp only [TypedHdrOk, TypedFits, segPayload_length rem, segLen]
  all_goals omega

theorem segOk_iff_fits (k : Kind) (rem : Bytes) : SegOk k rem ↔ 8 ≤ rem.length ∧ TypedFits k rem :=
  and_congr_right fun _ => typedHdrOk_iff_fits k rem

end Acra.Lemmas.NPD
