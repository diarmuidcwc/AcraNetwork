/-
  The program map section of MPEG/PMT.py as bytes, without the transport packet around it.
  Descriptors and streams: well-formedness, what `pack` emits, what the two loops make of it.
  `MPEGPacketPMT.unpack` past the base class is a function `secParse` of the section bytes (from `table_id` to the end of
  the packet): no assumption on the two steering fields `section_length` and `program_info_length`; they are whatever the
  twelve header bytes say, and the Python slices clamp.  `pmtParse` is the decoder on the decoded transport packet.

  Whatever the section bytes are, IF the decoder returns a value it is (`sectionResultAny_ok`)

      "the four bytes that end where `section_length` says the section ends (clamped to the packet)  ==
       CRC-32/MPEG-2 of the bytes from `table_id` up to `section_length − 1` (clamped)"

  — `steerCoincides`, a decidable function of the bytes.  Where `section_length` is the true one, that is the comparison
  of the stored CRC with the CRC of the section (`steerCoincides_section`), and one changed byte makes it false
  (`steerCoincides_changed`).  A change of `section_length` moves both operands, so no CRC argument applies: the decoder
  is fooled exactly when the comparison happens to hold at the moved position.
-/
import Acra.Model.PMT
import Acra.Lemmas.MpegParse
import Acra.Lemmas.CRCMpeg
import Acra.Lemmas.MpegBytes
import Acra.Lemmas.ListAux

-- well-formedness and closed-form bytes of descriptors and streams, in the namespace of Lemmas/PMT.lean: the C06 and C14
-- statements about `MPEGPacketPMT` speak of them together with `PMT_WF`
namespace Acra.Lemmas.PMT
open Acra.Py Acra.Model.PMT

def Desc_WF (d : Desc) : Prop := ∃ t, d.tag = some t ∧ t < 256 ∧ d.data.length < 256

instance (d : Desc) : Decidable (Desc_WF d) :=
  match hd : d.tag with
  | none => isFalse (by rintro ⟨t, ht, _⟩; rw [hd] at ht; cases ht)
  | some t =>
    if h : t < 256 ∧ d.data.length < 256 then isTrue ⟨t, hd, h.1, h.2⟩
    else isFalse (by rintro ⟨t', ht, h1, h2⟩; rw [hd] at ht; cases ht; exact h ⟨h1, h2⟩)

def Desc_tag (d : Desc) : Nat := d.tag.getD 0

def Desc_bytes (d : Desc) : Bytes := encInt true 1 (Desc_tag d) ++ (encInt true 1 d.data.length ++ d.data)

def Stream_WF (s : Stream) : Prop :=
  s.streamtype < 256 ∧ s.elementary_pid < 8192 ∧ s.elementary_stream_descriptors.length < 4096

instance (x : Stream) : Decidable (Stream_WF x) := by unfold Stream_WF; infer_instance

def Stream_bytes (s : Stream) : Bytes :=
  encInt true 1 s.streamtype ++ (encInt true 2 (s.elementary_pid + 0xE000) ++
    (encInt true 2 (s.elementary_stream_descriptors.length + 0xF000) ++ s.elementary_stream_descriptors))

end Acra.Lemmas.PMT

-- the section as the decoder reads it (the two 12-bit steering fields, the ranges they designate, the comparison it
-- ends on): what the C07 statements on a corrupted `section_length` (Props/C07/MpegSteer.lean) are stated with
namespace Acra.Lemmas.MpegSteer
open Acra.Py Acra.Model.PMT

/-- `section_length` as the decoder reads it: low 12 bits of section bytes 1–2 -/
def fieldL (P : Bytes) : Nat := ((P.getD 1 0).toNat * 256 + (P.getD 2 0).toNat) % 4096

/-- `program_info_length` as the decoder reads it: low 12 bits of section bytes 10–11 -/
def fieldPil (P : Bytes) : Nat := ((P.getD 10 0).toNat * 256 + (P.getD 11 0).toNat) % 4096

/-- `stream_buf`: from the end of the descriptor loop to the end `section_length` designates (`P` = the section and
    whatever follows it in the packet; the slice clamps at the end of the packet); `section_length` counts the bytes
    after section byte 2, so the section ends at `L + 3` -/
def streamRange (P : Bytes) (L pil : Nat) : Bytes := slice P (12 + pil) (L + 3)

/-- `crc_buffer`: from `table_id` to four bytes before the designated end -/
def crcRange (P : Bytes) (L : Nat) : Bytes := slice P 0 (L - 1)

/-- the comparison the decoder ends in, as a function of the bytes: at least four bytes are left for the stored CRC and
    the LAST four bytes of `stream_buf`, big-endian, equal the CRC of `crc_buffer` -/
def steerCoincides (P : Bytes) (L pil : Nat) : Bool :=
  decide (4 ≤ (streamRange P L pil).length) &&
  (beNat ((streamRange P L pil).drop ((streamRange P L pil).length - 4)) == crc32mpeg2 (crcRange P L))

end Acra.Lemmas.MpegSteer

namespace Acra.Lemmas.PMTSection
open Acra.Py Acra.Model.MPEGTS Acra.Model.PMT Acra.Gen.MPEGTS Acra.Gen.PMT
open Acra.Lemmas.PMT Acra.Lemmas.MpegSteer Acra.Lemmas.CRCMpeg Acra.Lemmas.MpegBytes Acra.Lemmas.MpegParse Acra.Lemmas

theorem Desc_bytes_length (d : Desc) : (Desc_bytes d).length = 2 + d.data.length := by
  simp [Desc_bytes]; omega

theorem Desc_pack_eq (d : Desc) (h : Desc_WF d) : Desc.pack d = .ok (Desc_bytes d) := by
  obtain ⟨t, ht, h1, h2⟩ := h
  have hf : Fits DescriptorTag_FMT.codes [t, d.data.length] := by simp [Fits, DescriptorTag_FMT, Code.bound]; omega
  simp only [Desc.pack, ht]
  rw [structPack_eq _ _ hf]
  simp [Desc_bytes, Desc_tag, ht, encCodes, DescriptorTag_FMT, Code.size]

theorem Desc_len_eq (d : Desc) (h : Desc_WF d) : Desc.len d = (Desc_bytes d).length := by
  obtain ⟨t, ht, _, _⟩ := h
  simp [Desc.len, ht, Desc_bytes_length]

theorem packDescs_eq (ds : List Desc) (h : ∀ d ∈ ds, Desc_WF d) : packDescs ds = .ok (ds.flatMap Desc_bytes) :=
  packLoop_eq _ _ ds rfl fun d hd ys r hr => by simp only [packDescs, Desc_pack_eq d (h d hd), hr]

theorem descLen_sum (ds : List Desc) (h : ∀ d ∈ ds, Desc_WF d) :
    (ds.map Desc.len).sum = (ds.flatMap Desc_bytes).length := by
  rw [List.length_flatMap, List.map_congr_left fun d hd => Desc_len_eq d (h d hd)]

theorem Stream_bytes_length (s : Stream) : (Stream_bytes s).length = 5 + s.elementary_stream_descriptors.length := by
  simp [Stream_bytes]; omega

theorem Stream_pack_eq (s : Stream) (h : Stream_WF s) : Stream.pack s = .ok (Stream_bytes s) := by
  obtain ⟨h1, h2, h3⟩ := h
  have hf : Fits PMTStream_FMT.codes [s.streamtype, s.elementary_pid + 0xE000, s.elementary_stream_descriptors.length + 0xF000] := by
    simp [Fits, PMTStream_FMT, Code.bound]; omega
  simp only [Stream.pack]
  rw [structPack_eq _ _ hf]
  simp [Stream_bytes, encCodes, PMTStream_FMT, Code.size]

theorem packStreams_eq (ss : List Stream) (h : ∀ s ∈ ss, Stream_WF s) : packStreams ss = .ok (ss.flatMap Stream_bytes) :=
  packLoop_eq _ _ ss rfl fun s hs ys r hr => by simp only [packStreams, Stream_pack_eq s (h s hs), hr]

theorem streamLen_sum (ss : List Stream) : (ss.map Stream.len).sum = (ss.flatMap Stream_bytes).length := by
  rw [List.length_flatMap]
  exact congrArg List.sum (List.map_congr_left fun s _ => by rw [Stream_bytes_length]; rfl)

theorem Desc_unpack_eq (buf : Bytes) :
    Desc.unpack buf =
      if buf.length < 2 then .error .struct
      else .ok ({ tag := some (decInt true (slice buf 0 1)), data := slice buf 2 (2 + decInt true (slice buf 1 2)) },
                buf.drop (2 + decInt true (slice buf 1 2))) := by
  unfold Desc.unpack
  rw [unpack_u8u8 DescriptorTag_FMT rfl]
  by_cases h : buf.length < 2
  · rw [if_neg (by omega), if_pos h]
  · rw [if_pos (by omega), if_neg h]; rfl

theorem Stream_unpack_eq (buf : Bytes) :
    Stream.unpack buf =
      if buf.length < 5 then .error .struct
      else .ok ({ streamtype := decInt true (slice buf 0 1), elementary_pid := decInt true (slice buf 1 3) % 8192,
                  elementary_stream_descriptors := slice buf 5 (5 + decInt true (slice buf 3 5) % 4096) },
                buf.drop (decInt true (slice buf 3 5) % 4096 + 5)) := by
  rw [Stream.unpack, structUnpackFrom_flds, show 0 + PMTStream_FMT.size = 5 from rfl]
  by_cases h : buf.length < 5
  · rw [if_neg (by omega), if_pos h]
  · rw [if_pos (by omega), if_neg h]; rfl

theorem Desc_unpack_bytes (d : Desc) (rest : Bytes) (h : Desc_WF d) :
    Desc.unpack (Desc_bytes d ++ rest) = .ok (d, rest) := by
  obtain ⟨t, ht, h1, h2⟩ := h
  have d0 : (Desc_bytes d ++ rest).drop 0 = encInt true 1 t ++ (encInt true 1 d.data.length ++ (d.data ++ rest)) := by
    simp [Desc_bytes, Desc_tag, ht, List.append_assoc]
  have d1 : (Desc_bytes d ++ rest).drop 1 = _ := drop_step d0
  have d2 : (Desc_bytes d ++ rest).drop 2 = _ := drop_step d1
  rw [Desc_unpack_eq, if_neg (by simp [Desc_bytes_length]; omega), decInt_slice_enc 1 d0 h1, decInt_slice_enc 1 d1 h2,
    ← take_drop_slice, d2, List.take_left, drop_step d2, ← ht]

theorem decDescs_flatMap (ds : List Desc) (h : ∀ d ∈ ds, Desc_WF d) (fuel : Nat)
    (hf : ds.length < fuel) : decDescs fuel (ds.flatMap Desc_bytes) = .ok ds := by
  induction ds generalizing fuel with
  | nil =>
    cases fuel with
    | zero => omega
    | succ f => simp [decDescs]
  | cons d ds ih =>
    cases fuel with
    | zero => omega
    | succ f =>
      have hpos : 0 < (List.flatMap Desc_bytes (d :: ds)).length := by
        simp [List.flatMap_cons, Desc_bytes_length]; omega
      unfold decDescs
      rw [if_pos hpos, List.flatMap_cons, Desc_unpack_bytes d _ (h d (by simp))]
      simp only
      rw [ih (fun x hx => h x (by simp [hx])) f (by simp at hf; omega)]

theorem Stream_unpack_bytes (x : Stream) (rest : Bytes) (h : Stream_WF x) :
    Stream.unpack (Stream_bytes x ++ rest) = .ok (x, rest) := by
  obtain ⟨h1, h2, h3⟩ := h
  have d0 : (Stream_bytes x ++ rest).drop 0 = encInt true 1 x.streamtype ++ (encInt true 2 (x.elementary_pid + 0xE000) ++
      (encInt true 2 (x.elementary_stream_descriptors.length + 0xF000) ++ (x.elementary_stream_descriptors ++ rest))) := by
    simp [Stream_bytes, List.append_assoc]
  have d1 : (Stream_bytes x ++ rest).drop 1 = _ := drop_step d0
  have d3 : (Stream_bytes x ++ rest).drop 3 = _ := drop_step d1
  have d5 : (Stream_bytes x ++ rest).drop 5 = _ := drop_step d3
  have e1 : (x.elementary_pid + 57344) % 8192 = x.elementary_pid := by omega
  have e2 : (x.elementary_stream_descriptors.length + 61440) % 4096 = x.elementary_stream_descriptors.length := by omega
  rw [Stream_unpack_eq, if_neg (by simp [Stream_bytes_length]; omega), decInt_slice_enc 1 d0 h1, decInt_slice_enc 2 d1 (by omega),
    decInt_slice_enc 2 d3 (by omega), e1, e2, ← take_drop_slice, d5, List.take_left, Nat.add_comm, drop_step d5]

theorem decStreams_flatMap (ss : List Stream) (h : ∀ x ∈ ss, Stream_WF x) (tail : Bytes) (ht : tail.length = 4)
    (fuel : Nat) (hf : ss.length < fuel) :
    decStreams fuel (ss.flatMap Stream_bytes ++ tail) = .ok (ss, tail) := by
  induction ss generalizing fuel with
  | nil =>
    cases fuel with
    | zero => omega
    | succ f => simp [decStreams, PMT_CRC_LEN, ht]
  | cons x xs ih =>
    cases fuel with
    | zero => omega
    | succ f =>
      have hpos : PMT_CRC_LEN < (List.flatMap Stream_bytes (x :: xs) ++ tail).length := by
        simp [List.flatMap_cons, Stream_bytes_length, PMT_CRC_LEN, ht]; omega
      unfold decStreams
      rw [if_pos hpos, List.flatMap_cons, List.append_assoc, Stream_unpack_bytes x _ (h x (by simp))]
      simp only
      rw [ih (fun y hy => h y (by simp [hy])) f (by simp at hf; omega)]

theorem flatMap_desc_len (ds : List Desc) : ds.length ≤ (ds.flatMap Desc_bytes).length :=
  flatMap_length_ge Desc_bytes ds fun d _ => by rw [Desc_bytes_length]; omega

theorem flatMap_stream_len (ss : List Stream) : ss.length ≤ (ss.flatMap Stream_bytes).length :=
  flatMap_length_ge Stream_bytes ss fun d _ => by rw [Stream_bytes_length]; omega

/-- the object `MPEGPacketPMT.unpack` builds from the twelve fixed section bytes, the two loops and the stored CRC
    (`pkt` is filled in by `pmtParse`) -/
def secObj (P : Bytes) (ds : List Desc) (ss : List Stream) (crc : Nat) : PMT :=
  { pkt := Pkt.fresh, tableid := decInt true (slice P 0 1), syntax_indicator := decInt true (slice P 1 3) / 32768,
    program_number := decInt true (slice P 3 5), version := decInt true (slice P 5 6) / 2 % 32,
    current_next_indicator := decInt true (slice P 5 6) % 2, sectionNo := decInt true (slice P 6 7),
    last_section := decInt true (slice P 7 8), pcr_pid := decInt true (slice P 8 10) % 8192,
    program_info_len := fieldPil P, streams := ss, descriptor_tags := ds, crc := some crc }

/-- `MPEGPacketPMT.unpack` on the section bytes `P` (at least the twelve fixed ones): the two loops, the CRC -/
def secParse (P : Bytes) : R (PMT × Bool) :=
  match (if 0 < fieldPil P then
      decDescs ((slice P 12 (12 + fieldPil P)).length + 1) (slice P 12 (12 + fieldPil P)) else .ok []) with
  | .error e => .error e
  | .ok ds =>
    if (crcRange P (fieldL P)).length = 0 then .error .index else
    match decStreams ((streamRange P (fieldL P) (fieldPil P)).length + 1) (streamRange P (fieldL P) (fieldPil P)) with
    | .error e => .error e
    | .ok (ss, left) =>
      if left.length = 4 then
        .ok (secObj P ds ss (decInt true left), decInt true left == crc32mpeg2 (crcRange P (fieldL P)))
      else .error .struct

/-- the value `MPEGPacketPMT.unpack` returns once the base class has decoded the packet, for a section `P` -/
def sectionResultAny (P : Bytes) : R Bool := (secParse P).map (·.2)

/-- `MPEGPacketPMT.unpack` on the decoded transport packet: `struct.error` unless the payload holds the pointer byte
    and, `pointer_field` bytes after it, the twelve fixed bytes of the section -/
def pmtParse (p : Pkt) : R (PMT × Bool) :=
  if p.payload.length < 1 then .error .struct else
  let P := p.payload.drop (1 + decInt true (slice p.payload 0 1))
  if P.length < 12 then .error .struct else (secParse P).map fun x => ({ x.1 with pkt := p }, x.2)

theorem unpack_PMT_FMT (buf : Bytes) (off : Nat) :
    structUnpackFrom PMT_FMT buf off =
      if off + 12 ≤ buf.length then
        .ok [decInt true (slice buf off (off + 1)), decInt true (slice buf (off + 1) (off + 3)),
             decInt true (slice buf (off + 3) (off + 5)), decInt true (slice buf (off + 5) (off + 6)),
             decInt true (slice buf (off + 6) (off + 7)), decInt true (slice buf (off + 7) (off + 8)),
             decInt true (slice buf (off + 8) (off + 10)), decInt true (slice buf (off + 10) (off + 12))]
      else .error .struct := structUnpackFrom_flds _ buf off

theorem decInt_pair (P : Bytes) (k : Nat) (h : k + 2 ≤ P.length) :
    decInt true (slice P k (k + 2)) = (P.getD k 0).toNat * 256 + (P.getD (k + 1) 0).toNat := by
  rw [← take_drop_slice]; exact beNat_pair P k h

/-- the three slices of the payload the model takes (descriptor loop, stream loop up to the designated end, CRC range;
    offsets as the model computes them), as slices of the section -/
theorem payload_slices (pl : Bytes) (ptr L pil : Nat) :
    slice pl (PMT_FMT.size + PMT_FMT_POINTER.size + ptr) (PMT_FMT.size + PMT_FMT_POINTER.size + ptr + pil) =
      slice (pl.drop (1 + ptr)) 12 (12 + pil) ∧
    slice pl (PMT_FMT.size + PMT_FMT_POINTER.size + ptr + pil)
      (L + PMT_HDR_LEN_NOT_INCL_IN_LEN + (PMT_FMT.size + PMT_FMT_POINTER.size + ptr + pil) - PMT_FMT.size - pil) =
      streamRange (pl.drop (1 + ptr)) L pil ∧
    slice pl (ptr + PMT_FMT_POINTER.size)
      (L + PMT_HDR_LEN_NOT_INCL_IN_LEN + (PMT_FMT.size + PMT_FMT_POINTER.size + ptr + pil) - PMT_FMT.size - pil - PMT_CRC_LEN) =
      crcRange (pl.drop (1 + ptr)) L := by
  have h13 : PMT_FMT.size + PMT_FMT_POINTER.size + ptr = 1 + ptr + 12 := by
    simp only [PMT_FMT, PMT_FMT_POINTER, Fmt.size, codesSize, Code.size]; omega
  have h1 : ptr + PMT_FMT_POINTER.size = 1 + ptr + 0 := by
    simp only [PMT_FMT_POINTER, Fmt.size, codesSize, Code.size]; omega
  have h3 : PMT_HDR_LEN_NOT_INCL_IN_LEN = 3 := rfl
  have h4 : PMT_CRC_LEN = 4 := rfl
  have h12 : PMT_FMT.size = 12 := rfl
  simp only [streamRange, crcRange, slice_drop]
  refine ⟨by rw [h13]; congr 1; omega, by rw [h13, h3, h12]; congr 1 <;> omega, ?_⟩
  rw [h13, h1, h3, h4, h12]
  -- with `section_length` 0 the model's end `… - 4` lies one before the start: both slices are empty
  by_cases hL : L = 0
  · subst hL
    rw [List.eq_nil_of_length_eq_zero (l := slice pl _ _) (by rw [slice_length]; omega),
      List.eq_nil_of_length_eq_zero (l := slice pl _ _) (by rw [slice_length]; omega)]
  · congr 1; omega

theorem PMT_after (t : PMT) (buf : Bytes) (p : Pkt) (hp : Pkt.unpack t.pkt buf = (p, .ok ())) :
    Agree (PMT.unpack t buf) (pmtParse p) := by
  unfold pmtParse
  by_cases h1 : p.payload.length < 1
  · have h := structUnpackFrom_short PMT_FMT_POINTER p.payload 0 (by rw [Nat.zero_add]; exact h1)
    rw [if_pos h1]
    unfold PMT.unpack
    rw [hp]
    simp only [h]
    exact rfl
  · rw [if_neg h1]
    have hptr := unpack_u8 PMT_FMT_POINTER rfl p.payload 0
    rw [if_pos (by omega)] at hptr
    generalize hP : p.payload.drop (1 + decInt true (slice p.payload 0 1)) = P
    have hlen : P.length = p.payload.length - (1 + decInt true (slice p.payload 0 1)) := by rw [← hP, List.length_drop]
    by_cases h12 : P.length < 12
    · have h := structUnpackFrom_short PMT_FMT p.payload (PMT_FMT_POINTER.size + decInt true (slice p.payload 0 1))
        (by simp only [PMT_FMT, PMT_FMT_POINTER, Fmt.size, codesSize, Code.size]; omega)
      simp only [if_pos h12]
      unfold PMT.unpack
      rw [hp]
      simp only [hptr, h]
      exact rfl
    · have hfix := unpack_PMT_FMT p.payload (PMT_FMT_POINTER.size + decInt true (slice p.payload 0 1))
      rw [if_pos (by simp only [PMT_FMT_POINTER, Fmt.size, codesSize, Code.size]; omega)] at hfix
      simp only [if_neg h12]
      -- the eight header values and the three slices, as slices of the section
      have hs : ∀ lo hi, slice p.payload (PMT_FMT_POINTER.size + decInt true (slice p.payload 0 1) + lo)
          (PMT_FMT_POINTER.size + decInt true (slice p.payload 0 1) + hi) = slice P lo hi := fun lo hi => by
        rw [← hP, slice_drop]; rfl
      have hs0 := hs 0 1
      rw [Nat.add_zero] at hs0
      simp only [hs0, hs] at hfix
      have hL : decInt true (slice P 1 3) % 4096 = fieldL P := congrArg (· % 4096) (decInt_pair P 1 (by omega))
      have hpil : decInt true (slice P 10 12) % 4096 = fieldPil P := congrArg (· % 4096) (decInt_pair P 10 (by omega))
      obtain ⟨hdbuf, hsbuf, hcrcbuf⟩ := payload_slices p.payload (decInt true (slice p.payload 0 1)) (fieldL P) (fieldPil P)
      rw [hP] at hdbuf hsbuf hcrcbuf
      unfold PMT.unpack secParse
      rw [hp]
      simp only [hptr, hfix, hL, hpil, hdbuf, hsbuf, hcrcbuf, unpack_u32 PMT_unpack_fmt0 rfl]
      split
      · next e hd => rw [hd]; exact rfl
      · next ds hd =>
        rw [hd]
        split
        · exact rfl
        · split
          · next e hs => rw [hs]; exact rfl
          · next ss left hs =>
            rw [hs]
            by_cases h4 : left.length = 4
            · simp only [h4, ↓reduceIte]; exact rfl
            · simp only [h4, ↓reduceIte]; exact rfl

theorem PMT_decodes : Decodes PMT.unpack (fun _ => ()) fun _ buf => (pktRun buf).bind fun x => pmtParse x.1 :=
  Pkt_decodes.over (base := PMT.pkt) (fun t buf p e hp => by unfold PMT.unpack; rw [hp]) PMT_after

/-- where an exception of `secParse` comes from: a CRC field that is not four bytes (`struct.error`), an empty
    CRC-protected range (`IndexError`), or one of the two loops -/
theorem secParse_error_cases {P : Bytes} {e : Err} (h : secParse P = .error e) :
    e = .struct ∨ (e = .index ∧ (crcRange P (fieldL P)).length = 0) ∨
    (∃ buf, decDescs (buf.length + 1) buf = .error e) ∨ (∃ buf, decStreams (buf.length + 1) buf = .error e) := by
  unfold secParse at h
  split at h
  · next hd =>
    cases h
    split at hd
    · exact .inr (.inr (.inl ⟨_, hd⟩))
    · cases hd
  · split at h
    · next hcrc => cases h; exact .inr (.inl ⟨rfl, hcrc⟩)
    · split at h
      · next hs => cases h; exact .inr (.inr (.inr ⟨_, hs⟩))
      · split at h
        · cases h
        · cases h; exact .inl rfl

theorem fieldL_changed (pre suf : Bytes) (a a' : UInt8) (h2 : pre.length ≠ 2)
    (h1 : pre.length = 1 → a.toNat % 16 = a'.toNat % 16) : fieldL (pre ++ a' :: suf) = fieldL (pre ++ a :: suf) :=
  low12_changed pre suf a a' 1 h2 h1

theorem fieldPil_changed (pre suf : Bytes) (a a' : UInt8) (h11 : pre.length ≠ 11)
    (h10 : pre.length = 10 → a.toNat % 16 = a'.toNat % 16) : fieldPil (pre ++ a' :: suf) = fieldPil (pre ++ a :: suf) :=
  low12_changed pre suf a a' 10 h11 h10

theorem secParse_ok_cases {P : Bytes} {x : PMT × Bool} (h : secParse P = .ok x) :
    ∃ ds ss left, (if 0 < fieldPil P then decDescs ((slice P 12 (12 + fieldPil P)).length + 1) (slice P 12 (12 + fieldPil P))
        else .ok []) = .ok ds ∧
      decStreams ((streamRange P (fieldL P) (fieldPil P)).length + 1) (streamRange P (fieldL P) (fieldPil P)) = .ok (ss, left) ∧
      x.1 = secObj P ds ss (decInt true left) := by
  unfold secParse at h
  split at h
  · cases h
  · next ds hd =>
    split at h
    · cases h
    · split at h
      · cases h
      · next ss left hs =>
        split at h
        · cases h; exact ⟨ds, ss, left, hd, hs, rfl⟩
        · cases h

theorem pmtParse_cases (p : Pkt) :
    pmtParse p = .error .struct ∨
    (1 ≤ p.payload.length ∧ 12 ≤ (p.payload.drop (1 + decInt true (slice p.payload 0 1))).length ∧
      pmtParse p = (secParse (p.payload.drop (1 + decInt true (slice p.payload 0 1)))).map
        fun x => ({ x.1 with pkt := p }, x.2)) := by
  unfold pmtParse
  by_cases h1 : p.payload.length < 1
  · exact .inl (if_pos h1)
  · by_cases h12 : (p.payload.drop (1 + decInt true (slice p.payload 0 1))).length < 12
    · exact .inl ((if_neg h1).trans (if_pos h12))
    · exact .inr ⟨by omega, by omega, (if_neg h1).trans (if_neg h12)⟩

theorem pmtParse_section (p : Pkt) (P : Bytes) (hpl : p.payload = (0 : UInt8) :: P) (hP : 12 ≤ P.length) :
    pmtParse p = (secParse P).map fun x => ({ x.1 with pkt := p }, x.2) := by
  have hptr : decInt true (slice p.payload 0 1) = 0 := by rw [hpl]; rfl
  have hd : p.payload.drop (1 + 0) = P := by rw [hpl]; rfl
  have hl : ¬ p.payload.length < 1 := by rw [hpl, List.length_cons]; omega
  unfold pmtParse
  simp only [hptr, hd]
  rw [if_neg hl, if_neg (by omega)]

theorem PMT_unpack_any (t : PMT) (buf : Bytes) (p : Pkt) (P : Bytes)
    (hp : Pkt.unpack t.pkt buf = (p, .ok ())) (hpl : p.payload = (0 : UInt8) :: P) (hP : 12 ≤ P.length) :
    (PMT.unpack t buf).2 = sectionResultAny P := by
  rw [PMT_decodes.snd_eq, (Pkt_decodes.eq_ok_iff ..).1 hp, sectionResultAny]
  show (pmtParse p).map (·.2) = _
  rw [pmtParse_section p P hpl hP]
  cases secParse P <;> rfl

theorem Stream_unpack_rest (buf : Bytes) (x : Stream) (rest : Bytes) (h : Stream.unpack buf = .ok (x, rest)) :
    ∃ n, rest = buf.drop n := by
  rw [Stream_unpack_eq] at h
  split at h
  · cases h
  · cases h; exact ⟨_, rfl⟩

theorem decStreams_left (fuel : Nat) (buf : Bytes) (ss : List Stream) (left : Bytes)
    (h : decStreams fuel buf = .ok (ss, left)) : left.length ≤ 4 ∧ ∃ n, left = buf.drop n := by
  induction fuel generalizing buf ss with
  | zero => simp [decStreams] at h
  | succ f ih =>
    unfold decStreams at h
    split at h
    · split at h
      · simp at h
      · rename_i x rest hx
        split at h
        · rename_i ss' left' hrec
          simp only [Except.ok.injEq, Prod.mk.injEq] at h
          obtain ⟨_, rfl⟩ := h
          obtain ⟨hl, n, hn⟩ := ih rest ss' hrec
          obtain ⟨m, hm⟩ := Stream_unpack_rest buf x rest hx
          exact ⟨hl, m + n, by rw [hn, hm, List.drop_drop]⟩
        · simp at h
    · rename_i hc
      simp only [Except.ok.injEq, Prod.mk.injEq] at h
      obtain ⟨_, rfl⟩ := h
      exact ⟨by simp [PMT_CRC_LEN] at hc; omega, 0, rfl⟩

theorem sectionResultAny_ok (P : Bytes) (b : Bool) (hb : sectionResultAny P = .ok b) :
    b = steerCoincides P (fieldL P) (fieldPil P) := by
  unfold sectionResultAny secParse at hb
  generalize (if 0 < fieldPil P then decDescs ((slice P 12 (12 + fieldPil P)).length + 1) (slice P 12 (12 + fieldPil P))
    else .ok []) = r1 at hb
  rcases r1 with e | ds
  · cases hb
  dsimp only at hb
  by_cases hz : (crcRange P (fieldL P)).length = 0
  · rw [if_pos hz] at hb; cases hb
  rw [if_neg hz] at hb
  generalize hdec : decStreams ((streamRange P (fieldL P) (fieldPil P)).length + 1) (streamRange P (fieldL P) (fieldPil P)) = r2
    at hb
  rcases r2 with e | ⟨ss, left⟩
  · cases hb
  dsimp only at hb
  by_cases hl : ¬ left.length = 4
  · rw [if_neg hl] at hb; cases hb
  have hl := Decidable.not_not.1 hl
  rw [if_pos hl] at hb
  -- `left` is a suffix of `stream_buf` of exactly four bytes: its last four
  obtain ⟨_, n, hn⟩ := decStreams_left _ _ _ _ hdec
  have hlen := congrArg List.length hn
  simp only [List.length_drop, hl] at hlen
  have hn' : n = (streamRange P (fieldL P) (fieldPil P)).length - 4 := by omega
  have h4 : 4 ≤ (streamRange P (fieldL P) (fieldPil P)).length := by omega
  cases hb
  rw [hn, hn']
  simp [steerCoincides, h4, decInt]

/-- no CRC argument: fewer than four bytes are left for the stored CRC (the decoder raises `struct.error`) -/
theorem steerCoincides_short (P : Bytes) (L pil : Nat) (h : L < 13 + pil) : steerCoincides P L pil = false := by
  have : (streamRange P L pil).length < 4 := by
    simp only [streamRange, slice_length]; omega
  simp only [steerCoincides, Bool.and_eq_false_iff, decide_eq_false_iff_not]
  left; omega

/-! ### a section whose `section_length` is the true one: `B` the bytes from `table_id` to the end of the loops, `C` the
    four bytes that follow, `section_length = |B| + 1` -/

theorem crcRange_section (B T : Bytes) : crcRange (B ++ T) (B.length + 1) = B :=
  slice_prefix B T _ rfl

theorem streamRange_section (B C R : Bytes) (pil : Nat) (hC : C.length = 4) :
    streamRange (B ++ (C ++ R)) (B.length + 1) pil = (B ++ C).drop (12 + pil) := by
  rw [← List.append_assoc]
  simp only [streamRange, slice]
  rw [take_append_len _ _ _ (by simp [hC])]

theorem steerCoincides_section (B C R : Bytes) (pil : Nat) (hC : C.length = 4) :
    steerCoincides (B ++ (C ++ R)) (B.length + 1) pil = (decide (12 + pil ≤ B.length) && (beNat C == crc32mpeg2 B)) := by
  unfold steerCoincides
  rw [streamRange_section B C R pil hC, crcRange_section]
  by_cases h : 12 + pil ≤ B.length
  · rw [List.drop_append_of_le_length h, List.drop_left' (by simp [hC])]
    simp [h, hC]
  · have : ¬ 4 ≤ ((B ++ C).drop (12 + pil)).length := by simp [hC]; omega
    rw [decide_eq_false this, decide_eq_false h]; rfl

theorem steerCoincides_changed (B C R pre suf : Bytes) (a a' : UInt8) (pil : Nat) (hC : C.length = 4)
    (hcrc : beNat C = crc32mpeg2 B) (hne : a ≠ a') (h : B ++ (C ++ R) = pre ++ a :: suf) (hk : pre.length < B.length + 4) :
    steerCoincides (pre ++ a' :: suf) (B.length + 1) pil = false := by
  by_cases c : pre.length < B.length
  · obtain ⟨q, hB, rfl⟩ := split_left _ _ pre suf a h c
    have e : pre ++ a' :: (q ++ (C ++ R)) = (pre ++ a' :: q) ++ (C ++ R) := by simp
    have hl : (pre ++ a' :: q).length = B.length := by rw [hB]; simp
    rw [e, ← hl, steerCoincides_section _ C R pil hC, hcrc, hB]
    simp [crc_detects_byte pre q a a' hne]
  · obtain ⟨p, rfl, hT⟩ := split_right _ _ pre suf a h (by omega)
    obtain ⟨q, hCC, rfl⟩ := split_left _ _ p suf a hT (by simp at hk; omega)
    have e : B ++ p ++ a' :: (q ++ R) = B ++ ((p ++ a' :: q) ++ R) := by simp
    have hne' : beNat (p ++ a' :: q) ≠ beNat (p ++ a :: q) := fun c => by
      have := beNat_inj _ _ (by simp) c
      simp only [List.append_cancel_left_eq, List.cons.injEq, and_true] at this
      exact hne this.symm
    rw [e, steerCoincides_section B _ R pil (by rw [← hC, hCC]; simp), ← hcrc, hCC]
    simp [hne']

theorem secParse_wf (Hd C R : Bytes) (ds : List Desc) (ss : List Stream)
    (hd : ∀ d ∈ ds, Desc_WF d) (hs : ∀ x ∈ ss, Stream_WF x) (hH : Hd.length = 12) (hC : C.length = 4)
    (hL : fieldL (Hd ++ ((ds.flatMap Desc_bytes ++ ss.flatMap Stream_bytes) ++ (C ++ R))) =
      13 + (ds.flatMap Desc_bytes ++ ss.flatMap Stream_bytes).length)
    (hpil : fieldPil (Hd ++ ((ds.flatMap Desc_bytes ++ ss.flatMap Stream_bytes) ++ (C ++ R))) =
      (ds.flatMap Desc_bytes).length) :
    secParse (Hd ++ ((ds.flatMap Desc_bytes ++ ss.flatMap Stream_bytes) ++ (C ++ R))) =
      .ok (secObj (Hd ++ ((ds.flatMap Desc_bytes ++ ss.flatMap Stream_bytes) ++ (C ++ R))) ds ss (beNat C),
           beNat C == crc32mpeg2 (Hd ++ (ds.flatMap Desc_bytes ++ ss.flatMap Stream_bytes))) := by
  have hds0 : (ds.flatMap Desc_bytes).length = 0 → ds = [] := fun h => by
    have := flatMap_desc_len ds
    exact List.eq_nil_of_length_eq_zero (by omega)
  generalize hD : ds.flatMap Desc_bytes = D at *
  generalize hS : ss.flatMap Stream_bytes = S at *
  generalize hPP : Hd ++ ((D ++ S) ++ (C ++ R)) = P at *
  have hB : 13 + (D ++ S).length = (Hd ++ (D ++ S)).length + 1 := by simp [hH]; omega
  have hP : P = (Hd ++ (D ++ S)) ++ (C ++ R) := by rw [← hPP]; simp
  have hdbuf : slice P 12 (12 + D.length) = D := by
    rw [← hPP, List.append_assoc]
    exact slice_mid _ _ _ _ _ hH.symm (by rw [hH])
  have hsbuf : streamRange P (13 + (D ++ S).length) D.length = S ++ C := by
    rw [hB, hP, streamRange_section _ C R _ hC]
    have : (Hd ++ (D ++ S)) ++ C = (Hd ++ D) ++ (S ++ C) := by simp
    rw [this, drop_append_len _ _ _ (by simp [hH])]
  have hcrcbuf : crcRange P (13 + (D ++ S).length) = Hd ++ (D ++ S) := by
    rw [hB, hP, crcRange_section]
  have hdescs : (if 0 < D.length then decDescs (D.length + 1) D else .ok []) = .ok ds := by
    by_cases hz : 0 < D.length
    · rw [if_pos hz, ← hD]
      exact decDescs_flatMap _ hd _ (by have := flatMap_desc_len ds; omega)
    · rw [if_neg hz, hds0 (by omega)]
  have hstreams : decStreams ((S ++ C).length + 1) (S ++ C) = .ok (ss, C) := by
    rw [← hS]
    exact decStreams_flatMap _ hs _ hC _ (by have := flatMap_stream_len ss; simp only [List.length_append]; omega)
  have hne : ¬ (Hd ++ (D ++ S)).length = 0 := by simp [hH]
  simp only [secParse, hL, hpil, hdbuf, hsbuf, hcrcbuf, hdescs, hstreams, hne, if_false, hC, if_true]
  rfl

end Acra.Lemmas.PMTSection
