/-
  Golay(24,12), the algebra behind the tables.  The row-XOR loops of Golay.py are GF(2)-linear maps, so
  a fact about all 4096 values that is preserved by XOR needs checking on the 12 unit vectors only
  (`xor_induction`): code words have syndrome 0, and the encoder is the extended Golay code of the Spec.
  `_onesincode` is the pop-count.  The one fact found by a sweep (`decide +kernel` over 4096 words) is the
  minimum distance: every non-zero word of syndrome 0 has at least 8 set bits (`min_distance`), hence words
  of small weight are told apart by their syndromes (`synF_inj`).
-/
import Acra.Model.Golay
import Acra.Spec.Chapter7
import Acra.Lemmas.Bits
namespace Acra.Lemmas.Golay
open Acra.Py Acra.Model.Golay Acra.Gen.Golay Acra.Lemmas.Bits

def rowXor : List Nat → Nat → Nat
  | [], _ => 0
  | r :: rs, x => (if x.testBit rs.length then r else 0) ^^^ rowXor rs x

theorem rowXorAcc_eq (rs : List Nat) (x acc : Nat) : rowXorAcc rs x acc = acc ^^^ rowXor rs x := by
  induction rs generalizing acc with
  | nil => simp [rowXorAcc, rowXor]
  | cons r rs ih =>
    simp only [rowXorAcc, rowXor, ih, bit_test]
    by_cases h : x.testBit rs.length = true
    · simp [h, Nat.xor_assoc]
    · simp [h]

theorem rowXor_xor (rs : List Nat) (a b : Nat) : rowXor rs (a ^^^ b) = rowXor rs a ^^^ rowXor rs b := by
  induction rs with
  | nil => simp [rowXor]
  | cons r rs ih =>
    simp only [rowXor, ih, Nat.testBit_xor, ite_xor_bool]
    exact xor_xor_xor_comm _ _ _ _

theorem rowXor_lt (rs : List Nat) (n : Nat) (h : ∀ r ∈ rs, r < 2 ^ n) (x : Nat) : rowXor rs x < 2 ^ n := by
  induction rs with
  | nil => simp [rowXor, Nat.two_pow_pos]
  | cons r rs ih =>
    simp only [rowXor]
    apply Nat.xor_lt_two_pow
    · split
      · exact h r (by simp)
      · exact Nat.two_pow_pos n
    · exact ih (fun r' hr' => h r' (by simp [hr']))

/-- the syndrome as a pure function of the 24-bit word (what `_syndrome` computes once the table is filled) -/
def synF (e : Nat) : Nat := rowXorAcc H_P (e &&& 0xfff) 0 ^^^ ((e >>> 12) &&& 0xfff)

theorem synF_xor (a b : Nat) : synF (a ^^^ b) = synF a ^^^ synF b := by
  simp only [synF, rowXorAcc_eq, Nat.and_xor_distrib_right, Nat.shiftRight_xor_distrib, rowXor_xor,
    Nat.zero_xor]
  exact xor_xor_xor_comm _ _ _ _

theorem synF_zero : synF 0 = 0 := by decide

theorem and_fff_lt (v : Nat) : v &&& 0xfff < 4096 := Nat.and_lt_two_pow v (by decide : (0xfff : Nat) < 2 ^ 12)

theorem H_P_lt : ∀ r ∈ H_P, r < 2 ^ 12 := by decide
theorem G_P_lt : ∀ r ∈ G_P, r < 2 ^ 12 := by decide

theorem synF_lt (e : Nat) : synF e < 4096 := by
  have h1 : rowXor H_P (e &&& 0xfff) < 2 ^ 12 := rowXor_lt H_P 12 H_P_lt _
  have h2 : (e >>> 12) &&& 0xfff < 2 ^ 12 := Nat.and_lt_two_pow _ (by decide)
  have := Nat.xor_lt_two_pow h1 h2
  simpa [synF, rowXorAcc_eq] using this

theorem initEntry_fst (rs : List Nat) (x s e c : Nat) : (initEntry rs x (s, e, c)).1 = rowXorAcc rs x s := by
  induction rs generalizing s e c with
  | nil => simp [initEntry, rowXorAcc]
  | cons r rs ih =>
    simp only [initEntry, rowXorAcc]
    split <;> simp [ih]

/-- ErrorTable / CorrectTable entry `x` after the first loop: untouched iff no row was selected -/
theorem initEntry_snd (rs : List Nat) (x s e c : Nat) :
    (initEntry rs x (s, e, c)).2 = if x % 2 ^ rs.length = 0 then (e, c) else (4, 0xFFF) := by
  induction rs generalizing s e c with
  | nil => simp [initEntry, Nat.mod_one]
  | cons r rs ih =>
    simp only [initEntry, bit_test, List.length_cons, mod_two_pow_succ]
    cases x.testBit rs.length <;> simp [ih]

theorem synTable_get (x : Nat) (h : x < 4096) : synTable.getD x 0 = rowXorAcc H_P x 0 := by
  simp [synTable, Array.getD_eq_getD_getElem?, GOLAY_SIZE, h, initEntry_fst]

theorem syndrome_eq (v : Nat) : syndrome v = synF v := by
  simp [syndrome, synF, synTable_get _ (and_fff_lt v)]

theorem encodeEntry_eq (x : Nat) : encodeEntry x = x <<< 12 ^^^ rowXor G_P x := rowXorAcc_eq G_P x _

theorem encodeEntry_xor (a b : Nat) : encodeEntry (a ^^^ b) = encodeEntry a ^^^ encodeEntry b := by
  simp only [encodeEntry_eq, rowXor_xor, Nat.shiftLeft_xor_distrib]
  exact xor_xor_xor_comm _ _ _ _

theorem encode_eq (raw : Nat) : encode raw = encodeEntry (raw % 4096) := by
  rw [encode, and_FFF]

theorem encode_of_lt (x : Nat) (hx : x < 4096) : encode x = encodeEntry x := by
  rw [encode_eq, Nat.mod_eq_of_lt hx]

theorem syn_encode_all (x : Nat) (hx : x < 4096) : synF (encode x) = 0 ∧ encode x >>> 12 = x := by
  rw [encode_of_lt x hx]
  refine xor_induction (n := 12) (P := fun x => synF (encodeEntry x) = 0 ∧ encodeEntry x >>> 12 = x)
    (by decide) (by decide) ?_ x hx
  intro a b _ _ ha hb
  rw [encodeEntry_xor, synF_xor, Nat.shiftRight_xor_distrib, ha.1, ha.2, hb.1, hb.2]
  exact ⟨rfl, rfl⟩

section Spec
open Spec.Golay (polyModAux polyMod parity)

theorem polyModAux_succ (cnt v : Nat) :
    polyModAux (cnt + 1) v = polyModAux cnt (v ^^^ if v.testBit (11 + cnt) then 0xC75 <<< cnt else 0) := by
  rw [polyModAux]
  split <;> simp

theorem polyModAux_xor (cnt a b : Nat) : polyModAux cnt (a ^^^ b) = polyModAux cnt a ^^^ polyModAux cnt b := by
  induction cnt generalizing a b with
  | zero => rfl
  | succ cnt ih =>
    simp only [polyModAux_succ]
    rw [← ih, Nat.testBit_xor, ite_xor_bool]
    congr 1
    exact xor_xor_xor_comm _ _ _ _

theorem polyModAux_lt (cnt v : Nat) (hv : v < 2 ^ (11 + cnt)) : polyModAux cnt v < 2 ^ 11 := by
  induction cnt generalizing v with
  | zero => exact hv
  | succ cnt ih =>
    rw [polyModAux_succ]
    apply ih
    -- bit 11 of 0xC75 is set: the step clears bit `11 + cnt`
    have hg : 0xC75 <<< cnt < 2 ^ (11 + cnt + 1) := by
      have := Nat.two_pow_pos cnt
      rw [Nat.shiftLeft_eq, show 11 + cnt + 1 = 12 + cnt by omega, Nat.pow_add]
      omega
    apply lt_two_pow_of_top_clear
    · split
      · exact Nat.xor_lt_two_pow hv hg
      · rwa [Nat.xor_zero]
    · cases h : v.testBit (11 + cnt)
      · simp [h]
      · simp [h, Nat.testBit_shiftLeft]
        decide

theorem parity_xor (n a b : Nat) : parity n (a ^^^ b) = parity n a ^^^ parity n b := by
  induction n with
  | zero => simp [parity]
  | succ n ih =>
    simp only [parity, ih, Nat.testBit_xor, ite_xor_bool]
    exact xor_xor_xor_comm _ _ _ _

theorem parity_lt (n v : Nat) : parity n v < 2 ^ 1 := by
  induction n with
  | zero => simp [parity]
  | succ n ih =>
    rw [parity]
    apply Nat.xor_lt_two_pow _ ih
    split <;> decide

/-- the parts of the Spec's code word do not overlap, so it is an XOR of linear maps of `x` -/
theorem spec_encode_eq (x : Nat) (hx : x < 4096) :
    Spec.Golay.encode x =
      (x <<< 11 ^^^ polyMod (x <<< 11)) <<< 1 ^^^ parity 23 (x <<< 11 ^^^ polyMod (x <<< 11)) := by
  have hm : polyMod (x <<< 11) < 2 ^ 11 := by
    apply polyModAux_lt
    rw [Nat.shiftLeft_eq]
    omega
  simp only [Spec.Golay.encode, Nat.mod_eq_of_lt hx]
  rw [shiftLeft_or_eq_xor _ _ 11 hm, shiftLeft_or_eq_xor _ _ 1 (parity_lt _ _)]

theorem spec_encode_xor (a b : Nat) (ha : a < 4096) (hb : b < 4096) :
    Spec.Golay.encode (a ^^^ b) = Spec.Golay.encode a ^^^ Spec.Golay.encode b := by
  have hc : (a ^^^ b) <<< 11 ^^^ polyMod ((a ^^^ b) <<< 11) =
      (a <<< 11 ^^^ polyMod (a <<< 11)) ^^^ (b <<< 11 ^^^ polyMod (b <<< 11)) := by
    rw [Nat.shiftLeft_xor_distrib, polyMod, polyMod, polyMod, polyModAux_xor]
    exact xor_xor_xor_comm _ _ _ _
  rw [spec_encode_eq a ha, spec_encode_eq b hb, spec_encode_eq _ (Nat.xor_lt_two_pow (n := 12) ha hb), hc,
    Nat.shiftLeft_xor_distrib, parity_xor]
  exact xor_xor_xor_comm _ _ _ _

theorem encodeEntry_spec : ∀ x, x < 4096 → encodeEntry x = Spec.Golay.encode x := by
  refine xor_induction (n := 12) (by decide) (by decide) ?_
  intro a b ha hb ha' hb'
  rw [encodeEntry_xor, spec_encode_xor a b ha hb, ha', hb']

end Spec

/-- C11: the encoder is the Spec's Golay(24,12) code (generator polynomial and overall parity), for every argument -/
theorem encode_spec (raw : Nat) : encode raw = Spec.Golay.encode raw := by
  rw [encode_eq, encodeEntry_spec _ (Nat.mod_lt raw (by decide))]
  simp only [Spec.Golay.encode, Nat.mod_mod]

/-- number of set bits among the 24 bit positions of a code word; this is the name the statements use.
    `bitCount k` (any width, for the induction that ties it to `_onesincode`) and `(bitsOf e).length` (the set
    positions as a list, for `le3_cases`) are the same term and serve proofs only. -/
def wt (e : Nat) : Nat := ((List.range 24).filter (fun i => e.testBit i)).length

def bitCount (k n : Nat) : Nat := ((List.range k).filter fun i => n.testBit i).length

theorem wt_eq_bitCount (e : Nat) : wt e = bitCount 24 e := rfl

theorem bitCount_zero (n : Nat) : bitCount 0 n = 0 := rfl

theorem bitCount_succ (k n : Nat) : bitCount (k + 1) n = n % 2 + bitCount k (n / 2) := by
  unfold bitCount
  rw [List.range_succ_eq_map, List.filter_cons, List.filter_map, Nat.testBit_zero]
  simp only [Function.comp_def, Nat.testBit_succ, decide_eq_true_eq]
  split <;> simp <;> omega

theorem filter_length_le_add {α : Type} (l : List α) (f g h : α → Bool)
    (H : ∀ a, h a = true → f a = true ∨ g a = true) :
    (l.filter h).length ≤ (l.filter f).length + (l.filter g).length := by
  induction l with
  | nil => simp
  | cons a l ih =>
    have := H a
    simp only [List.filter_cons]
    cases hh : h a <;> cases hf : f a <;> cases hg : g a <;> simp_all <;> omega

theorem wt_xor_le (a b : Nat) : wt (a ^^^ b) ≤ wt a + wt b := by
  apply filter_length_le_add
  intro i
  rw [Nat.testBit_xor]
  cases a.testBit i <;> simp

theorem wt_or_le (a b : Nat) : wt (a ||| b) ≤ wt a + wt b := by
  apply filter_length_le_add
  intro i
  rw [Nat.testBit_or]
  cases a.testBit i <;> simp

theorem wt_zero : wt 0 = 0 := by decide
theorem wt_zero_le : wt 0 ≤ 3 := by decide

theorem wt_bit_le (i : Nat) : wt (1 <<< i) ≤ 1 := by
  have h := List.nodup_iff_count.1 (List.nodup_range (n := 24)) i
  rw [List.count_eq_countP, List.countP_eq_length_filter] at h
  have hp : (fun j => (1 <<< i).testBit j) = fun j => j == i := by
    funext j
    rw [Nat.one_shiftLeft, Nat.testBit_two_pow, Bool.eq_iff_iff]
    simp only [decide_eq_true_eq, beq_iff_eq]
    exact eq_comm
  rw [wt, hp]
  exact h

theorem binDigitsAux_spec (fuel n k : Nat) (acc : List Bool) (hf : n < 2 ^ fuel) (hk : n < 2 ^ k) :
    (binDigitsAux fuel n acc).length ≤ k + acc.length ∧
    (binDigitsAux fuel n acc).count true = bitCount k n + acc.count true := by
  induction fuel generalizing n k acc with
  | zero =>
    have : n = 0 := by simpa using hf
    subst this
    simp [binDigitsAux, bitCount]
  | succ fuel ih =>
    rw [binDigitsAux]
    split
    · next h => subst h; simp [bitCount]
    · next h =>
      cases k with
      | zero => omega
      | succ k =>
        obtain ⟨h1, h2⟩ := ih (n / 2) k ((n % 2 == 1) :: acc) (by omega) (by omega)
        rw [h2, bitCount_succ, List.count_cons]
        rw [List.length_cons] at h1
        constructor
        · omega
        · by_cases hb : n % 2 = 1 <;> simp [hb] <;> omega

/-- `_onesincode(e, k)` (string slicing of `bin(e)`) is the pop-count of every `e` of at most `k` bits -/
theorem onesincode_eq (e k : Nat) (he : e < 2 ^ k) : onesincode e k = bitCount k e := by
  unfold onesincode binDigits
  split
  · next h =>
    subst h
    have : bitCount k 0 = 0 := by simp [bitCount]
    rw [this]
    cases k <;> simp
  · have hf : e < 2 ^ (e + 1) :=
      Nat.lt_trans Nat.lt_two_pow_self (Nat.pow_lt_pow_right (by decide) (Nat.lt_succ_self e))
    obtain ⟨h1, h2⟩ := binDigitsAux_spec (e + 1) e k [] hf he
    rw [List.take_of_length_le (by simpa using h1), h2]
    simp

theorem onesincode_eq_wt (e : Nat) (he : e < 2 ^ 24) : onesincode e 24 = wt e := onesincode_eq e 24 he

theorem pat_ne_zero (i j k : Nat) : pat i j k ≠ 0 := by
  intro h
  have : (pat i j k).testBit i = true := by
    simp [pat, Nat.testBit_or, Nat.one_shiftLeft, Nat.testBit_two_pow]
  simp [h] at this

theorem pat_lt (i j k : Nat) (hi : i < 24) (hj : j < 24) (hk : k < 24) : pat i j k < 2 ^ 24 := by
  have h : ∀ i, i < 24 → 1 <<< i < 2 ^ 24 := fun i hi => by
    rw [Nat.one_shiftLeft]
    exact Nat.pow_lt_pow_right (by decide) hi
  exact Nat.or_lt_two_pow (Nat.or_lt_two_pow (h i hi) (h j hj)) (h k hk)

theorem wt_pat_le (i j k : Nat) : wt (pat i j k) ≤ 3 := by
  have h1 := wt_or_le (1 <<< i ||| 1 <<< j) (1 <<< k)
  have h2 := wt_or_le (1 <<< i) (1 <<< j)
  have hi := wt_bit_le i
  have hj := wt_bit_le j
  have hk := wt_bit_le k
  unfold pat
  omega

def bitsOr : List Nat → Nat
  | [] => 0
  | i :: l => (1 <<< i) ||| bitsOr l

theorem testBit_bitsOr (l : List Nat) (p : Nat) : (bitsOr l).testBit p = decide (p ∈ l) := by
  induction l with
  | nil => simp [bitsOr]
  | cons i l ih =>
    simp only [bitsOr, Nat.testBit_or, ih, Nat.one_shiftLeft, Nat.testBit_two_pow, List.mem_cons]
    by_cases h : i = p
    · simp [h]
    · have h' : ¬ p = i := fun hh => h hh.symm
      simp [h, h']

def bitsOf (e : Nat) : List Nat := (List.range 24).filter (fun i => e.testBit i)

theorem eq_bitsOr (e : Nat) (he : e < 2 ^ 24) : e = bitsOr (bitsOf e) := by
  apply Nat.eq_of_testBit_eq
  intro p
  rw [testBit_bitsOr]
  by_cases hp : p < 24
  · simp [bitsOf, hp]
  · have : e < 2 ^ p := Nat.lt_of_lt_of_le he (Nat.pow_le_pow_right (by decide) (by omega))
    simp [bitsOf, hp, Nat.testBit_lt_two_pow this]

theorem bitsOf_lt (e : Nat) : ∀ i ∈ bitsOf e, i < 24 := by
  intro i hi
  simp [bitsOf] at hi
  exact hi.1

theorem wt_eq (e : Nat) : wt e = (bitsOf e).length := rfl

/-- a pattern of weight 1 or 2 is a triple-loop pattern with repeated indices (`[a] ↦ pat a a a`, `[a, b] ↦ pat a b b`):
    this is why `range(24)³` covers every weight ≤ 3 -/
theorem le3_cases (e : Nat) (he : e < 2 ^ 24) (hw : wt e ≤ 3) :
    e = 0 ∨ ∃ i j k, i < 24 ∧ j < 24 ∧ k < 24 ∧ e = pat i j k := by
  have hb := eq_bitsOr e he
  have hl := bitsOf_lt e
  rw [wt_eq] at hw
  match hm : bitsOf e, hw with
  | [], _ => left; rw [hb, hm]; rfl
  | [a], _ =>
    right; rw [hm] at hl hb
    exact ⟨a, a, a, hl a (by simp), hl a (by simp), hl a (by simp), by rw [hb]; simp [bitsOr, pat]⟩
  | [a, b], _ =>
    right; rw [hm] at hl hb
    exact ⟨a, b, b, hl a (by simp), hl b (by simp), hl b (by simp), by
      rw [hb]; simp [bitsOr, pat, Nat.or_assoc]⟩
  | [a, b, c], _ =>
    right; rw [hm] at hl hb
    exact ⟨a, b, c, hl a (by simp), hl b (by simp), hl c (by simp), by
      rw [hb]; simp [bitsOr, pat, Nat.or_assoc]⟩
  | _ :: _ :: _ :: _ :: _, h => simp at h

/-- pop-count of a hexadecimal digit, looked up in the 16 nibbles of a constant -/
def nibbleCount (v : Nat) : Nat := Nat.mod (Nat.shiftRight 0x4332322132212110 (Nat.mul 4 v)) 16

theorem nibbleCount_eq : ∀ v, v < 16 → nibbleCount v = bitCount 4 v := by decide

/-- The weight of a 24-bit word by its six hexadecimal digits, in a form the kernel evaluates quickly: no
    list, no recursion, and the functions of `Nat` themselves, since unfolding `%`, `/`, `+` down to them is
    most of the kernel's work on a term like this. -/
def wtHex (x : Nat) : Nat :=
  Nat.add (nibbleCount (Nat.mod x 16)) (Nat.add (nibbleCount (Nat.mod (Nat.div x 16) 16))
    (Nat.add (nibbleCount (Nat.mod (Nat.div x 256) 16)) (Nat.add (nibbleCount (Nat.mod (Nat.div x 4096) 16))
      (Nat.add (nibbleCount (Nat.mod (Nat.div x 65536) 16)) (nibbleCount (Nat.mod (Nat.div x 1048576) 16))))))

theorem bitCount_add4 (k x : Nat) : bitCount (k + 4) x = nibbleCount (x % 16) + bitCount k (x / 16) := by
  have h16 : x / 2 / 2 / 2 / 2 = x / 16 := by omega
  rw [nibbleCount_eq _ (Nat.mod_lt x (by decide))]
  simp only [bitCount_succ, bitCount_zero, h16]
  omega

theorem wtHex_eq (x : Nat) : wtHex x = wt x := by
  have h (a b : Nat) : x / a / b = x / (a * b) := Nat.div_div_eq_div_mul x a b
  rw [wt_eq_bitCount, bitCount_add4, bitCount_add4, bitCount_add4, bitCount_add4, bitCount_add4, bitCount_add4,
    bitCount_zero]
  simp only [h, Nat.reduceMul]
  rfl

/-- the values of a linear map below `2 ^ n`, from its values at the powers of two -/
def images (f : Nat → Nat) : Nat → List Nat
  | 0 => [0]
  | n + 1 => images f n ++ (images f n).map (f (2 ^ n) ^^^ ·)

theorem mem_images (f : Nat → Nat) (hf : ∀ a b, f (a ^^^ b) = f a ^^^ f b) (n y : Nat) (hy : y < 2 ^ n) :
    f y ∈ images f n := by
  induction n generalizing y with
  | zero =>
    have h0 := hf 0 0
    rw [Nat.xor_self] at h0
    rw [show y = 0 by omega, h0, Nat.xor_self]
    exact List.mem_singleton_self 0
  | succ n ih =>
    have hlow := ih (y % 2 ^ n) (Nat.mod_lt _ (Nat.two_pow_pos n))
    rw [← Nat.mod_eq_of_lt hy, mod_two_pow_succ_xor, images]
    split
    · rw [hf]
      exact List.mem_append_right _ (List.mem_map.2 ⟨_, hlow, rfl⟩)
    · rw [Nat.zero_xor]
      exact List.mem_append_left _ hlow

/-- The words of syndrome 0, by their lower half: `synF e = 0` says that the upper half of `e` is the
    row-XOR of the lower half. -/
def kerWord (y : Nat) : Nat := rowXor H_P y <<< 12 ^^^ y

theorem kerWord_xor (a b : Nat) : kerWord (a ^^^ b) = kerWord a ^^^ kerWord b := by
  simp only [kerWord, rowXor_xor, Nat.shiftLeft_xor_distrib]
  exact xor_xor_xor_comm _ _ _ _

theorem eq_kerWord (e : Nat) (he : e < 2 ^ 24) (hs : synF e = 0) : e = kerWord (e % 4096) := by
  have hu : (e >>> 12) &&& 0xfff = e >>> 12 := and_low_of_lt _ _ 12 rfl (by rw [shr]; omega)
  rw [synF, rowXorAcc_eq, Nat.zero_xor, hu, xor_eq_zero_iff, and_FFF] at hs
  rw [kerWord, hs]
  exact (shiftRight_shiftLeft_xor_mod e 12).symm

/-- the weights of all 4096 words of syndrome 0, each word one XOR away from an earlier one -/
theorem kerWord_weights :
    (images kerWord 12).all (fun c => c == 0 || Nat.ble 8 (wtHex c)) = true := by
  decide +kernel

/-- the code has minimum distance 8 -/
theorem min_distance (e : Nat) (he : e < 2 ^ 24) (hs : synF e = 0) : e = 0 ∨ 8 ≤ wt e := by
  have h := List.all_eq_true.1 kerWord_weights _
    (mem_images kerWord kerWord_xor 12 (e % 4096) (Nat.mod_lt e (by decide)))
  rw [← eq_kerWord e he hs, wtHex_eq] at h
  simpa using h

theorem synF_inj (a b : Nat) (ha : a < 2 ^ 24) (hb : b < 2 ^ 24) (hw : wt a + wt b < 8)
    (h : synF a = synF b) : a = b := by
  have hs : synF (a ^^^ b) = 0 := by rw [synF_xor, h, Nat.xor_self]
  have := wt_xor_le a b
  rcases min_distance _ (Nat.xor_lt_two_pow ha hb) hs with h0 | h8
  · exact (xor_eq_zero_iff a b).1 h0
  · omega

end Acra.Lemmas.Golay
