/-
  CRC-32/MPEG-2 and the MISB 0601 running sum:
    * the library's `crc32mpeg2` (unbounded Python int, masked at the end) equals the bit-serial
      register definition of ISO 13818-1 Annex A (`Spec.MPEG.crc32mpeg2`);
    * two equal-length messages that differ in exactly one byte (a fortiori in one bit) have
      different CRCs (the byte step is injective in the register and in the byte — no polynomial
      algebra needed);
    * the library's `checksum_stanag` equals the MISB 16-bit big-endian word sum, and a change of
      one byte changes the sum.
-/
import Acra.Model.PMT
import Acra.Model.PES
import Acra.Spec.MPEG
import Acra.Lemmas.CRC
import Acra.Lemmas.Bits
namespace Acra.Lemmas.CRCMpeg
open Acra.Py Acra.Model.PMT Acra.Model.PES
open Acra.Lemmas.CRC (byteFold_detects BInj)
open Acra.Lemmas.Bits (xor_cancel_right ite_xor_bool xor_xor_xor_comm)

def M : Nat := 4294967296
def poly : Nat := 0x04C11DB7

/-- one zero-input step of the 32-bit register -/
def step32 (r : Nat) : Nat :=
  if r / 2147483648 % 2 = 1 then (r * 2 % 4294967296) ^^^ 0x04C11DB7 else r * 2 % 4294967296

def iter (n : Nat) (r : Nat) : Nat := Nat.repeat step32 n r

def byte32 (r : Nat) (b : UInt8) : Nat := iter 8 (r ^^^ (b.toNat * 16777216))

theorem xor_lt32 (a b : Nat) (ha : a < 4294967296) (hb : b < 4294967296) : a ^^^ b < 4294967296 := by
  have := @Nat.xor_lt_two_pow a b 32 (by simpa using ha) (by simpa using hb)
  simpa using this

theorem step32_lt (r : Nat) : step32 r < 4294967296 := by
  unfold step32
  split
  · exact xor_lt32 _ _ (Nat.mod_lt _ (by decide)) (by decide)
  · exact Nat.mod_lt _ (by decide)

theorem crcShift_mod (c : Nat) : crcShift c % 4294967296 = step32 (c % 4294967296) := by
  unfold crcShift step32
  have h1 : c % 4294967296 / 2147483648 % 2 = c / 2147483648 % 2 := by
    rw [Nat.mod_mul_right_div_self c 2147483648 2, Nat.mod_mod]
  have h2 : c % 4294967296 * 2 % 4294967296 = c * 2 % 4294967296 := Nat.mod_mul_mod c 2 4294967296
  rw [h1, h2]
  split
  · have := @Nat.xor_mod_two_pow (c * 2) 0x04C11DB7 32
    simp only [show (2:Nat) ^ 32 = 4294967296 from rfl] at this
    rw [this]
  · rfl

theorem crcByte_mod (c : Nat) (b : UInt8) : crcByte c b % 4294967296 = byte32 (c % 4294967296) b := by
  have hb := b.toNat_lt
  unfold crcByte byte32 iter
  simp only [Nat.repeat, crcShift_mod]
  have := @Nat.xor_mod_two_pow c (b.toNat * 16777216) 32
  simp only [show (2:Nat) ^ 32 = 4294967296 from rfl] at this
  rw [this]
  have : b.toNat * 16777216 % 4294967296 = b.toNat * 16777216 := by omega
  rw [this]

theorem fold_mod (msg : Bytes) (c : Nat) :
    (msg.foldl crcByte c) % 4294967296 = msg.foldl byte32 (c % 4294967296) := by
  induction msg generalizing c with
  | nil => rfl
  | cons b bs ih => simp only [List.foldl_cons, ih, crcByte_mod]

theorem crc_eq_fold32 (msg : Bytes) : crc32mpeg2 msg = msg.foldl byte32 0xFFFFFFFF := by
  unfold crc32mpeg2; rw [fold_mod]

theorem xor_parity (a b : Nat) : (a ^^^ b) % 2 = (a % 2 + b % 2) % 2 := by
  have := @Nat.xor_mod_two_pow a b 1
  simp only [Nat.pow_one] at this
  rw [this]
  have ha : a % 2 = 0 ∨ a % 2 = 1 := Nat.mod_two_eq_zero_or_one a
  have hb : b % 2 = 0 ∨ b % 2 = 1 := Nat.mod_two_eq_zero_or_one b
  rcases ha with ha | ha <;> rcases hb with hb | hb <;> simp [ha, hb]

/-- the polynomial is odd and the shifted register even: the low bit of the result tells whether the polynomial was
    added, i.e. what the top bit was -/
theorem step32_parity (r : Nat) : step32 r % 2 = r / 2147483648 % 2 := by
  have he : r * 2 % 4294967296 % 2 = 0 := by
    rw [show 4294967296 = 2147483648 * 2 from rfl, Nat.mul_mod_mul_right, Nat.mul_mod_left]
  unfold step32
  split
  · next c => rw [xor_parity, he, c]
  · next c => rw [he]; exact ((Nat.mod_two_eq_zero_or_one _).resolve_right c).symm

theorem step32_inj (r s : Nat) (hr : r < 4294967296) (hs : s < 4294967296) (h : step32 r = step32 s) : r = s := by
  have htop : r / 2147483648 % 2 = s / 2147483648 % 2 := by rw [← step32_parity r, ← step32_parity s, h]
  have hsh : r * 2 % 4294967296 = s * 2 % 4294967296 := by
    unfold step32 at h
    rw [htop] at h
    split at h
    · exact xor_cancel_right _ _ _ h
    · exact h
  omega

theorem crc_detects_byte (pre suf : Bytes) (a a' : UInt8) (h : a ≠ a') :
    crc32mpeg2 (pre ++ a :: suf) ≠ crc32mpeg2 (pre ++ a' :: suf) := by
  rw [crc_eq_fold32, crc_eq_fold32]
  exact byteFold_detects _ (BInj.iterate ⟨fun r _ => step32_lt r, step32_inj⟩ 8) (fun b => b.toNat * 16777216)
    (fun b => by have := b.toNat_lt; omega) (fun a b he => UInt8.toNat_inj.1 (by omega)) 0xFFFFFFFF (by decide) pre suf a a' h

theorem step32_zero : step32 0 = 0 := by decide

def tap (bit : Bool) : Nat := if bit then 0x04C11DB7 else 0

/-- shift, then add the polynomial if the top bit fell out: both parts are GF(2)-linear in `r` -/
theorem step32_eq (r : Nat) : step32 r = (r * 2 % 4294967296) ^^^ tap (r.testBit 31) := by
  rw [step32, tap, Nat.testBit_eq_decide_div_mod_eq]
  split <;> simp [*]

theorem step32_xor (a b : Nat) : step32 (a ^^^ b) = step32 a ^^^ step32 b := by
  have hsh : (a ^^^ b) * 2 % 4294967296 = (a * 2 % 4294967296) ^^^ (b * 2 % 4294967296) := by
    show (a ^^^ b) * 2 ^ 1 % 2 ^ 32 = (a * 2 ^ 1 % 2 ^ 32) ^^^ (b * 2 ^ 1 % 2 ^ 32)
    rw [← Nat.shiftLeft_eq, Nat.shiftLeft_xor_distrib, Nat.xor_mod_two_pow, Nat.shiftLeft_eq, Nat.shiftLeft_eq]
  rw [step32_eq, step32_eq, step32_eq, hsh, Nat.testBit_xor, tap, tap, tap, ite_xor_bool]
  exact xor_xor_xor_comm _ _ _ _

theorem iter_xor (n a b : Nat) : iter n (a ^^^ b) = iter n a ^^^ iter n b := by
  induction n with
  | zero => rfl
  | succ n ih => simp only [iter, Nat.repeat] at ih ⊢; rw [ih]; exact step32_xor _ _

theorem iter_zero (n : Nat) : iter n 0 = 0 := by
  induction n with
  | zero => rfl
  | succ n ih => simp only [iter, Nat.repeat] at ih ⊢; rw [ih]; exact step32_zero

theorem iter_step32 (n r : Nat) : iter n (step32 r) = iter (n + 1) r := by
  induction n with
  | zero => rfl
  | succ n ih => simp only [iter, Nat.repeat] at ih ⊢; rw [ih]

theorem crcBit_eq (r : Nat) (bit : Bool) : Spec.MPEG.crcBit r bit = step32 r ^^^ tap bit := by
  unfold Spec.MPEG.crcBit step32 tap Spec.MPEG.crcPoly
  have t : r / 2147483648 % 2 = 0 ∨ r / 2147483648 % 2 = 1 := Nat.mod_two_eq_zero_or_one _
  rcases t with t | t <;> cases bit <;> simp [t]
  rw [Nat.xor_assoc, Nat.xor_self, Nat.xor_zero]

/-- superposition: the zero-input response of `r` XOR the response of the bits from an all-zero register -/
theorem foldBits_split (bits : List Bool) (r : Nat) :
    bits.foldl Spec.MPEG.crcBit r = iter bits.length r ^^^ bits.foldl Spec.MPEG.crcBit 0 := by
  induction bits generalizing r with
  | nil => exact (Nat.xor_zero r).symm
  | cons x xs ih =>
    rw [List.foldl_cons, List.foldl_cons, List.length_cons, ih, ih (Spec.MPEG.crcBit 0 x), crcBit_eq r x, crcBit_eq 0 x,
      step32_zero, Nat.zero_xor, iter_xor, iter_step32, Nat.xor_assoc]

theorem byte_table : ∀ n < 256, iter 8 (n * 16777216) = (Spec.MPEG.bitsMSB (UInt8.ofNat n)).foldl Spec.MPEG.crcBit 0 := by
  decide +kernel

theorem byte32_eq_bits (r : Nat) (b : UInt8) : byte32 r b = (Spec.MPEG.bitsMSB b).foldl Spec.MPEG.crcBit r := by
  have htab := byte_table b.toNat b.toNat_lt
  rw [UInt8.ofNat_toNat] at htab
  rw [foldBits_split, ← htab, byte32, iter_xor]
  rfl

/-- **`crc32mpeg2` is CRC-32/MPEG-2**: polynomial 0x04C11DB7, initial value 0xFFFFFFFF, bits fed
    most significant first, no reflection, no final XOR -/
theorem crc_eq_spec (msg : Bytes) : crc32mpeg2 msg = Spec.MPEG.crc32mpeg2 msg := by
  rw [crc_eq_fold32, Spec.MPEG.crc32mpeg2, List.foldl_flatMap]
  exact congrArg (fun f => msg.foldl f 0xFFFFFFFF) (funext fun r => funext fun b => byte32_eq_bits r b)

/-- the standard check value -/
example : crc32mpeg2 [0x31, 0x32, 0x33, 0x34, 0x35, 0x36, 0x37, 0x38, 0x39] = 0x0376E6E7 := by decide +kernel

theorem stanagSum_even (bs : Bytes) (i : Nat) (h : i % 2 = 0) : stanagSum bs i = Spec.MPEG.misbSum bs := by
  induction bs using Spec.MPEG.misbSum.induct generalizing i with
  | case1 => rfl
  | case2 a =>
    have : (i + 1) % 2 = 1 := by omega
    simp [stanagSum, Spec.MPEG.misbSum, this]
  | case3 a b r ih =>
    have h1 : (i + 1) % 2 = 1 := by omega
    have h2 : ¬ (i + 1 + 1) % 2 = 1 := by omega
    simp only [stanagSum, Spec.MPEG.misbSum, h1, h2, if_true, if_false]
    rw [ih (i + 1 + 1) (by omega)]
    omega

/-- **`checksum_stanag` is the MISB 0601 checksum**: 16-bit sum of big-endian 16-bit words -/
theorem checksum_eq_spec (bs : Bytes) : checksum_stanag bs = Spec.MPEG.misbChecksum bs := by
  unfold checksum_stanag Spec.MPEG.misbChecksum
  rw [stanagSum_even bs 0 rfl]

theorem stanagSum_append (pre suf : Bytes) (x : UInt8) (i : Nat) :
    stanagSum (pre ++ x :: suf) i = stanagSum pre i + x.toNat * (if (i + pre.length + 1) % 2 = 1 then 256 else 1) +
      stanagSum suf (i + pre.length + 1) := by
  induction pre generalizing i with
  | nil => simp [stanagSum]
  | cons p ps ih =>
    simp only [List.cons_append, stanagSum, ih (i + 1), List.length_cons]
    have : i + 1 + ps.length + 1 = i + (ps.length + 1) + 1 := by omega
    rw [this]
    omega

theorem checksum_detects_byte (pre suf : Bytes) (a a' : UInt8) (h : a ≠ a') :
    checksum_stanag (pre ++ a :: suf) ≠ checksum_stanag (pre ++ a' :: suf) := by
  have ha := a.toNat_lt
  have ha' := a'.toNat_lt
  have hne : a.toNat ≠ a'.toNat := fun c => h (UInt8.toNat_inj.mp c)
  unfold checksum_stanag
  rw [stanagSum_append, stanagSum_append]
  split <;> omega

end Acra.Lemmas.CRCMpeg
