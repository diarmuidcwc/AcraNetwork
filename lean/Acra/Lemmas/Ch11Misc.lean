/-
  `Analog`, `ComputerGeneratedFormat0` and `ComputerGeneratedFormat1` are one codec: a channel-specific word followed
  by opaque bytes.  Each decoder is the parser `lenRun 4 …` (four bytes or `struct.error`), each encoder a function of the
  word's range.
-/
import Acra.Model.Ch11Misc
import Acra.Lemmas.Ch11Pay
import Acra.Lemmas.Bits
namespace Acra.Lemmas.Ch11Misc
open Acra.Py Acra.Model.Ch11Pay Acra.Gen.Ch11Analog Acra.Gen.Ch11Computer Acra.Lemmas

theorem Analog_decodes :
    Decodes Analog.unpack (fun _ => ()) fun _ => lenRun 4 fun buf => ⟨decInt false (buf.take 4), buf.drop 4⟩ := by
  intro t buf
  by_cases h : 4 ≤ buf.length <;> simp only [Analog.unpack, AN_unpack_fmt0, unpack_word, lenRun, h, ↓reduceIte] <;> rfl

theorem Analog_pack_eq (s : Analog.State) (h : s.channel_specific_word < 2 ^ 32) :
    Analog.pack s = .ok (encInt false 4 s.channel_specific_word ++ s.data) := by
  simp only [Analog.pack, AN_pack_fmt0, pack_word, if_pos h]

theorem Analog_unpack_enc (t : Analog.State) (v : Nat) (d : Bytes) (h : v < 2 ^ 32) :
    Analog.unpack t (encInt false 4 v ++ d) = (⟨v, d⟩, .ok ()) := by
  rw [Analog_decodes.len_of_le t _ (by simp), take_encInt_append, decInt_encInt4 _ _ h, drop_encInt_append]

theorem CG0_decodes :
    Decodes Computer.State0.unpack (fun _ => ()) fun _ => lenRun 4 fun buf => ⟨decInt false (buf.take 4), buf.drop 4⟩ := by
  intro t buf
  by_cases h : 4 ≤ buf.length <;>
    simp only [Computer.State0.unpack, CG_unpack_fmt0, unpack_word, lenRun, h, ↓reduceIte] <;> rfl

theorem CG0_pack_eq (s : Computer.State0) (h : s.csdw < 2 ^ 32) :
    s.pack = .ok (encInt false 4 s.csdw ++ s.payload) := by
  simp only [Computer.State0.pack, CG_pack_fmt0, pack_word, if_pos h]

/-- `RCCVER(value)` with its `_missing_`: the members are 7 … 14, everything else is IRIG 106-07 -/
theorem rccverOf_eq (v : Nat) : Computer.rccverOf v = if 7 ≤ v ∧ v ≤ 14 then v else 7 := by
  simp only [Computer.rccverOf, RCCVER_VALUES, RCCVER_MISSING, List.contains_cons, List.contains_nil, Bool.or_false,
    Bool.or_eq_true, beq_iff_eq]
  by_cases h : 7 ≤ v ∧ v ≤ 14
  · rw [if_pos h, if_pos (by omega)]
  · rw [if_neg h, if_neg (by omega)]

/-- the three fields of the format 1 word `frmt<<9 | srcc<<8 | rccver` come back out of it -/
theorem csdw_fields (f s r : Nat) (hf : f < 2) (hs : s < 2) (hr : r < 256) :
    (512 * f + 256 * s + r) / 512 % 2 = f ∧ (512 * f + 256 * s + r) / 256 % 2 = s ∧
    (512 * f + 256 * s + r) % 256 = r := by
  obtain ⟨h1, e3⟩ := Bits.field_low (512 * f + 256 * s + r) 256 (f * 2 + s) r hr (by omega)
  obtain ⟨h2, e2⟩ := Bits.field_step _ 256 2 f s hs h1
  exact ⟨(congrArg (· % 2) h2).trans (Nat.mod_eq_of_lt hf), e2, e3⟩

theorem CG1_decodes :
    Decodes Computer.State1.unpack (fun _ => ()) fun _ => lenRun 4 fun buf =>
      ⟨⟨decInt false (buf.take 4), buf.drop 4⟩, decInt false (buf.take 4) / 512 % 2,
        decInt false (buf.take 4) / 256 % 2, Computer.rccverOf (decInt false (buf.take 4) % 256)⟩ := by
  intro t buf
  by_cases h : 4 ≤ buf.length <;>
    simp only [Computer.State1.unpack, Computer.State0.unpack, CG_unpack_fmt0, unpack_word, lenRun, h, ↓reduceIte] <;> rfl

/-- `pack` of format 1 whatever `_csdw` held: it is rebuilt from the three fields -/
theorem CG1_pack_eq (s : Computer.State1) (h : 512 * s.frmt + 256 * s.srcc + s.rccver < 2 ^ 32) :
    s.pack = ({ s with base := { s.base with csdw := 512 * s.frmt + 256 * s.srcc + s.rccver } },
      .ok (encInt false 4 (512 * s.frmt + 256 * s.srcc + s.rccver) ++ s.base.payload)) := by
  simp only [Computer.State1.pack, CG1_pack_fmt0, pack_word, if_pos h]

end Acra.Lemmas.Ch11Misc
