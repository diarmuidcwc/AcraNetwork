/-
  Chapter 7: the two loops of `datapkts_to_ptfr` in closed form, and what follows from it for ARBITRARY traffic (no
  layout invariant; overflowing low-latency insertions included) and every frame length L ≥ 1.

  * the inner loop `while len(remainder) > ptfr_len` (`spillFull`) cuts `spillCount L |remainder|` full frames off the
    front of the remainder (`peel`) and hands back the fresh frame and the 1..L bytes that are left (`spillFull_eq`);
  * the outer loop `while remainder != bytes()` (`spill`) therefore runs its body at most once (`spill_eq`);
  * neither result mentions the fuel: any fuel above `|remainder|` (inner), from 2 on (outer) gives the same answer;
  * one fold over the PTDPs (`encFold_any`): the encapsulator terminates, every frame it yields is full, and
    frames × L + bytes pending = Σ (6 + payload + continuation byte).
  `add_payload` enters through its closed form `addPayload_eq` (Lemmas.Chapter7).
-/
import Acra.Lemmas.Chapter7Frag
namespace Acra.Lemmas.Chapter7
open Acra.Py Acra.Model Acra.Model.Chapter7 Acra.Gen.Chapter7

theorem spillFull_succ (L sid fuel : Nat) (a : Bool) (cur : PTFR.State) (rem : Bytes) (out : List PTFR.State) :
    spillFull L sid (fuel + 1) a cur rem out =
      if rem.length > L then
        spillFull L sid fuel false (newPtfr L sid) (rem.drop L)
          (out ++ [(PTFR.addPayload { cur with ptdp_offset := if a then 0x0 else 0x7FF } (slice rem 0 L) false).1])
      else .ok (a, cur, rem, out) := rfl

/-- the `n` full frames cut off the front of `rem`; only the first can begin with a PTDP header (`a`) -/
def peel (L sid : Nat) : Nat → Bool → Bytes → List PTFR.State
  | 0, _, _ => []
  | n + 1, a, rem =>
    { newPtfr L sid with ptdp_offset := if a then 0x0 else 0x7FF, payload := slice rem 0 L } ::
      peel L sid n false (rem.drop L)

theorem peel_length (L sid : Nat) (n : Nat) (a : Bool) (rem : Bytes) : (peel L sid n a rem).length = n := by
  induction n generalizing a rem with
  | zero => rfl
  | succ n ih => simp [peel, ih]

/-- with the fresh frame in hand, `n` frames to cut (`n·L < |rem| ≤ n·L + L`, or nothing to do) -/
theorem spillFull_eq (L sid : Nat) (hL : 0 < L) :
    ∀ (n fuel : Nat) (a : Bool) (rem : Bytes) (out : List PTFR.State), rem.length < fuel →
      n * L ≤ rem.length - 1 → rem.length ≤ n * L + L →
      spillFull L sid fuel a (newPtfr L sid) rem out =
        .ok (a && n == 0, newPtfr L sid, rem.drop (n * L), out ++ peel L sid n a rem) := by
  intro n
  induction n with
  | zero =>
    intro fuel a rem out hf _ hle
    rw [Nat.zero_mul, Nat.zero_add] at hle
    cases fuel with
    | zero => exact absurd hf (Nat.not_lt_zero _)
    | succ f =>
      rw [spillFull_succ, if_neg (Nat.not_lt.2 hle)]
      simp [peel]
  | succ n ih =>
    intro fuel a rem out hf hn hle
    cases fuel with
    | zero => exact absurd hf (Nat.not_lt_zero _)
    | succ f =>
      have hd : (rem.drop L).length = rem.length - L := List.length_drop
      obtain ⟨hlt, e1, e2, e3⟩ : L < rem.length ∧ (rem.drop L).length < f ∧
          n * L ≤ (rem.drop L).length - 1 ∧ (rem.drop L).length ≤ n * L + L := by
        rw [hd, Nat.succ_mul] at *
        omega
      rw [spillFull_succ, if_pos hlt,
        addPayload_fill _ (slice rem 0 L) rfl (by rw [slice_length]; exact Nat.le_trans (Nat.sub_le _ _) (Nat.min_le_left _ _)),
        ih f false (rem.drop L) _ e1 e2 e3]
      simp [peel, Nat.succ_mul, Nat.add_comm L]

/-- number of full frames the inner loop cuts off a remainder of `len` bytes: it stops with 1..L bytes left -/
def spillCount (L len : Nat) : Nat := (len - 1) / L

theorem spillCount_spec (L len : Nat) (hL : 0 < L) :
    spillCount L len * L ≤ len - 1 ∧ len ≤ spillCount L len * L + L := by
  have h1 := Nat.div_mul_le_self (len - 1) L
  have h2 := Nat.lt_mul_div_succ (len - 1) hL
  rw [Nat.mul_add, Nat.mul_one, Nat.mul_comm] at h2
  unfold spillCount
  omega

theorem spillCount_rest (L len : Nat) (hL : 0 < L) (hpos : 0 < len) :
    spillCount L len * L < len ∧ len - spillCount L len * L ≤ L := by
  have := spillCount_spec L len hL
  omega

theorem spillFull_fresh (L sid : Nat) (hL : 0 < L) (fuel : Nat) (a : Bool) (rem : Bytes) (out : List PTFR.State)
    (hf : rem.length < fuel) :
    spillFull L sid fuel a (newPtfr L sid) rem out =
      .ok (a && spillCount L rem.length == 0, newPtfr L sid, rem.drop (spillCount L rem.length * L),
        out ++ peel L sid (spillCount L rem.length) a rem) :=
  spillFull_eq L sid hL _ fuel a rem out hf (spillCount_spec L rem.length hL).1 (spillCount_spec L rem.length hL).2

theorem length_drop_lt {rem : Bytes} {L f : Nat} (hL : 0 < L) (hlen : L < rem.length) (hf : rem.length < f + 1) :
    (rem.drop L).length < f := by
  rw [List.length_drop]
  exact Nat.lt_of_lt_of_le (Nat.sub_lt (Nat.lt_trans hL hlen) hL) (Nat.le_of_lt_succ hf)

theorem spillFull_ok_any (L sid : Nat) (hL : 0 < L) (fuel : Nat) (a : Bool) (cur : PTFR.State) (rem : Bytes)
    (out : List PTFR.State) (hf : rem.length < fuel) :
    ∃ a' c' r' o', spillFull L sid fuel a cur rem out = .ok (a', c', r', o') ∧ r'.length ≤ L ∧
      out.length ≤ o'.length ∧ o'.length * L + r'.length = out.length * L + rem.length := by
  cases fuel with
  | zero => exact absurd hf (Nat.not_lt_zero _)
  | succ f =>
    rw [spillFull_succ]
    by_cases hlen : rem.length > L
    · rw [if_pos hlen, spillFull_fresh L sid hL f _ _ _ (length_drop_lt hL hlen hf)]
      have hs := spillCount_spec L (rem.drop L).length hL
      generalize spillCount L (rem.drop L).length = n at hs
      refine ⟨_, _, _, _, rfl, ?_⟩
      simp only [List.length_drop, List.length_append, List.length_singleton, peel_length, Nat.add_mul,
        Nat.one_mul] at hs ⊢
      omega
    · rw [if_neg hlen]
      exact ⟨a, cur, rem, out, rfl, Nat.le_of_not_lt hlen, Nat.le_refl _, rfl⟩

theorem spillFull_fuel_irrelevant (L sid : Nat) (hL : 0 < L) (f1 f2 : Nat) (a : Bool) (cur : PTFR.State)
    (rem : Bytes) (out : List PTFR.State) (h1 : rem.length < f1) (h2 : rem.length < f2) :
    spillFull L sid f1 a cur rem out = spillFull L sid f2 a cur rem out := by
  cases f1 with
  | zero => exact absurd h1 (Nat.not_lt_zero _)
  | succ g1 =>
    cases f2 with
    | zero => exact absurd h2 (Nat.not_lt_zero _)
    | succ g2 =>
      rw [spillFull_succ, spillFull_succ]
      split
      · rename_i hlen
        rw [spillFull_fresh L sid hL g1 _ _ _ (length_drop_lt hL hlen h1),
          spillFull_fresh L sid hL g2 _ _ _ (length_drop_lt hL hlen h2)]
      · rfl

theorem spill_nil (L sid fuel : Nat) (a : Bool) (cur : PTFR.State) (out : List PTFR.State) :
    spill L sid (fuel + 1) a cur [] out = .ok (cur, out) := by
  simp [spill]

theorem spill_eq (L sid : Nat) (hL : 0 < L) (fuel : Nat) (a : Bool) (cur : PTFR.State) (rem : Bytes)
    (out : List PTFR.State) (hr : rem ≠ []) :
    spill L sid (fuel + 2) a cur rem out =
      .ok ({ newPtfr L sid with
              ptdp_offset :=
                if a && spillCount L rem.length == 0 then 0x0
                else if (rem.drop (spillCount L rem.length * L)).length == L then 0x7FF
                else (rem.drop (spillCount L rem.length * L)).length,
              payload := rem.drop (spillCount L rem.length * L) },
        out ++ cur :: peel L sid (spillCount L rem.length) a rem) := by
  have hle : (rem.drop (spillCount L rem.length * L)).length ≤ L := by
    have := (spillCount_spec L rem.length hL).2
    rw [List.length_drop]; omega
  unfold spill
  simp only [hr, if_false, spillFull_fresh L sid hL (rem.length + 1) a rem _ (Nat.lt_succ_self _)]
  rw [addPayload_fill _ _ rfl (by simpa [newPtfr] using hle), spill_nil]
  simp

/-- the outer loop: fuel 2 always suffices (the model passes `|remainder| + 2`) -/
theorem spill_ok (L sid : Nat) (hL : 0 < L) (fuel : Nat) (hf : 2 ≤ fuel) (a : Bool) (cur : PTFR.State) (rem : Bytes)
    (out : List PTFR.State) : ∃ c' o', spill L sid fuel a cur rem out = .ok (c', o') := by
  obtain ⟨n, rfl⟩ : ∃ n, fuel = n + 2 := ⟨fuel - 2, by omega⟩
  by_cases hr : rem = []
  · subst hr; exact ⟨cur, out, spill_nil L sid _ a cur out⟩
  · exact ⟨_, _, spill_eq L sid hL n a cur rem out hr⟩

theorem spill_fuel_irrelevant (L sid : Nat) (hL : 0 < L) (f1 f2 : Nat) (h1 : 2 ≤ f1) (h2 : 2 ≤ f2) (a : Bool)
    (cur : PTFR.State) (rem : Bytes) (out : List PTFR.State) :
    spill L sid f1 a cur rem out = spill L sid f2 a cur rem out := by
  obtain ⟨n1, rfl⟩ : ∃ n, f1 = n + 2 := ⟨f1 - 2, by omega⟩
  obtain ⟨n2, rfl⟩ : ∃ n, f2 = n + 2 := ⟨f2 - 2, by omega⟩
  by_cases hr : rem = []
  · subst hr; rw [spill_nil, spill_nil]
  · rw [spill_eq L sid hL n1 a cur rem out hr, spill_eq L sid hL n2 a cur rem out hr]

/-- a frame the generator may yield -/
def FullFrame (L sid : Nat) (f : PTFR.State) : Prop :=
  f.length = L ∧ f.payload.length = L ∧ f.version = 0 ∧ f.streamid = sid

/-- the frame under construction -/
def OpenFrame (L sid : Nat) (f : PTFR.State) : Prop :=
  f.length = L ∧ f.payload.length ≤ L ∧ f.version = 0 ∧ f.streamid = sid

theorem newPtfr_open (L sid : Nat) : OpenFrame L sid (newPtfr L sid) := by
  simp [OpenFrame, newPtfr, PTFR.fresh]

theorem peel_full (L sid : Nat) (n : Nat) (a : Bool) (rem : Bytes) (h : n * L ≤ rem.length) :
    ∀ f ∈ peel L sid n a rem, FullFrame L sid f := by
  induction n generalizing a rem with
  | zero => simp [peel]
  | succ n ih =>
    rw [Nat.succ_mul] at h
    intro f hf
    rcases List.mem_cons.1 hf with rfl | hf
    · exact ⟨rfl, by show (slice rem 0 L).length = L; rw [slice_length]; omega, rfl, rfl⟩
    · exact ih false (rem.drop L) (by rw [List.length_drop]; omega) f hf

/-- bytes a PTDP occupies in the frames: 6 header bytes, the payload, and the continuation byte if low-latency -/
def ptdpCost (p : PTDP.State) : Nat := 6 + p.payload.length + (if p.low_latency then 1 else 0)

theorem encStep_any (L sid : Nat) (hL : 0 < L) (cur : PTFR.State) (out : List PTFR.State) (p : PTDP.State)
    (hp : PTDP_WF p) (hc : OpenFrame L sid cur) :
    ∃ cur' new, encStep L sid (cur, out) p = .ok (cur', out ++ new) ∧ OpenFrame L sid cur' ∧
      (∀ f ∈ new, FullFrame L sid f) ∧
      new.length * L + cur'.payload.length = cur.payload.length + ptdpCost p := by
  obtain ⟨rfl, _, hcv, hcs⟩ := hc
  unfold encStep
  simp only [pack_encB p hp]
  have hf := addPayload_facts cur (encB p) p.low_latency
  have hcons := addPayload_conserve cur (encB p) p.low_latency
  rw [encB_length] at hcons
  generalize PTFR.addPayload cur (encB p) p.low_latency = r at hf hcons
  obtain ⟨cur0, rem⟩ := r
  obtain ⟨h1, h2, h3, h4, h5⟩ := hf
  have hopen : OpenFrame cur.length sid cur0 := ⟨h1, h4, h2.trans hcv, h3.trans hcs⟩
  by_cases hr : rem = []
  · subst hr
    refine ⟨cur0, [], by rw [spill_nil, List.append_nil], hopen, by simp, ?_⟩
    simpa [ptdpCost, Nat.add_assoc] using hcons
  · have hfull : cur0.payload.length = cur.length := h5 hr
    obtain ⟨hlt, hle⟩ := spillCount_rest cur.length rem.length hL (List.length_pos_iff.2 hr)
    refine ⟨_, _, spill_eq cur.length sid hL _ _ cur0 rem out hr, ⟨rfl, ?_, rfl, rfl⟩, ?_, ?_⟩
    · show (rem.drop _).length ≤ cur.length
      rw [List.length_drop]; exact hle
    · intro f hfm
      rcases List.mem_cons.1 hfm with rfl | hfm
      · exact ⟨h1, hfull, hopen.2.2.1, hopen.2.2.2⟩
      · exact peel_full cur.length sid _ _ rem (Nat.le_of_lt hlt) f hfm
    · simp only [List.length_cons, peel_length, List.length_drop, Nat.add_mul, Nat.one_mul, ptdpCost]
      simp only at hcons
      clear hopen h1 h2 h3 h4 h5 hcv hcs hp hle
      omega

theorem encFold_any (L sid : Nat) (hL : 0 < L) (ps : List PTDP.State) (hps : ∀ p ∈ ps, PTDP_WF p) :
    ∀ (cur : PTFR.State) (out : List PTFR.State), OpenFrame L sid cur →
      ∃ cur' new, encFold L sid ps (cur, out) = .ok (cur', out ++ new) ∧ OpenFrame L sid cur' ∧
        (∀ f ∈ new, FullFrame L sid f) ∧
        new.length * L + cur'.payload.length = cur.payload.length + (ps.map ptdpCost).sum := by
  induction ps with
  | nil => intro cur out hc; exact ⟨cur, [], by simp [encFold], hc, by simp, by simp⟩
  | cons p ps ih =>
    intro cur out hc
    obtain ⟨cur1, new1, h1, hc1, hf1, hn1⟩ := encStep_any L sid hL cur out p (hps p (by simp)) hc
    obtain ⟨cur2, new2, h2, hc2, hf2, hn2⟩ := ih (fun q hq => hps q (by simp [hq])) cur1 (out ++ new1) hc1
    refine ⟨cur2, new1 ++ new2, by simp only [encFold, h1, h2, List.append_assoc], hc2, ?_, ?_⟩
    · intro f hf
      rcases List.mem_append.1 hf with hf | hf
      · exact hf1 f hf
      · exact hf2 f hf
    · simp only [List.length_append, List.map_cons, List.sum_cons, Nat.add_mul]; omega

/-- termination and byte accounting for ANY traffic and any L ≥ 1, without `NoLLPOverflow`: it claims lengths only,
    never contents, because an overflowing low-latency insertion breaks the frame layout but `add_payload` still
    conserves the byte count (`addPayload_conserve`) and `spill_eq` needs no layout. `hL`: with L = 0 the inner loop
    never ends (`datapktsToPtfr_zero`). -/
theorem datapktsToPtfr_any (pkts : List (Bytes × Bool)) (L sid : Nat) (hL : 0 < L) :
    ∃ cur out, datapktsToPtfr pkts L sid = .ok (cur, out) ∧ OpenFrame L sid cur ∧
      (∀ f ∈ out, FullFrame L sid f) ∧
      out.length * L + cur.payload.length = ((datapktsToPtdp pkts).map ptdpCost).sum := by
  obtain ⟨cur, new, h, hc, hf, hn⟩ :=
    encFold_any L sid hL _ (datapktsToPtdp_wf pkts) (newPtfr L sid) [] (newPtfr_open L sid)
  exact ⟨cur, new, by simpa [datapktsToPtfr] using h, hc, hf, by simpa [newPtfr, PTFR.fresh] using hn⟩

theorem encStep_ok (L sid : Nat) (hL : 0 < L) (st : PTFR.State × List PTFR.State) (p : PTDP.State) (hp : PTDP_WF p) :
    ∃ c' o', encStep L sid st p = .ok (c', o') := by
  obtain ⟨cur, out⟩ := st
  unfold encStep
  simp only [pack_encB p hp]
  exact spill_ok L sid hL _ (by omega) _ _ _ _

/-! ### frame length 0: the generator does not get past the first PTDP -/

theorem spillFull_zero (sid : Nat) (fuel : Nat) (a : Bool) (cur : PTFR.State) (rem : Bytes) (out : List PTFR.State)
    (hr : rem ≠ []) : spillFull 0 sid fuel a cur rem out = .error .fuel := by
  induction fuel generalizing a cur out with
  | zero => rfl
  | succ fuel ih =>
    rw [spillFull_succ, if_pos (List.length_pos_iff.2 hr), List.drop_zero]
    exact ih _ _ _

theorem datapktsToPtfr_zero (pkts : List (Bytes × Bool)) (sid : Nat) (cur : PTFR.State) (out : List PTFR.State)
    (h : datapktsToPtfr pkts 0 sid = .ok (cur, out)) : out = [] := by
  unfold datapktsToPtfr at h
  cases hps : datapktsToPtdp pkts with
  | nil => rw [hps] at h; simp only [encFold, Except.ok.injEq, Prod.mk.injEq] at h; exact h.2.symm
  | cons p ps =>
    -- the PTDP's ≥ 6 bytes do not fit the 0-byte frame: the inner loop is entered and never left
    exfalso
    have hp := datapktsToPtdp_wf pkts p (by rw [hps]; simp)
    rw [hps] at h
    simp only [encFold, encStep, pack_encB p hp] at h
    have hf := (addPayload_facts (newPtfr 0 sid) (encB p) p.low_latency).2.2.2.1
    have hcons := addPayload_conserve (newPtfr 0 sid) (encB p) p.low_latency
    rw [encB_length] at hcons
    generalize PTFR.addPayload (newPtfr 0 sid) (encB p) p.low_latency = r at h hf hcons
    obtain ⟨cur0, rem⟩ := r
    have hr : rem ≠ [] := by
      intro h0; subst h0
      simp only [newPtfr, List.length_nil] at hf hcons; omega
    simp only [spill, hr, if_false, spillFull_zero sid _ _ _ rem _ hr] at h
    cases h

theorem fullFrame_pack (L sid : Nat) (hs : sid < 16) (f : PTFR.State) (h : FullFrame L sid f) :
    ∃ b, (PTFR.pack f).2 = .ok b ∧ b.length = 4 + L := by
  obtain ⟨h1, h2, h3, h4⟩ := h
  exact ⟨wire f, by rw [ptfr_pack_bytes f (by rw [h3, h4]; omega) (h2.trans h1.symm)], by rw [wire_length, h2]⟩

end Acra.Lemmas.Chapter7
