/-
  Canonical forms for C14 `eq_decode` of the MPEG classes: the objects each class can encode EXACTLY, i.e. for which
  the object `pack` leaves behind and the object `unpack` builds from the emitted bytes are the same value.  Each
  predicate is an explicit, decidable conjunction; counter-examples for the clauses on fill, on a payload under control 2 and
  on an adaptation object under control 1 (and for PMT, PES, STANAG: see there) are in `Props/C14/MpegDecode.lean`, the
  one for `adaption_ctrl = 2 → adaption_field.isSome` in `Props/C06/MPEGTS.lean` (E2); the range conditions have none.
-/
import Acra.Lemmas.MPEGTS
import Acra.Lemmas.PES
import Acra.Lemmas.PMT
namespace Acra.Lemmas.MpegCanon
open Acra.Py Acra.Model.MPEGTS Acra.Model.PMT Acra.Model.PES Acra.Lemmas.MPEGTS Acra.Lemmas.PES Acra.Lemmas.PMT Acra.Lemmas.PMTSection

/-- a transport packet the class encodes exactly: every field fits its width, sync byte 0x47, a packet that carries a
    payload (control 1 or 3) has no 0xFF stuffing after it (the format has no payload length), control 2 has its
    adaptation-field object, controls 0 and 2 carry no payload, controls 0 and 1 hold no adaptation-field object -/
def Pkt_canon (p : Pkt) : Prop :=
  Pkt_WF p ∧ p.sync = 0x47 ∧
  ((p.adaption_ctrl = 1 ∨ p.adaption_ctrl = 3) → 188 ≤ Pkt_used p) ∧
  (p.adaption_ctrl = 2 → p.adaption_field.isSome = true) ∧
  ((p.adaption_ctrl = 0 ∨ p.adaption_ctrl = 2) → p.payload = []) ∧
  (¬ hasAF p → p.adaption_field = none)

instance (p : Pkt) : Decidable (Pkt_canon p) := by unfold Pkt_canon; infer_instance

theorem Pkt_packed_eq_decoded (p : Pkt) (h5 : p.adaption_ctrl < 4)
    (hst : (p.adaption_ctrl = 1 ∨ p.adaption_ctrl = 3) → 188 ≤ Pkt_used p)
    (hpl : (p.adaption_ctrl = 0 ∨ p.adaption_ctrl = 2) → p.payload = [])
    (hnoaf : ¬ hasAF p → p.adaption_field = none) :
    Pkt_packed p = Pkt_decoded p := by
  have hstuff : (p.adaption_ctrl = 1 ∨ p.adaption_ctrl = 3) → Pkt_stuffing p = [] := by
    intro hc
    exact (Pkt_stuffing_eq_nil p).2 (hst hc)
  by_cases haf : hasAF p
  · have hc : p.adaption_ctrl = 2 ∨ p.adaption_ctrl = 3 := haf
    simp only [Pkt_packed, Pkt_decoded, if_pos haf]
    rcases hc with hc | hc
    · have := hpl (Or.inr hc)
      simp [hc, this]
    · simp [hc, hstuff (Or.inr hc)]
  · have hx := hnoaf haf
    have hc : ¬ (p.adaption_ctrl = 2 ∨ p.adaption_ctrl = 3) := haf
    simp only [Pkt_packed, Pkt_decoded, if_neg haf]
    by_cases h1 : p.adaption_ctrl = 1
    · have := hstuff (Or.inl h1)
      cases p; simp_all
    · have h0 : p.adaption_ctrl = 0 := by omega
      have := hpl (Or.inl h0)
      cases p; simp_all

theorem Pkt_canon_packed_eq_decoded (p : Pkt) (h : Pkt_canon p) : Pkt_packed p = Pkt_decoded p :=
  Pkt_packed_eq_decoded p h.1.2.2.2.2.1 h.2.2.1 h.2.2.2.2.1 h.2.2.2.2.2

/-- a PMT packet the class encodes exactly (its `__eq__` does not look at `payload` and `_crc`): well formed, sync
    byte, adaptation control 1 or 3 (the section needs a payload), no adaptation-field object with control 1 -/
def PMT_canon (s : PMT) : Prop :=
  PMT_WF s ∧ s.pkt.sync = 0x47 ∧ (s.pkt.adaption_ctrl = 1 ∨ s.pkt.adaption_ctrl = 3) ∧
  (s.pkt.adaption_ctrl = 1 → s.pkt.adaption_field = none)

instance (s : PMT) : Decidable (PMT_canon s) := by unfold PMT_canon; infer_instance

/-- a PES packet the class encodes exactly: well formed, sync byte, adaptation control 1 or 3, no adaptation-field
    object with control 1, the PES packet ends where the TS packet ends (no 0xFF stuffing after the data — the decoder
    takes everything after the prefix as data), and EITHER all three optional-header attributes are set and the
    first flag byte has the high nibble 8 (the decoder's test) OR all three are `None` and the first data byte does
    not have the high nibble 8 (known finding K2, /verif/known_findings.json: the decoder would take the data for an optional header) -/
def PES_canon (s : PES) : Prop :=
  PES_WF s ∧ s.pkt.sync = 0x47 ∧ (s.pkt.adaption_ctrl = 1 ∨ s.pkt.adaption_ctrl = 3) ∧
  (s.pkt.adaption_ctrl = 1 → s.pkt.adaption_field = none) ∧
  188 ≤ Pkt_used (PES_pkt s) ∧
  ((s.extension_w1.isSome = true ∧ s.extension_w2.isSome = true ∧ s.header_data.isSome = true ∧
      s.extension_w1.getD 0 / 16 = 8) ∨
   (s.extension_w1 = none ∧ s.extension_w2 = none ∧ s.header_data = none ∧
      (3 ≤ (PES_tail s).length → PES_firstByte s / 16 ≠ 8)))

instance (s : PES) : Decidable (PES_canon s) := by unfold PES_canon; infer_instance

theorem PES_canon_pkt (s : PES) (h : PES_canon s) : Pkt_packed (PES_pkt s) = Pkt_decoded (PES_pkt s) := by
  obtain ⟨hw, _, hafc, hnoaf, hfull, _⟩ := h
  have hwp : Pkt_WF (PES_pkt s) := hw.1
  have hafc' : (PES_pkt s).adaption_ctrl = 1 ∨ (PES_pkt s).adaption_ctrl = 3 := hafc
  refine Pkt_packed_eq_decoded _ hwp.2.2.2.2.1 (fun _ => hfull) (fun c => absurd c (by omega)) ?_
  intro hn
  have : ¬ (s.pkt.adaption_ctrl = 2 ∨ s.pkt.adaption_ctrl = 3) := hn
  exact hnoaf (by omega)

theorem PES_canon_stuffing (s : PES) (h : PES_canon s) : Pkt_stuffing (PES_pkt s) = [] :=
  (Pkt_stuffing_eq_nil _).2 h.2.2.2.2.1

theorem PES_canon_unpack (s t : PES) (h : PES_canon s) :
    PES.unpack t (Pkt_bytes (PES_pkt s)) = ({ s with pkt := Pkt_packed (PES_pkt s) }, .ok ()) := by
  have hpk := PES_canon_pkt s h
  have hst := PES_canon_stuffing s h
  obtain ⟨hw, hs, hafc, _, _, hx⟩ := h
  rcases hx with ⟨h1, h2, h3, h4⟩ | ⟨h1, h2, h3, h4⟩
  · obtain ⟨w1, e1⟩ := Option.isSome_iff_exists.mp h1
    obtain ⟨w2, e2⟩ := Option.isSome_iff_exists.mp h2
    obtain ⟨hd, e3⟩ := Option.isSome_iff_exists.mp h3
    have he : PES.ext s = some (w1, w2, hd) := by simp [PES.ext, e1, e2, e3]
    rw [e1] at h4
    rw [PES_unpack_header s t hw hs hafc w1 w2 hd he h4 (by rw [hst]; rfl), hpk]
    cases s; simp_all
  · have he : PES.ext s = none := by simp [PES.ext, h1]
    have hnl : 3 ≤ (PES_tail s).length → ¬ looksLikeHeader s := fun h9 c => h4 h9 c.1
    rw [PES_unpack_headerless_any s t hw hs hafc he hnl, hst, List.append_nil, hpk]
    cases s; simp_all

/-- a STANAG 4609 packet the class encodes exactly: the four metadata values fit their fields and the PES packet
    `pack` builds from it (PID forced to 0x104, 36 metadata bytes) is canonical — in particular the metadata ends
    at byte 188 (E3 of notes/mpeg.md) and, without the optional PES header, `stanag_counter` is not 0x8000..0x8FFF (K2) -/
def STANAG_canon (s : STANAG) : Prop := STANAG_WF s ∧ PES_canon (STANAG_pes s)

instance (s : STANAG) : Decidable (STANAG_canon s) := by unfold STANAG_canon; infer_instance

end Acra.Lemmas.MpegCanon
