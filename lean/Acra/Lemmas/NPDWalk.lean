/-
  The segment loop of `NPD.unpack` read over the bytes.  `SegWalk k rem` walks with the decoder's own notions
  (`SegOk`, `segAdvance`); `FitsSegs k rem` says the same declaratively, in the style of `FitsM` / `FitsQ` /
  `FitsBlocks` (Props/C09): it walks the DECLARED segment lengths, with no reference to the decoder model or to
  `slice`; `SegsReject` is the complement ("the walk meets a segment that is refused").  Each is fixed by its
  one-step unfolding, so the generic loop theorems of Acra/Lemmas/Walk.lean tie all three to `decOff`.
-/
import Acra.Lemmas.NPDSegment
namespace Acra.Lemmas.NPD
open Acra.Py Acra.Model.NPD Acra.Gen.NPD Acra.Lemmas.Walk

/-- the walk `NPD.unpack` performs over the segment area -/
def SegWalk (k : Kind) : Bytes → Prop := Walk (SegOk k) segAdvance

/-- the segment area, read declaratively: empty, or a complete 8-byte segment header whose typed header
    fits, followed — after the declared length `d` clamped into `[8, remaining bytes]` and rounded up to a
    multiple of four — by a segment area again -/
inductive FitsSegs (k : Kind) : Bytes → Prop
  | done : FitsSegs k []
  | seg (rem : Bytes) : 8 ≤ rem.length → TypedFits k rem →
      FitsSegs k (rem.drop (roundUp4 (max 8 (min (segDeclared rem) rem.length)))) → FitsSegs k rem

/-- the complement: walking the same way, a position with bytes left is reached whose segment header is
    incomplete or whose typed header does not fit -/
inductive SegsReject (k : Kind) : Bytes → Prop
  | short (rem : Bytes) : rem ≠ [] → rem.length < 8 → SegsReject k rem
  | typed (rem : Bytes) : 8 ≤ rem.length → ¬ TypedFits k rem → SegsReject k rem
  | later (rem : Bytes) : 8 ≤ rem.length → TypedFits k rem →
      SegsReject k (rem.drop (roundUp4 (max 8 (min (segDeclared rem) rem.length)))) → SegsReject k rem

theorem fitsSegs_unfold (k : Kind) (rem : Bytes) :
    FitsSegs k rem ↔ rem = [] ∨ (SegOk k rem ∧ FitsSegs k (rem.drop (segAdvance rem))) := by
  rw [segOk_iff_fits]
  constructor
  · intro h
    cases h with
    | done => exact Or.inl rfl
    | seg _ h8 ht hn => exact Or.inr ⟨⟨h8, ht⟩, hn⟩
  · rintro (rfl | ⟨⟨h8, ht⟩, hn⟩)
    · exact .done
    · exact .seg rem h8 ht hn

theorem segsReject_unfold (k : Kind) (e : Err) (rem : Bytes) :
    (e = .struct ∧ SegsReject k rem) ↔
      rem ≠ [] ∧ ((segRec k).run rem = .error e ∨ (SegOk k rem ∧ e = .struct ∧ SegsReject k (rem.drop (segAdvance rem)))) := by
  rw [(segRec k).run_error_iff]
  constructor
  · rintro ⟨rfl, h⟩
    cases h with
    | short _ hne hs => exact ⟨hne, .inl (.inl ⟨hs, rfl⟩)⟩
    | typed _ h8 hn => exact ⟨List.ne_nil_of_length_pos (by omega), .inl (.inr ⟨h8, mt (typedHdrOk_iff_fits k rem).1 hn, rfl⟩)⟩
    | later _ h8 ht hr => exact ⟨List.ne_nil_of_length_pos (by omega), .inr ⟨(segOk_iff_fits k rem).2 ⟨h8, ht⟩, rfl, hr⟩⟩
  · rintro ⟨hne, (⟨hs, he⟩ | ⟨h8, hn, he⟩) | ⟨hok, he, hr⟩⟩
    · exact ⟨he, .short rem hne hs⟩
    · exact ⟨he, .typed rem h8 (mt (typedHdrOk_iff_fits k rem).2 hn)⟩
    · exact ⟨he, .later rem hok.1 ((segOk_iff_fits k rem).1 hok).2 hr⟩

theorem decSeg_walk (k : Kind) (buf : Bytes) :
    (decOff (decSeg k) moreNe buf (buf.length + 1) 0).isOk = true ↔ SegWalk k buf :=
  (R.isOk_iff _).trans (decSeg_eq k ▸ (segRec k).loop_walk (more_iff fun _ _ => rfl) buf _ 0 (Nat.le_refl _))

theorem loop_isOk_iff_fits (k : Kind) (buf : Bytes) :
    (decOff (decSeg k) moreNe buf (buf.length + 1) 0).isOk = true ↔ FitsSegs k buf :=
  (R.isOk_iff _).trans
    (decSeg_eq k ▸ (segRec k).loop_ok_iff (more_iff fun _ _ => rfl) buf _ 0 (Nat.le_refl _) _ (fitsSegs_unfold k))

theorem fitsSegs_iff_walk (k : Kind) (rem : Bytes) : FitsSegs k rem ↔ SegWalk k rem :=
  (loop_isOk_iff_fits k rem).symm.trans (decSeg_walk k rem)

/-- the loop's only exception is `struct.error` (`NPD.unpack` re-raises it as a bare `Exception`: `npdRun`) -/
theorem decSeg_loop_error_iff (k : Kind) (buf : Bytes) (e : Err) :
    decOff (decSeg k) moreNe buf (buf.length + 1) 0 = .error e ↔ e = .struct ∧ SegsReject k buf :=
  decSeg_eq k ▸ (segRec k).loop_error_iff (more_iff fun _ _ => rfl) buf _ 0 (Nat.le_refl _) e
    (fun rem => e = .struct ∧ SegsReject k rem) (segsReject_unfold k e)

theorem loop_isOk_false_iff (k : Kind) (buf : Bytes) :
    (decOff (decSeg k) moreNe buf (buf.length + 1) 0).isOk = false ↔ SegsReject k buf := by
  cases hd : decOff (decSeg k) moreNe buf (buf.length + 1) 0 with
  | ok xs =>
    refine ⟨fun h => (nomatch h), fun hr => ?_⟩
    have := (decSeg_loop_error_iff k buf .struct).2 ⟨rfl, hr⟩
    rw [hd] at this
    cases this
  | error e => exact ⟨fun _ => ((decSeg_loop_error_iff k buf e).1 hd).2, fun _ => rfl⟩

/-- proof: the loop returns or raises, never both -/
theorem fitsSegs_xor_reject (k : Kind) (buf : Bytes) :
    (FitsSegs k buf ∧ ¬ SegsReject k buf) ∨ (SegsReject k buf ∧ ¬ FitsSegs k buf) := by
  cases hd : (decOff (decSeg k) moreNe buf (buf.length + 1) 0).isOk with
  | true =>
    refine Or.inl ⟨(loop_isOk_iff_fits k buf).1 hd, fun hr => ?_⟩
    rw [(loop_isOk_false_iff k buf).2 hr] at hd
    cases hd
  | false =>
    refine Or.inr ⟨(loop_isOk_false_iff k buf).1 hd, fun hf => ?_⟩
    rw [(loop_isOk_iff_fits k buf).2 hf] at hd
    cases hd

end Acra.Lemmas.NPD
