/-
  Chapter 7: the reassembler `reassemble` (statement vocabulary of C10 — the library has none), FIRST / MIDDLE… / LAST
  per low-latency flag, characterised declaratively:
  (1) it inverts `datapkts_to_ptdp` on every packet list (any lengths, any low-latency marking);
  (2) the two channels (normal / low-latency PTDPs) do not interact: the packets it returns with flag `f` are what it
      returns for the PTDPs flagged `f` alone;
  (3) on a truncated stream of normal PTDPs complete packets come back, a trailing incomplete packet contributes
      nothing (`asm_stream`);
  (4) on what the consumer loop collects from frames with the mixed layout (`mixPtdps`) it returns, per frame, the
      low-latency packets, flagged, then the normal packets completed by that frame (`mixPkts`, `asm_mix`);
  and, with the consumer loop of Chapter7Dec in front, the decoder theorem of the region: `decap_mixFrames`.
-/
import Acra.Lemmas.Chapter7Dec
namespace Acra.Lemmas.Chapter7
open Acra.Py Acra.Model Acra.Model.Chapter7 Acra.Gen.Chapter7
open Acra.Spec.Ch7 (offset startsAux)

/-- the open fragment of channel `f` -/
def chan (f : Bool) (a : Asm) : Option Bytes := if f then a.low else a.normal

def setChan (f : Bool) (a : Asm) (v : Option Bytes) : Asm := if f then { a with low := v } else { a with normal := v }

theorem chan_setChan (f : Bool) (a : Asm) (v : Option Bytes) : chan f (setChan f a v) = v := by
  cases f <;> rfl

theorem chan_setChan_ne {f g : Bool} (h : g ≠ f) (a : Asm) (v : Option Bytes) : chan f (setChan g a v) = chan f a := by
  cases f <;> cases g <;> first | rfl | exact absurd rfl h

theorem done_setChan (f : Bool) (a : Asm) (v : Option Bytes) : (setChan f a v).done = a.done := by
  cases f <;> rfl

theorem setChan_setChan (f : Bool) (a : Asm) (v w : Option Bytes) : setChan f (setChan f a v) w = setChan f a w := by
  cases f <;> rfl

/-- what a PTDP does to the open fragment `v` of its own channel: the new open fragment, the packets completed -/
def chanStep (v : Option Bytes) (p : PTDP.State) : Option Bytes × List (Bytes × Bool) :=
  if p.fragment == PTDP_FRAGMENT_COMPLETE then (v, [(p.payload, p.low_latency)])
  else if p.fragment == PTDP_FRAGMENT_FIRST then (some p.payload, [])
  else if p.fragment == PTDP_FRAGMENT_MIDDLE then (v.map (· ++ p.payload), [])
  else match v with
    | some b => (none, [(b ++ p.payload, p.low_latency)])
    | none => (none, [])

theorem asmStep_eq (a : Asm) (p : PTDP.State) :
    asmStep a p = setChan p.low_latency { a with done := a.done ++ (chanStep (chan p.low_latency a) p).2 }
      (chanStep (chan p.low_latency a) p).1 := by
  obtain ⟨n, l, d⟩ := a
  unfold asmStep chanStep
  -- the four fragment codes in the order the code tests them; the same tests occur on both sides
  by_cases hc : (p.fragment == PTDP_FRAGMENT_COMPLETE) = true
  · cases p.low_latency <;> simp only [hc, chan, setChan, Bool.false_eq_true, if_false, if_true]
  by_cases hf : (p.fragment == PTDP_FRAGMENT_FIRST) = true
  · cases p.low_latency <;> simp only [hc, hf, chan, setChan, Bool.false_eq_true, if_false, if_true, List.append_nil]
  by_cases hm : (p.fragment == PTDP_FRAGMENT_MIDDLE) = true
  · cases p.low_latency <;>
      simp only [hc, hf, hm, chan, setChan, Bool.false_eq_true, if_false, if_true, List.append_nil]
  cases p.low_latency <;> simp only [hc, hf, hm, chan, setChan, Bool.false_eq_true, if_false, if_true]
  · cases n <;> simp only [List.append_nil]
  · cases l <;> simp only [List.append_nil]

theorem chanStep_flag (v : Option Bytes) (p : PTDP.State) : ∀ q ∈ (chanStep v p).2, q.2 = p.low_latency := by
  unfold chanStep
  (repeat' split) <;> simp

theorem asmStep_done_eq (a : Asm) (p : PTDP.State) :
    (asmStep a p).done = a.done ++ (chanStep (chan p.low_latency a) p).2 := by
  rw [asmStep_eq, done_setChan]

/-! `asmG_*`: one step / one packet for either flag `f` (`asm_packet` is `asmG_packet` on the normal channel) -/

theorem asmG_complete (a : Asm) (b : Bytes) (f : Bool) :
    asmStep a (mkPtdp f PTDP_FRAGMENT_COMPLETE b) = { a with done := a.done ++ [(b, f)] } := by
  simp [asmStep, mkPtdp]

theorem asmG_first (a : Asm) (b : Bytes) (f : Bool) (n : Nat) :
    asmStep a (fragOf b f n 0) = setChan f a (some (slice b 0 2048)) := by
  cases f <;> simp [asmStep, fragOf, mkPtdp, setChan, PTDP_FRAGMENT_FIRST, PTDP_FRAGMENT_COMPLETE]

theorem asmG_middle (a : Asm) (b : Bytes) (f : Bool) (n i : Nat) (h0 : i ≠ 0) (h1 : i ≠ n - 1) :
    asmStep a (fragOf b f n i) = setChan f a ((chan f a).map (· ++ slice b (2048 * i) (2048 * (i + 1)))) := by
  cases f <;>
    simp [asmStep, fragOf, mkPtdp, setChan, chan, PTDP_FRAGMENT_FIRST, PTDP_FRAGMENT_COMPLETE, PTDP_FRAGMENT_MIDDLE, h0, h1]

theorem asmG_last (a : Asm) (b acc : Bytes) (f : Bool) (n i : Nat) (h0 : i ≠ 0) (h1 : i = n - 1) (ha : chan f a = some acc) :
    asmStep a (fragOf b f n i) =
      setChan f { a with done := a.done ++ [(acc ++ slice b (2048 * i) (2048 * (i + 1)), f)] } none := by
  subst h1
  cases f <;> simp only [chan, Bool.false_eq_true, if_false, if_true] at ha <;>
    simp [asmStep, fragOf, mkPtdp, setChan, PTDP_FRAGMENT_FIRST, PTDP_FRAGMENT_COMPLETE, PTDP_FRAGMENT_MIDDLE,
      PTDP_FRAGMENT_LAST, h0, ha]

theorem asmG_prefix (a : Asm) (b : Bytes) (f : Bool) (n : Nat) :
    ∀ i, 1 ≤ i → i < n →
      ((List.range i).map (fragOf b f n)).foldl asmStep a = setChan f a (some (slice b 0 (2048 * i))) := by
  intro i
  induction i with
  | zero => intro h; omega
  | succ i ih =>
    intro _ hi
    rw [List.range_succ, List.map_append, List.foldl_append]
    by_cases h1 : i = 0
    · subst h1; simp [asmG_first]
    · rw [ih (by omega) (by omega)]
      simp only [List.map_cons, List.map_nil, List.foldl_cons, List.foldl_nil]
      rw [asmG_middle _ b f n i h1 (by omega), chan_setChan, setChan_setChan]
      simp only [Option.map_some]
      rw [slice_cat _ _ _ _ (by omega) (by omega)]

theorem asmG_packet (a : Asm) (b : Bytes) (f : Bool) :
    (ptdpsOf b f).foldl asmStep a =
      if b.length ≤ 2048 then { a with done := a.done ++ [(b, f)] }
      else setChan f { a with done := a.done ++ [(b, f)] } none := by
  by_cases hs : b.length ≤ 2048
  · rw [ptdpsOf_small b f hs, if_pos hs]; simp [asmG_complete]
  · rw [if_neg hs, ptdpsOf_large b f (by omega)]
    have hn : b.length ≤ 2048 * ((b.length + 2047) / 2048) := by omega
    obtain ⟨m, hm⟩ : ∃ m, (b.length + 2047) / 2048 = m + 1 := ⟨(b.length + 2047) / 2048 - 1, by omega⟩
    rw [hm, List.range_succ, List.map_append, List.foldl_append, ← hm, asmG_prefix a b f _ m (by omega) (by omega)]
    simp only [List.map_cons, List.map_nil, List.foldl_cons, List.foldl_nil]
    rw [asmG_last _ b (slice b 0 (2048 * m)) f _ m (by omega) (by omega) (chan_setChan _ _ _)]
    rw [slice_cat _ _ _ _ (by omega) (by omega)]
    rw [slice_all b (2048 * (m + 1)) (by rw [← hm]; exact hn)]
    cases f <;> simp [setChan]

theorem asm_packet (a : Asm) (ha : a.normal = none) (b : Bytes) :
    (ptdpsOf b false).foldl asmStep a = { a with done := a.done ++ [(b, false)] } := by
  rw [asmG_packet]
  split
  · rfl
  · cases a; simp_all [setChan]

theorem asm_partial (a : Asm) (b : Bytes) (f : Bool) (i : Nat) (hi : i < (ptdpsOf b f).length) :
    (((ptdpsOf b f).take i).foldl asmStep a).done = a.done := by
  by_cases hs : b.length ≤ 2048
  · rw [ptdpsOf_small b f hs] at hi ⊢
    have : i = 0 := by simpa using hi
    subst this; rfl
  · rw [ptdpsOf_large b f (by omega)] at hi ⊢
    simp only [List.length_map, List.length_range] at hi
    rw [← List.map_take, List.take_range, Nat.min_eq_left (by omega)]
    by_cases h0 : i = 0
    · subst h0; rfl
    · rw [asmG_prefix a b f _ i (by omega) hi]; cases f <;> rfl

/-- (1) the reassembler inverts `datapkts_to_ptdp`, from any state with both channels clear -/
theorem asm_datapkts (pkts : List (Bytes × Bool)) :
    ∀ a : Asm, a.normal = none → a.low = none →
      (datapktsToPtdp pkts).foldl asmStep a = { a with done := a.done ++ pkts } := by
  induction pkts with
  | nil => intro a _ _; simp [datapktsToPtdp]
  | cons p r ih =>
    intro a h1 h2
    rw [datapktsToPtdp_cons, List.foldl_append, asmG_packet]
    have hsame : (if p.1.length ≤ 2048 then { a with done := a.done ++ [(p.1, p.2)] }
        else setChan p.2 { a with done := a.done ++ [(p.1, p.2)] } none) = { a with done := a.done ++ [p] } := by
      obtain ⟨b, f⟩ := p
      split
      · rfl
      · cases f <;> simp [setChan, h1, h2]
    rw [hsame, ih { a with done := a.done ++ [p] } h1 h2]
    simp [List.append_assoc]

/-! ### (2) channel independence -/

/-- the run on the PTDPs of channel `f` alone tracks the full run: same open fragment on `f`, the outputs flagged `f` -/
def ChanRel (f : Bool) (A B : Asm) : Prop :=
  B.done = A.done.filter (fun q => q.2 == f) ∧ chan f B = chan f A

theorem asmStep_same (f : Bool) (A B : Asm) (p : PTDP.State) (hp : p.low_latency = f) (h : ChanRel f A B) :
    ChanRel f (asmStep A p) (asmStep B p) := by
  obtain ⟨h1, h2⟩ := h
  subst hp
  refine ⟨?_, by rw [asmStep_eq A, asmStep_eq B, chan_setChan, chan_setChan, h2]⟩
  rw [asmStep_done_eq, asmStep_done_eq, h2, h1, List.filter_append]
  congr 1
  exact (List.filter_eq_self.2 fun q hq => by simp [chanStep_flag _ p q hq]).symm

theorem asmStep_other (f : Bool) (A B : Asm) (p : PTDP.State) (hp : p.low_latency ≠ f) (h : ChanRel f A B) :
    ChanRel f (asmStep A p) B := by
  obtain ⟨h1, h2⟩ := h
  refine ⟨?_, by rw [asmStep_eq A, chan_setChan_ne hp]; exact h2⟩
  rw [asmStep_done_eq, List.filter_append, ← h1,
    List.filter_eq_nil_iff.2 fun q hq => by simp [chanStep_flag _ p q hq, hp], List.append_nil]

theorem asmFold_chan (f : Bool) (ps : List PTDP.State) :
    ∀ A B : Asm, ChanRel f A B →
      ChanRel f (ps.foldl asmStep A) ((ps.filter fun p => p.low_latency == f).foldl asmStep B) := by
  induction ps with
  | nil => intro A B h; exact h
  | cons p r ih =>
    intro A B h
    simp only [List.foldl_cons, List.filter_cons]
    by_cases hp : p.low_latency = f
    · simp only [hp, beq_self_eq_true, if_true, List.foldl_cons]
      exact ih _ _ (asmStep_same f A B p hp h)
    · have : (p.low_latency == f) = false := by simpa using hp
      simp only [this, Bool.false_eq_true, if_false]
      exact ih _ _ (asmStep_other f A B p hp h)

theorem asmStep_normal_rel (a a' : Asm) (p : PTDP.State) (hll : p.low_latency = false) (hn : a.normal = a'.normal) :
    ∃ e, (asmStep a p).done = a.done ++ e ∧ (asmStep a' p).done = a'.done ++ e ∧
      (asmStep a p).normal = (asmStep a' p).normal := by
  have hc : chan p.low_latency a = chan p.low_latency a' := by rw [hll]; exact hn
  refine ⟨_, asmStep_done_eq a p, by rw [asmStep_done_eq, hc], ?_⟩
  rw [asmStep_eq a, asmStep_eq a', hc]
  simp only [hll, setChan, Bool.false_eq_true, if_false]

theorem asmFold_done (qs : List PTDP.State) : ∀ a : Asm, ∃ m, (qs.foldl asmStep a).done = a.done ++ m := by
  induction qs with
  | nil => intro a; exact ⟨[], by simp⟩
  | cons q r ih =>
    intro a
    obtain ⟨m2, h2⟩ := ih (asmStep a q)
    exact ⟨(chanStep (chan q.low_latency a) q).2 ++ m2, by rw [List.foldl_cons, h2, asmStep_done_eq, List.append_assoc]⟩

/-- the PTDP encodings of one normal packet: its share of the stream (`pktEnc_length` bytes) -/
def pktEnc (b : Bytes) : List Bytes := (ptdpsOf b false).map encB

theorem stream_cons (b : Bytes) (rest : List Bytes) :
    stream (b :: rest) = (pktEnc b).flatten ++ stream rest := by
  simp [stream, encs, ptdps, normal, datapktsToPtdp, pktEnc]

/-- number of leading packets whose encodings lie completely within the first `c` bytes of the stream (those whose
    last byte has been emitted, if `c` bytes have been); `doneCount` on the packets' shares (`pktDone_eq`) -/
def pktDone : List Bytes → Nat → Nat
  | [], _ => 0
  | b :: bs, c =>
    if (pktEnc b).flatten.length ≤ c then 1 + pktDone bs (c - (pktEnc b).flatten.length) else 0

/-- (3): the PTDPs that are complete within the first `c` bytes of the stream reassemble to the packets that are -/
theorem asm_stream (pkts : List Bytes) :
    ∀ (c : Nat) (a : Asm), a.normal = none →
      (((ptdps pkts).take (doneCount (encs pkts) c)).foldl asmStep a).done =
        a.done ++ normal (pkts.take (pktDone pkts c)) := by
  induction pkts with
  | nil => intro c a _; simp [ptdps, encs, normal, datapktsToPtdp, doneCount, pktDone]
  | cons b rest ih =>
    intro c a ha
    have hsplit : ptdps (b :: rest) = ptdpsOf b false ++ ptdps rest := by simp [ptdps, normal, datapktsToPtdp]
    rw [encs, hsplit, List.map_append, doneCount_append]
    simp only [pktDone, pktEnc]
    by_cases hfit : ((ptdpsOf b false).map encB).flatten.length ≤ c
    · simp only [hfit, if_true, List.length_map]
      rw [take_prefix_append _ _ _ (by omega), List.foldl_append, asm_packet a ha b]
      rw [show (ptdpsOf b false).length + doneCount _ _ - (ptdpsOf b false).length = doneCount (encs rest)
        (c - ((ptdpsOf b false).map encB).flatten.length) by rw [encs]; omega]
      rw [ih _ _ (by simpa using ha)]
      rw [Nat.add_comm 1, List.take_succ_cons]
      simp [normal]
    · simp only [hfit, if_false]
      have hlt := doneCount_lt ((ptdpsOf b false).map encB) c (by omega)
      simp only [List.length_map] at hlt
      rw [List.take_append_of_le_length (by omega), asm_partial a b false _ hlt]
      simp [normal]

theorem flatten_map_encB_length (ps : List PTDP.State) :
    (ps.map encB).flatten.length = 6 * ps.length + (ps.map (·.payload)).flatten.length := by
  induction ps with
  | nil => rfl
  | cons p ps ih =>
    simp only [List.map_cons, List.flatten_cons, List.length_append, List.length_cons, encB_length, ih]
    omega

/-- bytes a packet occupies in the stream: its own, and 6 header bytes per PTDP -/
theorem pktEnc_length (b : Bytes) :
    (pktEnc b).flatten.length = b.length + 6 * (if b.length ≤ 2048 then 1 else (b.length + 2047) / 2048) := by
  rw [pktEnc, flatten_map_encB_length]
  split
  · rename_i h
    rw [ptdpsOf_small b false h]
    simp [mkPtdp]; omega
  · rename_i h
    rw [ptdpsOf_large b false (by omega), List.map_map]
    have := fragOf_payloads b false
    simp only [Function.comp_def] at this ⊢
    rw [this]
    simp; omega

theorem pktDone_eq (pkts : List Bytes) (c : Nat) :
    pktDone pkts c = doneCount (pkts.map fun b => (pktEnc b).flatten) c := by
  induction pkts generalizing c with
  | nil => rfl
  | cons b r ih => simp only [pktDone, List.map_cons, doneCount, ih]

theorem pktDone_le (pkts : List Bytes) (c : Nat) : pktDone pkts c ≤ pkts.length := by
  rw [pktDone_eq]; simpa using doneCount_le (pkts.map fun b => (pktEnc b).flatten) c

theorem pktDone_mono (pkts : List Bytes) (c c' : Nat) (h : c ≤ c') : pktDone pkts c ≤ pktDone pkts c' := by
  rw [pktDone_eq, pktDone_eq]; exact doneCount_mono _ c c' h

theorem pktEnc_ne (b : Bytes) : (pktEnc b).flatten ≠ [] := by
  obtain ⟨p, r, hp⟩ := List.exists_cons_of_ne_nil (ptdpsOf_ne_nil b false)
  intro h
  have := congrArg List.length h
  simp [pktEnc, hp, encB_length] at this

theorem pktDone_zero (pkts : List Bytes) : pktDone pkts 0 = 0 := by
  rw [pktDone_eq]
  apply doneCount_zero
  intro x hx
  obtain ⟨b, _, rfl⟩ := List.mem_map.1 hx
  exact pktEnc_ne b

theorem asmStep_llp_complete (a : Asm) (q : PTDP.State) (hq : q.fragment = PTDP_FRAGMENT_COMPLETE) :
    asmStep a (asLlp q) = { a with done := a.done ++ [(q.payload, true)] } := by
  simp [asmStep, asLlp, hq]

theorem asmFold_llp_complete (l : List PTDP.State) (hl : ∀ q ∈ l, q.fragment = PTDP_FRAGMENT_COMPLETE) (a : Asm) :
    (l.map asLlp).foldl asmStep a = { a with done := a.done ++ l.map fun q => (q.payload, true) } := by
  induction l generalizing a with
  | nil => simp
  | cons q r ih =>
    simp only [List.map_cons, List.foldl_cons]
    rw [asmStep_llp_complete a q (hl q (by simp)), ih (fun x hx => hl x (by simp [hx]))]
    simp

theorem asmFold_normal_rel (xs : List PTDP.State) (hxs : ∀ p ∈ xs, p.low_latency = false) :
    ∀ (a a' : Asm), a.normal = a'.normal →
      ∃ e, (xs.foldl asmStep a).done = a.done ++ e ∧ (xs.foldl asmStep a').done = a'.done ++ e ∧
        (xs.foldl asmStep a).normal = (xs.foldl asmStep a').normal := by
  induction xs with
  | nil => intro a a' hn; exact ⟨[], by simp, by simp, hn⟩
  | cons p r ih =>
    intro a a' hn
    obtain ⟨e1, h1, h2, h3⟩ := asmStep_normal_rel a a' p (hxs p (by simp)) hn
    obtain ⟨e2, g1, g2, g3⟩ := ih (fun x hx => hxs x (by simp [hx])) (asmStep a p) (asmStep a' p) h3
    refine ⟨e1 ++ e2, ?_, ?_, g3⟩
    · simp only [List.foldl_cons]; rw [g1, h1, List.append_assoc]
    · simp only [List.foldl_cons]; rw [g2, h2, List.append_assoc]

/-- what the consumer has after reassembly: per frame, the low-latency packets it holds (flagged), then
    the normal packets whose last byte lies in that frame -/
def mixPkts (L : Nat) (npkts : List Bytes) : Nat → List (List PTDP.State) → List (Bytes × Bool)
  | _, [] => []
  | c, ll :: r =>
    (ll.map fun q => (q.payload, true)) ++
      normal ((npkts.take (pktDone npkts (c + cap L ll))).drop (pktDone npkts c)) ++
      mixPkts L npkts (c + cap L ll) r

/-- the reassembler's state after the normal PTDPs that lie wholly in the first `c` bytes of the normal stream -/
def asmAt (npkts : List Bytes) (c : Nat) : Asm :=
  ((ptdps npkts).take (doneCount (encs npkts) c)).foldl asmStep { normal := none, low := none, done := [] }

theorem asmAt_done (npkts : List Bytes) (c : Nat) :
    (asmAt npkts c).done = normal (npkts.take (pktDone npkts c)) :=
  (asm_stream npkts c { normal := none, low := none, done := [] } rfl).trans (List.nil_append _)

theorem asmAt_zero (npkts : List Bytes) : asmAt npkts 0 = { normal := none, low := none, done := [] } := by
  have : doneCount (encs npkts) 0 = 0 := doneCount_zero _ (map_encB_ne _)
  simp [asmAt, this]

/-- (4), from a state whose normal channel is what the stream up to the cut `c` leaves open.  Low-latency PTDPs are
    COMPLETE and only append their packet; for the normal PTDPs of a frame the output is the DIFFERENCE of `asm_stream` at
    the two cuts (outputs are only ever appended: `asmFold_normal_rel` carries it over from the run `asmAt`) -/
theorem asm_mix (L : Nat) (npkts : List Bytes) :
    ∀ (lls : List (List PTDP.State)) (c : Nat) (a : Asm),
      (∀ l ∈ lls, ∀ q ∈ l, q.fragment = PTDP_FRAGMENT_COMPLETE) →
      a.normal = (asmAt npkts c).normal →
      ((mixPtdps L (ptdps npkts) c lls).foldl asmStep a).done = a.done ++ mixPkts L npkts c lls := by
  intro lls
  induction lls with
  | nil => intro c a _ _; simp [mixPtdps, mixPkts]
  | cons ll r ih =>
    intro c a hc hn
    simp only [mixPtdps, mixPkts, List.foldl_append]
    rw [asmFold_llp_complete ll (hc ll (by simp))]
    have hmono := doneCount_mono ((ptdps npkts).map encB) c (c + cap L ll) (by omega)
    have hsplit : (ptdps npkts).take (doneCount ((ptdps npkts).map encB) (c + cap L ll)) =
        (ptdps npkts).take (doneCount ((ptdps npkts).map encB) c) ++
          ((ptdps npkts).take (doneCount ((ptdps npkts).map encB) (c + cap L ll))).drop
            (doneCount ((ptdps npkts).map encB) c) :=
      (take_append_slice (ptdps npkts) _ _ hmono).symm
    have hB : ∀ p ∈ ((ptdps npkts).take (doneCount ((ptdps npkts).map encB) (c + cap L ll))).drop
        (doneCount ((ptdps npkts).map encB) c), p.low_latency = false := by
      intro p hp
      exact (ptdps_wf npkts p (List.mem_of_mem_take (List.mem_of_mem_drop hp))).2
    have hT : asmAt npkts (c + cap L ll) =
        (((ptdps npkts).take (doneCount ((ptdps npkts).map encB) (c + cap L ll))).drop
          (doneCount ((ptdps npkts).map encB) c)).foldl asmStep (asmAt npkts c) := by
      simp only [asmAt, encs]
      conv => lhs; rw [hsplit, List.foldl_append]
    obtain ⟨e, h1, h2, h3⟩ := asmFold_normal_rel _ hB (asmAt npkts c)
      { a with done := a.done ++ ll.map fun q => (q.payload, true) } (by simp [hn])
    rw [← hT] at h1 h3
    have he : e = normal ((npkts.take (pktDone npkts (c + cap L ll))).drop (pktDone npkts c)) := by
      rw [asmAt_done, asmAt_done] at h1
      have := congrArg (List.drop (pktDone npkts c)) h1
      rw [List.drop_left' (by simp [normal]; exact Nat.min_eq_left (pktDone_le npkts c))] at this
      rw [← this]; simp [normal, List.map_drop]
    rw [ih (c + cap L ll) _ (fun l hl => hc l (by simp [hl])) h3.symm, h2, he]
    simp [List.append_assoc]

theorem normal_filter_false (xs : List Bytes) : (normal xs).filter (fun q => !q.2) = normal xs := by
  simp [normal, List.filter_eq_self]

theorem normal_filter_true (xs : List Bytes) : (normal xs).filter (fun q => q.2) = [] := by
  simp [normal, List.filter_eq_nil_iff]

theorem mixPkts_normal (L : Nat) (npkts : List Bytes) (lls : List (List PTDP.State)) (c : Nat) :
    (mixPkts L npkts c lls).filter (fun q => !q.2) =
      normal ((npkts.take (pktDone npkts (cutAfter L c lls))).drop (pktDone npkts c)) := by
  induction lls generalizing c with
  | nil => simp [mixPkts, cutAfter, normal]
  | cons ll r ih =>
    simp only [mixPkts, cutAfter, List.filter_append, ih, normal_filter_false]
    have h0 : (ll.map fun q => (q.payload, true)).filter (fun q => !q.2) = [] := by
      simp [List.filter_eq_nil_iff]
    rw [h0, List.nil_append]
    simp only [normal, ← List.map_append]
    rw [take_drop_splice npkts (pktDone_mono npkts c (c + cap L ll) (by omega))
      (pktDone_mono npkts (c + cap L ll) (cutAfter L (c + cap L ll) r) (cutAfter_ge L r _))]

theorem mixPkts_llp (L : Nat) (npkts : List Bytes) (lls : List (List PTDP.State)) (c : Nat) :
    (mixPkts L npkts c lls).filter (fun q => q.2) = lls.flatten.map fun q => (q.payload, true) := by
  induction lls generalizing c with
  | nil => simp [mixPkts]
  | cons ll r ih =>
    simp only [mixPkts, List.filter_append, ih, normal_filter_true, List.flatten_cons, List.map_append,
      List.append_nil]
    congr 1
    simp [List.filter_eq_self]

theorem mixPkts_replicate (L : Nat) (npkts : List Bytes) (n c : Nat) :
    mixPkts L npkts c (List.replicate n []) =
      normal ((npkts.take (pktDone npkts (c + n * L))).drop (pktDone npkts c)) := by
  induction n generalizing c with
  | zero => simp [mixPkts, normal]
  | succ n ih =>
    rw [List.replicate_succ, mixPkts, ih, cap_nil, List.map_nil, List.nil_append]
    simp only [normal, ← List.map_append]
    rw [take_drop_splice npkts (pktDone_mono _ _ _ (by omega)) (pktDone_mono _ _ _ (by omega)), Nat.succ_mul]
    congr 4
    omega

/-! ### the decoder theorem: the consumer loop `decap` (the protocol of Model.Chapter7 for driving `get_aligned_payload`)
    and reassembly on the wire bytes of frames with the mixed layout.  No encoder occurs in it: the round trips of C10
    compose it with what the encapsulator yields (`encap_mix_pkts`) or with the Spec's frames (`spec_frames_eq`). -/

theorem decap_mixFrames (npkts : List Bytes) (L sid : Nat) (hL : 0 < L) (hL2 : L ≤ 2047) (hs : sid < 16)
    (lls : List (List PTDP.State)) (hfit : ∀ l ∈ lls, (llpBytes l).length ≤ L)
    (hq : ∀ l ∈ lls, ∀ q ∈ l, ∃ b, q = llpPtdp b ∧ b.length ≤ 2048)
    (hcut : lls ≠ [] → cutAfter L 0 lls < (stream npkts).length) :
    decap L ((mixFrames L sid (stream npkts) (startsAux 0 (encs npkts)) 0 lls).map wire) =
      ({ ptdps := mixPtdps L (ptdps npkts) 0 lls,
         rem := some (parseB ((stream npkts).take (cutAfter L 0 lls))).2.1,
         first := lls.isEmpty }, none) ∧
    reassemble (mixPtdps L (ptdps npkts) 0 lls) = mixPkts L npkts 0 lls := by
  refine ⟨?_, ?_⟩
  · by_cases hn : lls = []
    · subst hn
      simp [decap, decFold, mixFrames, mixPtdps, cutAfter, parseB_nil]
    · have hfold := decFold_mix L sid hL hL2 hs (ptdps npkts) (ptdps_canon _) lls 0 [] true
        (fun l hl => ⟨hfit l hl, fun q hq' => by
          obtain ⟨b, rfl, hb⟩ := hq l hl q hq'
          exact (llpPtdp_canon b hb).1⟩)
        (hcut hn) (fun _ => rfl)
      simp only [List.take_zero, parseB_nil, List.nil_append, Bool.true_and] at hfold
      exact hfold
  · have := asm_mix L npkts lls 0 { normal := none, low := none, done := [] }
      (fun l hl q hq' => by obtain ⟨b, rfl, _⟩ := hq l hl q hq'; rfl) (by rw [asmAt_zero])
    simpa [reassemble] using this

/-- `decap_mixFrames` at frames without low-latency data: the first `n` pieces of `L` bytes of the stream, more data
    following the last -/
theorem decap_normalFrames (npkts : List Bytes) (L sid : Nat) (hL : 0 < L) (hL2 : L ≤ 2047) (hs : sid < 16) (n : Nat)
    (hcut : 0 < n → n * L < (stream npkts).length) :
    (decap L ((mixFrames L sid (stream npkts) (startsAux 0 (encs npkts)) 0 (List.replicate n [])).map wire)).2 = none ∧
    reassemble (decap L ((mixFrames L sid (stream npkts) (startsAux 0 (encs npkts)) 0 (List.replicate n [])).map wire)).1.ptdps =
      normal (npkts.take (pktDone npkts (n * L))) := by
  obtain ⟨hd, hr⟩ := decap_mixFrames npkts L sid hL hL2 hs (List.replicate n [])
    (fun l hl => by rw [(List.mem_replicate.1 hl).2]; exact Nat.zero_le L)
    (fun l hl q hq => by rw [(List.mem_replicate.1 hl).2] at hq; cases hq)
    (fun hne => by
      rw [cutAfter_replicate, Nat.zero_add]
      exact hcut (Nat.pos_of_ne_zero fun h0 => hne (by rw [h0]; rfl)))
  rw [hd]
  refine ⟨rfl, ?_⟩
  simp only
  rw [hr, mixPkts_replicate, pktDone_zero, List.drop_zero, Nat.zero_add]

end Acra.Lemmas.Chapter7
