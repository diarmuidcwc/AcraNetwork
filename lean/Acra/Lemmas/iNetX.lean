/-
  iNetX: `pack` as one equation (`pack_closed`) and the bytes it emits; `unpack` as a parser of the bytes (`run`,
  `decodes`), and what it makes of the bytes `pack` emitted.
-/
import Acra.Model.iNetX
import Acra.Lemmas.Decoder
import Acra.Spec.FTI
namespace Acra.Lemmas.iNetX
open Acra.Py Acra.Model.iNetX Acra.Gen.iNetX Acra.Lemmas

/-- the seven words `pack` hands to `struct.pack` -/
def hdrVals (s : State) : List Nat :=
  [s.inetxcontrol, s.streamid, s.sequence, s.payload.length + 28, s.ptptimeseconds, s.ptptimenanoseconds, s.pif]

abbrev HdrFits (s : State) : Prop := Fits iNetX_INETX_HEADER_FORMAT.codes (hdrVals s)

/-- the bounds in the shape the C01 well-formedness predicate unfolds to -/
theorem hdrFits (s : State)
    (h : s.inetxcontrol < 2^32 ∧ s.streamid < 2^32 ∧ s.sequence < 2^32 ∧ s.ptptimeseconds < 2^32 ∧
      s.ptptimenanoseconds < 2^32 ∧ s.pif < 2^32 ∧ s.payload.length + 28 < 2^32) : HdrFits s := by
  simp only [HdrFits, hdrVals, Fits, iNetX_INETX_HEADER_FORMAT, Code.bound, and_true]
  omega

theorem encode_eq (s : State) :
    Spec.iNetX.encode s.inetxcontrol s.streamid s.sequence s.ptptimeseconds s.ptptimenanoseconds s.pif s.payload =
      encCodes iNetX_INETX_HEADER_FORMAT.big iNetX_INETX_HEADER_FORMAT.codes (hdrVals s) ++ s.payload := by
  simp [iNetX_INETX_HEADER_FORMAT, hdrVals, encCodes, Code.size, encInt, Spec.iNetX.encode, Nat.add_comm]

theorem pack_closed (s : State) :
    pack s = ({ s with packetlen := s.payload.length + 28 },
      (structPack iNetX_INETX_HEADER_FORMAT (hdrVals s)).map (· ++ s.payload)) := by
  simp only [pack, iNetX_INETX_HEADER_LENGTH, hdrVals]
  cases structPack iNetX_INETX_HEADER_FORMAT _ <;> rfl

theorem pack_fst (s : State) : (pack s).1 = { s with packetlen := s.payload.length + 28 } :=
  congrArg Prod.fst (pack_closed s)

theorem pack_eq (s : State) (h : HdrFits s) :
    pack s = ({ s with packetlen := s.payload.length + 28 },
      .ok (Spec.iNetX.encode s.inetxcontrol s.streamid s.sequence s.ptptimeseconds s.ptptimenanoseconds s.pif
        s.payload)) := by
  rw [pack_closed, structPack_eq _ _ h, encode_eq]
  rfl

theorem hdr_unpack (buf : Bytes) (h : 28 ≤ buf.length) :
    structUnpackFrom iNetX_INETX_HEADER_FORMAT buf 0 =
      .ok [beNat (slice buf 0 4), beNat (slice buf 4 8), beNat (slice buf 8 12), beNat (slice buf 12 16),
        beNat (slice buf 16 20), beNat (slice buf 20 24), beNat (slice buf 24 28)] :=
  (structUnpackFrom_flds _ buf 0).trans (if_pos h)

theorem encode_length (c sid s a b p : Nat) (payload : Bytes) :
    (Spec.iNetX.encode c sid s a b p payload).length = 28 + payload.length := by
  simp [Spec.iNetX.encode]; omega

/-- the state a buffer decodes to -/
def ofBytes (buf : Bytes) : State :=
  { inetxcontrol := beNat (slice buf 0 4), streamid := beNat (slice buf 4 8), sequence := beNat (slice buf 8 12),
    packetlen := beNat (slice buf 12 16), ptptimeseconds := beNat (slice buf 16 20),
    ptptimenanoseconds := beNat (slice buf 20 24), pif := beNat (slice buf 24 28), payload := buf.drop 28 }

/-- `iNetX.unpack` as a parser of the bytes -/
def run (buf : Bytes) : R (State × Unit) :=
  if 28 ≤ buf.length ∧ beNat (slice buf 12 16) = buf.length then .ok (ofBytes buf, ()) else .error .value

/-- On the rejecting branch "length word ≠ buffer length" Python has stored the header fields already; `Decodes` says
    nothing of the object after an exception. -/
theorem decodes : Decodes unpack (fun _ => ()) fun _ => run := by
  intro t buf
  show Agree _ (run buf)
  rw [unpack, run, iNetX_INETX_HEADER_LENGTH]
  by_cases h : buf.length < 28
  · rw [if_pos h, if_neg (by omega)]; rfl
  · rw [if_neg h, hdr_unpack buf (by omega)]
    dsimp only
    by_cases hl : beNat (slice buf 12 16) = buf.length
    · rw [if_neg (fun c => c hl), if_pos ⟨by omega, hl⟩]; rfl
    · rw [if_pos hl, if_neg (fun c => hl c.2)]; rfl

theorem run_ok_iff (buf : Bytes) (s : State) : run buf = .ok (s, ()) ↔
    (28 ≤ buf.length ∧ beNat (slice buf 12 16) = buf.length) ∧ s = ofBytes buf := by
  rw [run, R.ite_ok_eq_ok, Prod.mk.injEq, and_iff_left rfl, eq_comm (a := s)]

theorem unpack_encode (s t : State) (h : HdrFits s) :
    unpack t (Spec.iNetX.encode s.inetxcontrol s.streamid s.sequence s.ptptimeseconds s.ptptimenanoseconds s.pif
      s.payload) = ({ s with packetlen := s.payload.length + 28 }, .ok ()) := by
  have hl : (encCodes iNetX_INETX_HEADER_FORMAT.big _ (hdrVals s)).length = 28 := encCodes_length _ _ _ h
  have hd := drop_append_len (encCodes iNetX_INETX_HEADER_FORMAT.big _ (hdrVals s)) s.payload 28 hl.symm
  have hlen : (encCodes iNetX_INETX_HEADER_FORMAT.big iNetX_INETX_HEADER_FORMAT.codes (hdrVals s) ++ s.payload).length =
      s.payload.length + 28 := by
    rw [List.length_append, hl, Nat.add_comm]
  -- the header read field by field is the header read as a whole
  have hh := structUnpackFrom_enc0 _ _ s.payload h
  rw [encode_eq]
  generalize encCodes _ _ (hdrVals s) ++ s.payload = buf at hd hlen hh ⊢
  rw [hdr_unpack buf (by omega)] at hh
  simp only [hdrVals, Except.ok.injEq, List.cons.injEq, and_true] at hh
  obtain ⟨e1, e2, e3, e4, e5, e6, e7⟩ := hh
  refine decodes.of_run ((run_ok_iff ..).2 ⟨⟨by omega, by omega⟩, ?_⟩)
  simp only [ofBytes, e1, e2, e3, e4, e5, e6, e7, hd]

theorem wf_witness :
    let s : State := { fresh with streamid := 0xDC, payload := [5, 0] }
    s.inetxcontrol < 2^32 ∧ s.streamid < 2^32 ∧ s.sequence < 2^32 ∧ s.ptptimeseconds < 2^32 ∧
    s.ptptimenanoseconds < 2^32 ∧ s.pif < 2^32 ∧ s.payload.length + 28 < 2^32 := by
  decide

end Acra.Lemmas.iNetX
