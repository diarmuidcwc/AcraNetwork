/-
  Helper lemmas for the Golay source ties (`Props/C11/SrcTie.lean`): loops that fill a table cell by cell.
-/
import Acra.Py.IntOps
import Acra.Gen.Src.Golay
import Acra.Model.Golay
import Acra.Lemmas.Golay
import Acra.Lemmas.SrcTieLoop
namespace Acra.Lemmas.SrcTieGolay
open Acra Acra.Py Acra.Lemmas.SrcTieLoop

theorem intAt_natCast (T : List Int) (x : Nat) : intAt T (x : Int) = T.getD x 0 := rfl
theorem setAt_natCast (T : List Int) (x : Nat) (v : Int) : setAt T (x : Int) v = T.set x v := rfl

theorem foldl_cell (x : Nat) (c : Int → Prop) [DecidablePred c] (h : Int → Int → Int) (is : List Int)
    (T : List Int) (hx : x < T.length) :
    List.foldl (fun (T : List Int) (i : Int) => if c i then T.set x (h (T.getD x 0) i) else T) T is
      = T.set x (List.foldl (fun (a : Int) (i : Int) => if c i then h a i else a) (T.getD x 0) is) := by
  induction is generalizing T with
  | nil =>
    simp only [List.foldl_nil]
    simp [List.getD_eq_getElem?_getD, hx]
  | cons i is ih =>
    simp only [List.foldl_cons]
    by_cases hc : c i
    · simp only [if_pos hc]
      rw [ih _ (by simpa using hx)]
      simp [List.getD_eq_getElem?_getD, hx]
    · simp only [if_neg hc]
      exact ih T hx

/-- the table under construction after `k` passes -/
def mk (N : Nat) (f : Nat → Int) (k : Nat) : List Int := (List.range k).map f ++ List.replicate (N - k) 0

theorem mk_length (N : Nat) (f : Nat → Int) (k : Nat) (h : k ≤ N) : (mk N f k).length = N := by
  simp [mk]; omega

theorem mk_getD (N : Nat) (f : Nat → Int) (k : Nat) : (mk N f k).getD k 0 = 0 := by
  unfold mk
  rw [List.getD_eq_getElem?_getD, List.getElem?_append_right (by simp)]
  simp only [List.length_map, List.length_range, Nat.sub_self]
  rw [List.getElem?_replicate]
  split <;> rfl

theorem mk_set (N : Nat) (f : Nat → Int) (k : Nat) (h : k < N) : (mk N f k).set k (f k) = mk N f (k + 1) := by
  unfold mk
  have hrep : List.replicate (N - k) (0 : Int) = 0 :: List.replicate (N - (k + 1)) 0 := by
    rw [show N - k = (N - (k + 1)) + 1 by omega, List.replicate_succ]
  rw [hrep, List.set_append_right _ _ (by simp), List.range_succ, List.map_append]
  simp

theorem mk_zero (N : Nat) (f : Nat → Int) : mk N f 0 = List.replicate N 0 := by simp [mk]
theorem mk_full (N : Nat) (f : Nat → Int) : mk N f N = (List.range N).map f := by simp [mk]

theorem foldl_table (N : Nat) (f : Nat → Int) (step : List Int → Int → List Int)
    (hstep : ∀ (T : List Int) (x : Nat), x < T.length → step T (x : Int) = T.set x (f x)) :
    List.foldl step (List.replicate N 0) (Py.range (N : Int)) = (List.range N).map f := by
  have := for_inv Int.ofNat (fun k T => T = mk N f k) step N (fun k T hk hT => by
    rw [hT, show Int.ofNat k = (k : Int) from rfl, hstep _ k (by rw [mk_length _ _ _ (by omega)]; omega),
      mk_set N f k hk]) (List.replicate N 0) (mk_zero N f).symm
  rw [Py.range_natCast, this, mk_full]

/-- the row loop `for i in range(len(rows)): if (x >> (len(rows) - 1 - i)) & 1: a = h(a, rows[i])` against a model `M` that
    recurses over the rows (`rowXorAcc`, `initEntry`), for any state type -/
theorem rows_fold {σ τ : Type} (φ : τ → σ) (M : List Nat → Nat → τ → τ) (H : τ → Nat → τ)
    (hnil : ∀ x a, M [] x a = a)
    (hcons : ∀ r rs x a, M (r :: rs) x a = M rs x (if (x >>> rs.length) &&& 1 ≠ 0 then H a r else a))
    (h : σ → Int → σ) (hh : ∀ a (r : Nat), h (φ a) (r : Int) = φ (H a r)) (rows : List Nat) (x : Nat) (a0 : τ) :
    List.foldl (fun a i => if band (shr (x : Int) (((rows.length - 1 : Nat) : Int) - i)) 1 ≠ 0
        then h a (intAt (rows.map Int.ofNat) i) else a) (φ a0) (Py.range (rows.length : Int))
      = φ (M rows x a0) := by
  obtain ⟨a', h1, h2⟩ := for_inv Int.ofNat (fun k a => ∃ a', a = φ a' ∧ M rows x a0 = M (rows.drop k) x a')
    (fun a i => if band (shr (x : Int) (((rows.length - 1 : Nat) : Int) - i)) 1 ≠ 0
        then h a (intAt (rows.map Int.ofNat) i) else a) rows.length
    (fun k a hk ⟨a', ha, hw⟩ => by
      have e : (((rows.length - 1 : Nat) : Int) - (k : Int)).toNat = (rows.drop (k + 1)).length := by
        rw [List.length_drop]; omega
      have hr : intAt (rows.map Int.ofNat) (k : Int) = (rows[k] : Int) := by
        simp [intAt, List.getD_eq_getElem?_getD, hk]
      rw [List.drop_eq_getElem_cons hk, hcons] at hw
      refine ⟨_, ?_, hw⟩
      simp only [ha, shr_natCast, band_natCast_lit, e, ne_eq, Int.natCast_eq_zero, hr,
        show Int.ofNat k = (k : Int) from rfl, hh]
      exact (apply_ite φ _ _ _).symm) (φ a0) ⟨a0, rfl, rfl⟩
  rw [Py.range_natCast, h1, h2, List.drop_length, hnil]

/-- the inner loop of `_init_Table` for one `x` -/
theorem encode_entry_fold (x : Nat) :
    List.foldl (fun (a : Int) (i : Int) =>
        if band (shr (x : Int) (11 - i)) 1 ≠ 0 then bxor a (intAt Gen.Src.Golay.G_P i) else a)
      (shl (x : Int) 12) (Py.range 12)
    = (Model.Golay.encodeEntry x : Int) :=
  rows_fold (fun a : Nat => (a : Int)) Model.Golay.rowXorAcc (· ^^^ ·) (fun _ _ => rfl) (fun _ _ _ _ => rfl) bxor
    (fun _ _ => rfl) Gen.Golay.G_P x (x <<< 12)

/-- a model table (`Array Nat`) as the Python list of ints the instance attribute holds -/
def pyList (T : Array Nat) : List Int := T.toList.map Int.ofNat

/-- `self.SyndromeTable` in model state `s`: filled by `_initgolaydecode`, all zero before -/
def synList (s : Model.Golay.State) : List Int :=
  if s.inited then pyList Model.Golay.synTable else List.replicate 4096 0

theorem synList_inited : synList ⟨true⟩ = pyList Model.Golay.synTable := if_pos rfl

@[simp] theorem pyList_length (T : Array Nat) : (pyList T).length = T.size := by simp [pyList]

theorem pyList_getD (T : Array Nat) (i : Nat) : (pyList T).getD i 0 = ((T.getD i 0 : Nat) : Int) := by
  simp only [pyList, List.getD_eq_getElem?_getD, List.getElem?_map, Array.getElem?_toList, Array.getD_eq_getD_getElem?]
  cases T[i]? <;> rfl

theorem synTable_size : Model.Golay.synTable.size = 4096 := by simp [Model.Golay.synTable, Gen.Golay.GOLAY_SIZE]

theorem decode2_abs (S : List Int) (C : Array Nat) (v1 : Nat) (v2 : Int) (idx : Nat)
    (hs : Gen.Src.Golay.Golay._syndrome2 S v1 v2 = .ok (idx : Int)) :
    Gen.Src.Golay.Golay._decode2 S (pyList C) v1 v2
      = (Model.Golay.lookup C idx (fun c => v1 ^^^ c)).map Int.ofNat := by
  unfold Gen.Src.Golay.Golay._decode2
  rw [hs]
  simp only [bind, Except.bind, Model.Golay.lookup]
  by_cases hi : idx < C.size
  · rw [getItem_lt _ _ (by rw [pyList_length]; exact hi), pyList_getD]
    simp [Array.getD_eq_getD_getElem?, Array.getElem?_eq_getElem hi, Except.map]
  · rw [getItem_ge _ _ (by rw [pyList_length]; exact Nat.le_of_not_lt hi)]
    simp [Array.getElem?_eq_none (Nat.le_of_not_lt hi), Except.map]

/-- the loop of `_onesincode_old` -/
theorem ones_fold (code size : Nat) :
    List.foldl (fun (ret : Int) (t : Int) => if band (shr (code : Int) t) 1 ≠ 0 then ret + 1 else ret) 0
      (Py.range (size : Int))
    = ((((List.range size).filter (fun i => code.testBit i)).length : Nat) : Int) := by
  rw [Py.range_natCast]
  refine for_inv Int.ofNat (fun n ret => ret = ((((List.range n).filter (fun i => code.testBit i)).length : Nat) : Int))
    _ size (fun n ret _ hret => ?_) 0 rfl
  have hb : (band (shr (code : Int) (Int.ofNat n)) 1 ≠ 0) ↔ code.testBit n = true := by
    show band (shr (code : Int) ((n : Nat) : Int)) 1 ≠ 0 ↔ _
    simp only [shr_natCast, Int.toNat_natCast, band_natCast_lit, ne_eq, Int.natCast_eq_zero, Nat.testBit,
      Nat.and_comm 1, bne_iff_ne]
  rw [hret, List.range_succ, List.filter_append, List.length_append]
  by_cases h : code.testBit n = true
  · rw [if_pos (hb.mpr h)]; simp [h]
  · rw [if_neg (fun hc => h (hb.mp hc))]; simp [h]

theorem synList_length (s : Model.Golay.State) : (synList s).length = 4096 := by
  unfold synList
  split
  · rw [pyList_length, synTable_size]
  · exact List.length_replicate

theorem synList_getD (s : Model.Golay.State) (i : Nat) (h : i < 4096) :
    (synList s).getD i 0 = (((if s.inited then Model.Golay.synTable.getD i 0 else 0) : Nat) : Int) := by
  unfold synList
  split
  · exact pyList_getD _ _
  · rw [List.getD_eq_getElem?_getD, List.getElem?_replicate, if_pos h]; rfl

end Acra.Lemmas.SrcTieGolay
