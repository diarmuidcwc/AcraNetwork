/-
  Bit operations of the models (`&`, `>>`, `<<`, `|` with literal masks and shifts) as arithmetic.
  The lemmas tagged `bits` form one simp set: `simp only [bits]` (or `bits_simp`, everywhere) leaves
  `%`, `/`, `*` by literals, which `omega` decides.  `field_low` / `field_step` read the fields of a packed word back
  where `omega` would be slow to check.
  The second half (`single bits and XOR`) is not arithmetic: `testBit` of the model's bit tests, XOR against `|` and
  `%`, and `xor_induction`, by which a property that XOR preserves is checked on 0 and the powers of two.  The
  GF(2)-linearity arguments (Golay) rest on it.
-/
import Acra.Lemmas.BitsAttr
namespace Acra.Lemmas.Bits

theorem and_low (x m j : Nat) (h : m + 1 = 2 ^ j) : x &&& m = x % 2 ^ j := by
  have : m = 2 ^ j - 1 := by omega
  rw [this, Nat.and_two_pow_sub_one_eq_mod]

@[bits] theorem shr (x n : Nat) : x >>> n = x / 2 ^ n := Nat.shiftRight_eq_div_pow x n
@[bits] theorem shl (x n : Nat) : x <<< n = x * 2 ^ n := Nat.shiftLeft_eq x n

/-! The low masks that occur as literals in the models, one lemma per literal (a literal mask is not of
    the form `2 ^ j - 1` syntactically, so `simp` needs each spelled out). -/
@[bits] theorem and_1 (x : Nat) : x &&& 1 = x % 2 := and_low x _ 1 rfl
@[bits] theorem and_3 (x : Nat) : x &&& 3 = x % 4 := and_low x _ 2 rfl
@[bits] theorem and_7 (x : Nat) : x &&& 7 = x % 8 := and_low x _ 3 rfl
@[bits] theorem and_F (x : Nat) : x &&& 0xF = x % 16 := and_low x _ 4 rfl
@[bits] theorem and_1F (x : Nat) : x &&& 0x1F = x % 32 := and_low x _ 5 rfl
@[bits] theorem and_3F (x : Nat) : x &&& 0x3F = x % 64 := and_low x _ 6 rfl
@[bits] theorem and_7F (x : Nat) : x &&& 0x7F = x % 128 := and_low x _ 7 rfl
@[bits] theorem and_FF (x : Nat) : x &&& 0xFF = x % 256 := and_low x _ 8 rfl
@[bits] theorem and_1FF (x : Nat) : x &&& 0x1FF = x % 512 := and_low x _ 9 rfl
@[bits] theorem and_7FF (x : Nat) : x &&& 0x7FF = x % 2048 := and_low x _ 11 rfl
@[bits] theorem and_FFF (x : Nat) : x &&& 0xFFF = x % 4096 := and_low x _ 12 rfl
@[bits] theorem and_7FFF (x : Nat) : x &&& 0x7FFF = x % 32768 := and_low x _ 15 rfl
@[bits] theorem and_FFFF (x : Nat) : x &&& 0xFFFF = x % 65536 := and_low x _ 16 rfl
@[bits] theorem and_FFFFF (x : Nat) : x &&& 0xFFFFF = x % 1048576 := and_low x _ 20 rfl
@[bits] theorem and_FFFFFF (x : Nat) : x &&& 0xFFFFFF = x % 16777216 := and_low x _ 24 rfl
@[bits] theorem and_FFFFFFF (x : Nat) : x &&& 0xFFFFFFF = x % 268435456 := and_low x _ 28 rfl
@[bits] theorem and_FFFFFFFF (x : Nat) : x &&& 0xFFFFFFFF = x % 4294967296 := and_low x _ 32 rfl

/-- `simp only [bits]` on every hypothesis and the goal, with the powers of two evaluated -/
macro "bits_simp" : tactic =>
  `(tactic| simp only [bits, Nat.reducePow, Nat.reduceSub, Nat.reduceAdd, Nat.reduceMul] at *)

/-- a mask `m · 2^k` with `m = 2^j − 1` selects the field of width `j` at bit `k`, left in place -/
theorem and_field (x m j k mk : Nat) (h : m + 1 = 2 ^ j) (hmk : mk = m * 2 ^ k) :
    x &&& mk = (x / 2 ^ k % 2 ^ j) * 2 ^ k := by
  have hm : m = 2 ^ j - 1 := by omega
  subst hmk
  apply Nat.eq_of_testBit_eq
  intro i
  rw [Nat.testBit_and, Nat.testBit_mul_two_pow, Nat.testBit_mul_two_pow, Nat.testBit_mod_two_pow,
    Nat.testBit_div_two_pow, hm, Nat.testBit_two_pow_sub_one]
  by_cases hk : k ≤ i
  · simp only [hk, decide_true, Bool.true_and]
    rw [Nat.sub_add_cancel hk, Bool.and_comm]
  · simp [hk]

theorem and_FFF8 (x : Nat) : x &&& 0xFFF8 = x % 65536 / 8 * 8 := by
  rw [and_field x 0x1FFF 13 3 _ rfl rfl]; omega

theorem shl_or (hi lo k : Nat) (h : lo < 2 ^ k) : (hi <<< k) ||| lo = hi * 2 ^ k + lo := by
  rw [← Nat.shiftLeft_add_eq_or_of_lt h, Nat.shiftLeft_eq]

theorem or_shl (hi lo k : Nat) (h : lo < 2 ^ k) : lo ||| (hi <<< k) = hi * 2 ^ k + lo := by
  rw [Nat.or_comm, shl_or hi lo k h]

theorem and_low_of_lt (x m j : Nat) (h : m + 1 = 2 ^ j) (hx : x < 2 ^ j) : x &&& m = x := by
  rw [and_low x m j h, Nat.mod_eq_of_lt hx]

/-- the lowest field of a packed word `v`: `r` below `d`, `q` above -/
theorem field_low (v d q r : Nat) (hr : r < d) (h : v = q * d + r) : v / d = q ∧ v % d = r := by
  subst h
  rw [Nat.add_comm, Nat.add_mul_div_right _ _ (Nat.zero_lt_of_lt hr), Nat.add_mul_mod_self_right, Nat.div_eq_of_lt hr,
    Nat.mod_eq_of_lt hr, Nat.zero_add]
  exact ⟨rfl, rfl⟩

/-- the next field up: when `q * m + r` stands above `d`, the field of width `m` at `d` holds `r` and `q` stands above
    it.  The fields of `((a * m₂ + b) * m₁ + c) * d + e` come off one at a time, lowest first, each step handing its
    first conjunct to the next. -/
theorem field_step (v d m q r : Nat) (hr : r < m) (h : v / d = q * m + r) : v / (d * m) = q ∧ v / d % m = r := by
  rw [← Nat.div_div_eq_div_mul]
  exact field_low _ m q r hr h

theorem bit_step (v d q r : Nat) (hr : r < 2) (h : v / d = 2 * q + r) : v / (d * 2) = q ∧ v / d % 2 = r :=
  field_step v d 2 q r hr (h.trans (congrArg (· + r) (Nat.mul_comm 2 q)))

theorem flag_lt (c : Bool) : (if c then 1 else 0) < 2 := by cases c <;> decide

theorem word_hi (hi lo : Nat) (h : lo < 4294967296) : (hi * 4294967296 + lo) >>> 32 = hi :=
  (shr _ 32).trans (field_low _ _ hi lo h rfl).1

theorem word_lo (hi lo : Nat) (h : lo < 4294967296) : (hi * 4294967296 + lo) &&& 0xffffffff = lo :=
  (and_FFFFFFFF _).trans (field_low _ _ hi lo h rfl).2

theorem or_nibbles4 (d0 d1 d2 d3 : Nat) (h0 : d0 < 16) (h1 : d1 < 16) (h2 : d2 < 16) :
    (((0 ||| d3 <<< 12) ||| d2 <<< 8) ||| d1 <<< 4) ||| d0 <<< 0 = d0 + 16 * d1 + 256 * d2 + 4096 * d3 := by
  rw [Nat.zero_or, Nat.shiftLeft_zero, Nat.or_assoc, Nat.or_assoc, shl_or d1 d0 4 h0,
    shl_or d2 (d1 * 2 ^ 4 + d0) 8 (by omega), shl_or d3 (d2 * 2 ^ 8 + (d1 * 2 ^ 4 + d0)) 12 (by omega)]
  omega

/-! ### single bits and XOR -/

theorem bit_test (x n : Nat) : ((x >>> n) &&& 1 ≠ 0) ↔ x.testBit n = true := by
  simp [Nat.testBit, Nat.and_comm]

theorem ite_xor_bool (p q : Bool) (r : Nat) : (if (p ^^ q) = true then r else 0) =
    (if p = true then r else 0) ^^^ (if q = true then r else 0) := by
  cases p <;> cases q <;> simp

theorem xor_cancel_right (a b c : Nat) (h : a ^^^ c = b ^^^ c) : a = b := by
  have := congrArg (· ^^^ c) h
  simpa [Nat.xor_assoc, Nat.xor_self] using this

theorem xor_eq_zero_iff (a b : Nat) : a ^^^ b = 0 ↔ a = b :=
  ⟨fun h => xor_cancel_right a b b (h.trans (Nat.xor_self b).symm), fun h => h ▸ Nat.xor_self a⟩

theorem xor_xor_xor_comm (a b c d : Nat) : (a ^^^ b) ^^^ (c ^^^ d) = (a ^^^ c) ^^^ (b ^^^ d) := by
  rw [Nat.xor_assoc, Nat.xor_assoc, ← Nat.xor_assoc b, ← Nat.xor_assoc c, Nat.xor_comm b c]

theorem shiftLeft_or_eq_xor (a b n : Nat) (hb : b < 2 ^ n) : a <<< n ||| b = a <<< n ^^^ b := by
  apply Nat.eq_of_testBit_eq
  intro i
  rw [Nat.testBit_or, Nat.testBit_xor, Nat.testBit_shiftLeft]
  by_cases hi : n ≤ i
  · simp [Nat.testBit_lt_two_pow (Nat.lt_of_lt_of_le hb (Nat.pow_le_pow_right (by decide) hi))]
  · simp [hi]

theorem shiftRight_shiftLeft_xor_mod (e n : Nat) : (e >>> n) <<< n ^^^ e % 2 ^ n = e := by
  have hlt := Nat.mod_lt e (Nat.two_pow_pos n)
  rw [← shiftLeft_or_eq_xor _ _ n hlt, shl_or _ _ n hlt, shr, Nat.div_add_mod']

theorem mod_two_pow_succ (x n : Nat) :
    x % 2 ^ (n + 1) = (if x.testBit n then 2 ^ n else 0) + x % 2 ^ n := by
  rw [Nat.pow_succ, Nat.mod_mul, ← Nat.toNat_testBit]
  cases x.testBit n <;> simp [Nat.add_comm]

theorem mod_two_pow_succ_xor (x n : Nat) :
    x % 2 ^ (n + 1) = (if x.testBit n then 2 ^ n else 0) ^^^ x % 2 ^ n := by
  have hlt := Nat.mod_lt x (Nat.two_pow_pos n)
  rw [mod_two_pow_succ]
  split
  · have h := Nat.shiftLeft_add_eq_or_of_lt hlt 1
    rwa [shiftLeft_or_eq_xor _ _ n hlt, Nat.one_shiftLeft] at h
  · rw [Nat.zero_add, Nat.zero_xor]

theorem lt_two_pow_of_top_clear (x n : Nat) (hx : x < 2 ^ (n + 1)) (hn : x.testBit n = false) :
    x < 2 ^ n := by
  have h := mod_two_pow_succ x n
  rw [hn, Nat.mod_eq_of_lt hx] at h
  rw [h]
  exact Nat.lt_of_le_of_lt (Nat.le_of_eq (Nat.zero_add _)) (Nat.mod_lt x (Nat.two_pow_pos n))

theorem xor_induction {n : Nat} {P : Nat → Prop} (h0 : P 0) (hb : ∀ i, i < n → P (2 ^ i))
    (hx : ∀ a b, a < 2 ^ n → b < 2 ^ n → P a → P b → P (a ^^^ b)) : ∀ x, x < 2 ^ n → P x := by
  induction n with
  | zero =>
    intro x h
    rw [show x = 0 by omega]
    exact h0
  | succ n ih =>
    intro x h
    have hlt : 2 ^ n < 2 ^ (n + 1) := Nat.pow_lt_pow_right (by decide) (Nat.lt_succ_self n)
    have hm : x % 2 ^ n < 2 ^ n := Nat.mod_lt _ (Nat.two_pow_pos n)
    have hlow : P (x % 2 ^ n) :=
      ih (fun i hi => hb i (Nat.lt_succ_of_lt hi))
        (fun a b ha hb' => hx a b (Nat.lt_trans ha hlt) (Nat.lt_trans hb' hlt)) _ hm
    rw [← Nat.mod_eq_of_lt h, mod_two_pow_succ_xor]
    split
    · exact hx _ _ hlt (Nat.lt_trans hm hlt) (hb n (Nat.lt_succ_self n)) hlow
    · rw [Nat.zero_xor]
      exact hlow

end Acra.Lemmas.Bits
