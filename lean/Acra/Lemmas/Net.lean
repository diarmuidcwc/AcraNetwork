/-
  Helper lemmas for the `net` family (SimpleEthernet): pack48/unpack48; each decoder as a parser of the buffer
  (`ethRun`, `ipRun`, `udpRun`, `arpRun`, in terms of the big-endian fields `fld buf lo hi`) with `Decodes` proved once
  from the model; the bytes the encoders emit under the well-formedness predicates, which are the layouts of
  Spec/Net.lean; and what the parsers read back from them (`fld_skip` / `fld_head` walk to a field of an emitted frame).
  Also here: the IP header checksum as the code computes it (`ipCalcChecksum_eq`, `cksum_field`), ICMP, and the IGMP
  report (`onesCompAdd16_eq`, `foldl_onesCompAdd16`, `joinBody_eq`).
-/
import Acra.Model.Net
import Acra.Lemmas.Sum16
import Acra.Lemmas.CRC
import Acra.Lemmas.Bits
import Acra.Lemmas.Decoder
namespace Acra.Lemmas.Net
open Acra.Py Acra.Model.Net Acra.Gen.Net Acra.Lemmas.Bits Acra.Lemmas

theorem fits48_cons (x : Nat) (h : x < 2 ^ 48) (cs : List Code) (vs : List Nat) :
    Fits (.u16 :: .u32 :: cs) (x / 4294967296 :: x % 4294967296 :: vs) ↔ Fits cs vs := by
  simp only [Fits, Code.bound]
  exact ⟨fun h' => h'.2.2, fun h' => ⟨by omega, by omega, h'⟩⟩

theorem enc48_cons (x : Nat) (cs : List Code) (vs : List Nat) :
    encCodes true (.u16 :: .u32 :: cs) (x / 4294967296 :: x % 4294967296 :: vs) = beBytes 6 x ++ encCodes true cs vs := by
  simp only [encCodes, Code.size, encInt_big, beBytes6_split, List.append_assoc]

/-- beyond 48 bits the high half does not fit "H" -/
theorem pack48_eq (x : Nat) : pack48 x = if x < 2 ^ 48 then .ok (beBytes 6 x) else .error .struct := by
  simp only [pack48, bits, Nat.reducePow]
  split
  · next h =>
    rw [structPack_eq _ _ ((fits48_cons x h [] []).2 trivial)]
    exact congrArg _ ((enc48_cons x [] []).trans (List.append_nil _))
  · next h =>
    have : ¬ (x / 4294967296 < 65536) := by omega
    simp [structPack, pack48_fmt0, packCodes, Code.bound, this]

theorem unpack48_eq (b : Bytes) : unpack48 b = if b.length = 6 then .ok (beNat b) else .error .struct := by
  rw [unpack48, structUnpack_flds, show unpack48_fmt0.size = 6 from rfl]
  by_cases h : b.length = 6
  · have h2 : beNat (slice b 2 6) < 2 ^ 32 := by
      have := beNat_lt (slice b 2 6); rw [slice_length, h] at this; exact this
    have hb : beNat b = beNat (slice b 2 6) + beNat (slice b 0 2) * 256 ^ (6 - 2) := by
      rw [← beNat_slice_cat b 0 2 6 (by decide) (by decide) (Nat.le_of_eq h.symm), slice_all b 6 (Nat.le_of_eq h)]
    rw [if_pos h, if_pos h, hb, Nat.add_comm]
    exact congrArg Except.ok (or_shl _ _ 32 h2)
  · rw [if_neg h, if_neg h]

/-- the big-endian field `buf[lo:hi]`.  It is `beNat (slice buf lo hi)`, as the property statements spell it out, and
    `decInt true (slice buf lo hi)`, as `Py.flds true` lists it: all three agree by `rfl`.  The family writes `fld`
    because its decoded objects (`ethDec`, `ipFromWire`, `arpDec`) name a dozen fields each. -/
def fld (buf : Bytes) (lo hi : Nat) : Nat := beNat (slice buf lo hi)

/-! A field of a frame written as a concatenation of big-endian pieces: `simp only [fld_skip, fld_head, …]`
    with the piece lengths walks to the piece and reads its value. -/

theorem fld_skip (a b : Bytes) (lo hi : Nat) (h : a.length ≤ lo) :
    fld (a ++ b) lo hi = fld b (lo - a.length) (hi - a.length) := by
  rw [fld, slice_skip _ _ _ _ h]; rfl

theorem fld_head (k v : Nat) (b : Bytes) (h : v < 256 ^ k) : fld (beBytes k v ++ b) 0 k = v := by
  rw [fld, slice_prefix _ _ _ (beBytes_length k v).symm, beNat_beBytes_of_lt _ _ h]

theorem fld_last (k v : Nat) (h : v < 256 ^ k) : fld (beBytes k v) 0 k = v := by
  rw [fld, slice_all _ _ (Nat.le_of_eq (beBytes_length k v)), beNat_beBytes_of_lt _ _ h]

theorem fld_append_left (a b : Bytes) (lo hi : Nat) (h : hi ≤ a.length) : fld (a ++ b) lo hi = fld a lo hi := by
  rw [fld, slice_append_left _ _ h]; rfl

theorem fld_lt (h : Bytes) (a k : Nat) : fld h a (a + k) < 256 ^ k := by
  refine Nat.lt_of_lt_of_le (beNat_lt _) (Nat.pow_le_pow_right (by decide) ?_)
  rw [slice_length]; omega

theorem take4_drop (buf : Bytes) (n : Nat) : List.take 4 (List.drop n buf) = slice buf n (n + 4) :=
  take_drop_slice buf n 4
theorem take1_drop (buf : Bytes) (n : Nat) : List.take 1 (List.drop n buf) = slice buf n (n + 1) :=
  take_drop_slice buf n 1

theorem drop_skip (a b : List α) (n : Nat) (h : a.length ≤ n) : List.drop n (a ++ b) = List.drop (n - a.length) b :=
  drop_prefix_append a b n h

theorem unpack48_slice (buf : Bytes) (a : Nat) :
    unpack48 (slice buf a (a + 6)) = if buf.length < a + 6 then .error .struct else .ok (fld buf a (a + 6)) := by
  have : (slice buf a (a + 6)).length = 6 ↔ ¬ buf.length < a + 6 := by simp; omega
  simp only [unpack48_eq, this, ite_not]; rfl

/-- the frame carries an 802.1Q tag -/
def tagged (buf : Bytes) : Bool := fld buf 12 14 = ETH_TYPE_VLAN

/-- the header length the frame itself announces -/
def hdrLen (buf : Bytes) : Nat := if tagged buf then 18 else 14

theorem hdrLen_ge (buf : Bytes) : 14 ≤ hdrLen buf := by unfold hdrLen; split <;> omega

/-- what `Ethernet.unpack(buf, fcs)` leaves in the object: every attribute is assigned -/
def ethDec (buf : Bytes) (fcs : Bool) : Eth :=
  { dstmac := fld buf 0 6, srcmac := fld buf 6 12, vlan := tagged buf,
    vlantag := if tagged buf then fld buf 14 16 else 0xFFFF,
    type := if tagged buf then fld buf 16 18 else fld buf 12 14,
    payload := if fcs then slice buf (hdrLen buf) (buf.length - 4) else buf.drop (hdrLen buf) }

/-- `Ethernet.unpack` as a function of `(buf, fcs)`: `struct.error` unless the buffer holds the header it announces;
    with `fcs` the last four bytes are compared with the CRC-32 of the rest (a bare `Exception`).  The two arguments
    come as a pair because `Decodes` knows one input type. -/
def ethRun (b : Bytes × Bool) : R (Eth × Unit) :=
  if b.1.length < hdrLen b.1 then .error .struct
  else if b.2 = true ∧ crc32 (b.1.take (b.1.length - 4)) ≠ leNat (b.1.drop (b.1.length - 4)) then .error .generic
  else .ok (ethDec b.1 b.2, ())

/-- On the rejecting branch "VLAN ethertype, fewer than 18 bytes" Python has assigned both MACs and `self.vlan = True`
    before the `unpack_from(">HH", buf, 14)` that raises; `Decodes` says nothing of the object after an exception. -/
theorem Eth_decodes : Decodes (fun t (b : Bytes × Bool) => Eth.unpack t b.1 b.2) (fun _ => ()) fun _ => ethRun := by
  rintro t ⟨buf, fcs⟩
  show Agree (Eth.unpack t buf fcs) (ethRun (buf, fcs))
  have hty : structUnpackFrom Eth_unpack_fmt0 buf 12 = if 14 ≤ buf.length then .ok [fld buf 12 14] else .error .struct :=
    structUnpackFrom_flds _ buf 12
  have htag : structUnpackFrom Eth_unpack_fmt1 buf 14 =
      if 18 ≤ buf.length then .ok [fld buf 14 16, fld buf 16 18] else .error .struct := structUnpackFrom_flds _ buf 14
  simp only [Eth.unpack, ethRun, ethDec, take_eq_slice0 buf 6, unpack48_slice buf 0, unpack48_slice buf 6, hty, htag,
    Nat.reduceAdd]
  -- by the range the length falls in; every test on either side is then decided
  by_cases h14 : 14 ≤ buf.length
  · have hfcs : structUnpack Eth_unpack_fmt2 (buf.drop (buf.length - 4)) = .ok [leNat (buf.drop (buf.length - 4))] := by
      have hl4 : (List.drop (buf.length - 4) buf).length = 4 := by simp; omega
      rw [structUnpack_flds, show Eth_unpack_fmt2.size = 4 from rfl, if_pos hl4]
      exact congrArg (fun x => Except.ok [leNat x]) (slice_all _ 4 (Nat.le_of_eq hl4))
    simp only [h14, show ¬ buf.length < 6 by omega, show ¬ buf.length < 12 by omega, if_true, if_false, hfcs]
    by_cases hv : fld buf 12 14 = ETH_TYPE_VLAN
    · by_cases h18 : 18 ≤ buf.length
      · simp only [hdrLen, tagged, hv, h18, Nat.not_lt.2 h18, decide_true, if_true, if_false, ETH_HEADERLEN_VLAN]
        cases fcs
        · simp only [Bool.false_eq_true, false_and, if_false]; rfl
        · simp only [true_and, if_true]; split <;> rfl
      · simp only [hdrLen, tagged, hv, h18, Nat.lt_of_not_le h18, decide_true, if_true, if_false]; rfl
    · simp only [hdrLen, tagged, hv, Nat.not_lt.2 h14, decide_false, Bool.false_eq_true, if_false, ETH_HEADERLEN]
      cases fcs
      · simp only [Bool.false_eq_true, false_and, if_false]; rfl
      · simp only [true_and, if_true]; split <;> rfl
  · have hs : buf.length < hdrLen buf := Nat.lt_of_lt_of_le (Nat.lt_of_not_le h14) (hdrLen_ge buf)
    simp only [h14, hs, if_true, if_false]
    by_cases h6 : buf.length < 6
    · simp only [h6, if_true]; rfl
    · by_cases h12 : buf.length < 12 <;> simp only [h6, h12, if_true, if_false] <;> rfl

theorem ethRun_ok_iff (buf : Bytes) (fcs : Bool) :
    (∃ s, ethRun (buf, fcs) = .ok (s, ())) ↔
      14 ≤ buf.length ∧ (fld buf 12 14 = ETH_TYPE_VLAN → 18 ≤ buf.length) ∧
      (fcs = true → crc32 (buf.take (buf.length - 4)) = leNat (buf.drop (buf.length - 4))) := by
  simp only [ethRun, R.ite_error_eq_ok, exists_and_left, Except.ok.injEq, Prod.mk.injEq, and_true, exists_eq', Nat.not_lt,
    not_and, Decidable.not_not, ← and_assoc]
  -- the FCS clause is the same on both sides; what is left says `hdrLen buf ≤ |buf|`, with `hdrLen` 18 or 14
  refine and_congr_left fun _ => ?_
  unfold hdrLen tagged
  split <;> simp_all <;> omega

/-- every field fits the width the frame format allots; an untagged frame cannot carry ethertype
    0x8100 (the decoder would read a tag).  That last clause is needed by the read-back only (`ethRun_frame`), not by
    `Eth_header_pack` / `Eth_pack_eq`. -/
def Eth_WF (s : Eth) : Prop :=
  s.dstmac < 2 ^ 48 ∧ s.srcmac < 2 ^ 48 ∧ s.type < 2 ^ 16 ∧ (s.vlan = true → s.vlantag < 2 ^ 16) ∧
  (s.vlan = false → s.type ≠ ETH_TYPE_VLAN)

/-- the optional 802.1Q part and the ethertype -/
def ethTypePart (s : Eth) : Bytes :=
  if s.vlan then encInt true 2 ETH_TYPE_VLAN ++ (encInt true 2 s.vlantag ++ encInt true 2 s.type)
  else encInt true 2 s.type

def ethHdr (s : Eth) : Bytes := beBytes 6 s.dstmac ++ (beBytes 6 s.srcmac ++ ethTypePart s)

def ethFcs (s : Eth) (fcs : Bool) : Bytes :=
  if fcs then leBytes 4 (Spec.crc32 (ethHdr s ++ s.payload)) else []

/-- the frame `Ethernet.pack(fcs)` emits for a well-formed object -/
def ethFrame (s : Eth) (fcs : Bool) : Bytes := ethHdr s ++ (s.payload ++ ethFcs s fcs)

theorem ethTypePart_length (s : Eth) : (ethTypePart s).length = if s.vlan then 6 else 2 := by
  unfold ethTypePart; split <;> simp

theorem ethHdr_length (s : Eth) : (ethHdr s).length = if s.vlan then 18 else 14 := by
  simp only [ethHdr, List.length_append, beBytes_length, ethTypePart_length]; split <;> rfl

/-- `& 0xFFFFFFFF` changes nothing: the CRC register has 32 bits -/
theorem crc32_eq_spec (bs : Bytes) : crc32 bs = Spec.crc32 bs := by
  rw [crc32, and_FFFFFFFF]; exact Nat.mod_eq_of_lt (CRC.crc32_lt bs)

theorem Eth_header_pack (s : Eth) (h : Eth_WF s) :
    (if s.vlan then
      structPack Eth_pack_fmt0 [s.dstmac >>> 32, s.dstmac &&& 0xFFFFFFFF, s.srcmac >>> 32,
        s.srcmac &&& 0xFFFFFFFF, ETH_TYPE_VLAN, s.vlantag, s.type]
    else
      structPack Eth_pack_fmt1 [s.dstmac >>> 32, s.dstmac &&& 0xFFFFFFFF, s.srcmac >>> 32,
        s.srcmac &&& 0xFFFFFFFF, s.type]) = .ok (ethHdr s) := by
  obtain ⟨h1, h2, h3, h4, _⟩ := h
  simp only [bits, Nat.reducePow]
  cases hv : s.vlan
  · have hf : Fits Eth_pack_fmt1.codes [s.dstmac / 4294967296, s.dstmac % 4294967296, s.srcmac / 4294967296,
        s.srcmac % 4294967296, s.type] :=
      (fits48_cons _ h1 _ _).2 ((fits48_cons _ h2 _ _).2 ⟨h3, trivial⟩)
    rw [if_neg Bool.false_ne_true, structPack_eq _ _ hf]
    simp only [Eth_pack_fmt1, enc48_cons]
    simp only [encCodes, Code.size, ethHdr, ethTypePart, hv, Bool.false_eq_true, if_false, List.append_nil]
  · have hf : Fits Eth_pack_fmt0.codes [s.dstmac / 4294967296, s.dstmac % 4294967296, s.srcmac / 4294967296,
        s.srcmac % 4294967296, ETH_TYPE_VLAN, s.vlantag, s.type] :=
      (fits48_cons _ h1 _ _).2 ((fits48_cons _ h2 _ _).2 ⟨by decide, h4 hv, h3, trivial⟩)
    rw [if_pos rfl, structPack_eq _ _ hf]
    simp only [Eth_pack_fmt0, enc48_cons]
    simp only [encCodes, Code.size, ethHdr, ethTypePart, hv, if_true, List.append_nil]

theorem Eth_pack_eq (s : Eth) (fcs : Bool) (h : Eth_WF s) : Eth.pack s fcs = (s, .ok (ethFrame s fcs)) := by
  have hc : Fits Eth_pack_fmt2.codes [Spec.crc32 (ethHdr s ++ s.payload)] :=
    ⟨CRC.crc32_lt _, trivial⟩
  simp only [Eth.pack, Eth_header_pack s h, crc32_eq_spec, structPack_eq _ _ hc]
  cases fcs <;> simp [ethFrame, ethFcs, Eth_pack_fmt2, encCodes, Code.size, encInt]

theorem ethFcs_length (s : Eth) (fcs : Bool) : (ethFcs s fcs).length = if fcs then 4 else 0 := by
  unfold ethFcs; split <;> simp

theorem ethFrame_length (s : Eth) (fcs : Bool) :
    (ethFrame s fcs).length = (if s.vlan then 18 else 14) + s.payload.length + (if fcs then 4 else 0) := by
  simp only [ethFrame, List.length_append, ethHdr_length, ethFcs_length]; omega

theorem ethFrame_eq_spec (s : Eth) (fcs : Bool) :
    ethFrame s fcs = Spec.Ethernet.encode s.dstmac s.srcmac (if s.vlan then some s.vlantag else none) s.type s.payload fcs := by
  have hb : ethHdr s ++ s.payload =
      Spec.Ethernet.body s.dstmac s.srcmac (if s.vlan then some s.vlantag else none) s.type s.payload := by
    cases hv : s.vlan <;> simp [ethHdr, ethTypePart, Spec.Ethernet.body, hv, encInt, ETH_TYPE_VLAN]
  cases fcs
  · simp [ethFrame, ethFcs, Spec.Ethernet.encode, ← hb]
  · simp [ethFrame, ethFcs, Spec.Ethernet.encode, ← hb]

/-- what a decoded frame holds: an untagged frame decodes with the tag sentinel 0xFFFF -/
def ethDecoded (s : Eth) : Eth := { s with vlantag := if s.vlan then s.vlantag else 0xFFFF }

theorem ethHdr_fields (s : Eth) (h : Eth_WF s) (rest : Bytes) :
    fld (ethHdr s ++ rest) 0 6 = s.dstmac ∧ fld (ethHdr s ++ rest) 6 12 = s.srcmac ∧
    fld (ethHdr s ++ rest) 12 14 = (if s.vlan then ETH_TYPE_VLAN else s.type) ∧
    (s.vlan = true → fld (ethHdr s ++ rest) 14 16 = s.vlantag ∧ fld (ethHdr s ++ rest) 16 18 = s.type) := by
  obtain ⟨h1, h2, h3, h4, _⟩ := h
  simp only [Nat.reducePow] at h1 h2 h3 h4
  cases hv : s.vlan
  · simp only [ethHdr, ethTypePart, hv, Bool.false_eq_true, if_false, List.append_assoc, encInt_big, fld_skip,
      fld_head, beBytes_length, Nat.reduceLeDiff, Nat.reduceSub, Nat.reducePow, Nat.le_refl, Nat.sub_self, h1, h2, h3,
      false_imp_iff, and_self]
  · simp only [ethHdr, ethTypePart, hv, if_true, List.append_assoc, encInt_big, fld_skip, fld_head, beBytes_length,
      Nat.reduceLeDiff, Nat.reduceSub, Nat.reducePow, Nat.le_refl, Nat.sub_self, h1, h2, h3, h4 hv, ETH_TYPE_VLAN,
      Nat.reduceLT, true_imp_iff, and_self]

theorem ethRun_frame (s : Eth) (fcs : Bool) (h : Eth_WF s) : ethRun (ethFrame s fcs, fcs) = .ok (ethDecoded s, ()) := by
  obtain ⟨f1, f2, f3, f4⟩ : fld (ethFrame s fcs) 0 6 = s.dstmac ∧ fld (ethFrame s fcs) 6 12 = s.srcmac ∧
      fld (ethFrame s fcs) 12 14 = (if s.vlan then ETH_TYPE_VLAN else s.type) ∧
      (s.vlan = true → fld (ethFrame s fcs) 14 16 = s.vlantag ∧ fld (ethFrame s fcs) 16 18 = s.type) :=
    ethHdr_fields s h _
  have htag : tagged (ethFrame s fcs) = s.vlan := by
    unfold tagged; rw [f3]
    cases hv : s.vlan
    · simpa using h.2.2.2.2 hv
    · simp
  have hlen : hdrLen (ethFrame s fcs) = (ethHdr s).length := by rw [hdrLen, htag, ethHdr_length]
  have hpay : (if fcs then slice (ethFrame s fcs) (ethHdr s).length ((ethFrame s fcs).length - 4)
      else (ethFrame s fcs).drop (ethHdr s).length) = s.payload := by
    cases fcs
    · simp [ethFrame, ethFcs]
    · exact slice_mid _ _ _ _ _ rfl (by simp [ethFrame, ethFcs]; omega)
  have hcrc : ¬ (fcs = true ∧ crc32 ((ethFrame s fcs).take ((ethFrame s fcs).length - 4)) ≠
      leNat ((ethFrame s fcs).drop ((ethFrame s fcs).length - 4))) := by
    rintro ⟨rfl, hne⟩
    apply hne
    simp only [ethFrame, ← List.append_assoc]
    rw [take_append_len _ _ _ (by simp [ethFcs]; omega), drop_append_len _ _ _ (by simp [ethFcs]; omega), crc32_eq_spec]
    exact (leNat_leBytes_of_lt _ _ (CRC.crc32_lt _)).symm
  unfold ethRun
  rw [if_neg (by rw [hlen, ethFrame]; simp), if_neg hcrc]
  simp only [ethDec, htag, hlen, hpay, f1, f2, f3]
  cases hv : s.vlan
  · simp [ethDecoded, hv]
  · simp [ethDecoded, hv, (f4 hv).1, (f4 hv).2]

theorem Eth_unpack_frame (s t : Eth) (fcs : Bool) (h : Eth_WF s) :
    Eth.unpack t (ethFrame s fcs) fcs = (ethDecoded s, .ok ()) :=
  Eth_decodes.of_run (buf := (ethFrame s fcs, fcs)) (ethRun_frame s fcs h)

open Acra.Lemmas.Sum16 in
theorem wordsLE_pad : ∀ (bs : Bytes), bs.length % 2 = 1 → wordsLE (bs ++ [0]) = wordsLE bs
  | [], h => by simp at h
  | [a], _ => by simp [wordsLE]
  | a :: b :: rest, h => by
    have ih := wordsLE_pad rest (by simp at h; omega)
    simp only [List.cons_append, wordsLE, ih]

open Acra.Lemmas.Sum16 in
theorem ipCalcChecksum_eq (pkt : Bytes) :
    ipCalcChecksum pkt = .ok (65535 - sumFold (wordsLE pkt).sum) := by
  unfold ipCalcChecksum
  by_cases hodd : pkt.length % 2 = 1
  · have hl : (pkt ++ [0]).length = 2 * ((pkt ++ [0]).length / 2) := by simp; omega
    simp only [hodd, beq_self_eq_true, if_true, structUnpack, ipcs_fmt0, Fmt.size, codesSize_replicate, Code.size]
    rw [if_pos hl, Sum16.unpackCodes_u16_le _ _ hl, wordsLE_pad _ hodd]
    simp only [bits, Nat.reducePow, sumFold]
  · have hl : pkt.length = 2 * (pkt.length / 2) := by omega
    have hb : (pkt.length % 2 == 1) = false := by simp; omega
    simp only [hb, Bool.false_eq_true, if_false, structUnpack, ipcs_fmt0, Fmt.size, codesSize_replicate, Code.size]
    rw [if_pos hl, Sum16.unpackCodes_u16_le _ _ hl]
    simp only [bits, Nat.reducePow, sumFold]

theorem sumFold_lt (x : Nat) : Sum16.sumFold x < 65536 := by unfold Sum16.sumFold; omega

/-- the checksum step `IP.pack` and `ICMP.pack` share, each with its own copy `f` of the native "H" format -/
theorem cksum_field (f : Fmt) (hf : f = ⟨false, [.u16]⟩) (M : Bytes) (h : M.length < 131072) :
    ∃ c, ipCalcChecksum M = .ok c ∧ structPack f [c] = .ok (beBytes 2 (Spec.rfc1071 M)) := by
  subst hf
  have hc : Fits [Code.u16] [65535 - Sum16.sumFold (Sum16.wordsLE M).sum] :=
    ⟨Nat.lt_of_le_of_lt (Nat.sub_le _ _) (by decide), trivial⟩
  refine ⟨_, ipCalcChecksum_eq M, ?_⟩
  rw [structPack_eq _ _ hc, ← Sum16.stored_bytes_eq M h]
  simp [encCodes, Code.size, encInt]

/-- what decoding the wire header `h` (followed by payload `p`) leaves in the object: every attribute is assigned -/
def ipFromWire (h p : Bytes) : IP :=
  { dscp := fld h 1 2, len := fld h 2 4, ident := fld h 4 6, ttl := fld h 8 9, protocol := fld h 9 10,
    fragment_offset := (fld h 6 7 % 32 * 256 + fld h 7 8) * 8,
    flags := fld h 6 7 / 32, version := fld h 0 1 / 16, ihl := fld h 0 1 % 16,
    srcip := some (fld h 12 16), dstip := some (fld h 16 20), payload := p }

/-- `IP.unpack` as a function of the buffer: ValueError under 20 bytes; a wrong header checksum is only logged -/
def ipRun (buf : Bytes) : R (IP × Unit) :=
  if buf.length < 20 then .error .value else .ok (ipFromWire buf (slice buf 20 (fld buf 2 4)), ())

theorem IP_decodes : Decodes IP.unpack (fun _ => ()) fun _ => ipRun := by
  intro t buf
  show Agree (IP.unpack t buf) (ipRun buf)
  unfold ipRun
  by_cases h : buf.length < 20
  · simp only [IP.unpack, IP_HEADER_SIZE, h, if_true]; rfl
  · have hh : structUnpackFrom IP_HEADER_FORMAT buf 0 = .ok [fld buf 0 1, fld buf 1 2, fld buf 2 4, fld buf 4 6,
        fld buf 6 7, fld buf 7 8, fld buf 8 9, fld buf 9 10, fld buf 10 12, fld buf 12 16, fld buf 16 20] :=
      (structUnpackFrom_flds _ buf 0).trans (if_pos (Nat.le_of_not_lt h))
    simp only [IP.unpack, IP_HEADER_SIZE, h, if_false, hh, bits, Nat.reducePow, ipFromWire]; rfl

/-- every field fits the width the IPv4 header allots: 3 flag bits, a 13-bit offset in 8-byte units,
    a 16-bit total length.  `fragment_offset % 8 = 0` is needed by the round trip only (`pack` divides by 8, `unpack`
    multiplies), not by `IP_pack_eq` / `IP_pack_layout`. -/
def IP_WF (s : IP) (src dst : Nat) : Prop :=
  s.srcip = some src ∧ s.dstip = some dst ∧ src < 2 ^ 32 ∧ dst < 2 ^ 32 ∧
  s.dscp < 256 ∧ s.ident < 65536 ∧ s.ttl < 256 ∧ s.protocol < 256 ∧ s.flags < 8 ∧
  s.fragment_offset % 8 = 0 ∧ s.fragment_offset < 65536 ∧ 20 + s.payload.length < 65536

/-- header bytes 0..9 -/
def ipFront (s : IP) : Bytes :=
  encInt true 1 0x45 ++ (encInt true 1 s.dscp ++ (encInt true 2 (20 + s.payload.length) ++ (encInt true 2 s.ident ++
    (encInt true 1 (s.flags * 32 + s.fragment_offset / 8 / 256) ++ (encInt true 1 (s.fragment_offset / 8 % 256) ++
    (encInt true 1 s.ttl ++ encInt true 1 s.protocol))))))

/-- header bytes 12..19 -/
def ipBack (src dst : Nat) : Bytes := encInt true 4 src ++ encInt true 4 dst

@[simp] theorem ipFront_length (s : IP) : (ipFront s).length = 10 := by simp [ipFront]
@[simp] theorem ipBack_length (a b : Nat) : (ipBack a b).length = 8 := by simp [ipBack]

/-- the RFC 791 header in the three parts `pack` handles; it packs the 16-bit word flags ‖ offset as two bytes
    (8192 = 32 · 256) -/
theorem header_parts (s : IP) (src dst c : Nat) :
    Spec.IPv4.header s.dscp (20 + s.payload.length) s.ident s.flags (s.fragment_offset / 8) s.ttl s.protocol c src dst =
      ipFront s ++ (beBytes 2 c ++ ipBack src dst) := by
  have e1 : (s.flags * 8192 + s.fragment_offset / 8) / 256 = s.flags * 32 + s.fragment_offset / 8 / 256 := by omega
  have e2 : (s.flags * 8192 + s.fragment_offset / 8) % 256 = s.fragment_offset / 8 % 256 := by omega
  rw [Spec.IPv4.header, be2_split (s.flags * 8192 + _), e1, e2]
  simp only [ipFront, ipBack, encInt_big, List.append_assoc]
  rfl

theorem encode_parts (s : IP) (src dst : Nat) :
    Spec.IPv4.encode s.dscp s.ident s.flags s.fragment_offset s.ttl s.protocol src dst s.payload =
      ipFront s ++ (beBytes 2 (Spec.rfc1071 (ipFront s ++ (beBytes 2 0 ++ ipBack src dst))) ++ ipBack src dst) ++
        s.payload := by
  rw [Spec.IPv4.encode, header_parts, header_parts]

/-- bytes 6 and 7 of the header hold three flag bits and the fragment offset in 8-byte units (13 bits); the second
    and third clause are the decoder's arithmetic -/
theorem flagsFrag (f o : Nat) (hf : f < 8) (h8 : o % 8 = 0) (ho : o < 65536) :
    f * 32 + o / 8 / 256 < 256 ∧ (f * 32 + o / 8 / 256) / 32 = f ∧
    ((f * 32 + o / 8 / 256) % 32 * 256 + o / 8 % 256) * 8 = o := by omega

/-- byte 6 as `pack` computes it -/
theorem flagsByte (f o : Nat) (hf : f < 8) (ho : o < 65536) :
    ((f &&& 0x7) <<< 5) ||| ((o / 8) >>> 8 &&& 0x1F) = f * 32 + o / 8 / 256 := by
  rw [and_7, and_1F, shl_or _ _ 5 (Nat.mod_lt _ (by decide)), shr]
  omega

theorem IP_pack_eq (s : IP) (src dst : Nat) (h : IP_WF s src dst) :
    IP.pack s = ({ s with len := 20 + s.payload.length },
      .ok (Spec.IPv4.encode s.dscp s.ident s.flags s.fragment_offset s.ttl s.protocol src dst s.payload)) := by
  obtain ⟨hs, hd, h1, h2, h3, h4, h5, h6, h7, h8, h9, h10⟩ := h
  have hfb := flagsByte s.flags s.fragment_offset h7 h9
  have hm : (20 + s.payload.length) % 65536 = 20 + s.payload.length := Nat.mod_eq_of_lt h10
  have hf : Fits IP_HEADER_FORMAT.codes [0x45, s.dscp, 20 + s.payload.length, s.ident,
      s.flags * 32 + s.fragment_offset / 8 / 256, s.fragment_offset / 8 % 256, s.ttl, s.protocol, 0, src, dst] := by
    have hfl := (flagsFrag s.flags s.fragment_offset h7 h8 h9).1
    exact ⟨by decide, h3, h10, h4, hfl, Nat.mod_lt _ (by decide), h5, h6, by decide, h1, h2, trivial⟩
  have hh : encCodes IP_HEADER_FORMAT.big IP_HEADER_FORMAT.codes [0x45, s.dscp, 20 + s.payload.length, s.ident,
      s.flags * 32 + s.fragment_offset / 8 / 256, s.fragment_offset / 8 % 256, s.ttl, s.protocol, 0, src, dst] =
      ipFront s ++ (beBytes 2 0 ++ ipBack src dst) := by
    simp only [IP_HEADER_FORMAT, encCodes, Code.size, ipFront, ipBack, encInt_big, List.append_nil, List.append_assoc]
  have hdr : List.drop 12 (ipFront s ++ (beBytes 2 0 ++ ipBack src dst)) = ipBack src dst := by
    rw [← List.append_assoc]; exact drop_append_len _ _ _ (by simp)
  obtain ⟨c, hc1, hc2⟩ := cksum_field IP_pack_fmt2 rfl (ipFront s ++ (beBytes 2 0 ++ ipBack src dst)) (by simp)
  simp only [IP.pack, hs, hd, IP_HEADER_SIZE, and_FF, hfb, hm, structPack_eq _ _ hf, hh, hc1, hc2,
    take_append_len _ _ _ (ipFront_length s).symm, hdr, encode_parts, List.append_assoc]

theorem ipFromWire_packed (s : IP) (src dst : Nat) (c rest p : Bytes) (hc : c.length = 2) (h : IP_WF s src dst) :
    ipFromWire (ipFront s ++ (c ++ (ipBack src dst ++ rest))) p =
      { s with len := 20 + s.payload.length, version := 4, ihl := 5, payload := p } := by
  obtain ⟨hs, hd, h1, h2, h3, h4, h5, h6, h7, h8, h9, h10⟩ := h
  obtain ⟨hfl, a1, a2⟩ := flagsFrag s.flags s.fragment_offset h7 h8 h9
  have hfo : s.fragment_offset / 8 % 256 < 256 := Nat.mod_lt _ (by decide)
  simp only [Nat.reducePow] at h1 h2
  simp only [ipFromWire, ipFront, ipBack, List.append_assoc, encInt_big, fld_skip, fld_head, beBytes_length,
    hc, Nat.reduceLeDiff, Nat.reduceSub, Nat.reducePow, Nat.le_refl, Nat.sub_self, h1, h2, h3, h4, h5, h6, h10, hfl, hfo,
    Nat.reduceLT, Nat.reduceDiv, Nat.reduceMod, a1, a2, hs, hd]

theorem IP_unpack_wire (t : IP) (h p pad : Bytes) (hlen : h.length = 20) (htot : fld h 2 4 = 20 + p.length) :
    IP.unpack t (h ++ (p ++ pad)) = (ipFromWire h p, .ok ()) := by
  have hp : slice (h ++ (p ++ pad)) 20 (20 + p.length) = p := slice_mid _ _ _ _ _ hlen.symm (by rw [hlen])
  apply IP_decodes.of_run
  rw [ipRun, if_neg (by simp [hlen])]
  simp only [ipFromWire, fld_append_left, hlen, Nat.reduceLeDiff, htot, hp]

/-- `pad`: link-layer padding after the datagram -/
theorem IP_unpack_packed (s t : IP) (src dst c : Nat) (pad : Bytes) (h : IP_WF s src dst) :
    IP.unpack t (Spec.IPv4.header s.dscp (20 + s.payload.length) s.ident s.flags (s.fragment_offset / 8) s.ttl s.protocol
      c src dst ++ (s.payload ++ pad)) = ({ s with len := 20 + s.payload.length, version := 4, ihl := 5 }, .ok ()) := by
  rw [header_parts]
  -- as a variable: left in place, the header is unfolded by every unification below
  generalize hH : ipFront s ++ (beBytes 2 c ++ ipBack src dst) = H
  have hw : ∀ p, ipFromWire H p = { s with len := 20 + s.payload.length, version := 4, ihl := 5, payload := p } := by
    intro p
    have := ipFromWire_packed s src dst (beBytes 2 c) [] p (beBytes_length 2 c) h
    rwa [List.append_nil, hH] at this
  rw [IP_unpack_wire t H _ pad (by rw [← hH]; simp) (congrArg IP.len (hw [])), hw]

/-- an IPv4 header cut at its checksum field: front (10 bytes), checksum (2), back (8), then the payload -/
theorem header_slices (F c B p : Bytes) (hF : F.length = 10) (hc : c.length = 2) (hB : B.length = 8) :
    List.take 10 (F ++ (c ++ (B ++ p))) = F ∧ slice (F ++ (c ++ (B ++ p))) 10 12 = c ∧
    slice (F ++ (c ++ (B ++ p))) 12 20 = B := by
  refine ⟨take_append_len _ _ _ hF.symm, slice_mid _ _ _ _ _ hF.symm (by rw [hF, hc]), ?_⟩
  rw [← List.append_assoc]
  exact slice_mid _ _ _ _ _ (by rw [List.length_append, hF, hc]) (by rw [List.length_append, hF, hc, hB])

theorem ipFromWire_WF (h p : Bytes) (htot : fld h 2 4 = 20 + p.length) :
    IP_WF (ipFromWire h p) (fld h 12 16) (fld h 16 20) := by
  have l2 : fld h 2 4 < 65536 := fld_lt h 2 2
  have l6 : fld h 6 7 < 256 := fld_lt h 6 1
  have l7 : fld h 7 8 < 256 := fld_lt h 7 1
  exact ⟨rfl, rfl, fld_lt h 12 4, fld_lt h 16 4, fld_lt h 1 1, fld_lt h 4 2, fld_lt h 8 1, fld_lt h 9 1,
    show fld h 6 7 / 32 < 8 by omega, Nat.mul_mod_left _ _,
    show (fld h 6 7 % 32 * 256 + fld h 7 8) * 8 < 65536 by omega, show 20 + p.length < 65536 by omega⟩

/-- `c` is any two bytes in the checksum position: `IP_reencode` (Props/C02) uses this once with the zeroed field, over which the
    checksum is computed, and once with the checksum itself -/
theorem ipParts_fromWire (h p c : Bytes) (hlen : h.length = 20) (h0 : fld h 0 1 = 0x45)
    (htot : fld h 2 4 = 20 + p.length) :
    ipFront (ipFromWire h p) ++ (c ++ ipBack (fld h 12 16) (fld h 16 20)) = slice h 0 10 ++ (c ++ slice h 12 20) := by
  have l6 : fld h 6 7 < 256 := fld_lt h 6 1
  have l7 : fld h 7 8 < 256 := fld_lt h 7 1
  have a1 : fld h 6 7 / 32 * 32 + (fld h 6 7 % 32 * 256 + fld h 7 8) * 8 / 8 / 256 = fld h 6 7 := by omega
  have a2 : (fld h 6 7 % 32 * 256 + fld h 7 8) * 8 / 8 % 256 = fld h 7 8 := by omega
  have e1 := enc_flds true [.u8, .u8, .u16, .u16, .u8, .u8, .u8, .u8] (by simp [Unsigned]) h 0 (by simp [codesSize, Code.size]; omega)
  have e2 := enc_flds true [.u32, .u32] (by simp [Unsigned]) h 12 (by simp [codesSize, Code.size]; omega)
  simp only [flds, encCodes, Code.size, codesSize, List.append_nil, Nat.reduceAdd] at e1 e2
  simp only [ipFront, ipBack, ipFromWire, a1, a2, ← htot, ← h0]
  rw [← e1, ← e2]; rfl

def UDP_WF (s : UDP) : Prop := s.srcport < 65536 ∧ s.dstport < 65536 ∧ s.payload.length + 8 < 65536

/-- `UDP.unpack` as a function of the buffer: ValueError under 8 bytes; the checksum field is not looked at -/
def udpRun (buf : Bytes) : R (UDP × Unit) :=
  if buf.length < 8 then .error .value
  else .ok ({ srcport := fld buf 0 2, dstport := fld buf 2 4, len := fld buf 4 6, payload := buf.drop 8 }, ())

theorem UDP_decodes : Decodes UDP.unpack (fun _ => ()) fun _ => udpRun := by
  intro t buf
  show Agree (UDP.unpack t buf) (udpRun buf)
  unfold udpRun
  by_cases h : buf.length < 8
  · simp only [UDP.unpack, UDP_HEADER_SIZE, h, if_true]; rfl
  · have hh : structUnpackFrom UDP_HEADER_FORMAT buf 0 = .ok [fld buf 0 2, fld buf 2 4, fld buf 4 6, fld buf 6 8] :=
      (structUnpackFrom_flds _ buf 0).trans (if_pos (Nat.le_of_not_lt h))
    simp only [UDP.unpack, UDP_HEADER_SIZE, h, if_false, hh]; rfl

theorem UDP_pack_eq (s : UDP) (h : UDP_WF s) :
    UDP.pack s = ({ s with len := s.payload.length + 8 }, .ok (Spec.UDP.encode s.srcport s.dstport s.payload)) := by
  obtain ⟨h1, h2, h3⟩ := h
  have hm : (s.payload.length + 8) % 65536 = s.payload.length + 8 := by omega
  have hf : Fits UDP_HEADER_FORMAT.codes [s.srcport, s.dstport, s.payload.length + 8, 0] :=
    ⟨h1, h2, h3, by decide, trivial⟩
  simp only [UDP.pack, UDP_HEADER_SIZE, hm, structPack_eq _ _ hf]
  simp only [UDP_HEADER_FORMAT, encCodes, Code.size, Spec.UDP.encode, encInt_big, List.append_nil, List.append_assoc,
    Nat.add_comm 8]

theorem UDP_unpack_packed (s t : UDP) (h : UDP_WF s) :
    UDP.unpack t (Spec.UDP.encode s.srcport s.dstport s.payload) = ({ s with len := s.payload.length + 8 }, .ok ()) := by
  obtain ⟨h1, h2, h3⟩ := h
  apply UDP_decodes.of_run
  rw [udpRun, if_neg (by simp [Spec.UDP.encode]; omega)]
  simp only [Spec.UDP.encode, List.append_assoc, fld_skip, fld_head, drop_skip, beBytes_length, Nat.reduceLeDiff,
    Nat.reduceSub, Nat.reducePow, Nat.le_refl, Nat.sub_self, List.drop_zero, h1, h2, h3, Nat.add_comm 8]

def ARP_WF (s : ARP) (sip dip : Nat) : Prop :=
  s.srcip = some sip ∧ s.dstip = some dip ∧ sip < 2 ^ 32 ∧ dip < 2 ^ 32 ∧
  s.hardware_type < 65536 ∧ s.protocol_type < 65536 ∧ s.hardware_length < 256 ∧ s.protocol_length < 256 ∧
  s.operation < 65536 ∧ s.srcmac < 2 ^ 48 ∧ s.dstmac < 2 ^ 48

theorem ARP_pack_eq (s : ARP) (sip dip : Nat) (h : ARP_WF s sip dip) :
    ARP.pack s = (s, .ok (Spec.ARP.encode s.hardware_type s.protocol_type s.hardware_length s.protocol_length
      s.operation s.srcmac sip s.dstmac dip)) := by
  obtain ⟨hs, hd, h1, h2, h3, h4, h5, h6, h7, h8, h9⟩ := h
  have hf : Fits ARP_pack_fmt0.codes [s.hardware_type, s.protocol_type, s.hardware_length, s.protocol_length,
      s.operation] :=
    ⟨h3, h4, h5, h6, h7, trivial⟩
  simp only [ARP.pack, structPack_eq _ _ hf, pack48_eq, if_pos h8, if_pos h9, hs, hd, inetAton]
  simp only [ARP_pack_fmt0, encCodes, Code.size, Spec.ARP.encode, encInt_big, List.append_nil, List.append_assoc]

/-- what `ARP.unpack` makes of 28 bytes or more -/
def arpDec (buf : Bytes) : ARP :=
  { hardware_type := fld buf 0 2, protocol_type := fld buf 2 4, hardware_length := fld buf 4 5,
    protocol_length := fld buf 5 6, operation := fld buf 6 8, srcmac := fld buf 8 14,
    dstmac := fld buf 18 24, srcip := some (fld buf 14 18), dstip := some (fld buf 24 28) }

/-- `ARP.unpack` as a function of the buffer.  A buffer under 28 bytes fails at the first of the five reads it cuts
    short: `struct.error` from `unpack_from` / `unpack48` (under 14 bytes, or 18..23), OSError from `inet_ntoa` of an
    incomplete address (14..17, 24..27). -/
def arpRun (buf : Bytes) : R (ARP × Unit) :=
  if buf.length < 28 then .error (if buf.length < 14 ∨ ¬ buf.length < 18 ∧ buf.length < 24 then .struct else .os)
  else .ok (arpDec buf, ())

theorem inetNtoa_slice (buf : Bytes) (a : Nat) :
    inetNtoa (slice buf a (a + 4)) = if buf.length < a + 4 then .error .os else .ok (fld buf a (a + 4)) := by
  have : (slice buf a (a + 4)).length = 4 ↔ ¬ buf.length < a + 4 := by simp; omega
  simp only [inetNtoa, this, ite_not]; rfl

theorem ARP_decodes : Decodes ARP.unpack (fun _ => ()) fun _ => arpRun := by
  intro t buf
  show Agree (ARP.unpack t buf) (arpRun buf)
  have h0 : structUnpackFrom ARP_unpack_fmt0 buf 0 = if 8 ≤ buf.length then .ok (flds true buf 0 ARP_unpack_fmt0.codes)
      else .error .struct := by rw [structUnpackFrom_flds _, Nat.zero_add]; rfl
  simp only [ARP.unpack, arpRun, h0, unpack48_slice buf 8, inetNtoa_slice buf 14, unpack48_slice buf 18,
    inetNtoa_slice buf 24, Nat.reduceAdd]
  -- by the range the length falls in; every test on either side is then decided
  by_cases h14 : buf.length < 14
  · have h28 : buf.length < 28 := by omega
    by_cases h8 : 8 ≤ buf.length <;> simp only [h8, h14, h28, true_or, if_true, if_false] <;> rfl
  · have h8 : 8 ≤ buf.length := by omega
    by_cases h18 : buf.length < 18
    · have h28 : buf.length < 28 := by omega
      simp only [h8, h14, h18, h28, not_true_eq_false, false_and, or_self, if_true, if_false]; rfl
    · by_cases h24 : buf.length < 24
      · have h28 : buf.length < 28 := by omega
        simp only [h8, h14, h18, h24, h28, not_false_eq_true, and_self, or_true, if_true, if_false]; rfl
      · by_cases h28 : buf.length < 28
        · simp only [h8, h14, h18, h24, h28, and_false, or_self, if_true, if_false]; rfl
        · simp only [h8, h14, h18, h24, h28, if_true, if_false]; rfl

theorem ARP_unpack_packed (s t : ARP) (sip dip : Nat) (h : ARP_WF s sip dip) :
    ARP.unpack t (Spec.ARP.encode s.hardware_type s.protocol_type s.hardware_length s.protocol_length
      s.operation s.srcmac sip s.dstmac dip) = (s, .ok ()) := by
  obtain ⟨hs, hd, h1, h2, h3, h4, h5, h6, h7, h8, h9⟩ := h
  apply ARP_decodes.of_run
  rw [arpRun, if_neg (by simp [Spec.ARP.encode])]
  simp only [Nat.reducePow] at h1 h2 h8 h9
  simp only [arpDec, Spec.ARP.encode, List.append_assoc, fld_skip, fld_head, fld_last, beBytes_length, Nat.reduceLeDiff, Nat.reduceSub,
    Nat.reducePow, Nat.le_refl, Nat.sub_self, h1, h2, h3, h4, h5, h6, h7, h8, h9, ← hs, ← hd]

/-- the fields fit their format codes.  The length bound is not an ICMP limit but the range of the two-fold checksum:
    fewer than 131072 = 2 · 65536 bytes are at most 65536 words, so the word sum is below 2^32, where two folds are the
    full end-around carry (`Sum16.sumFold_eq_norm`, used through `Sum16.stored_bytes_eq`). -/
def ICMP_WF (s : ICMP) : Prop :=
  s.type < 256 ∧ s.code < 256 ∧ s.request_id < 65536 ∧ s.request_sequence < 65536 ∧ s.payload.length + 8 < 131072

theorem ICMP_pack_eq (s : ICMP) (h : ICMP_WF s) :
    ICMP.pack s = (s, .ok (Spec.ICMP.encode s.type s.code s.request_id s.request_sequence s.payload)) := by
  obtain ⟨h1, h2, h3, h4, h5⟩ := h
  have hf : Fits ICMP_pack_fmt0.codes [s.type, s.code, 0, s.request_id, s.request_sequence] :=
    ⟨h1, h2, by decide, h3, h4, trivial⟩
  -- the message with checksum `c` is `A ++ (beBytes 2 c ++ (B ++ payload))`
  generalize hA : beBytes 1 s.type ++ beBytes 1 s.code = A
  generalize hB : beBytes 2 s.request_id ++ beBytes 2 s.request_sequence = B
  have hAl : A.length = 2 := by rw [← hA]; simp
  have hBl : B.length = 4 := by rw [← hB]; simp
  have hmsg : ∀ c, Spec.ICMP.message s.type s.code c s.request_id s.request_sequence s.payload =
      A ++ (beBytes 2 c ++ (B ++ s.payload)) := by
    intro c; simp only [Spec.ICMP.message, ← hA, ← hB, List.append_assoc]
  have hh : encCodes ICMP_pack_fmt0.big ICMP_pack_fmt0.codes [s.type, s.code, 0, s.request_id, s.request_sequence] =
      A ++ (beBytes 2 0 ++ B) := by
    simp only [ICMP_pack_fmt0, encCodes, Code.size, encInt_big, ← hA, ← hB, List.append_nil, List.append_assoc]
  have hd : List.drop 4 (A ++ (beBytes 2 0 ++ B)) = B := by
    rw [← List.append_assoc]; exact drop_append_len _ _ _ (by simp [hAl])
  obtain ⟨c, hc1, hc2⟩ := cksum_field ICMP_pack_fmt1 rfl (A ++ (beBytes 2 0 ++ (B ++ s.payload))) (by simp [hAl, hBl]; omega)
  simp only [ICMP.pack, structPack_eq _ _ hf, hh, List.append_assoc, hc1, hc2, take_append_len _ _ _ hAl.symm, hd,
    Spec.ICMP.encode, hmsg]

theorem unpackCodes_u16_be (n : Nat) (bs : Bytes) (h : bs.length = 2 * n) :
    unpackCodes true (List.replicate n Code.u16) bs = Spec.wordsBE bs :=
  Sum16.unpackCodes_u16 true Spec.wordsBE rfl (fun a b rest => by simp [Spec.wordsBE, decInt, beNat, leNat]; omega) n bs h

theorem onesCompAdd16_eq (a b : Nat) (ha : a ≤ 65535) (hb : b ≤ 65535) : onesCompAdd16 a b = Spec.onesAdd a b := by
  by_cases h : a + b < 65536
  · simp [onesCompAdd16, IGMP_MOD, Spec.onesAdd, h]
  · simp only [onesCompAdd16, IGMP_MOD, Spec.onesAdd, h, if_false]; omega

theorem foldl_onesCompAdd16 (ws : List Nat) (acc : Nat) (hacc : acc ≤ 65535) (hw : ∀ w ∈ ws, w ≤ 65535) :
    ws.foldl onesCompAdd16 acc = ws.foldl Spec.onesAdd acc := by
  induction ws generalizing acc with
  | nil => rw [List.foldl_nil, List.foldl_nil]
  | cons w ws ih =>
    have hw1 := hw w List.mem_cons_self
    rw [List.foldl_cons, List.foldl_cons, onesCompAdd16_eq _ _ hacc hw1]
    exact ih _ (Sum16.onesAdd_eq_norm _ _ hacc hw1 ▸ Sum16.norm_le _) (fun x hx => hw x (List.mem_cons_of_mem _ hx))

/-- the loop of `join_groups` appends one RFC 3376 group record per group -/
theorem joinBody_eq (mode : Nat) (gs : List Nat) (hm : mode < 256) :
    joinBody mode (gs.map some) = .ok (gs.flatMap (Spec.IGMP.groupRecord mode)) := by
  have hf : Fits IGMP_join_fmt1.codes [mode, 0, 0] := by simp [Fits, IGMP_join_fmt1, Code.bound, hm]
  induction gs with
  | nil => rfl
  | cons g gs ih =>
    simp only [List.map_cons, joinBody, structPack_eq _ _ hf, ih, List.flatMap_cons]
    simp [IGMP_join_fmt1, encCodes, Code.size, Spec.IGMP.groupRecord, encInt]

end Acra.Lemmas.Net
