/-
  Chapter 7: from packets to PTDPs.  `datapkts_to_ptdp` in closed form (one COMPLETE
  PTDP, or the fragments `fragOf b llp n 0 … n-1`), what every PTDP it builds satisfies, and the split of a mixed
  packet sequence into its normal and its low-latency PTDPs.
-/
import Acra.Lemmas.Chapter7
namespace Acra.Lemmas.Chapter7
open Acra.Py Acra.Model Acra.Model.Chapter7 Acra.Gen.Chapter7

theorem encB_ne (p : PTDP.State) : encB p ≠ [] := by
  intro h; have := congrArg List.length h; rw [encB_length] at this; simp at this

theorem map_encB_ne (ps : List PTDP.State) : ∀ b ∈ ps.map encB, b ≠ [] := by
  intro b hb
  obtain ⟨p, _, rfl⟩ := List.mem_map.1 hb
  exact encB_ne p

theorem pack_encB (p : PTDP.State) (h : PTDP_WF p) : (PTDP.pack p).2 = .ok (encB p) := by
  rw [ptdp_pack_eq p h]

/-- fragment `i` of `n` of a long packet -/
def fragOf (buffer : Bytes) (llp : Bool) (n i : Nat) : PTDP.State :=
  mkPtdp llp (if i = 0 then PTDP_FRAGMENT_FIRST else if i = n - 1 then PTDP_FRAGMENT_LAST else PTDP_FRAGMENT_MIDDLE)
    (slice buffer (2048 * i) (2048 * (i + 1)))

theorem fragOf_wf (b : Bytes) (llp : Bool) (n i : Nat) : PTDP_WF (fragOf b llp n i) := by
  refine ⟨?_, by simp [fragOf, mkPtdp, PTDP_CONTENT_MAC], ?_⟩
  · simp only [fragOf, mkPtdp, PTDP_FRAGMENT_FIRST, PTDP_FRAGMENT_LAST, PTDP_FRAGMENT_MIDDLE]
    repeat' split
    all_goals omega
  · simp only [fragOf, mkPtdp, slice_length]; omega

theorem fragmentsFrom_eq (buffer : Bytes) (llp : Bool) (n : Nat) (hn : buffer.length ≤ 2048 * n) :
    ∀ cnt i, i + cnt = n → fragmentsFrom buffer llp n cnt i = (List.range' i cnt).map (fragOf buffer llp n) := by
  intro cnt
  induction cnt with
  | zero => intro i _; simp [fragmentsFrom]
  | succ cnt ih =>
    intro i hi
    simp only [fragmentsFrom, List.range'_succ, List.map_cons, ih (i + 1) (by omega), List.cons.injEq, and_true]
    unfold fragOf
    by_cases h0 : i = 0
    · subst h0; simp [PTDP_MAX_LEN]
    · simp only [beq_iff_eq, h0, if_false]
      by_cases h1 : i = n - 1
      · simp only [h1, if_true, PTDP_MAX_LEN]
        congr 1
        simp only [slice]
        rw [List.take_of_length_le (by omega), Nat.mul_comm]
      · simp only [h1, if_false, PTDP_MAX_LEN]

theorem ptdpsOf_small (b : Bytes) (llp : Bool) (h : b.length ≤ 2048) :
    ptdpsOf b llp = [mkPtdp llp PTDP_FRAGMENT_COMPLETE b] := by
  simp [ptdpsOf, PTDP_MAX_LEN, h]

theorem ptdpsOf_large (b : Bytes) (llp : Bool) (h : 2048 < b.length) :
    ptdpsOf b llp = (List.range ((b.length + 2047) / 2048)).map (fragOf b llp ((b.length + 2047) / 2048)) := by
  unfold ptdpsOf
  rw [if_neg (by simp only [PTDP_MAX_LEN]; omega)]
  simp only [PTDP_MAX_LEN]
  rw [show b.length + 2048 - 1 = b.length + 2047 by omega,
    fragmentsFrom_eq b llp _ (by omega) _ 0 (by omega), List.range_eq_range']

theorem ptdpsOf_ne_nil (b : Bytes) (llp : Bool) : ptdpsOf b llp ≠ [] := by
  by_cases h : b.length ≤ 2048
  · simp [ptdpsOf_small b llp h]
  · have : (b.length + 2047) / 2048 ≠ 0 := by omega
    simp [ptdpsOf_large b llp (by omega), this]

theorem mkPtdp_complete_wf (f : Bool) (b : Bytes) (h : b.length ≤ 2048) : PTDP_WF (mkPtdp f PTDP_FRAGMENT_COMPLETE b) :=
  ⟨by simp [mkPtdp, PTDP_FRAGMENT_COMPLETE], by simp [mkPtdp, PTDP_CONTENT_MAC], h⟩

theorem ptdpsOf_canon' (b : Bytes) (llp : Bool) :
    ∀ p ∈ ptdpsOf b llp, PTDP_WF p ∧ p.low_latency = llp ∧ p.length = p.payload.length := by
  intro p hp
  by_cases h : b.length ≤ 2048
  · rw [ptdpsOf_small b llp h, List.mem_singleton] at hp
    subst hp
    exact ⟨mkPtdp_complete_wf llp b h, rfl, rfl⟩
  · rw [ptdpsOf_large b llp (by omega), List.mem_map] at hp
    obtain ⟨i, _, rfl⟩ := hp
    exact ⟨fragOf_wf b llp _ i, rfl, rfl⟩

theorem fragOf_payloads (b : Bytes) (llp : Bool) :
    ((List.range ((b.length + 2047) / 2048)).map
      (fun i => (fragOf b llp ((b.length + 2047) / 2048) i).payload)).flatten = b := by
  have := slices_flatten b 2048 0 ((b.length + 2047) / 2048)
  rw [← List.range_eq_range'] at this
  simp only [Nat.mul_comm _ 2048, Nat.zero_add, Nat.mul_zero] at this
  exact this.trans (slice_all b _ (by omega))

theorem datapktsToPtdp_cons (p : Bytes × Bool) (r : List (Bytes × Bool)) :
    datapktsToPtdp (p :: r) = ptdpsOf p.1 p.2 ++ datapktsToPtdp r := by
  simp [datapktsToPtdp]

theorem mem_datapktsToPtdp {pkts : List (Bytes × Bool)} {q : PTDP.State} (hq : q ∈ datapktsToPtdp pkts) :
    ∃ p ∈ pkts, PTDP_WF q ∧ q.low_latency = p.2 ∧ q.length = q.payload.length := by
  obtain ⟨p, hp, hq⟩ := List.mem_flatMap.1 hq
  exact ⟨p, hp, ptdpsOf_canon' p.1 p.2 q hq⟩

theorem datapktsToPtdp_wf (pkts : List (Bytes × Bool)) : ∀ q ∈ datapktsToPtdp pkts, PTDP_WF q := by
  intro q hq
  obtain ⟨_, _, h, _⟩ := mem_datapktsToPtdp hq
  exact h

/-! ### normal traffic: names used by the C10 theorems -/

/-- the packets, none of them low-latency -/
def normal (pkts : List Bytes) : List (Bytes × Bool) := pkts.map fun b => (b, false)
def ptdps (pkts : List Bytes) : List PTDP.State := datapktsToPtdp (normal pkts)
def encs (pkts : List Bytes) : List Bytes := (ptdps pkts).map encB
def stream (pkts : List Bytes) : Bytes := (encs pkts).flatten

/-- a normal (not low-latency) PTDP as the library's `datapkts_to_ptdp` builds it and as the decapsulator returns it;
    low-latency PTDPs: `LlpCanon` (Chapter7Layout) -/
def Canon (p : PTDP.State) : Prop := PTDP_WF p ∧ p.low_latency = false ∧ p.length = p.payload.length

theorem ptdps_canon (pkts : List Bytes) : ∀ p ∈ ptdps pkts, Canon p := by
  intro p hp
  obtain ⟨q, hq, h1, h2, h3⟩ := mem_datapktsToPtdp hp
  obtain ⟨b, _, rfl⟩ := List.mem_map.1 hq
  exact ⟨h1, h2, h3⟩

theorem ptdps_wf (pkts : List Bytes) : ∀ p ∈ ptdps pkts, PTDP_WF p ∧ p.low_latency = false :=
  fun p hp => ⟨(ptdps_canon pkts p hp).1, (ptdps_canon pkts p hp).2.1⟩

def normalOf (qs : List PTDP.State) : List PTDP.State := qs.filter fun q => !q.low_latency
def llpOf (qs : List PTDP.State) : List PTDP.State := qs.filter fun q => q.low_latency

def normalPkts (pkts : List (Bytes × Bool)) : List Bytes := (pkts.filter fun p => !p.2).map (·.1)
def llpPkts (pkts : List (Bytes × Bool)) : List Bytes := (pkts.filter fun p => p.2).map (·.1)

theorem filter_ptdpsOf (b : Bytes) (llp : Bool) (g : Bool → Bool) :
    (ptdpsOf b llp).filter (fun q => g q.low_latency) = if g llp then ptdpsOf b llp else [] := by
  cases h : g llp
  · exact List.filter_eq_nil_iff.2 fun q hq => by rw [(ptdpsOf_canon' b llp q hq).2.1, h]; exact Bool.false_ne_true
  · exact List.filter_eq_self.2 fun q hq => by rw [(ptdpsOf_canon' b llp q hq).2.1, h]

theorem normalOf_datapkts (pkts : List (Bytes × Bool)) :
    normalOf (datapktsToPtdp pkts) = ptdps (normalPkts pkts) := by
  induction pkts with
  | nil => simp [normalOf, datapktsToPtdp, ptdps, normalPkts, normal]
  | cons p r ih =>
    rw [datapktsToPtdp_cons, normalOf, List.filter_append, filter_ptdpsOf p.1 p.2 (!·), ← normalOf, ih]
    obtain ⟨b, llp⟩ := p
    cases llp with
    | true => simp [normalPkts]
    | false => simp [normalPkts, ptdps, normal, datapktsToPtdp]

/-- a low-latency packet as one COMPLETE PTDP -/
def llpPtdp (b : Bytes) : PTDP.State := mkPtdp true PTDP_FRAGMENT_COMPLETE b

theorem llpOf_datapkts (pkts : List (Bytes × Bool))
    (hsz : ∀ q ∈ llpOf (datapktsToPtdp pkts), q.payload.length < 2048) :
    llpOf (datapktsToPtdp pkts) = (llpPkts pkts).map llpPtdp := by
  induction pkts with
  | nil => simp [llpOf, datapktsToPtdp, llpPkts]
  | cons p r ih =>
    rw [datapktsToPtdp_cons, llpOf, List.filter_append, ← llpOf, ← llpOf] at hsz ⊢
    rw [ih (fun q hq => hsz q (by simp [hq])), show llpOf (ptdpsOf p.1 p.2) = _ from filter_ptdpsOf p.1 p.2 id]
    obtain ⟨b, llp⟩ := p
    cases llp with
    | false => simp [llpPkts]
    | true =>
      simp only [id, ↓reduceIte]
      have hb : b.length ≤ 2048 := by
        -- otherwise the FIRST fragment, 2048 bytes long, would be among the low-latency PTDPs
        refine Decidable.byContradiction fun hgt => ?_
        have hmem : fragOf b true ((b.length + 2047) / 2048) 0 ∈ ptdpsOf b true := by
          rw [ptdpsOf_large b true (by omega), List.mem_map]
          exact ⟨0, by simp; omega, rfl⟩
        have := hsz _ (by
          rw [show llpOf (ptdpsOf b true) = _ from filter_ptdpsOf b true id]
          simp only [id, if_true, List.mem_append]
          exact Or.inl hmem)
        simp only [fragOf, mkPtdp, slice_length] at this
        omega
      rw [ptdpsOf_small b true hb]
      simp [llpPkts, llpPtdp]

end Acra.Lemmas.Chapter7
