/-
  Helper lemmas for `combine_ip_fragments`: the stable insertion sort by fragment offset returns an ascending
  permutation of its input, and there is only one when the offsets are pairwise distinct (`sortFrags_unique`): so the
  result does not depend on the arrival order and a list in ascending order is left alone.  The checking loop accepts
  exactly the lists of IP objects with one identification.  A list cut in ascending offsets is already sorted:
  the fragments of a payload cut at positive multiples of the offset unit (1 byte in `mkFrags`, the 8 bytes of an
  IPv4 header in `mkFrags8`) have strictly ascending offsets.
-/
import Acra.Model.Net
namespace Acra.Lemmas.Reassembly
open Acra.Py Acra.Model.Net

def Distinct (l : List IP) : Prop := l.Pairwise fun a b => a.fragment_offset ≠ b.fragment_offset

theorem insertFrag_perm (p : IP) (l : List IP) : (insertFrag p l).Perm (p :: l) := by
  induction l with
  | nil => exact List.Perm.refl _
  | cons x xs ih =>
    simp only [insertFrag]
    split
    · exact List.Perm.refl _
    · exact ((List.Perm.cons x ih).trans (List.Perm.swap p x xs))

theorem sortFrags_perm_self (l : List IP) : (sortFrags l).Perm l := by
  induction l with
  | nil => exact List.Perm.refl _
  | cons x xs ih => exact (insertFrag_perm x _).trans (List.Perm.cons x ih)

abbrev Asc (l : List IP) : Prop := l.Pairwise fun a b => a.fragment_offset ≤ b.fragment_offset

theorem insertFrag_asc (p : IP) (l : List IP) (h : Asc l) : Asc (insertFrag p l) := by
  induction l with
  | nil => exact List.pairwise_singleton _ _
  | cons q qs ih =>
    obtain ⟨hq, hqs⟩ := List.pairwise_cons.1 h
    simp only [insertFrag]
    split
    · next hpq => exact List.pairwise_cons.2 ⟨fun b hb => by
        rcases List.mem_cons.1 hb with rfl | hb
        · exact hpq
        · exact Nat.le_trans hpq (hq b hb), h⟩
    · next hpq => exact List.pairwise_cons.2 ⟨fun b hb => by
        rcases List.mem_cons.1 ((insertFrag_perm p qs).subset hb) with rfl | hb
        · omega
        · exact hq b hb, ih hqs⟩

theorem sortFrags_asc : ∀ l : List IP, Asc (sortFrags l)
  | [] => List.Pairwise.nil
  | p :: ps => insertFrag_asc p _ (sortFrags_asc ps)

/-- two ascending permutations of each other, no two elements with the same offset, are equal -/
theorem sortFrags_unique (l s : List IP) (hp : l.Perm s) (hs : Asc s) (hd : Distinct s) : sortFrags l = s := by
  refine List.Perm.eq_of_pairwise (fun a b ha hb h1 h2 => ?_) (sortFrags_asc l) hs ((sortFrags_perm_self l).trans hp)
  have ha' : a ∈ s := hp.subset ((sortFrags_perm_self l).subset ha)
  exact List.Pairwise.forall_of_forall_of_flip (R := fun a b : IP => a.fragment_offset = b.fragment_offset → a = b)
    (fun _ _ _ => rfl) (hd.imp fun h e => absurd e h) (hd.imp fun h e => absurd e.symm h) ha' hb (Nat.le_antisymm h1 h2)

theorem sortFrags_perm {l₁ l₂ : List IP} (hp : l₁.Perm l₂) (hd : Distinct l₁) : sortFrags l₁ = sortFrags l₂ := by
  have hp2 := hp.trans (sortFrags_perm_self l₂).symm
  exact sortFrags_unique l₁ _ hp2 (sortFrags_asc l₂) ((List.Perm.pairwise_iff (fun h => Ne.symm h) hp2).1 hd)

def SameId (l : List IP) : Prop := ∀ a ∈ l, ∀ b ∈ l, a.ident = b.ident

theorem checkItems_error (i : Option Nat) (items : List Item) (e : Err) (h : checkItems i items = .error e) :
    e = .generic := by
  fun_induction checkItems i items <;> simp_all

theorem checkItems_some (i : Nat) (l : List IP) (h : ∀ a ∈ l, a.ident = i) :
    checkItems (some i) (l.map .ip) = .ok l := by
  induction l generalizing i with
  | nil => rfl
  | cons p rest ih =>
    have hp := h p (by simp)
    have : (p.ident != i) = false := by simp [hp]
    simp only [List.map_cons, checkItems, this, Bool.false_eq_true, if_false]
    rw [ih p.ident (fun a ha => by rw [h a (by simp [ha]), hp])]

theorem checkItems_ok_of_sameId (l : List IP) (h : SameId l) : checkItems none (l.map .ip) = .ok l := by
  cases l with
  | nil => rfl
  | cons p rest =>
    simp only [List.map_cons, checkItems, Bool.false_eq_true, if_false]
    rw [checkItems_some p.ident rest (fun a ha => h a (by simp [ha]) p (by simp))]

theorem checkItems_ok (i : Option Nat) (items : List Item) (ps : List IP) (h : checkItems i items = .ok ps) :
    items = ps.map .ip ∧ (∀ j, i = some j → ∀ a ∈ ps, a.ident = j) ∧ SameId ps := by
  fun_induction checkItems i items generalizing ps with
  | case1 => cases h; exact ⟨rfl, fun _ _ _ ha => absurd ha List.not_mem_nil, fun _ ha => absurd ha List.not_mem_nil⟩
  | case2 => cases h
  | case3 => cases h
  | case5 => cases h
  | case4 ident p rest bad hbad qs hr ih =>
    cases h
    obtain ⟨h1, h2, _⟩ := ih qs hr
    -- every later element carries `p`'s identification, and `p` carries the expected one
    have key : ∀ c ∈ p :: qs, c.ident = p.ident := fun c hc => by
      rcases List.mem_cons.1 hc with rfl | hc
      · rfl
      · exact h2 p.ident rfl c hc
    have hok : ∀ j, ident = some j → p.ident = j := by
      intro j hj; subst hj; simpa [bad] using hbad
    exact ⟨by rw [h1]; rfl, fun j hj a ha => (key a ha).trans (hok j hj), fun a ha b hb => by rw [key a ha, key b hb]⟩

theorem SameId_perm {l₁ l₂ : List IP} (hp : l₁.Perm l₂) (h : SameId l₁) : SameId l₂ :=
  fun a ha b hb => h a (hp.mem_iff.2 ha) b (hp.mem_iff.2 hb)

theorem combine_refuses (items : List Item) (h : ¬ ∃ l, items = l.map .ip ∧ SameId l) :
    combine items = .error .generic := by
  simp only [combine]
  cases hc : checkItems none items with
  | error e => rw [checkItems_error _ _ _ hc]
  | ok ps =>
    obtain ⟨h1, _, h3⟩ := checkItems_ok _ _ _ hc
    exact absurd ⟨ps, h1, h3⟩ h

/-- the fragments carrying the given pieces one after the other from byte offset `off`; every fragment has its
    own header fields -/
def mkFrags : List (IP × Bytes) → Nat → List IP
  | [], _ => []
  | (h, p) :: rest, off => { h with fragment_offset := off, payload := p } :: mkFrags rest (off + p.length)

/-- fragments numbered in units of 8 bytes, as the header field carries the offset: the piece that starts at byte `off`
    has `fragment_offset = off / 8`.  These are hand-built objects: `IP.unpack` multiplies the field by 8 and leaves
    BYTE offsets in the object, so fragments that come out of the decoder are `mkFrags` with pieces of multiples of 8. -/
def mkFrags8 : List (IP × Bytes) → Nat → List IP
  | [], _ => []
  | (h, p) :: rest, off => { h with fragment_offset := off / 8, payload := p } :: mkFrags8 rest (off + p.length)

/-- both at once: offsets in units of `u` bytes (`mkFrags` is `u = 1`, `mkFrags8` is `u = 8`) -/
def mkFragsU (u : Nat) : List (IP × Bytes) → Nat → List IP
  | [], _ => []
  | (h, p) :: rest, off => { h with fragment_offset := off / u, payload := p } :: mkFragsU u rest (off + p.length)

theorem mkFrags_eq (l : List (IP × Bytes)) (off : Nat) : mkFrags l off = mkFragsU 1 l off := by
  induction l generalizing off with
  | nil => rfl
  | cons hp rest ih => simp only [mkFrags, mkFragsU, Nat.div_one, ih]

theorem mkFrags8_eq (l : List (IP × Bytes)) (off : Nat) : mkFrags8 l off = mkFragsU 8 l off := by
  induction l generalizing off with
  | nil => rfl
  | cons hp rest ih => simp only [mkFrags8, mkFragsU, ih]

theorem mkFragsU_ge (u : Nat) (l : List (IP × Bytes)) (off : Nat) :
    ∀ f ∈ mkFragsU u l off, off / u ≤ f.fragment_offset := by
  induction l generalizing off with
  | nil => simp [mkFragsU]
  | cons hp rest ih =>
    obtain ⟨h, p⟩ := hp
    intro f hf
    simp only [mkFragsU, List.mem_cons] at hf
    rcases hf with rfl | hf
    · exact Nat.le_refl _
    · exact Nat.le_trans (Nat.div_le_div_right (Nat.le_add_right off p.length)) (ih _ f hf)

theorem mkFragsU_sorted (u : Nat) (l : List (IP × Bytes)) (off : Nat)
    (hu : ∀ hp ∈ l.dropLast, 0 < hp.2.length ∧ hp.2.length % u = 0) :
    (mkFragsU u l off).Pairwise fun a b => a.fragment_offset < b.fragment_offset := by
  induction l generalizing off with
  | nil => simp [mkFragsU]
  | cons hp rest ih =>
    obtain ⟨h, p⟩ := hp
    simp only [mkFragsU, List.pairwise_cons]
    cases rest with
    | nil => simp [mkFragsU]
    | cons r rs =>
      obtain ⟨hpos, hmod⟩ := hu (h, p) (by simp [List.dropLast])
      refine ⟨fun f hf => Nat.lt_of_lt_of_le ?_ (mkFragsU_ge u _ _ f hf), ih _ fun x hx => hu x ?_⟩
      · -- the next piece starts at least one unit later
        obtain ⟨k, hk⟩ := Nat.dvd_of_mod_eq_zero hmod
        have hk0 : 0 < k := Nat.pos_of_ne_zero fun h0 => by rw [hk, h0, Nat.mul_zero] at hpos; exact Nat.lt_irrefl _ hpos
        have hu0 : 0 < u := Nat.pos_of_ne_zero fun h0 => by rw [hk, h0, Nat.zero_mul] at hpos; exact Nat.lt_irrefl _ hpos
        show off / u < (off + p.length) / u
        rw [hk, Nat.add_mul_div_left _ _ hu0]
        omega
      · simp only [List.dropLast_cons_cons, List.mem_cons]; exact Or.inr hx

theorem mkFragsU_payload (u : Nat) (l : List (IP × Bytes)) (off : Nat) :
    (mkFragsU u l off).flatMap (·.payload) = (l.map (·.2)).flatten := by
  induction l generalizing off with
  | nil => rfl
  | cons hp rest ih =>
    obtain ⟨h, p⟩ := hp
    simp [mkFragsU, ih]

end Acra.Lemmas.Reassembly
