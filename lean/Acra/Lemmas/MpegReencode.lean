/-
  Re-encoding a packet decoded from ARBITRARY bytes (at most 188): `MPEGPacket.pack` never fails with `struct.error`,
  because every value the decoder stores fits the field the encoder writes it to.  The only exception `pack` can raise is
  its own input validation (bare `Exception`: a PCR / LTW / piecewise / seamless part of the wrong size, which a truncated
  adaptation field leaves behind).  The `TypeError` of DESIGN §6 D07 cannot arise in the model at all: it stores integers
  only.
-/
import Acra.Lemmas.MPEGTS
import Acra.Lemmas.MpegParse
import Acra.Py.Records
namespace Acra.Lemmas.MpegReencode
open Acra.Py Acra.Model.MPEGTS Acra.Gen.MPEGTS Acra.Lemmas.MPEGTS Acra.Lemmas.MpegParse

/-- what the encoder needs of an adaptation-field object so that no `struct.pack` can fail -/
def AF_bounded (a : AF) : Prop :=
  a.length < 256 ∧ a.pcr.length ≤ 6 ∧ a.opcr.length ≤ 6 ∧ a.splice_countdown < 256 ∧ a.private_data.length ≤ 184

theorem AF_fresh_bounded : AF_bounded AF.fresh := by simp [AF_bounded, AF.fresh]

theorem slice_len_le (b : Bytes) (lo n : Nat) : (slice b lo (lo + n)).length ≤ n := by
  simp only [slice_length]; omega

theorem afTail_bounded (buf : Bytes) (s0 : AF) (splF tpF extF : Bool) (o2 : Nat) (h0 : AF_bounded s0)
    (hX : buf.length ≤ 184) : AF_bounded (afTail buf s0 splF tpF extF o2).1 := by
  obtain ⟨a1, a2, a3, a4, a5⟩ := h0
  have hsc : (if splF = true then decInt true (slice buf o2 (o2 + 1)) else 0) < 256 := by
    split
    · exact decInt_slice1_lt true buf o2
    · decide
  have hpd : ∀ lo hi, (if tpF = true then slice buf lo hi else []).length ≤ 184 := fun lo hi => by
    split
    · simp only [slice_length]; omega
    · exact Nat.zero_le _
  simp only [afTail]
  by_cases c1 : splF = true ∧ buf.length < o2 + 1
  · rw [if_pos c1]; exact ⟨a1, a2, a3, a4, a5⟩
  · rw [if_neg c1]
    by_cases c2 : tpF = true ∧ buf.length < (if splF = true then o2 + 1 else o2) + 1
    · rw [if_pos c2]; exact ⟨a1, a2, a3, hsc, a5⟩
    · rw [if_neg c2]; split <;> exact ⟨a1, a2, a3, hsc, hpd _ _⟩

theorem AF_unpack_bounded (t : AF) (X : Bytes) (ht : AF_bounded t) (hX : X.length ≤ 184) :
    AF_bounded (AF.unpack t X).1 := by
  rw [AF_unpack_eq]
  split
  · exact ht
  · refine afTail_bounded X _ _ _ _ _ ⟨decInt_slice1_lt true X 0, ?_, ?_, Nat.zero_lt_succ _, Nat.zero_le _⟩ hX
    · show (if _ then slice X 2 (2 + 6) else []).length ≤ 6
      split
      · exact slice_len_le X 2 6
      · exact Nat.zero_le _
    · show (if _ then slice X _ (_ + 6) else []).length ≤ 6
      split
      · exact slice_len_le X _ 6
      · exact Nat.zero_le _

theorem Ext_pack_ok_or_generic (x : Ext) :
    (Ext.pack x).2 = .error .generic ∨ ∃ eb, (Ext.pack x).2 = .ok eb ∧ eb.length ≤ 12 := by
  by_cases h : Ext_WF x
  · right
    rw [Ext_pack_eq x h]
    exact ⟨_, rfl, by rw [Ext_bytes_length]; exact Ext_len_le x h⟩
  · exact .inl (Ext_pack_error x h)

theorem spl_len (a : AF) : (AF_spl a).length ≤ 1 := by rw [AF_spl_length]; split <;> omega
theorem tl_len (a : AF) : (AF_tl a).length ≤ 1 := by rw [AF_tl_length]; split <;> omega

theorem AF_pack_ok_or_generic (a : AF) (h : AF_bounded a) :
    (AF.pack a).2 = .error .generic ∨ ∃ b, (AF.pack a).2 = .ok b := by
  obtain ⟨hlen, hp, ho, hs, hd⟩ := h
  have p0 := AF_spl_pack a hs
  have p1 := AF_tl_pack a (by omega)
  have hsl := spl_len a
  have htl := tl_len a
  -- the header of a bounded object always packs: the length byte is at most 6 + 6 + 1 + 184 + 12 + 1 + 1
  have key : ∀ (n : Nat) (xf : Bool) (e : Err), n ≤ 12 →
      structPack AF_pack_fmt2
        [if a.length > a.pcr.length + a.opcr.length + (AF_tl a).length + a.private_data.length + n + (AF_spl a).length + 1
          then a.length
          else a.pcr.length + a.opcr.length + (AF_tl a).length + a.private_data.length + n + (AF_spl a).length + 1,
         a.discontinutiy.toNat * 128 + a.random_access.toNat * 64 + a.es_priority.toNat * 32 +
          (a.pcr_flag || decide (0 < a.pcr.length)).toNat * 16 + (a.opcr_flag || decide (0 < a.opcr.length)).toNat * 8 +
          (a.splicing_flag || decide (0 < a.splice_countdown)).toNat * 4 +
          (a.transpart_flag || decide (0 < a.private_data.length)).toNat * 2 + xf.toNat] ≠ .error e := by
    intro n xf e hn he
    rw [pack_u8u8 AF_pack_fmt2 rfl _ _ (by split <;> omega) (flag_bits _ _ _ _ _ _ _ xf).2.2.2.2.2.2.2.2] at he
    cases he
  unfold AF.pack
  by_cases c0 : 0 < a.pcr.length ∧ a.pcr.length ≠ 6
  · left; rw [if_pos c0]
  · rw [if_neg c0]
    simp only [p0, p1]
    cases hx : a.adaption_extension with
    | none =>
      right
      simp only [List.length_nil]
      split
      · next e he => exact absurd he (key 0 _ e (by omega))
      · exact ⟨_, rfl⟩
    | some x =>
      rcases Ext_pack_ok_or_generic x with hg | ⟨eb, hok, hebl⟩
      · left; simp only [hg]
      · right
        simp only [hok]
        split
        · next e he => exact absurd he (key eb.length true e hebl)
        · exact ⟨_, rfl⟩

def Pkt_bounded (q : Pkt) : Prop :=
  q.sync < 256 ∧ q.pid < 8192 ∧ q.transport_priority < 2 ∧ q.tsc < 4 ∧ q.adaption_ctrl < 4 ∧
  q.continuitycounter < 16 ∧ (∀ a, q.adaption_field = some a → AF_bounded a)

/-- header fields by their masks, the adaptation field because it is decoded from at most 184 of the bytes -/
theorem pktObj_bounded (buf : Bytes) (hlen : buf.length ≤ 188) : Pkt_bounded (MpegParse.pktObj buf) := by
  have hd4 : (buf.drop 4).length ≤ 184 := by simp; omega
  have hsl : ∀ n, (slice buf 4 n).length ≤ 184 := by intro n; simp only [slice_length]; omega
  have hs : decInt true (slice buf 0 1) < 256 := decInt_take_lt true buf 1
  unfold MpegParse.pktObj
  simp only []
  repeat' split
  all_goals
    refine ⟨hs, Nat.mod_lt _ (by decide), Nat.mod_lt _ (by decide), Nat.mod_lt _ (by decide),
      Nat.mod_lt _ (by decide), Nat.mod_lt _ (by decide), ?_⟩
    intro a ha
    cases ha <;> first
      | exact AF_unpack_bounded _ _ AF_fresh_bounded (hsl _)
      | exact AF_unpack_bounded _ _ AF_fresh_bounded hd4

theorem Pkt_unpack_bounded (t : Pkt) (buf : Bytes) (q : Pkt) (hlen : buf.length ≤ 188)
    (hq : Pkt.unpack t buf = (q, .ok ())) : Pkt_bounded q := by
  rw [MpegParse.pktRun_ok ((MpegParse.Pkt_decodes.eq_ok_iff ..).1 hq)]
  exact pktObj_bounded buf hlen

theorem Pkt_pack_ok_or_generic (q : Pkt) (ns : Bool) (h : Pkt_bounded q) :
    (Pkt.pack q ns).2 = .error .generic ∨ ∃ b, (Pkt.pack q ns).2 = .ok b := by
  obtain ⟨h1, h2, h3, h4, h5, h6, h7⟩ := h
  have hz := pack_u8 Pkt_pack_fmt1 rfl 0 (by omega)
  unfold Pkt.pack
  simp only [Pkt_hdr_pack q h1 h2 h3 h4 h5 h6]
  by_cases hc : q.adaption_ctrl = ADAPTION_ADAPTION_ONLY ∨ q.adaption_ctrl = ADAPTION_PAYLOAD_AND_ADAPTION
  · simp only [if_pos hc]
    cases hx : q.adaption_field with
    | none => right; simp only [hz]; exact ⟨_, rfl⟩
    | some a =>
      rcases AF_pack_ok_or_generic a (h7 a hx) with hg | ⟨b, hb⟩
      · left; simp only [hg]
      · right; simp only [hb]; exact ⟨_, rfl⟩
  · simp only [if_neg hc]; right; exact ⟨_, rfl⟩

theorem TS_unpack_bounded (t : TS) (buf : Bytes) (ts : TS) (r : Bool) (h : TS.unpack t buf = (ts, .ok r)) :
    ∀ q ∈ ts.blocks, Pkt_bounded q := by
  intro x hx
  -- `RecordsErr` is the namespace of Py/Records.lean: every element of a `decOff` result was decoded at some offset
  obtain ⟨_, hr, _⟩ := Acra.Lemmas.RecordsErr.decOff_ok_reach (MpegParse.tsRun_ok ((MpegParse.TS_decodes.eq_ok_iff ..).1 h)).1
  obtain ⟨o, n, _, _, hd⟩ := Acra.Lemmas.RecordsErr.reach_mem hr x hx
  generalize buf.drop o = b at hd
  unfold decBlock at hd
  split at hd
  · next p hp =>
    simp only [Except.ok.injEq, Prod.mk.injEq] at hd
    obtain ⟨rfl, _⟩ := hd
    exact Pkt_unpack_bounded Pkt.fresh (b.take 188) p (by simp; omega) hp
  · simp at hd

theorem packBlocks_ok_or_generic (qs : List Pkt) (h : ∀ q ∈ qs, Pkt_bounded q) :
    (packBlocks qs).2 = .error .generic ∨ ∃ b, (packBlocks qs).2 = .ok b := by
  rw [packBlocks_eq_packAll]
  exact packAll_snd_cases _ _ qs fun q hq => Pkt_pack_ok_or_generic q false (h q hq)

end Acra.Lemmas.MpegReencode
