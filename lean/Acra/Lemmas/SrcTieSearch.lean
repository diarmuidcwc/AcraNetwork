/-
  Helper lemmas for the source tie of the search algorithms (C17): the raising index operations of the
  prelude against the models' `[i]?` / `pyIdx`, the fall-back loop of KMP (`Py.whileLoopM` against `kmpFall`),
  Horspool's inner loop, skip table and outer pass, and the tie of the library's two copies of Horspool.
-/
import Acra.Py.IntOps
import Acra.Lemmas.SrcTieLoop
import Acra.Lemmas.Search
import Acra.Gen.Src.SamDec008
import Acra.Gen.Src.H264
namespace Acra.Lemmas.SrcTieSearch
open Acra Acra.Py Acra.Model.Search Acra.Lemmas.SrcTieLoop
open Acra.Lemmas.Search (skipStep bmhSkip_eq skipStep_length bmhSkip_length)

/-- a byte read that may fail, as a Python int -/
def liftB (o : Option UInt8) : R Int :=
  match o with
  | some x => .ok (x.toNat : Int)
  | none => .error .index

/-- a table read that may fail, as a Python int -/
def liftN (o : Option Nat) : R Int :=
  match o with
  | some x => .ok (x : Int)
  | none => .error .index

@[simp] theorem liftB_some (x : UInt8) : liftB (some x) = .ok (x.toNat : Int) := rfl
@[simp] theorem liftB_none : liftB none = .error .index := rfl
@[simp] theorem liftN_some (x : Nat) : liftN (some x) = .ok (x : Int) := rfl
@[simp] theorem liftN_none : liftN none = .error .index := rfl

theorem toNat_succ (j : Nat) : Int.toNat ((j : Int) + 1) = j + 1 := by omega

theorem byteAt_nat (b : Bytes) (i : Nat) (c : UInt8) (h : b[i]? = some c) : byteAt b (i : Int) = (c.toNat : Int) := by
  unfold byteAt
  simp [List.getD_eq_getElem?_getD, h]

theorem getByte_nat (b : Bytes) (j : Nat) : getByte b (j : Int) = liftB b[j]? := getByte_natCast b j

theorem getItem_nat (t : List Nat) (j : Nat) : getItem (t.map Int.ofNat) (j : Int) = liftN t[j]? := by
  rw [getItem_natCast, List.getElem?_map]; cases t[j]? <;> rfl

theorem getByte_pyIdx (b : Bytes) (i : Int) : getByte b i = liftB (pyIdx b i) := by
  by_cases h0 : 0 ≤ i
  · obtain ⟨n, rfl⟩ := Int.eq_ofNat_of_zero_le h0
    rw [getByte_nat, Lemmas.Search.pyIdx_nat]
  · unfold pyIdx; rw [if_neg h0]
    unfold getByte len
    rw [if_neg (by omega)]
    by_cases h1 : 0 ≤ i + (b.length : Int)
    · rw [if_pos ⟨by omega, by omega⟩, if_pos h1]
      obtain ⟨k, hk⟩ := Int.eq_ofNat_of_zero_le h1
      have hkl : k < b.length := by omega
      have e : (b.length : Int) + i = (k : Int) := by omega
      rw [e, hk]; unfold byteAt
      simp [List.getD_eq_getElem?_getD, hkl]
    · rw [if_neg (by omega), if_neg h1]; rfl

theorem u8_eq_iff (x c : UInt8) : ((x.toNat : Int) = (c.toNat : Int)) ↔ x = c := by
  constructor
  · intro e; apply UInt8.toNat_inj.mp; omega
  · intro e; rw [e]

theorem u8_ne_iff (x c : UInt8) : ((x.toNat : Int) ≠ (c.toNat : Int)) ↔ x ≠ c := not_congr (u8_eq_iff x c)

/-- KMP's fall-back loop `while j > 0 and pattern[j] != c: j = ret[j - 1]`, for any loop whose condition reads
    `pattern[j]` and puts it to a `test` that compares with the byte `c` (in whichever order), and whose body reads the
    table -/
theorem fall_tie (p : Bytes) (tbl : List Nat) (c : UInt8) (cond : Int → R Bool) (body : Int → R Int) (test : Int → Bool)
    (htest : ∀ x : UInt8, test (x.toNat : Int) = decide (x ≠ c))
    (hc : ∀ j : Int, cond j = if j > 0 then (getByte p j >>= fun x => .ok (test x)) else .ok false)
    (hb : ∀ j : Int, body j = (getItem (tbl.map Int.ofNat) (j - 1) >>= fun t => .ok t)) :
    ∀ (fuel j : Nat), whileLoopM cond body fuel (j : Int) = (kmpFall p tbl c fuel j).map Int.ofNat := by
  refine while_tie_id (fun j : Nat => (j : Int)) cond body _ (fun _ => rfl) (fun n j K hK => ?_)
  unfold kmpFall
  rw [hc j]
  by_cases hj : j > 0
  · rw [if_pos hj, if_pos (by omega : (j : Int) > 0), getByte_nat]
    cases p[j]? with
    | none => rfl
    | some x =>
      rw [liftB_some, ok_bind, htest, ok_bind]
      dsimp only
      by_cases hx : x ≠ c
      · rw [decide_eq_true hx, if_pos rfl, if_pos hx, hb, show (j : Int) - 1 = ((j - 1 : Nat) : Int) by omega,
          getItem_nat]
        cases tbl[j - 1]? with
        | none => rfl
        | some j' => exact hK j'
      · rw [decide_eq_false hx, if_neg hx]; rfl
  · rw [if_neg hj, if_neg (by omega : ¬ (j : Int) > 0)]; rfl

theorem foldl_append_const (m : Int) (l : List Int) (acc : List Int) :
    List.foldl (fun (sk : List Int) (_ : Int) => sk ++ [m]) acc l = acc ++ List.replicate l.length m := by
  induction l generalizing acc with
  | nil => simp
  | cons x xs ih =>
    rw [List.foldl_cons, ih, List.length_cons, List.replicate_succ, List.append_assoc]; rfl

theorem range_length (n : Nat) : (Py.range (n : Int)).length = n := by
  rw [Py.range_natCast, List.length_map, List.length_range]

theorem setItem_nat (t : List Nat) (j : Nat) (v : Nat) (h : j < t.length) :
    setItem (t.map Int.ofNat) (j : Int) (v : Int) = .ok ((t.set j v).map Int.ofNat) := by
  rw [setItem_natCast, if_pos (by simpa using h), List.map_set]; rfl

theorem setAt_nat (t : List Nat) (j : Nat) (v : Nat) :
    setAt (t.map Int.ofNat) (j : Int) (v : Int) = (t.set j v).map Int.ofNat := by
  unfold setAt
  simp [List.map_set]

theorem replicate_nat (n : Nat) (N : Int) (hN : N = (n : Int)) (m : Nat) :
    Py.replicate N (m : Int) = (List.replicate n m).map Int.ofNat := by
  subst hN
  unfold Py.replicate
  rw [Int.toNat_natCast, List.map_replicate]; rfl

theorem skipLoop_tie (pat : Bytes) (G : List Int → Int → R (List Int))
    (hG : ∀ (sk : List Nat) (k : Nat), sk.length = 256 → k < pat.length - 1 →
      G (sk.map Int.ofNat) (k : Int) = .ok ((skipStep pat sk k).map Int.ofNat)) :
    ∀ (l : List Nat) (sk : List Nat), sk.length = 256 → (∀ k ∈ l, k < pat.length - 1) →
      List.foldlM G (sk.map Int.ofNat) (l.map Int.ofNat) = .ok ((l.foldl (skipStep pat) sk).map Int.ofNat) := by
  intro l
  induction l with
  | nil => intro sk _ _; rfl
  | cons k l ih =>
    intro sk hs hl
    rw [List.map_cons, List.foldlM_cons, show Int.ofNat k = (k : Int) from rfl,
      hG sk k hs (hl k (List.mem_cons_self ..)), ok_bind, List.foldl_cons]
    exact ih _ (by rw [skipStep_length, hs]) (fun k' hk' => hl k' (List.mem_cons_of_mem _ hk'))

theorem intAt_nat (t : List Nat) (j s : Nat) (h : t[j]? = some s) : intAt (t.map Int.ofNat) (j : Int) = (s : Int) := by
  unfold intAt
  simp [List.getD_eq_getElem?_getD, h]

/-- Horspool's inner loop `while j >= 0 and text[i] == pattern[j]: j -= 1; i -= 1` -/
theorem inner_tie (text pat : Bytes) (cond : Int × Int → R Bool) (body : Int × Int → R (Int × Int))
    (hc : ∀ (j i : Int), cond (j, i) =
      if j ≥ 0 then (getByte text i >>= fun a => getByte pat j >>= fun b => .ok (decide (a = b))) else .ok false)
    (hb : ∀ (j i : Int), body (j, i) = .ok (j - 1, i - 1)) :
    ∀ (j1 : Nat) (i : Int), whileLoopM cond body (j1 + 1) ((j1 : Int) - 1, i) =
      (bmhInner text pat j1 i).map (fun r => ((r.1 : Int) - 1, r.2)) := by
  intro j1
  induction j1 with
  | zero =>
    intro i
    unfold whileLoopM bmhInner
    rw [hc, if_neg (by omega)]; rfl
  | succ j1 ih =>
    intro i
    unfold whileLoopM bmhInner
    rw [hc, if_pos (by omega), getByte_pyIdx]
    have e : ((j1 + 1 : Nat) : Int) - 1 = (j1 : Int) := by omega
    rw [e, getByte_nat]
    cases pyIdx text i with
    | none => cases pat[j1]? <;> rfl
    | some a =>
      cases pat[j1]? with
      | none => rfl
      | some b =>
        simp only [liftB_some, ok_bind, u8_eq_iff, beq_iff_eq]
        by_cases hab : a = b
        · simp only [hab, decide_true, if_true]
          rw [hb, ok_bind]
          exact ih (i - 1)
        · simp only [hab, decide_false, if_false]
          simp only [Except.map, Bool.false_eq_true, if_false]
          rw [e]

/-- one pass of the body of `while k < n` (the model, one step): returns the new `(offsets, k)` -/
def outerStep (text pat : Bytes) (skip : List Nat) (k : Int) (offs : List Int) : R (List Int × Int) :=
  match bmhInner text pat pat.length k with
  | .error e => .error e
  | .ok (j1, i) =>
    let offs := if j1 == 0 then offs ++ [i + 1] else offs
    match pyIdx text k with
    | none => .error .index
    | some c =>
      match skip[c.toNat]? with
      | none => .error .index
      | some s => .ok (offs, k + s)

theorem outer_tie (text pat : Bytes) (skip : List Nat) (cond : List Int × Int → R Bool)
    (body : List Int × Int → R (List Int × Int))
    (hc : ∀ offs k, cond (offs, k) = .ok (decide (k < (text.length : Int))))
    (hb : ∀ offs k, body (offs, k) = outerStep text pat skip k offs) (fuel : Nat) (k : Int) (offs : List Int) :
    (whileLoopM cond body fuel (offs, k) >>= fun st => .ok st.1) = bmhOuter text pat skip fuel k offs := by
  refine while_tie (fun st : List Int × Int => st) Prod.fst cond body (fun n st => bmhOuter text pat skip n st.2 st.1)
    (fun _ => rfl) (fun n ⟨offs, k⟩ K hK => ?_) fuel (offs, k)
  rw [hc, ok_bind, hb]
  unfold bmhOuter outerStep
  by_cases hk : k < (text.length : Int)
  · simp only [hk, decide_true, if_true]
    cases bmhInner text pat pat.length k with
    | error e => rfl
    | ok r =>
      obtain ⟨j1, i⟩ := r
      dsimp only
      cases pyIdx text k with
      | none => rfl
      | some c =>
        dsimp only
        cases skip[c.toNat]? with
        | none => rfl
        | some s => exact hK (_, _)
  · simp only [hk, decide_false, if_false, Bool.false_eq_true]

/-- `skip = []; for k in range(256): skip.append(m)` -/
theorem table_append (m : Nat) :
    List.foldl (fun (skip : List Int) (_ : Int) => skip ++ [(m : Int)]) [] (Py.range 256) =
      (List.replicate 256 m).map Int.ofNat := by
  rw [foldl_append_const, show (Py.range 256).length = 256 from range_length 256, List.nil_append,
    List.map_replicate]; rfl

/-- one pass of the outer loop: the inner loop, then `rest`, which appends the offset when the inner loop ran
    down to `j = -1` and advances `k` by `skip[text[k]]` -/
theorem outerBody_tie (text pat : Bytes) (skip : List Nat) (k : Int) (offs : List Int)
    (icond : Int × Int → R Bool) (ibody : Int × Int → R (Int × Int)) (rest : Int × Int → R (List Int × Int))
    (hic : ∀ (j i : Int), icond (j, i) =
      if j ≥ 0 then (getByte text i >>= fun a => getByte pat j >>= fun b => .ok (decide (a = b))) else .ok false)
    (hib : ∀ (j i : Int), ibody (j, i) = .ok (j - 1, i - 1))
    (hnone : pyIdx text k = none → ∀ st, rest st = .error .index)
    (hrest : ∀ (j i : Int) (c : UInt8) (s : Nat), pyIdx text k = some c → skip[c.toNat]? = some s →
      rest (j, i) = .ok (if j = -1 then offs ++ [i + 1] else offs, k + (s : Int)))
    (hskip : skip.length = 256) :
    (whileLoopM icond ibody (pat.length + 1) ((pat.length : Int) - 1, k) >>= rest) = outerStep text pat skip k offs := by
  rw [inner_tie text pat icond ibody hic hib pat.length k]
  unfold outerStep
  cases bmhInner text pat pat.length k with
  | error e => rfl
  | ok r =>
    obtain ⟨j1, i⟩ := r
    simp only [Except.map, ok_bind]
    cases hk : pyIdx text k with
    | none => exact hnone hk _
    | some c =>
      obtain ⟨s, hs⟩ : ∃ s, skip[c.toNat]? = some s :=
        ⟨_, List.getElem?_eq_getElem (by rw [hskip]; exact c.toNat_lt)⟩
      rw [hrest _ _ c s hk hs]
      simp only [hs, beq_iff_eq]
      by_cases hj : j1 = 0
      · subst hj; rfl
      · rw [if_neg (by omega : ¬ ((j1 : Int) - 1 = -1)), if_neg hj]

/-- Horspool as both copies in the library write it: the skip table filled by a loop `G` over `range(m - 1)` from a table
    `skip0` of 256 `m`s, then the outer `while` with test `cond` and body `body skip` -/
theorem bmh_tie (text pat : Bytes) (skip0 : List Int) (G : List Int → Int → R (List Int))
    (cond : List Int × Int → R Bool) (body : List Int → List Int × Int → R (List Int × Int))
    (h0 : skip0 = (List.replicate 256 pat.length).map Int.ofNat)
    (hG : ∀ (sk : List Nat) (k : Nat) (c : UInt8), sk.length = 256 → pat[k]? = some c →
      G (sk.map Int.ofNat) (k : Int) = .ok ((sk.set c.toNat (pat.length - k - 1)).map Int.ofNat))
    (hc : ∀ offs k, cond (offs, k) = .ok (decide (k < (text.length : Int))))
    (hb : ∀ offs k, body ((bmhSkip pat).map Int.ofNat) (offs, k) = outerStep text pat (bmhSkip pat) k offs) :
    (if (pat.length : Int) > (text.length : Int) then (.ok [] : R (List Int)) else
      List.foldlM G skip0 (Py.range ((pat.length : Int) - 1)) >>= fun skip =>
        whileLoopM cond (body skip) (Int.toNat ((text.length : Int) + 1)) ([], (pat.length : Int) - 1) >>= fun st =>
          .ok st.1) = bmh text pat := by
  unfold bmh
  by_cases hmn : pat.length > text.length
  · rw [if_pos (by omega : (pat.length : Int) > (text.length : Int)), if_pos hmn]
  · rw [if_neg (by omega : ¬ (pat.length : Int) > (text.length : Int)), if_neg hmn]
    have hrange : Py.range ((pat.length : Int) - 1) = (List.range (pat.length - 1)).map Int.ofNat := by
      unfold Py.range
      rw [show ((pat.length : Int) - 1).toNat = pat.length - 1 by omega]
    have hG' : ∀ (sk : List Nat) (k : Nat), sk.length = 256 → k < pat.length - 1 →
        G (sk.map Int.ofNat) (k : Int) = .ok ((skipStep pat sk k).map Int.ofNat) := by
      intro sk k hs hk
      have hc : pat[k]? = some pat[k] := List.getElem?_eq_getElem (by omega)
      rw [hG sk k _ hs hc]; unfold skipStep; rw [hc]
    rw [h0, hrange, show ((text.length : Int) + 1).toNat = text.length + 1 by omega,
      skipLoop_tie pat G hG' (List.range (pat.length - 1)) (List.replicate 256 pat.length) List.length_replicate
        (fun k hk => List.mem_range.mp hk), ← bmhSkip_eq, ok_bind]
    exact outer_tie text pat (bmhSkip pat) cond _ hc hb (text.length + 1) ((pat.length : Int) - 1) []

set_option linter.unusedSimpArgs false in
/-- Both copies of `string_matching_boyer_moore_horspool` (SamDec008.py, MPEG/H264.py) are
    the model `bmh`.  One script for the two regenerated definitions, run on each separately: a rewrite of one copy
    does not touch the other's proof.  (Some simp arguments serve only one of the forms a piece may take.) -/
theorem bmh_copies_tie (text pat : Bytes) :
    Gen.Src.SamDec008.string_matching_boyer_moore_horspool text pat = bmh text pat ∧
    Gen.Src.H264.string_matching_boyer_moore_horspool text pat = bmh text pat := by
  constructor
  all_goals
    first
      | unfold Gen.Src.SamDec008.string_matching_boyer_moore_horspool
      | unfold Gen.Src.H264.string_matching_boyer_moore_horspool
    simp only [Py.len]
    refine bmh_tie text pat _ _ _ _ ?h0 (fun sk k c hs hc => ?hG) (fun _ _ => rfl) (fun offs k => ?hb)
    case h0 =>
      -- the initial table, built by 256 appends or as `[m] * 256`
      first
        | rw [table_append]
        | rw [replicate_nat 256 256 rfl pat.length]
    case hG =>
      -- the shift `m - k - 1`, however it is written
      have hk : k < pat.length := (List.getElem?_eq_some_iff.mp hc).1
      have e1 : (pat.length : Int) - (k : Int) - 1 = ((pat.length - k - 1 : Nat) : Int) := by omega
      have e2 : (pat.length : Int) - 1 - (k : Int) = ((pat.length - k - 1 : Nat) : Int) := by omega
      simp only [getByte_nat, hc, liftB_some, ok_bind, e1, e2]
      -- the store: raising (`Py.setItem`, table of unknown length) or total (`Py.setAt`, length 256 known)
      first
        | rw [setItem_nat _ _ _ (by rw [hs]; exact c.toNat_lt), ok_bind]
        | rw [setAt_nat]
    case hb =>
      -- `skip[text[k]]`: raising `getItem`, or total `intAt` when the length is known to the translator
      simp only [show ((pat.length : Int) - 1 + 2).toNat = pat.length + 1 by omega]
      exact outerBody_tie text pat _ k offs _ _ _ (fun j i => rfl) (fun j i => rfl)
        (fun h st => by simp only [getByte_pyIdx, h]; rfl)
        (fun j i c s hc hs => by
          simp only [getByte_pyIdx, hc, liftB_some, ok_bind, getItem_nat, hs, liftN_some, intAt_nat _ _ _ hs])
        (bmhSkip_length pat)

end Acra.Lemmas.SrcTieSearch
