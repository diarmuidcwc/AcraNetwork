/-
  NPD packets: `NPD.unpack` on ANY bytes as a parser (`npdRun`: header checks, then the segment loop), `NPD.pack` as an
  equation (`pack_eq`: the segments' bytes, framed), the bytes it emits under `NPD_WF`, and what `NPD.unpack` makes of
  those.
-/
import Acra.Lemmas.NPDPack
import Acra.Lemmas.Decoder
import Acra.Lemmas.ListAux
namespace Acra.Lemmas.NPD
open Acra.Py Acra.Model.NPD Acra.Gen.NPD Acra.Lemmas.Bits Acra.Lemmas Acra.Lemmas.Walk

theorem npdHdr_unpack (buf : Bytes) (h : 20 ≤ buf.length) :
    structUnpackFrom NPD_HEADER_FORMAT buf 0 =
      .ok [beNat (buf.take 1), beNat ((buf.drop 1).take 1), beNat ((buf.drop 2).take 2), beNat ((buf.drop 4).take 1),
        beNat ((buf.drop 5).take 1), beNat ((buf.drop 6).take 2), beNat ((buf.drop 8).take 4),
        beNat ((buf.drop 12).take 4), beNat ((buf.drop 16).take 4)] := by
  simp only [take_drop_slice]
  rw [take_eq_slice0]
  exact (structUnpackFrom_flds _ buf 0).trans (if_pos h)

/-- the object once `NPD.unpack` has stored the header attributes (version and header length: the nibbles of byte 0) -/
def hdrDecoded (t : State) (buf : Bytes) : State :=
  { t with datatype := some (beNat ((buf.drop 1).take 1)), packetlen := beNat ((buf.drop 2).take 2),
           cfgcnt := beNat ((buf.drop 4).take 1), flags := beNat ((buf.drop 5).take 1),
           sequence := beNat ((buf.drop 6).take 2), datasrcid := beNat ((buf.drop 8).take 4),
           timestamp := some (beNat ((buf.drop 16).take 4)), version := beNat (buf.take 1) / 16,
           hdrlen := beNat (buf.take 1) % 16, mcastaddr := some (beNat ((buf.drop 12).take 4)) }

/-- the segment loop `NPD.unpack` runs: the class the data type dictates, over the bytes after the DECLARED header length -/
def segLoop (buf : Bytes) : R (List Seg) :=
  decOff (decSeg (kindOf (beNat ((buf.drop 1).take 1)))) moreNe (buf.drop (beNat (buf.take 1) % 16 * 4))
    ((buf.drop (beNat (buf.take 1) % 16 * 4)).length + 1) 0

theorem segLoop_nofuel (buf : Bytes) : segLoop buf ≠ .error .fuel :=
  decOff_fuel_sufficient _ _ _ (progress_decSeg _) _ 0 (by omega)

/-- `NPD.unpack` as a parser: `struct.error` below the 20-byte header; `Exception` unless the declared length (in
    words) is the real one and the segment loop succeeds; every attribute is then rebuilt from the bytes -/
def npdRun (buf : Bytes) : R (State × Unit) :=
  if buf.length < 20 then .error .struct
  else if beNat ((buf.drop 2).take 2) * 4 ≠ buf.length then .error .generic
  else match segLoop buf with
    | .ok gs => .ok ({ hdrDecoded fresh buf with segments := gs }, ())
    | .error _ => .error .generic

theorem NPD_decodes : Decodes unpack (fun _ => ()) fun _ => npdRun := by
  intro t buf
  refine .of_read NPD_HEADER_FORMAT buf 0 rfl (fun h => by rw [unpack, h]) fun _ h20 => ?_
  -- `npdRun` turns every exception of the loop into `Exception`, the model keeps its own `fuel` marker apart: they agree because
  -- the loop never runs out of fuel
  have hnf := segLoop_nofuel buf
  simp only [segLoop] at hnf
  simp only [unpack, npdHdr_unpack buf h20, shr, and_F, Nat.reducePow, segLoop, hdrDecoded]
  split
  · rfl
  · split <;> simp_all [Agree]

theorem npdRun_error_iff (buf : Bytes) (e : Err) :
    npdRun buf = .error e ↔
      (buf.length < 20 ∧ e = .struct) ∨
      (20 ≤ buf.length ∧ (beNat ((buf.drop 2).take 2) * 4 ≠ buf.length ∨ (segLoop buf).isOk = false) ∧ e = .generic) := by
  rw [npdRun, R.ite_error_eq_error, R.ite_error_eq_error, Nat.not_lt]
  refine or_congr_right (and_congr_right fun _ => ?_)
  cases segLoop buf
  · simp only [R.isOk, or_true, true_and, Except.error.injEq, eq_comm (a := e), ← or_and_right, Decidable.em]
  · simp only [R.isOk, Bool.true_eq_false, reduceCtorEq, and_false, or_false]

theorem unpack_snd (t : State) (buf : Bytes) : (unpack t buf).2 =
    if buf.length < 20 then .error .struct
    else if beNat ((buf.drop 2).take 2) * 4 ≠ buf.length then .error .generic
    else if (segLoop buf).isOk then .ok () else .error .generic := by
  rw [NPD_decodes.snd_eq, npdRun]
  split
  · rfl
  · split
    · rfl
    · cases segLoop buf <;> rfl

theorem unpack_segments (t : State) (buf : Bytes) (h : (unpack t buf).2 = .ok ()) :
    segLoop buf = .ok (unpack t buf).1.segments := by
  have hr := NPD_decodes.of_ok h
  rw [npdRun, R.ite_error_eq_ok, R.ite_error_eq_ok] at hr
  cases hl : segLoop buf with
  | ok gs => rw [hl] at hr; rw [← congrArg Prod.fst (Except.ok.inj hr.2.2)]
  | error e => rw [hl] at hr; cases hr.2.2

/-- the header `NPD.pack` puts before the segment bytes `pl`: reads data type, time stamp and the six header attributes;
    `struct.error` when data type or time stamp is `None` -/
def frame (s : State) (mc : Nat) (pl : Bytes) : R Bytes :=
  match s.datatype, s.timestamp with
  | some dt, some ts =>
    match structPack NPD_HEADER_FORMAT [(s.version <<< 4) + s.hdrlen, dt, (NPD_HEADER_LENGTH + pl.length) / 4,
        s.cfgcnt, s.flags, s.sequence, s.datasrcid, mc, ts] with
    | .ok h => .ok (h ++ pl)
    | .error e => .error e
  | _, _ => .error .struct

theorem pack_eq (s : State) :
    pack s = match s.mcastaddr with
      | none => (s, .error .os)
      | some mc =>
        match packSegs s.segments with
        | (gs, .error e) => ({ s with segments := gs }, .error e)
        | (gs, .ok pl) => ({ s with segments := gs, packetlen := (NPD_HEADER_LENGTH + pl.length) / 4 }, frame s mc pl) := by
  unfold pack frame
  rcases s.mcastaddr with _ | mc
  · rfl
  rcases packSegs s.segments with ⟨gs, e | pl⟩
  · rfl
  simp only
  rcases s.datatype with _ | dt <;> rcases s.timestamp with _ | ts <;> try rfl
  simp only
  generalize structPack NPD_HEADER_FORMAT _ = r
  cases r <;> rfl

theorem pack_snd (s : State) :
    (pack s).2 = match s.mcastaddr with
      | none => .error .os
      | some mc =>
        match (packSegs s.segments).2 with
        | .error e => .error e
        | .ok pl => frame s mc pl := by
  rw [pack_eq]
  rcases s.mcastaddr with _ | mc
  · rfl
  rcases packSegs s.segments with ⟨gs, e | pl⟩ <;> rfl

theorem packSegs_eq_packAll : packSegs = packAll Seg.pack := by
  funext gs
  induction gs with
  | nil => rfl
  | cons g gs ih =>
    rw [packSegs, packAll, ih]
    rcases g.pack with ⟨g', e | b⟩
    · rfl
    · rcases packAll Seg.pack gs with ⟨gs', e | bs⟩ <;> rfl

theorem packSegs_eq (gs : List Seg) (h : ∀ g ∈ gs, Seg_WF g) :
    packSegs gs = (gs.map packedSeg, .ok (gs.flatMap segBytes)) := by
  rw [packSegs_eq_packAll]
  exact packAll_eq Seg.pack packedSeg segBytes gs fun g hg => Seg_pack_eq g (h g hg)

theorem segsEq_eq : segsEq = listEq Seg.eq :=
  listEq_unique _ _ rfl (fun _ _ _ _ => rfl) (fun _ _ => rfl) (fun _ _ => rfl)

theorem flatMap_segBytes_mod4 (gs : List Seg) : (gs.flatMap segBytes).length % 4 = 0 :=
  flatMap_length_mod segBytes 4 gs segBytes_mod4

/-- every header field fits its width, the header is the five words `pack` emits, data type, multicast
    address and time stamp are set, every segment is well-formed and the total length fits 16 bits of words.
    The three `Option` attributes are `None` in a new object and `pack` needs their values: `dt`, `mc`, `ts` name
    them, so that the bytes (`npdBytes`) can be written without a `get`. -/
def NPD_WF (s : State) (dt mc ts : Nat) : Prop :=
  s.version < 16 ∧ s.hdrlen = 5 ∧ s.datatype = some dt ∧ dt < 256 ∧ s.cfgcnt < 256 ∧ s.flags < 256 ∧
  s.sequence < 65536 ∧ s.datasrcid < 4294967296 ∧ s.mcastaddr = some mc ∧ mc < 4294967296 ∧
  s.timestamp = some ts ∧ ts < 4294967296 ∧ (∀ g ∈ s.segments, Seg_WF g) ∧
  (20 + (s.segments.flatMap segBytes).length) / 4 < 65536

def npdHdr (s : State) (dt mc ts : Nat) : Bytes :=
  encInt true 1 (s.version * 16 + s.hdrlen) ++ (encInt true 1 dt ++
  (encInt true 2 ((20 + (s.segments.flatMap segBytes).length) / 4) ++ (encInt true 1 s.cfgcnt ++ (encInt true 1 s.flags ++
  (encInt true 2 s.sequence ++ (encInt true 4 s.datasrcid ++ (encInt true 4 mc ++ encInt true 4 ts)))))))

def npdBytes (s : State) (dt mc ts : Nat) : Bytes := npdHdr s dt mc ts ++ s.segments.flatMap segBytes

def packedNPD (s : State) : State :=
  { s with segments := s.segments.map packedSeg, packetlen := (20 + (s.segments.flatMap segBytes).length) / 4 }

@[simp] theorem npdHdr_length (s : State) (dt mc ts : Nat) : (npdHdr s dt mc ts).length = 20 := by simp [npdHdr]

theorem npdBytes_length (s : State) (dt mc ts : Nat) :
    (npdBytes s dt mc ts).length = 20 + (s.segments.flatMap segBytes).length := by simp [npdBytes]

theorem npdHdrFmt_fits (s : State) (dt mc ts : Nat) (h : NPD_WF s dt mc ts) :
    Fits NPD_HEADER_FORMAT.codes [s.version * 16 + s.hdrlen, dt, (20 + (s.segments.flatMap segBytes).length) / 4,
      s.cfgcnt, s.flags, s.sequence, s.datasrcid, mc, ts] := by
  obtain ⟨h1, h2, h3, h4, h5, h6, h7, h8, h9, h10, h11, h12, h13, h14⟩ := h
  exact ⟨by show _ < 256; omega, h4, h14, h5, h6, h7, h8, h10, h12, trivial⟩

theorem NPD_pack_eq (s : State) (dt mc ts : Nat) (h : NPD_WF s dt mc ts) :
    pack s = (packedNPD s, .ok (npdBytes s dt mc ts)) := by
  have hf := npdHdrFmt_fits s dt mc ts h
  obtain ⟨h1, h2, h3, h4, h5, h6, h7, h8, h9, h10, h11, h12, h13, h14⟩ := h
  simp only [pack_eq, frame, h9, packSegs_eq _ h13, h3, h11, shl, Nat.reducePow, NPD_HEADER_LENGTH, structPack_eq _ _ hf]
  simp [packedNPD, npdBytes, npdHdr, encCodes, NPD_HEADER_FORMAT, Code.size]
  exact ⟨h3.symm, h9.symm, h11.symm⟩

theorem NPD_WF_fresh (dt mc ts : Nat) (gs : List Seg) (hdt : dt < 256) (hmc : mc < 4294967296) (hts : ts < 4294967296)
    (hgs : ∀ g ∈ gs, Seg_WF g) (hlen : (20 + (gs.flatMap segBytes).length) / 4 < 65536) :
    NPD_WF { fresh with datatype := some dt, mcastaddr := some mc, timestamp := some ts, segments := gs } dt mc ts :=
  have hv : fresh.version < 16 := by decide
  have h8 : (0 : Nat) < 256 := by decide
  have h16 : (0 : Nat) < 65536 := by decide
  have h32 : (0 : Nat) < 4294967296 := by decide
  ⟨hv, rfl, rfl, hdt, h8, h8, h16, h32, rfl, hmc, rfl, hts, hgs, hlen⟩

theorem decSeg_all (k : Kind) (gs : List Seg) (h : ∀ g ∈ gs, Seg_WF g) (hok : ∀ g ∈ gs, TypedOK k g) :
    decOff (decSeg k) moreNe (gs.flatMap segBytes) ((gs.flatMap segBytes).length + 1) 0 = .ok (gs.map (decodedSeg k)) :=
  decSeg_eq k ▸ (segRec k).loop_enc (more_iff fun _ _ => rfl) segBytes (decodedSeg k) gs
    fun x hx rest => decSeg_eq k ▸ decSeg_enc k x rest (h x hx) (hok x hx)

/-- the state a decode of the packed bytes produces, whatever the object held -/
def decodedNPD (s : State) (dt : Nat) : State :=
  { s with segments := s.segments.map (decodedSeg (kindOf dt)),
           packetlen := (20 + (s.segments.flatMap segBytes).length) / 4 }

theorem NPD_unpack_eq (s t : State) (dt mc ts : Nat) (h : NPD_WF s dt mc ts)
    (hok : ∀ g ∈ s.segments, TypedOK (kindOf dt) g) :
    unpack t (npdBytes s dt mc ts) = (decodedNPD s dt, .ok ()) := by
  have hf := npdHdrFmt_fits s dt mc ts h
  obtain ⟨h1, h2, h3, h4, h5, h6, h7, h8, h9, h10, h11, h12, h13, h14⟩ := h
  have hm4 := flatMap_segBytes_mod4 s.segments
  have hlen := npdBytes_length s dt mc ts
  have hdrop : List.drop (5 * 4) (npdBytes s dt mc ts) = s.segments.flatMap segBytes := by
    simp only [npdBytes]; exact drop_append_len _ _ _ (by simp)
  -- the header read field by field is the header read as a whole
  have hh := structUnpackFrom_enc0 NPD_HEADER_FORMAT _ (s.segments.flatMap segBytes) hf
  rw [show encCodes NPD_HEADER_FORMAT.big NPD_HEADER_FORMAT.codes _ ++ _ = npdBytes s dt mc ts by
    simp [npdBytes, npdHdr, encCodes, NPD_HEADER_FORMAT, Code.size]] at hh
  generalize npdBytes s dt mc ts = buf at hlen hdrop hh ⊢
  rw [npdHdr_unpack buf (by omega)] at hh
  simp only [Except.ok.injEq, List.cons.injEq, and_true] at hh
  obtain ⟨e1, e2, e3, e4, e5, e6, e7, e8, e9⟩ := hh
  have ev : beNat (buf.take 1) / 16 = s.version ∧ beNat (buf.take 1) % 16 = 5 := by omega
  refine NPD_decodes.of_run ?_
  rw [npdRun, if_neg (by omega), if_neg (by rw [e3]; omega), segLoop, e2, ev.2, hdrop, decSeg_all _ _ h13 hok]
  simp [decodedNPD, hdrDecoded, e2, e3, e4, e5, e6, e7, e8, e9, ev, h2, h3, h9, h11, -List.drop_one]

/-- `hseg`: equality of segments is class-strict, and the decoder builds segments of the class the data type dictates -/
theorem NPD_eq_decoded (a : State) (dt mc ts : Nat) (h : NPD_WF a dt mc ts) (hseg : ∀ g ∈ a.segments, g.kind = kindOf dt) :
    eq (packedNPD a) (decodedNPD a dt) = true := by
  have hsegs : segsEq (a.segments.map (decodedSeg (kindOf dt))) (a.segments.map packedSeg) = true :=
    segsEq_eq ▸ listEq_map _ _ _ _ fun g hg => hseg g hg ▸ Seg_eq_decoded g (h.2.2.2.2.2.2.2.2.2.2.2.2.1 g hg)
  simp [eq, decodedNPD, packedNPD, hsegs]

end Acra.Lemmas.NPD
