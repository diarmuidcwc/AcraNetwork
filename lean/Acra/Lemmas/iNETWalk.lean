/-
  The decoders of AcraNetwork/iNET.py in closed form, on every buffer: `iNETPackage.unpack`, the step of the package
  loop, and `iNET.unpack` (header, option words, package loop); both decoders as parsers of the bytes (`pkgRun`, `inetRun`);
  and the package loop as a walk over the bytes by the DECLARED lengths (`FitsPkgs`, `PkgsReject`).
-/
import Acra.Model.iNET
import Acra.Lemmas.Bits
import Acra.Lemmas.Walk
import Acra.Lemmas.Decoder
namespace Acra.Lemmas.iNET
open Acra.Py Acra.Model.iNET Acra.Gen.iNET Acra.Lemmas Acra.Lemmas.Bits Acra.Lemmas.Walk

/-- the length a package header declares: big-endian 16 bits at bytes 4..5 -/
def pkgDeclared (rem : Bytes) : Nat := beNat ((rem.drop 4).take 2)

/-- bytes the package loop advances by: the DECLARED length rounded up to four (the package length is not
    rewritten, unlike an NPD segment's) -/
def pkgAdvance (rem : Bytes) : Nat := roundUp4 (pkgDeclared rem)

theorem PKG_FORMAT_size : PKG_FORMAT.size = 12 := rfl

theorem pkgHdr_unpack (buf : Bytes) (h : 12 ≤ buf.length) :
    structUnpackFrom PKG_FORMAT buf 0 =
      .ok [beNat (buf.take 4), pkgDeclared buf, beNat ((buf.drop 6).take 1), beNat ((buf.drop 7).take 1),
           beNat ((buf.drop 8).take 4)] := by
  simp only [pkgDeclared, take_drop_slice]
  rw [take_eq_slice0]
  exact (structUnpackFrom_flds _ buf 0).trans (if_pos h)

/-- the object `iNETPackage.unpack` leaves behind -/
def pkgDecoded (t : Pkg) (buf : Bytes) : Pkg :=
  { t with definitionID := beNat (buf.take 4), length := pkgDeclared buf, flags := beNat ((buf.drop 7).take 1),
           timedelta := beNat ((buf.drop 8).take 4), payload := slice buf 12 (pkgDeclared buf) }

theorem Pkg_unpack_of_hdr (t : Pkg) (buf : Bytes) (d l r f td : Nat)
    (h : structUnpackFrom PKG_FORMAT buf 0 = .ok [d, l, r, f, td]) :
    Pkg.unpack t buf =
      if l < 12 then ({ t with definitionID := d, length := l, flags := f, timedelta := td }, .error .value)
      else ({ t with definitionID := d, length := l, flags := f, timedelta := td, payload := slice buf 12 l },
            .ok (buf.drop (roundUp4 l))) := by
  simp only [Pkg.unpack, h, PKG_FORMAT_LEN, roundUp4_eq]

theorem Pkg_unpack_closed (t : Pkg) (buf : Bytes) :
    Pkg.unpack t buf =
      if buf.length < 12 then (t, .error .struct)
      else if pkgDeclared buf < 12 then ({ pkgDecoded t buf with payload := t.payload }, .error .value)
      else (pkgDecoded t buf, .ok (buf.drop (pkgAdvance buf))) := by
  split
  · next h => simp only [Pkg.unpack, structUnpackFrom_short PKG_FORMAT buf 0 (by rw [PKG_FORMAT_size]; omega)]
  · next h => exact Pkg_unpack_of_hdr t buf _ _ _ _ _ (pkgHdr_unpack buf (by omega))

/-- a package at the front of `rem` is accepted: header complete, declared length not below the header's -/
def PkgOk (rem : Bytes) : Prop := 12 ≤ rem.length ∧ 12 ≤ pkgDeclared rem

instance (rem : Bytes) : Decidable (PkgOk rem) := by unfold PkgOk; exact inferInstance

/-- `iNETPackage.unpack` as a parser of the bytes: the package and the rest of the buffer -/
def pkgRun (buf : Bytes) : R (Pkg × Bytes) :=
  if buf.length < 12 then .error .struct
  else if pkgDeclared buf < 12 then .error .value
  else .ok (pkgDecoded Pkg.fresh buf, buf.drop (pkgAdvance buf))

theorem Pkg_decodes : Decodes Pkg.unpack (fun _ => ()) fun _ => pkgRun := by
  intro t buf
  show Agree _ (pkgRun buf)
  rw [Pkg_unpack_closed, pkgRun]
  split
  · rfl
  · split <;> rfl

theorem pkgRun_ok_iff (buf : Bytes) (p : Pkg) (r : Bytes) :
    pkgRun buf = .ok (p, r) ↔ PkgOk buf ∧ p = pkgDecoded Pkg.fresh buf ∧ r = buf.drop (pkgAdvance buf) := by
  simp only [pkgRun, PkgOk, R.ite_error_eq_ok, Except.ok.injEq, Prod.mk.injEq, Nat.not_lt, and_assoc, eq_comm (a := p),
    eq_comm (a := r)]

/-- each package is decoded into a new object (`Pkg.fresh`) -/
def pkgRec : Rec Pkg where
  hl := 12
  ok rem := 12 ≤ pkgDeclared rem
  decOk := fun _ => inferInstance
  err := .value
  item := pkgDecoded Pkg.fresh
  adv := pkgAdvance
  hl_pos := by decide
  adv_ge := fun rem _ h => Nat.le_trans h (roundUp4_ge _)
  err_ne := by decide

theorem decPkg_eq : decPkg = pkgRec.run := by
  funext rem
  rw [decPkg, Pkg_unpack_closed, Rec.run]
  by_cases h1 : rem.length < 12
  · simp only [pkgRec, h1, if_true]
  · by_cases h2 : pkgDeclared rem < 12
    · simp only [pkgRec, h1, h2, if_true, if_false, Nat.not_le.2 h2]
    · simp only [pkgRec, h1, h2, if_false, Nat.not_lt.1 h2, if_true]
      exact congrArg (fun n => Except.ok (pkgDecoded Pkg.fresh rem, n)) (roundUp4_eq (pkgDeclared rem))

/-- the walk `iNET.unpack` performs over the package area -/
def PkgWalk : Bytes → Prop := Walk PkgOk pkgAdvance

/-! ### the package area read declaratively: `FitsPkgs` walks the DECLARED lengths, `PkgsReject e` is its complement per
    exception kind — neither mentions the decoder model or the generic `Walk` -/

/-- the package area, read declaratively: empty, or a complete 12-byte package header declaring a length
    `d ≥ 12`, followed — after `d` rounded up to a multiple of four — by a package area again
    (`drop` past the end is empty: a declared length beyond the buffer ends the walk, notes/fti.md §4 F2) -/
inductive FitsPkgs : Bytes → Prop
  | done : FitsPkgs []
  | pkg (rem : Bytes) : 12 ≤ rem.length → 12 ≤ pkgDeclared rem →
      FitsPkgs (rem.drop (roundUp4 (pkgDeclared rem))) → FitsPkgs rem

/-- the complement, per exception kind -/
inductive PkgsReject (e : Err) : Bytes → Prop
  | short (rem : Bytes) : rem ≠ [] → rem.length < 12 → e = .struct → PkgsReject e rem
  | small (rem : Bytes) : 12 ≤ rem.length → pkgDeclared rem < 12 → e = .value → PkgsReject e rem
  | later (rem : Bytes) : 12 ≤ rem.length → 12 ≤ pkgDeclared rem →
      PkgsReject e (rem.drop (roundUp4 (pkgDeclared rem))) → PkgsReject e rem

theorem fitsPkgs_unfold (rem : Bytes) :
    FitsPkgs rem ↔ rem = [] ∨ (PkgOk rem ∧ FitsPkgs (rem.drop (pkgAdvance rem))) := by
  constructor
  · intro h
    cases h with
    | done => exact Or.inl rfl
    | pkg _ h12 hl hn => exact Or.inr ⟨⟨h12, hl⟩, hn⟩
  · rintro (rfl | ⟨⟨h12, hl⟩, hn⟩)
    · exact .done
    · exact .pkg rem h12 hl hn

theorem decPkg_loop_ok_iff (buf : Bytes) :
    (∃ ps, decOff decPkg moreRem buf (buf.length + 1) 0 = .ok ps) ↔ FitsPkgs buf :=
  decPkg_eq ▸ pkgRec.loop_ok_iff (more_iff fun _ _ => rfl) buf _ 0 (Nat.le_refl _) FitsPkgs fitsPkgs_unfold

theorem decPkg_walk (buf : Bytes) :
    (∃ ps, decOff decPkg moreRem buf (buf.length + 1) 0 = .ok ps) ↔ PkgWalk buf :=
  decPkg_eq ▸ pkgRec.loop_walk (more_iff fun _ _ => rfl) buf _ 0 (Nat.le_refl _)

theorem fitsPkgs_iff_walk (rem : Bytes) : FitsPkgs rem ↔ PkgWalk rem :=
  (decPkg_loop_ok_iff rem).symm.trans (decPkg_walk rem)

theorem pkgsReject_unfold (e : Err) (rem : Bytes) :
    PkgsReject e rem ↔
      rem ≠ [] ∧ (pkgRec.run rem = .error e ∨ (PkgOk rem ∧ PkgsReject e (rem.drop (pkgAdvance rem)))) := by
  rw [pkgRec.run_error_iff]
  constructor
  · intro h
    cases h with
    | short _ hne hs he => exact ⟨hne, Or.inl (Or.inl ⟨hs, he⟩)⟩
    | small _ h12 hl he => exact ⟨List.ne_nil_of_length_pos (by omega), Or.inl (Or.inr ⟨h12, Nat.not_le.2 hl, he⟩)⟩
    | later _ h12 hl hn => exact ⟨List.ne_nil_of_length_pos (by omega), Or.inr ⟨⟨h12, hl⟩, hn⟩⟩
  · rintro ⟨hne, (⟨hs, he⟩ | ⟨h12, hl, he⟩) | ⟨⟨h12, hl⟩, hn⟩⟩
    · exact .short rem hne hs he
    · exact .small rem h12 (Nat.not_le.1 hl) he
    · exact .later rem h12 hl hn

theorem decPkg_loop_error_iff (buf : Bytes) (e : Err) :
    decOff decPkg moreRem buf (buf.length + 1) 0 = .error e ↔ PkgsReject e buf :=
  decPkg_eq ▸ pkgRec.loop_error_iff (more_iff fun _ _ => rfl) buf _ 0 (Nat.le_refl _) e _ (pkgsReject_unfold e)

theorem hdr_unpack (buf : Bytes) (h : 24 ≤ buf.length) :
    structUnpackFrom INET_HEADER_FORMAT buf 0 =
      .ok [beNat (buf.take 1), beNat ((buf.drop 1).take 1), beNat ((buf.drop 2).take 2), beNat ((buf.drop 4).take 4),
           beNat ((buf.drop 8).take 4), beNat ((buf.drop 12).take 4), beNat ((buf.drop 16).take 4),
           beNat ((buf.drop 20).take 4)] := by
  simp only [take_drop_slice]
  rw [take_eq_slice0]
  exact (structUnpackFrom_flds _ buf 0).trans (if_pos h)

/-- the option words, read whether or not any are declared: zero words decode to the empty list -/
theorem optWords_unpack (buf : Bytes) (wc : Nat) (h24 : 24 ≤ buf.length) :
    (if wc > 0 then structUnpackFrom (iNET_unpack_fmt0 wc) (buf.drop 24) 0 else .ok []) =
      if buf.length < 24 + 4 * wc then .error .struct
      else .ok (unpackCodes true (List.replicate wc .u32) (buf.drop 24)) := by
  cases wc with
  | zero => rw [if_neg (Nat.lt_irrefl 0), if_neg (by omega)]; rfl
  | succ n =>
    have hc : 0 + Code.u32.size * (n + 1) ≤ buf.length - 24 ↔ ¬ buf.length < 24 + 4 * (n + 1) := by
      show 0 + 4 * _ ≤ _ ↔ _; omega
    rw [if_pos (Nat.succ_pos n), structUnpackFrom_replicate (iNET_unpack_fmt0 _) .u32 _ rfl, List.length_drop]
    by_cases h : buf.length < 24 + 4 * (n + 1)
    · rw [if_pos h, if_neg fun c => hc.1 c h]
    · rw [if_neg h, if_pos (hc.2 h)]; rfl

/-- the option word count the first byte declares -/
def optWc (buf : Bytes) : Nat := beNat (buf.take 1) % 16

/-- the object once the 24-byte header has been stored -/
def hdrStored (t : State) (buf : Bytes) : State :=
  { t with flags := beNat ((buf.drop 2).take 2), definition_ID := beNat ((buf.drop 4).take 4),
           sequence := beNat ((buf.drop 8).take 4), length := beNat ((buf.drop 12).take 4),
           ptptimeseconds := beNat ((buf.drop 16).take 4), ptptimenanoseconds := beNat ((buf.drop 20).take 4),
           type := beNat ((buf.drop 1).take 1) % 16, option_wc := optWc buf,
           version := beNat (buf.take 1) / 16 % 16 }

/-- the package area: what follows the header and the declared option words -/
def area (buf : Bytes) : Bytes := buf.drop (24 + 4 * optWc buf)

/-- the object after the option words, holding the packages `pk`: every attribute has been rebuilt from the bytes,
    nothing of the prior state is left -/
def unpacked (buf : Bytes) (pk : List Pkg) : State :=
  { hdrStored fresh buf with
      app_fields := unpackCodes true (List.replicate (optWc buf) .u32) (buf.drop 24), packages := pk,
      payload := area buf }

/-- the package loop as `iNET.unpack` runs it, on the package area -/
def pkgLoop (buf : Bytes) : R (List Pkg) := decOff decPkg moreRem (area buf) ((area buf).length + 1) 0

theorem pkgLoop_eq (buf : Bytes) : pkgLoop buf = decOff pkgRec.run moreRem (area buf) ((area buf).length + 1) 0 := by
  rw [pkgLoop, decPkg_eq]

/-- The message length field is stored and never looked at.  `unpacked buf []` in the last branch is the model's choice: Python has
    appended the packages decoded before the failing one (what a raising `unpack` leaves behind is not specified, DESIGN §3). -/
theorem unpack_closed (t : State) (buf : Bytes) :
    unpack t buf =
      if buf.length < 24 then (t, .error .value)
      else if buf.length < 24 + 4 * optWc buf then (hdrStored t buf, .error .struct)
      else
        match pkgLoop buf with
        | .ok pk => (unpacked buf pk, .ok ())
        | .error e => (unpacked buf [], .error e) := by
  by_cases h24 : buf.length < 24
  · simp only [unpack, INET_HEADER_LENGTH, h24, if_true]
  · simp only [unpack, INET_HEADER_LENGTH, h24, if_false, hdr_unpack buf (Nat.not_lt.1 h24), bits, Nat.reducePow,
      optWords_unpack buf _ (Nat.not_lt.1 h24), Nat.mul_comm (beNat (buf.take 1) % 16) 4]
    by_cases hw : buf.length < 24 + 4 * (beNat (buf.take 1) % 16)
    · rw [if_pos hw, optWc, if_pos hw]; rfl
    · rw [if_neg hw, optWc, if_neg hw]; rfl

theorem unpack_short (t : State) (buf : Bytes) (h : buf.length < 24) : unpack t buf = (t, .error .value) := by
  rw [unpack_closed, if_pos h]

/-- `iNET.unpack` as a parser of the bytes -/
def inetRun (buf : Bytes) : R (State × Unit) :=
  if buf.length < 24 then .error .value
  else if buf.length < 24 + 4 * optWc buf then .error .struct
  else (pkgLoop buf).map fun pk => (unpacked buf pk, ())

theorem iNET_decodes : Decodes unpack (fun _ => ()) fun _ => inetRun := by
  intro t buf
  show Agree _ (inetRun buf)
  rw [unpack_closed, inetRun]
  split
  · rfl
  · split
    · rfl
    · cases pkgLoop buf <;> rfl

theorem inetRun_ok_iff (buf : Bytes) (s : State) :
    inetRun buf = .ok (s, ()) ↔ 24 + 4 * optWc buf ≤ buf.length ∧ ∃ pk, pkgLoop buf = .ok pk ∧ s = unpacked buf pk := by
  simp only [inetRun, R.ite_error_eq_ok, R.map_eq_ok, Prod.mk.injEq, and_true, Nat.not_lt]
  exact ⟨fun h => h.2, fun h => ⟨by omega, h⟩⟩

theorem inetRun_error_iff (buf : Bytes) (e : Err) :
    inetRun buf = .error e ↔
      (buf.length < 24 ∧ e = .value) ∨ (24 ≤ buf.length ∧ buf.length < 24 + 4 * optWc buf ∧ e = .struct) ∨
      (24 + 4 * optWc buf ≤ buf.length ∧ pkgLoop buf = .error e) := by
  rw [inetRun, R.ite_error_eq_error, R.ite_error_eq_error, R.map_eq_error, Nat.not_lt, Nat.not_lt, and_or_left]
  exact or_congr_right (or_congr_right ⟨fun h => h.2, fun h => ⟨by omega, h⟩⟩)

end Acra.Lemmas.iNET
