/-
  FileParser (Chapter 10 files): `next` seen from the current offset (`scan`, a
  refinement of the offset-based model) and one step of its sync search (`scan_succ`); from that step,
  what the search does at a packet start, inside sync-free junk, at a truncated packet, at a header
  that declares more bytes than follow; iteration over a file `junk p₁ junk p₂ … junk`, over every
  prefix of it, and over arbitrary bytes (totality).
-/
import Acra.Lemmas.Ch11
import Acra.Model.Ch10File
namespace Acra.Lemmas.Ch10File
open Acra.Py Acra.Model.Ch10File Acra.Gen.Ch10File Acra.Gen.Ch11 Acra.Lemmas.Ch10 Acra
open Acra.Lemmas.Ch11 (WF_K WFn WFs bytesK bytesK_assoc bytesK_length header_length header_slices_mod packK totalK)

theorem readAt_eq (data : Bytes) (off n : Nat) : readAt data off n = (data.drop off).take n := by
  simp [readAt, slice, List.drop_take]

/-- `next` seen from the current offset: works on the bytes that remain, returns how far `_offset` moves -/
def scan : Nat → Bytes → R (Nat × Option Bytes)
  | 0, _ => .error .fuel
  | fuel + 1, rem =>
    match structUnpack FP_next_fmt0 (rem.take 8) with
    | .error _ => .ok (0, none)
    | .ok [sync, _chid, pktLen] =>
      if sync = SYNC_WORD ∧ pktLen > 0 then
        if (rem.take pktLen).length ≠ pktLen then .ok (pktLen, none) else .ok (pktLen, some (rem.take pktLen))
      else
        match scan fuel (rem.drop 1) with
        | .ok (k, r) => .ok (k + 1, r)
        | .error e => .error e
    | .ok _ => .ok (0, none)

/-- a `scan` result, relative to the bytes that remain, as the step `next` returns at offset `off` -/
def shift (off : Nat) : R (Nat × Option Bytes) → R Step
  | .ok (k, r) => .ok (off + k, r)
  | .error e => .error e

theorem scan_succ (fuel : Nat) (rem : Bytes) :
    scan (fuel + 1) rem =
      if rem.length < 8 then .ok (0, none)
      else if leNat (slice rem 0 2) = SYNC_WORD ∧ leNat (slice rem 4 8) > 0 then
        if leNat (slice rem 4 8) ≤ rem.length then .ok (leNat (slice rem 4 8), some (rem.take (leNat (slice rem 4 8))))
        else .ok (leNat (slice rem 4 8), none)
      else
        match scan fuel (rem.drop 1) with
        | .ok (k, r) => .ok (k + 1, r)
        | .error e => .error e := by
  by_cases h8 : rem.length < 8
  · have : structUnpack FP_next_fmt0 (rem.take 8) = .error .struct :=
      if_neg (by rw [List.length_take]; show ¬ min 8 rem.length = 8; omega)
    simp only [scan, this, if_pos h8]
  · have : structUnpack FP_next_fmt0 (rem.take 8) =
        .ok [leNat (slice rem 0 2), leNat (slice rem 2 4), leNat (slice rem 4 8)] := by
      rw [structUnpack_flds, if_pos (by rw [List.length_take]; show min 8 rem.length = 8; omega)]
      simp only [FP_next_fmt0, flds, Code.size, Nat.reduceAdd, slice_take, Nat.le_refl, Nat.reduceLeDiff]
      rfl
    have hl : ∀ n, (rem.take n).length ≠ n ↔ ¬ n ≤ rem.length := by intro n; rw [List.length_take]; omega
    simp only [scan, this, if_neg h8, hl, ite_not]

theorem scan_short (fuel : Nat) (rem : Bytes) (h : rem.length < 8) : scan (fuel + 1) rem = .ok (0, none) := by
  rw [scan_succ, if_pos h]

theorem scan_sync (fuel : Nat) (rem : Bytes) (plen : Nat) (h8 : 8 ≤ rem.length)
    (hs : leNat (slice rem 0 2) = SYNC_WORD) (hp : leNat (slice rem 4 8) = plen) (hpos : 0 < plen) :
    scan (fuel + 1) rem = if plen ≤ rem.length then .ok (plen, some (rem.take plen)) else .ok (plen, none) := by
  rw [scan_succ, if_neg (by omega), hp, if_pos ⟨hs, hpos⟩]

theorem nextFuel_eq_scan (data : Bytes) (fuel off : Nat) :
    nextFuel data fuel off = shift off (scan fuel (data.drop off)) := by
  induction fuel generalizing off with
  | zero => simp [nextFuel, scan, shift]
  | succ fuel ih =>
    simp only [nextFuel, scan, readAt_eq]
    generalize structUnpack FP_next_fmt0 (List.take 8 (List.drop off data)) = x
    rcases x with e | vs
    · simp [shift]
    · rcases vs with _ | ⟨a, _ | ⟨b, _ | ⟨c, _ | ⟨d, r⟩⟩⟩⟩ <;> try (simp [shift]; done)
      simp only
      by_cases hc : a = SYNC_WORD ∧ c > 0
      · simp only [hc, and_self, ↓reduceIte]
        by_cases hl : (List.take c (List.drop off data)).length ≠ c
        · simp only [hl, ↓reduceIte, shift, ne_eq, not_false_eq_true]
        · simp only [hl, ↓reduceIte, shift]
      · simp only [hc, ↓reduceIte]
        rw [ih (off + 1), List.drop_drop]
        cases scan fuel (List.drop (off + 1) data) with
        | error e => simp [shift]
        | ok r => obtain ⟨k, r⟩ := r; simp [shift]; omega

/-- a Chapter 10 packet as the file reader sees it: starts with the sync pattern 25 EB and carries its own
    total length (little-endian) in bytes 4..7 — hence at least 8 bytes -/
def IsPacket (p : Bytes) : Prop :=
  ∃ c0 c1 l0 l1 l2 l3 rest, p = 0x25 :: 0xEB :: c0 :: c1 :: l0 :: l1 :: l2 :: l3 :: rest ∧
    l0.toNat + 256 * (l1.toNat + 256 * (l2.toNat + 256 * l3.toNat)) = p.length

theorem IsPacket.len8 {p : Bytes} (h : IsPacket p) : 8 ≤ p.length := by
  obtain ⟨c0, c1, l0, l1, l2, l3, rest, hp, _⟩ := h
  subst hp; simp

/-- no occurrence of the sync pattern 25 EB -/
def syncFree : Bytes → Bool
  | a :: b :: r => !(a == 0x25 && b == 0xEB) && syncFree (b :: r)
  | _ => true

theorem sync_iff (b0 b1 : UInt8) : b0.toNat + 256 * b1.toNat = SYNC_WORD ↔ (b0 = 0x25 ∧ b1 = 0xEB) := by
  have h0 := b0.toNat_lt
  have h1 := b1.toNat_lt
  constructor
  · intro h
    simp only [SYNC_WORD] at h
    have e0 : b0.toNat = 0x25 := by omega
    have e1 : b1.toNat = 0xEB := by omega
    exact ⟨UInt8.toNat_inj.mp (by simpa using e0), UInt8.toNat_inj.mp (by simpa using e1)⟩
  · rintro ⟨rfl, rfl⟩; rfl

theorem IsPacket.fields {p : Bytes} (h : IsPacket p) (x : Bytes) (hx : x.take 8 = p.take 8) :
    leNat (slice x 0 2) = SYNC_WORD ∧ leNat (slice x 4 8) = p.length := by
  obtain ⟨c0, c1, l0, l1, l2, l3, r, hp, hl⟩ := h
  rw [← slice_take x 8 0 2 (by omega), ← slice_take x 8 4 8 (by omega), hx, ← hl, hp]
  refine ⟨?_, by show l0.toNat + 256 * (l1.toNat + 256 * (l2.toNat + 256 * (l3.toNat + 256 * 0))) = _; omega⟩
  show (0x25 : UInt8).toNat + 256 * ((0xEB : UInt8).toNat + 256 * 0) = SYNC_WORD
  rw [Nat.mul_zero, Nat.add_zero, sync_iff]; exact ⟨rfl, rfl⟩

theorem scan_packet (fuel : Nat) (p rest : Bytes) (h : IsPacket p) :
    scan (fuel + 1) (p ++ rest) = .ok (p.length, some p) := by
  have h8 := h.len8
  obtain ⟨hs, hp⟩ := h.fields (p ++ rest) (List.take_append_of_le_length h8)
  rw [scan_sync fuel _ p.length (by rw [List.length_append]; omega) hs hp (by omega),
    if_pos (by rw [List.length_append]; omega), List.take_left' rfl]

theorem scan_trunc (fuel : Nat) (p : Bytes) (k : Nat) (h : IsPacket p) (hk : k < p.length) :
    ∃ n, scan (fuel + 1) (p.take k) = .ok (n, none) := by
  by_cases h8 : k < 8
  · exact ⟨0, scan_short fuel _ (by rw [List.length_take]; omega)⟩
  · obtain ⟨hs, hp⟩ := h.fields (p.take k) (by rw [List.take_take, Nat.min_eq_left (by omega)])
    exact ⟨p.length, by
      rw [scan_sync fuel _ p.length (by rw [List.length_take]; omega) hs hp (by omega),
        if_neg (by rw [List.length_take]; omega)]⟩

theorem scan_skip (fuel : Nat) (a b : UInt8) (rest : Bytes) (hns : ¬ (a = 0x25 ∧ b = 0xEB))
    (hl : 8 ≤ (a :: b :: rest).length) :
    scan (fuel + 1) (a :: b :: rest) =
      match scan fuel (b :: rest) with
      | .ok (k, r) => .ok (k + 1, r)
      | .error e => .error e := by
  have : ¬ leNat (slice (a :: b :: rest) 0 2) = SYNC_WORD := by
    show ¬ a.toNat + 256 * (b.toNat + 256 * 0) = SYNC_WORD
    rw [Nat.mul_zero, Nat.add_zero, sync_iff]; exact hns
  rw [scan_succ, if_neg (by omega), if_neg (fun h => this h.1)]; rfl

theorem syncFree_tail {a : UInt8} {j : Bytes} (h : syncFree (a :: j) = true) : syncFree j = true := by
  cases j with
  | nil => rfl
  | cons b r => simp [syncFree] at h; exact h.2

theorem syncFree_head {a b : UInt8} {r : Bytes} (h : syncFree (a :: b :: r) = true) : ¬ (a = 0x25 ∧ b = 0xEB) := by
  simp [syncFree] at h
  intro ⟨h1, h2⟩
  rcases h.1 with h3 | h3
  · exact h3 h1
  · exact h3 h2

/-- the hypothesis `hx` of `scan_junk_step`: `syncFree j` allows `j` to end in 0x25, so what follows the junk must not
    begin with 0xEB, or 25 EB would straddle the boundary.  A non-empty prefix of a packet begins with 0x25; the empty
    prefix (`k = 0`) says nothing about `rest`, hence the second disjunct. -/
theorem IsPacket.head {p : Bytes} (h : IsPacket p) (rest : Bytes) (k : Nat) :
    ((p.take k) ++ rest).head? ≠ some 0xEB ∨ k = 0 := by
  obtain ⟨c0, c1, l0, l1, l2, l3, r, hp, _⟩ := h
  cases k with
  | zero => exact .inr rfl
  | succ k => subst hp; exact .inl (by simp)

theorem scan_junk_step (fuel : Nat) (a : UInt8) (j x : Bytes) (hj : syncFree (a :: j) = true)
    (hx : x.head? ≠ some 0xEB) (h8 : 8 ≤ (a :: (j ++ x)).length) :
    scan (fuel + 1) (a :: (j ++ x)) =
      match scan fuel (j ++ x) with
      | .ok (k, r) => .ok (k + 1, r)
      | .error e => .error e := by
  cases j with
  | nil =>
    cases x with
    | nil => simp at h8
    | cons b r => exact scan_skip fuel a b r (fun h => hx (by rw [h.2]; rfl)) h8
  | cons b r => exact scan_skip fuel a b (r ++ x) (syncFree_head hj) h8

theorem scan_junk_packet (j : Bytes) (hj : syncFree j = true) (p rest : Bytes) (hp : IsPacket p) (fuel : Nat)
    (hf : j.length + 1 ≤ fuel) : scan fuel (j ++ (p ++ rest)) = .ok (j.length + p.length, some p) := by
  have hx : (p ++ rest).head? ≠ some 0xEB := by
    have := hp.head rest p.length
    rw [List.take_length] at this
    exact this.resolve_right (by have h8 : 8 ≤ p.length := hp.len8; omega)
  induction j generalizing fuel with
  | nil =>
    obtain ⟨f, rfl⟩ : ∃ f, fuel = f + 1 := ⟨fuel - 1, by simp at hf; omega⟩
    simpa using scan_packet f p rest hp
  | cons a j ih =>
    obtain ⟨f, rfl⟩ : ∃ f, fuel = f + 1 := ⟨fuel - 1, by simp at hf; omega⟩
    have h8 := hp.len8
    rw [List.cons_append, scan_junk_step f a j _ hj hx (by simp only [List.length_cons, List.length_append]; omega),
      ih (syncFree_tail hj) f (by simp at hf ⊢; omega)]
    simp; omega

/-- `x`: the end of the file, or a file cut inside a packet -/
theorem scan_junk_none (j : Bytes) (hj : syncFree j = true) (x : Bytes) (hx : x.head? ≠ some 0xEB)
    (hxn : ∀ f, ∃ n, scan (f + 1) x = .ok (n, none)) (fuel : Nat) (hf : j.length + 1 ≤ fuel) :
    ∃ n, scan fuel (j ++ x) = .ok (n, none) := by
  induction j generalizing fuel with
  | nil =>
    obtain ⟨f, rfl⟩ : ∃ f, fuel = f + 1 := ⟨fuel - 1, by simp at hf; omega⟩
    simpa using hxn f
  | cons a j ih =>
    obtain ⟨f, rfl⟩ : ∃ f, fuel = f + 1 := ⟨fuel - 1, by omega⟩
    by_cases h8 : ((a :: j) ++ x).length < 8
    · exact ⟨0, scan_short f _ h8⟩
    · obtain ⟨n, hn⟩ := ih (syncFree_tail hj) f (by simp at hf ⊢; omega)
      exact ⟨n + 1, by rw [List.cons_append, scan_junk_step f a j x hj hx (by simpa using h8), hn]⟩

theorem syncFree_take (j : Bytes) (k : Nat) (h : syncFree j = true) : syncFree (j.take k) = true := by
  induction j generalizing k with
  | nil => simp [syncFree]
  | cons a j ih =>
    cases k with
    | zero => simp [syncFree]
    | succ k =>
      cases j with
      | nil => simp [syncFree]
      | cons b r =>
        cases k with
        | zero => simp [syncFree]
        | succ k =>
          have h1 := syncFree_head h
          have h2 := ih (k + 1) (syncFree_tail h)
          simp only [List.take_succ_cons] at h2 ⊢
          simp only [syncFree, h2, Bool.and_true, Bool.not_eq_true', Bool.and_eq_false_iff, beq_eq_false_iff_ne]
          by_cases ha : a = 0x25
          · right; intro hb; exact h1 ⟨ha, hb⟩
          · left; exact ha

theorem next_eq_scan (data : Bytes) (off : Nat) :
    next data off = shift off (scan (data.length - off + 2) (data.drop off)) := nextFuel_eq_scan _ _ _

theorem next_at (pre x : Bytes) :
    next (pre ++ x) pre.length = shift pre.length (scan (x.length + 2) x) := by
  rw [next_eq_scan, List.drop_left']
  · simp
  · rfl

theorem next_junk_packet (pre j p rest : Bytes) (hj : syncFree j = true) (hp : IsPacket p) :
    next (pre ++ (j ++ (p ++ rest))) pre.length = .ok (pre.length + (j.length + p.length), some p) := by
  rw [next_at, scan_junk_packet j hj p rest hp _ (by simp; omega)]
  rfl

theorem next_junk_end (pre j : Bytes) (hj : syncFree j = true) :
    ∃ o, next (pre ++ j) pre.length = .ok (o, none) := by
  obtain ⟨n, hn⟩ := scan_junk_none j hj [] (by simp) (fun f => ⟨0, scan_short f [] (by simp)⟩) (j.length + 2) (by omega)
  rw [List.append_nil] at hn
  exact ⟨pre.length + n, by rw [next_at, hn]; rfl⟩

theorem next_junk_trunc (pre j p : Bytes) (k : Nat) (hj : syncFree j = true) (hp : IsPacket p) (hk : k < p.length) :
    ∃ o, next (pre ++ (j ++ p.take k)) pre.length = .ok (o, none) := by
  have hx : (p.take k).head? ≠ some 0xEB := by
    rcases hp.head [] k with h | rfl
    · rwa [List.append_nil] at h
    · simp
  obtain ⟨n, hn⟩ := scan_junk_none j hj (p.take k) hx (fun f => scan_trunc f p k hp hk) ((j ++ p.take k).length + 2)
    (by simp; omega)
  exact ⟨pre.length + n, by rw [next_at, hn]; rfl⟩

/-- a file: sync-free junk, packet, junk, packet, …, trailing junk -/
def fileOf : List (Bytes × Bytes) → Bytes → Bytes
  | [], tail => tail
  | (j, p) :: segs, tail => j ++ (p ++ fileOf segs tail)

/-- one segment of `fileOf`: junk in which the sync search finds nothing, then a packet -/
def Seg (jp : Bytes × Bytes) : Prop := syncFree jp.1 = true ∧ IsPacket jp.2

theorem fileOf_length (segs : List (Bytes × Bytes)) (tail : Bytes) (hs : ∀ jp ∈ segs, Seg jp) :
    8 * segs.length ≤ (fileOf segs tail).length := by
  induction segs with
  | nil => simp
  | cons jp segs ih =>
    obtain ⟨j, p⟩ := jp
    have h8 := (hs (j, p) (by simp)).2.len8
    have := ih (fun x hx => hs x (by simp [hx]))
    simp only [fileOf, List.length_append, List.length_cons] at *
    omega

/-- the packets of a file that lie completely inside its first `t` bytes -/
def completeIn : Nat → List (Bytes × Bytes) → List Bytes
  | _, [] => []
  | t, (j, p) :: segs => if j.length + p.length ≤ t then p :: completeIn (t - (j.length + p.length)) segs else []

theorem completeIn_length (segs : List (Bytes × Bytes)) (hs : ∀ jp ∈ segs, Seg jp) (t : Nat) :
    8 * (completeIn t segs).length ≤ t ∧ (completeIn t segs).length ≤ segs.length := by
  induction segs generalizing t with
  | nil => simp [completeIn]
  | cons jp segs ih =>
    obtain ⟨j, p⟩ := jp
    have h8 : 8 ≤ p.length := (hs (j, p) (by simp)).2.len8
    simp only [completeIn]
    split
    · rename_i hle
      have := ih (fun x hx => hs x (by simp [hx])) (t - (j.length + p.length))
      simp only [List.length_cons]; omega
    · simp

/-- `iterFuel` reads the whole file at an absolute offset, so the induction over `segs` carries the bytes already read
    as `pre` (offset `pre.length`): the step for `(j, p)` calls the hypothesis with `pre ++ (j ++ p)`.  Each call of
    `next` costs one unit of fuel: one per returned packet and one for the call that ends in StopIteration. -/
theorem iter_truncated (segs : List (Bytes × Bytes)) (tail : Bytes) (hs : ∀ jp ∈ segs, Seg jp)
    (ht : syncFree tail = true) (t : Nat) (pre : Bytes) (fuel : Nat)
    (hf : (completeIn t segs).length + 1 ≤ fuel) :
    ∃ o, iterFuel (pre ++ (fileOf segs tail).take t) fuel pre.length = .ok (completeIn t segs, o) := by
  induction segs generalizing pre fuel t with
  | nil =>
    obtain ⟨f, rfl⟩ : ∃ f, fuel = f + 1 := ⟨fuel - 1, by omega⟩
    obtain ⟨o, ho⟩ := next_junk_end pre (tail.take t) (syncFree_take tail t ht)
    exact ⟨o, by simp [iterFuel, fileOf, completeIn, ho]⟩
  | cons jp segs ih =>
    obtain ⟨j, p⟩ := jp
    obtain ⟨f, rfl⟩ : ∃ f, fuel = f + 1 := ⟨fuel - 1, by omega⟩
    obtain ⟨hj, hp⟩ := hs (j, p) (by simp)
    by_cases hc : j.length + p.length ≤ t
    · have e0 : (fileOf ((j, p) :: segs) tail).take t =
          j ++ (p ++ (fileOf segs tail).take (t - (j.length + p.length))) := by
        rw [fileOf, take_prefix_append _ _ _ (by omega), take_prefix_append _ _ _ (by omega), Nat.sub_sub]
      have hn := next_junk_packet pre j p ((fileOf segs tail).take (t - (j.length + p.length))) hj hp
      obtain ⟨o, ho⟩ := ih (fun x hx => hs x (by simp [hx])) (t - (j.length + p.length)) (pre ++ (j ++ p)) f
        (by simp only [completeIn, hc, if_true, List.length_cons] at hf; omega)
      refine ⟨o, ?_⟩
      simp only [iterFuel, e0, hn, completeIn, hc, if_true]
      have e1 : pre ++ (j ++ (p ++ (fileOf segs tail).take (t - (j.length + p.length)))) =
          (pre ++ (j ++ p)) ++ (fileOf segs tail).take (t - (j.length + p.length)) := by simp
      have e2 : pre.length + (j.length + p.length) = (pre ++ (j ++ p)).length := by simp
      rw [e1, e2, ho]
    · -- the cut is inside the first junk or the first packet: the search runs through (what is left of) the junk
      -- into a truncated packet (possibly none of it), and nothing is returned
      have e0 : (fileOf ((j, p) :: segs) tail).take t = j.take t ++ p.take (t - j.length) := by
        simp only [fileOf, List.take_append]
        rw [show t - j.length - p.length = 0 by omega, List.take_zero, List.append_nil]
      obtain ⟨o, ho⟩ := next_junk_trunc pre (j.take t) p (t - j.length) (syncFree_take j t hj) hp
        (by have h8 : 8 ≤ p.length := hp.len8; omega)
      exact ⟨o, by simp only [iterFuel, e0, ho, completeIn, hc, if_false]⟩

theorem completeIn_all (segs : List (Bytes × Bytes)) (tail : Bytes) (t : Nat) (h : (fileOf segs tail).length ≤ t) :
    completeIn t segs = segs.map (·.2) := by
  induction segs generalizing t with
  | nil => rfl
  | cons jp segs ih =>
    obtain ⟨j, p⟩ := jp
    simp only [fileOf, List.length_append] at h
    rw [completeIn, if_pos (by omega), ih _ (by omega)]; rfl

/-- the whole file is the file cut at its end -/
theorem iter_file (segs : List (Bytes × Bytes)) (tail : Bytes) (hs : ∀ jp ∈ segs, Seg jp)
    (ht : syncFree tail = true) (pre : Bytes) (fuel : Nat) (hf : segs.length + 1 ≤ fuel) :
    ∃ o, iterFuel (pre ++ fileOf segs tail) fuel pre.length = .ok (segs.map (·.2), o) := by
  have hc := completeIn_all segs tail _ (Nat.le_refl _)
  have := iter_truncated segs tail hs ht (fileOf segs tail).length pre fuel (by rw [hc, List.length_map]; exact hf)
  rwa [List.take_length, hc] at this

/-- the search ends with the fuel `len + 1`, and a packet it returns is not empty and lies inside what was left -/
theorem scan_spec (rem : Bytes) (fuel : Nat) (hf : rem.length + 1 ≤ fuel) :
    ∃ k q, scan fuel rem = .ok (k, q) ∧ ∀ p, q = some p → 0 < p.length ∧ p.length ≤ k ∧ k ≤ rem.length := by
  induction rem generalizing fuel with
  | nil =>
    obtain ⟨f, rfl⟩ : ∃ f, fuel = f + 1 := ⟨fuel - 1, by simp at hf; omega⟩
    exact ⟨0, none, scan_short f [] (by simp), nofun⟩
  | cons a rem ih =>
    obtain ⟨f, rfl⟩ : ∃ f, fuel = f + 1 := ⟨fuel - 1, by simp at hf; omega⟩
    obtain ⟨k, q, hr, hq⟩ := ih f (by simp at hf ⊢; omega)
    rw [scan_succ, List.drop_succ_cons, List.drop_zero, hr]
    split
    · exact ⟨_, _, rfl, nofun⟩
    · split
      · split
        · next hc hle => exact ⟨_, _, rfl, fun p hp => by cases hp; rw [List.length_take]; omega⟩
        · exact ⟨_, _, rfl, nofun⟩
      · exact ⟨_, _, rfl, fun p hp => by have := hq p hp; rw [List.length_cons]; omega⟩

theorem next_total (data : Bytes) (off : Nat) : ∃ st, next data off = .ok st := by
  obtain ⟨k, q, hr, _⟩ := scan_spec (data.drop off) (data.length - off + 2) (by simp <;> omega)
  exact ⟨(off + k, q), by rw [next_eq_scan, hr]; rfl⟩

theorem next_some (data : Bytes) (off o : Nat) (p : Bytes) (h : next data off = .ok (o, some p)) :
    0 < p.length ∧ off + p.length ≤ o ∧ o ≤ data.length := by
  obtain ⟨k, q, hr, hq⟩ := scan_spec (data.drop off) (data.length - off + 2) (by simp <;> omega)
  rw [next_eq_scan, hr] at h
  cases h
  have := hq p rfl
  rw [List.length_drop] at this
  omega

theorem iterFuel_total (data : Bytes) (fuel off : Nat) (hf : data.length - off + 1 ≤ fuel) :
    ∃ ps o, iterFuel data fuel off = .ok (ps, o) ∧ ps.length ≤ data.length - off ∧ ∀ p ∈ ps, 0 < p.length := by
  induction fuel generalizing off with
  | zero => omega
  | succ f ih =>
    obtain ⟨st, hst⟩ := next_total data off
    obtain ⟨o, q⟩ := st
    cases q with
    | none => exact ⟨[], o, by simp [iterFuel, hst], by simp, by simp⟩
    | some p =>
      have hp := next_some data off o p hst
      obtain ⟨ps, o', h1, h2, h3⟩ := ih o (by omega)
      exact ⟨p :: ps, o', by simp [iterFuel, hst, h1], by simp; omega, List.forall_mem_cons.2 ⟨hp.1, h3⟩⟩

/-- the bytes a `write` call appends: a packet whose `pack` succeeded, or raw bytes; `none` for a call that raises (a failed
    `pack`, an object that is neither) -/
def itemBytes : Item → Option Bytes
  | .packed (.ok b) => some b
  | .raw b => some b
  | _ => none

theorem writeItems_ok (items : List Item) (acc : Bytes) (h : ∀ i ∈ items, itemBytes i ≠ none) :
    writeItems acc items = (acc ++ (items.filterMap itemBytes).flatten, .ok ()) := by
  induction items generalizing acc with
  | nil => simp [writeItems]
  | cons i items ih =>
    have hi := h i (by simp)
    have ht := fun a => ih a (fun x hx => h x (by simp [hx]))
    match i, hi with
    | .packed (.ok b), _ => simp [writeItems, itemBytes, ht (acc ++ b)]
    | .raw b, _ => simp [writeItems, itemBytes, ht (acc ++ b)]
    | .packed (.error e), hi => simp [itemBytes] at hi
    | .other, hi => simp [itemBytes] at hi

theorem writeItems_packed (bs : List Bytes) (acc : Bytes) :
    writeItems acc (bs.map fun b => Item.packed (.ok b)) = (acc ++ bs.flatten, .ok ()) := by
  induction bs generalizing acc with
  | nil => simp [writeItems]
  | cons b bs ih => simp [writeItems, ih (acc ++ b)]

theorem fileOf_nojunk (bs : List Bytes) : fileOf (bs.map fun p => (([] : Bytes), p)) [] = bs.flatten := by
  induction bs with
  | nil => rfl
  | cons b bs ih => simp [fileOf, ih]

theorem isPacket_of_header (chid plen dlen dtv sq flag dt rtc : Nat) (rest : Bytes)
    (hl : plen = 24 + rest.length) (hlt : plen < 2 ^ 32) :
    IsPacket (Spec.Ch11.header SYNC_WORD chid plen dlen dtv sq flag dt rtc ++ rest) := by
  have hlen : (Spec.Ch11.header SYNC_WORD chid plen dlen dtv sq flag dt rtc ++ rest).length = plen := by
    rw [List.length_append, header_length, hl]
  refine ⟨_, _, _, _, _, _, _, by
    simp only [Spec.Ch11.header, Spec.Ch11.header22, SYNC_WORD, leBytes, List.cons_append, List.nil_append]; rfl, ?_⟩
  -- the four length bytes are `leBytes 4 plen`
  rw [hlen]
  exact leNat_leBytes_of_lt 4 plen hlt

theorem ch11_isPacket (s : Acra.Model.Ch11.State) (h : WFn s ∨ WFs s)
    (hs : s.syncpattern = SYNC_WORD) : ∃ b, (Acra.Model.Ch11.pack s).2 = .ok b ∧ IsPacket b := by
  have hK := WF_K s h
  obtain ⟨sec, _, hp, hlt⟩ := packK s hK.1
  refine ⟨_, by rw [hp], ?_⟩
  rw [bytesK_assoc, hs]
  exact isPacket_of_header _ _ _ _ _ _ _ _ _ (by simp [totalK, hK.2]; omega) hlt

theorem packAll_ok (ss : List Acra.Model.Ch11.State)
    (hw : ∀ s ∈ ss, (WFn s ∨ WFs s) ∧ s.syncpattern = SYNC_WORD) :
    ∃ bs : List Bytes, ss.map (fun s => (Acra.Model.Ch11.pack s).2) = bs.map .ok ∧ ∀ b ∈ bs, IsPacket b := by
  induction ss with
  | nil => exact ⟨[], rfl, by simp⟩
  | cons s ss ih =>
    obtain ⟨bs, h1, h2⟩ := ih (fun x hx => hw x (by simp [hx]))
    obtain ⟨hwf, hsync⟩ := hw s (by simp)
    obtain ⟨b, hb, hpk⟩ := ch11_isPacket s hwf hsync
    exact ⟨b :: bs, by simp [hb, h1], List.forall_mem_cons.2 ⟨hpk, h2⟩⟩

/-! ### packets that declare more bytes than they have (`data_checksum_size = k > 0`) -/

theorem header_fields (chid plen dlen dtv sq flag dt rtc : Nat) (rest : Bytes) (hlt : plen < 2 ^ 32) :
    leNat (slice (Spec.Ch11.header SYNC_WORD chid plen dlen dtv sq flag dt rtc ++ rest) 0 2) = SYNC_WORD ∧
    leNat (slice (Spec.Ch11.header SYNC_WORD chid plen dlen dtv sq flag dt rtc ++ rest) 4 8) = plen := by
  have hs := header_slices_mod SYNC_WORD chid plen dlen dtv sq flag dt rtc rest
  exact ⟨hs.1, hs.2.2.1.trans (Nat.mod_eq_of_lt hlt)⟩

/-- alone in a file: the reader asks for the declared length, gets fewer bytes, and stops — the packet is not returned -/
theorem scan_overdeclared (chid plen dlen dtv sq flag dt rtc : Nat) (rest : Bytes) (fuel : Nat)
    (hl : 24 + rest.length < plen) (hlt : plen < 2 ^ 32) :
    scan (fuel + 1) (Spec.Ch11.header SYNC_WORD chid plen dlen dtv sq flag dt rtc ++ rest) = .ok (plen, none) := by
  obtain ⟨hs, hp⟩ := header_fields chid plen dlen dtv sq flag dt rtc rest hlt
  have hlen := header_length SYNC_WORD chid plen dlen dtv sq flag dt rtc
  rw [scan_sync fuel _ plen (by rw [List.length_append, hlen]; omega) hs hp (by omega),
    if_neg (by rw [List.length_append, hlen]; omega)]

/-- followed by at least `k` more bytes: the reader returns the packet TOGETHER WITH the first `k` bytes of what
    follows (it reads by the declared length) -/
theorem scan_overdeclared_next (chid plen dlen dtv sq flag dt rtc : Nat) (rest more : Bytes) (fuel : Nat)
    (hl : 24 + rest.length ≤ plen) (hm : plen ≤ 24 + rest.length + more.length) (hlt : plen < 2 ^ 32) :
    scan (fuel + 1) (Spec.Ch11.header SYNC_WORD chid plen dlen dtv sq flag dt rtc ++ rest ++ more) =
      .ok (plen, some (Spec.Ch11.header SYNC_WORD chid plen dlen dtv sq flag dt rtc ++ rest ++
        more.take (plen - (24 + rest.length)))) := by
  have hlen := header_length SYNC_WORD chid plen dlen dtv sq flag dt rtc
  obtain ⟨hs, hp⟩ := header_fields chid plen dlen dtv sq flag dt rtc (rest ++ more) hlt
  rw [← List.append_assoc] at hs hp
  have hhl : (Spec.Ch11.header SYNC_WORD chid plen dlen dtv sq flag dt rtc ++ rest).length = 24 + rest.length := by
    rw [List.length_append, hlen]
  rw [scan_sync fuel _ plen (by rw [List.length_append, hhl]; omega) hs hp (by omega),
    if_pos (by rw [List.length_append, hhl]; omega), take_prefix_append _ _ _ (by rw [hhl]; exact hl), hhl]

theorem next_bytesK_alone (s : Acra.Model.Ch11.State) (sec : Bytes) (hs : s.syncpattern = SYNC_WORD)
    (hk : 0 < s.data_checksum_size)
    (hlt : totalK s sec.length + Spec.Ch11.fillLen (totalK s sec.length) < 2 ^ 32) :
    next (bytesK s sec) 0 = .ok ((bytesK s sec).length + s.data_checksum_size, none) := by
  rw [next_eq_scan, Nat.sub_zero, List.drop_zero, bytesK_length, bytesK_assoc, hs,
    scan_overdeclared _ _ _ _ _ _ _ _ _ _ ?_ hlt]
  · simp only [shift, Nat.zero_add]
  · simp only [List.length_append, List.length_replicate, totalK]; omega

theorem next_bytesK_more (s : Acra.Model.Ch11.State) (sec more : Bytes) (hs : s.syncpattern = SYNC_WORD)
    (hm : s.data_checksum_size ≤ more.length)
    (hlt : totalK s sec.length + Spec.Ch11.fillLen (totalK s sec.length) < 2 ^ 32) :
    next (bytesK s sec ++ more) 0 =
      .ok ((bytesK s sec).length + s.data_checksum_size,
           some (bytesK s sec ++ more.take s.data_checksum_size)) := by
  have hkk : totalK s sec.length + Spec.Ch11.fillLen (totalK s sec.length) -
      (24 + (sec ++ (s.payload ++ List.replicate (Spec.Ch11.fillLen (totalK s sec.length)) 0xFF)).length) =
      s.data_checksum_size := by
    simp only [List.length_append, List.length_replicate, totalK]; omega
  rw [next_eq_scan, Nat.sub_zero, List.drop_zero, bytesK_length, bytesK_assoc, hs,
    scan_overdeclared_next _ _ _ _ _ _ _ _ _ _ _ ?_ ?_ hlt, hkk]
  · simp only [shift, Nat.zero_add]
  · simp only [List.length_append, List.length_replicate, totalK]; omega
  · simp only [List.length_append, List.length_replicate, totalK]; omega

theorem iterate_none (data : Bytes) (o : Nat) (h : next data 0 = .ok (o, none)) : iterate data = .ok ([], o) := by
  unfold iterate iterFuel
  rw [h]

theorem iterate_some (data p : Bytes) (o : Nat) (h : next data 0 = .ok (o, some p)) :
    ∃ ps o', iterate data = .ok (p :: ps, o') := by
  obtain ⟨ps, o', hit, _, _⟩ := iterFuel_total data data.length o (by
    have := (next_some data 0 o p h).2.1
    have := (next_some data 0 o p h).2.2
    have := (next_some data 0 o p h).1
    omega)
  refine ⟨ps, o', ?_⟩
  unfold iterate iterFuel
  rw [h]
  simp only [hit]

end Acra.Lemmas.Ch10File
