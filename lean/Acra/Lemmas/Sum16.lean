/-
  The Internet checksum (RFC 1071) and its byte-order independence.

  `Spec.rfc1071` sums big-endian 16-bit words with end-around carry.  `ip_calc_checksum` in the code sums
  little-endian words as ordinary integers, folds the carries twice, complements, and stores the result
  with a native (little-endian) "H".  The two agree on the stored BYTES:

      leBytes 2 (65535 - sumFold (Σ wordsLE bs)) = beBytes 2 (Spec.rfc1071 bs)        (bs shorter than 128 KiB)

  Proof idea: both folds compute the representative `norm t` of the word sum modulo 65535 in [1, 65535]
  (0 only for an all-zero sum); swapping the bytes of a 16-bit word multiplies it by 256 modulo 65535;
  and the little-endian word sum is 256 times the big-endian one modulo 65535.
-/
import Acra.Py.Struct
import Acra.Spec.Net
namespace Acra.Lemmas.Sum16
open Acra.Py Acra.Spec

/-- the message as little-endian 16-bit words, an odd trailing byte padded with a zero byte -/
def wordsLE : Bytes → List Nat
  | [] => []
  | [a] => [a.toNat]
  | a :: b :: rest => (a.toNat + 256 * b.toNat) :: wordsLE rest

/-- `struct.unpack` of `n` 16-bit codes reads the buffer pair by pair: it agrees with any function that does -/
theorem unpackCodes_u16 (big : Bool) (f : Bytes → List Nat) (h0 : f [] = [])
    (hstep : ∀ a b rest, f (a :: b :: rest) = decInt big [a, b] :: f rest) :
    ∀ (n : Nat) (bs : Bytes), bs.length = 2 * n → unpackCodes big (List.replicate n Code.u16) bs = f bs
  | 0, bs, h => by rw [List.eq_nil_of_length_eq_zero (by omega : bs.length = 0), h0]; rfl
  | n + 1, [], h => by simp at h
  | n + 1, [a], h => by simp at h; omega
  | n + 1, a :: b :: rest, h => by
    rw [hstep, ← unpackCodes_u16 big f h0 hstep n rest (by simp at h; omega)]; rfl

theorem unpackCodes_u16_le (n : Nat) (bs : Bytes) (h : bs.length = 2 * n) :
    unpackCodes false (List.replicate n Code.u16) bs = wordsLE bs :=
  unpackCodes_u16 false wordsLE rfl (fun a b rest => by simp [wordsLE, decInt, leNat]) n bs h

/-- the two folding steps of `ip_calc_checksum`, then `& 0xFFFF` -/
def sumFold (s : Nat) : Nat :=
  (s / 65536 + s % 65536 + (s / 65536 + s % 65536) / 65536) % 65536

/-- the representative of `t` modulo 65535 in 1..65535, and 0 for 0: the value of a one's-complement sum -/
def norm (t : Nat) : Nat := if t = 0 then 0 else (t - 1) % 65535 + 1

def swap16 (w : Nat) : Nat := (w % 256) * 256 + w / 256

/-- congruence modulo 65535, from the multiple written out (linear, so `omega` finds `h` without reasoning modulo
    65535) -/
theorem mod_eq_of_eq {a b k : Nat} (h : a = 65535 * k + b) : a % 65535 = b % 65535 := by
  rw [h, Nat.mul_add_mod]

theorem norm_spec (t : Nat) : t = 65535 * ((t - 1) / 65535) + norm t := by unfold norm; split <;> omega
theorem norm_le (t : Nat) : norm t ≤ 65535 := by unfold norm; split <;> omega
theorem norm_mod (t : Nat) : norm t % 65535 = t % 65535 := (mod_eq_of_eq (norm_spec t)).symm
theorem norm_zero_iff (t : Nat) : norm t = 0 ↔ t = 0 := by unfold norm; split <;> omega

theorem eq_norm (y t : Nat) (h1 : y ≤ 65535) (h2 : y % 65535 = t % 65535) (h3 : y = 0 ↔ t = 0) : y = norm t := by
  have := norm_spec t
  have := norm_le t
  have := norm_zero_iff t
  omega

theorem norm_of_le (t : Nat) (h : t ≤ 65535) : norm t = t := (eq_norm t t h rfl Iff.rfl).symm

theorem norm_add_left (a b : Nat) : norm (norm a + b) = norm (a + b) := by
  symm
  apply eq_norm _ _ (norm_le _)
  · rw [norm_mod, Nat.add_mod (norm a), norm_mod, ← Nat.add_mod]
  · have := norm_zero_iff a
    rw [norm_zero_iff]; omega

theorem norm_fold (s : Nat) : norm (s / 65536 + s % 65536) = norm s := by
  symm
  apply eq_norm _ _ (norm_le _)
  · rw [norm_mod]; exact mod_eq_of_eq (k := s / 65536) (by omega)
  · rw [norm_zero_iff]; omega

/-- two folding steps are enough below 2^32: after the first the value is below 2 · 65535, and the second (with
    `& 0xFFFF`) subtracts 65535 once if there is a carry -/
theorem sumFold_eq_norm (s : Nat) (h : s < 4294967296) : sumFold s = norm s := by
  have hlt : s / 65536 + s % 65536 ≤ 131070 := by omega
  rw [sumFold, ← norm_fold s]
  generalize s / 65536 + s % 65536 = s1 at hlt
  by_cases hc : s1 < 65536
  · rw [norm_of_le s1 (by omega)]; omega
  · exact eq_norm _ _ (by omega) (mod_eq_of_eq (k := 1) (by omega)).symm (by omega)

theorem onesAdd_eq_norm (a b : Nat) (ha : a ≤ 65535) (hb : b ≤ 65535) : onesAdd a b = norm (a + b) := by
  unfold onesAdd
  split
  · apply eq_norm <;> omega
  · exact eq_norm _ _ (by omega) (mod_eq_of_eq (k := 1) (by omega)).symm (by omega)

theorem foldl_onesAdd (ws : List Nat) (acc : Nat) (hacc : acc ≤ 65535) (hw : ∀ w ∈ ws, w ≤ 65535) :
    ws.foldl onesAdd acc = norm (acc + ws.sum) := by
  induction ws generalizing acc with
  | nil => simp only [List.foldl_nil, List.sum_nil, Nat.add_zero, norm_of_le acc hacc]
  | cons w ws ih =>
    rw [List.foldl_cons, List.sum_cons, onesAdd_eq_norm _ _ hacc (hw w List.mem_cons_self),
      ih _ (norm_le _) (fun x hx => hw x (List.mem_cons_of_mem _ hx)), norm_add_left, Nat.add_assoc]

theorem wordsBE_le : ∀ (bs : Bytes) (w : Nat), w ∈ wordsBE bs → w ≤ 65535
  | [], w, h => by simp [wordsBE] at h
  | [a], w, h => by
    have := a.toNat_lt
    simp [wordsBE] at h; omega
  | a :: b :: rest, w, h => by
    have := a.toNat_lt
    have := b.toNat_lt
    simp only [wordsBE, List.mem_cons] at h
    rcases h with h | h
    · omega
    · exact wordsBE_le rest w h

theorem rfc1071_eq (bs : Bytes) : rfc1071 bs = 65535 - norm (wordsBE bs).sum := by
  rw [rfc1071, foldl_onesAdd _ 0 (Nat.zero_le _) (wordsBE_le bs), Nat.zero_add]

theorem wordsLE_sum_le : ∀ (bs : Bytes), (wordsLE bs).sum ≤ 65535 * ((bs.length + 1) / 2)
  | [] => by simp [wordsLE]
  | [a] => by
    have := a.toNat_lt
    simp [wordsLE]; omega
  | a :: b :: rest => by
    have := a.toNat_lt
    have := b.toNat_lt
    have ih := wordsLE_sum_le rest
    simp only [wordsLE, List.sum_cons, List.length_cons]
    omega

/-- below 128 KiB there are at most 65536 words -/
theorem wordsLE_sum_short (bs : Bytes) (h : bs.length < 131072) : (wordsLE bs).sum ≤ 65535 * 65536 :=
  Nat.le_trans (wordsLE_sum_le bs) (Nat.mul_le_mul_left _ (by omega))

/-- the little-endian word sum is 256 times the big-endian one modulo 65535 (each word contributes 65535 times its
    first byte to the difference), and they vanish together -/
theorem sums_related : ∀ (bs : Bytes),
    (∃ k, 256 * (wordsBE bs).sum = 65535 * k + (wordsLE bs).sum) ∧ ((wordsLE bs).sum = 0 ↔ (wordsBE bs).sum = 0)
  | [] => ⟨⟨0, rfl⟩, Iff.rfl⟩
  | [a] => by
    simp only [wordsLE, wordsBE, List.sum_cons, List.sum_nil, Nat.add_zero]
    exact ⟨⟨a.toNat, by omega⟩, by omega⟩
  | a :: b :: rest => by
    obtain ⟨⟨k, hk⟩, hz⟩ := sums_related rest
    simp only [wordsLE, wordsBE, List.sum_cons]
    exact ⟨⟨k + a.toNat, by omega⟩, by omega⟩

theorem swap16_le (y : Nat) (h : y ≤ 65535) : swap16 y ≤ 65535 := by unfold swap16; omega

/-- 256 · 256 = 65536 ≡ 1 modulo 65535 -/
theorem swap16_mod (y : Nat) : swap16 y % 65535 = 256 * y % 65535 :=
  (mod_eq_of_eq (k := y / 256) (by unfold swap16; omega)).symm

theorem swap16_zero_iff (w : Nat) : swap16 w = 0 ↔ w = 0 := by unfold swap16; omega

theorem swap16_norm (x l : Nat) (h1 : l % 65535 = (256 * x) % 65535) (h2 : l = 0 ↔ x = 0) :
    swap16 (norm x) = norm l := by
  apply eq_norm _ _ (swap16_le _ (norm_le x))
  · rw [swap16_mod, h1, Nat.mul_mod, norm_mod, ← Nat.mul_mod]
  · rw [swap16_zero_iff, norm_zero_iff, h2]

theorem swap16_compl (y : Nat) (h : y ≤ 65535) : swap16 (65535 - y) = 65535 - swap16 y := by
  unfold swap16; omega

theorem swap16_swap16 (y : Nat) (h : y ≤ 65535) : swap16 (swap16 y) = y := by
  unfold swap16; omega

theorem leBytes2_eq_beBytes2_swap (z : Nat) (h : z ≤ 65535) : leBytes 2 z = beBytes 2 (swap16 z) := by
  have e1 : swap16 z % 256 = z / 256 := by unfold swap16; omega
  have e2 : swap16 z / 256 = z % 256 := by unfold swap16; omega
  have e3 : z / 256 % 256 = z / 256 := by omega
  simp [beBytes, leBytes, e1, e2, e3]

theorem swap16_code_value (bs : Bytes) (h : bs.length < 131072) :
    swap16 (65535 - sumFold (wordsLE bs).sum) = rfc1071 bs := by
  have hs := wordsLE_sum_short bs h
  obtain ⟨⟨k, hk⟩, r2⟩ := sums_related bs
  rw [sumFold_eq_norm _ (by omega), rfc1071_eq, swap16_compl _ (norm_le _), ← swap16_norm _ _ (mod_eq_of_eq hk).symm r2,
    swap16_swap16 _ (norm_le _)]

/-- **Byte-order independence of the Internet checksum.**  The bytes the code stores (little-endian word
    sum, two folds, complement, native little-endian "H") are the big-endian RFC 1071 checksum. -/
theorem stored_bytes_eq (bs : Bytes) (h : bs.length < 131072) :
    leBytes 2 (65535 - sumFold (wordsLE bs).sum) = beBytes 2 (rfc1071 bs) := by
  rw [leBytes2_eq_beBytes2_swap _ (by omega), swap16_code_value bs h]

theorem wordsLE_append_even : ∀ (a b : Bytes), a.length % 2 = 0 → wordsLE (a ++ b) = wordsLE a ++ wordsLE b
  | [], b, _ => rfl
  | [x], b, h => by simp at h
  | x :: y :: rest, b, h => by
    have ih := wordsLE_append_even rest b (by simp at h; omega)
    simp only [List.cons_append, wordsLE, ih]

theorem wordsLE_leBytes2 (c : Nat) (h : c ≤ 65535) (b : Bytes) : wordsLE (leBytes 2 c ++ b) = c :: wordsLE b := by
  have e1 : (UInt8.ofNat (c % 256)).toNat = c % 256 := toNat_ofNat_mod c
  have e2 : (UInt8.ofNat (c / 256 % 256)).toNat = c / 256 % 256 := toNat_ofNat_mod (c / 256)
  simp only [leBytes, List.cons_append, List.nil_append, wordsLE, e1, e2]
  congr 1
  omega

theorem wordsLE_zero2 (b : Bytes) : wordsLE ([0, 0] ++ b) = 0 :: wordsLE b := by
  simp [wordsLE]

/-- **verification gives 0**: inserting the computed value into the (even-aligned, zeroed) field and running the
    code's checksum over the whole message gives 0 -/
theorem verify_zero (front back : Bytes) (hf : front.length % 2 = 0)
    (hl : (front ++ ([0, 0] ++ back)).length < 131072) :
    65535 - sumFold (wordsLE (front ++ (leBytes 2 (65535 - sumFold (wordsLE (front ++ ([0, 0] ++ back))).sum) ++ back))).sum = 0 := by
  have hs := wordsLE_sum_short _ hl
  generalize hS : (wordsLE (front ++ ([0, 0] ++ back))).sum = S at hs
  have hS0 : (wordsLE front).sum + (wordsLE back).sum = S := by
    rw [← hS, wordsLE_append_even _ _ hf, wordsLE_zero2, List.sum_append, List.sum_cons, Nat.zero_add]
  have hn := norm_le S
  -- `S ≤ 65535 · 65536` leaves room below 2^32 for the one word put into the field
  rw [sumFold_eq_norm S (by omega), wordsLE_append_even _ _ hf, wordsLE_leBytes2 _ (by omega), List.sum_append,
    List.sum_cons, ← Nat.add_assoc, Nat.add_right_comm, hS0, sumFold_eq_norm _ (by omega)]
  -- S + (65535 - norm S) is a positive multiple of 65535: its representative is 65535
  have hsp := norm_spec S
  have hz := norm_zero_iff S
  rw [← eq_norm 65535 _ (Nat.le_refl _) (mod_eq_of_eq (k := (S - 1) / 65535 + 1) (b := 0) (by omega)).symm (by omega)]

end Acra.Lemmas.Sum16
