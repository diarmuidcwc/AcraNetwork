/-
  MPEG/PES.py (PES packet, STANAG 4609 metadata packet): closed forms of `pack`, what `unpack` makes of the packed
  bytes — with and without the optional PES header, which the decoder recognises by a heuristic (`looksLikeHeader`) —
  re-encoding of the decoded object, `STANAG4609.pack` factored for every object, and where the checksum stands in the
  emitted bytes.
-/
import Acra.Lemmas.MPEGTS
import Acra.Model.PES
import Acra.Spec.MPEG
import Acra.Lemmas.MpegParse
import Acra.Lemmas.CRCMpeg
import Acra.Lemmas.MpegBytes
/-! ### `STANAG4609.pack` as "build the metadata from fields that `pack` does not write", then `PES.pack`: every object,
    including those on which a nested `struct.pack` fails -/
-- same namespace as `PMT_payloadR` (Lemmas/PMT.lean): the factored forms Props/C13/MpegPack.lean is stated with
namespace Acra.Lemmas.MpegPackVia
open Acra.Py Acra.Model.MPEGTS Acra.Model.PES Acra.Gen.PES

/-- the 36 metadata bytes `STANAG4609.pack` builds (or the `struct.error` of the first failing part); reads only
    `stanag_counter`, `_unknown`, `_unknown2`, `time_us` -/
def STANAG_dataR (s : STANAG) : R Bytes :=
  match structPack STANAG_pack_fmt0 [s.stanag_counter, s.unknown, s.unknown2] with
  | .error e => .error e
  | .ok h =>
    match structPack STANAG_pack_fmt1 [STANAG4609_LEN, STANAG4609_DATA_TAG, STANAG4609_DTAG_LEN] with
    | .error e => .error e
    | .ok l =>
      match structPack STANAG_pack_fmt2 [s.time_us] with
      | .error e => .error e
      | .ok tm =>
        match structPack STANAG_pack_fmt3 [STANAG4609_TIME_TAG, STANAG4609_TTAG_LEN] with
        | .error e => .error e
        | .ok tt =>
          match structPack STANAG_pack_fmt4
              [checksum_stanag ((h ++ STANAG4609_UNIVERSAL_KEY ++ l ++ tm ++ tt).drop STANAG4609_UNKNOWN_OFFSET)] with
          | .error e => .error e
          | .ok c => .ok (h ++ STANAG4609_UNIVERSAL_KEY ++ l ++ tm ++ tt ++ c)

theorem STANAG_dataR_irrel (s : STANAG) (p : PES) : STANAG_dataR { s with pes := p } = STANAG_dataR s := rfl

end Acra.Lemmas.MpegPackVia

namespace Acra.Lemmas.PES
open Acra.Py Acra.Model.MPEGTS Acra.Model.PES Acra.Gen.PES Acra.Lemmas.MPEGTS Acra.Lemmas.MpegParse Acra.Lemmas.CRCMpeg Acra.Lemmas.MpegBytes
open Acra.Lemmas.MpegPackVia

/-- the object after the first statement of `STANAG4609.pack` (`self.pid = STANAG4609_PID`) -/
def STANAG_pidForced (s : STANAG) : STANAG :=
  { s with pes := { s.pes with pkt := { s.pes.pkt with pid := STANAG4609_PID } } }

theorem STANAG_pack_via (s : STANAG) :
    STANAG.pack s =
      match STANAG_dataR s with
      | .error e => (STANAG_pidForced s, .error e)
      | .ok d => ({ STANAG_pidForced s with pes := (PES.pack { (STANAG_pidForced s).pes with pesdata := d }).1 },
                  (PES.pack { (STANAG_pidForced s).pes with pesdata := d }).2) := by
  unfold STANAG.pack STANAG_dataR STANAG_pidForced
  simp only
  generalize structPack STANAG_pack_fmt0 _ = r0
  generalize structPack STANAG_pack_fmt1 _ = r1
  generalize structPack STANAG_pack_fmt2 _ = r2
  generalize structPack STANAG_pack_fmt3 _ = r3
  cases r0 with
  | error e => rfl
  | ok h =>
    cases r1 with
    | error e => rfl
    | ok l =>
      cases r2 with
      | error e => rfl
      | ok tm =>
        cases r3 with
        | error e => rfl
        | ok tt =>
          simp only
          cases structPack STANAG_pack_fmt4
            [checksum_stanag ((h ++ STANAG4609_UNIVERSAL_KEY ++ l ++ tm ++ tt).drop STANAG4609_UNKNOWN_OFFSET)] <;> rfl

/-- the six prefix bytes `PES.pack` builds (or the `struct.error`); reads `streamid`, `pesdata` and the optional header -/
def PES_prefixR (s : PES) : R Bytes :=
  structPack PES_pack_fmt0 [0, 1, s.streamid,
    match PES.ext s with
    | some (_, _, hd) => 3 + s.pesdata.length + hd.length
    | none => s.pesdata.length]

/-- the optional header `PES.pack` builds (or the `struct.error`) -/
def PES_extR (s : PES) : R Bytes :=
  match PES.ext s with
  | some (w1, w2, hd) =>
    match structPack PES_pack_fmt1 [w1, w2, hd.length] with
    | .ok x => .ok (x ++ hd)
    | .error e => .error e
  | none => .ok []

/-- `PES.pack` as "build prefix and optional header from fields that `pack` does not write", then `MPEGPacket.pack` -/
theorem PES_pack_via (s : PES) :
    PES.pack s =
      match PES_prefixR s with
      | .error e => (s, .error e)
      | .ok h =>
        match PES_extR s with
        | .error e => ({ s with pkt := { s.pkt with payload := h } }, .error e)
        | .ok x => ({ s with pkt := (Pkt.pack { s.pkt with payload := h ++ x ++ s.pesdata }).1 },
                    (Pkt.pack { s.pkt with payload := h ++ x ++ s.pesdata }).2) := rfl

theorem PES_pack_keeps (x : PES) :
    (PES.pack x).1.pesdata = x.pesdata ∧ (PES.pack x).1.pkt.pid = x.pkt.pid := by
  rw [PES_pack_via]
  cases PES_prefixR x with
  | error e => exact ⟨rfl, rfl⟩
  | ok h =>
    cases PES_extR x with
    | error e => exact ⟨rfl, rfl⟩
    | ok y => exact ⟨rfl, (Pkt_pack_keeps _ _).2⟩

abbrev PES_ext (s : PES) : Option (Nat × Nat × Bytes) := PES.ext s

def PES_extBytes (s : PES) : Bytes :=
  match PES_ext s with
  | some (w1, w2, hd) => encInt true 1 w1 ++ (encInt true 1 w2 ++ (encInt true 1 hd.length ++ hd))
  | none => []

/-- PES_packet_length as the library computes it -/
def PES_len (s : PES) : Nat := (PES_extBytes s).length + s.pesdata.length

def PES_prefix (s : PES) : Bytes :=
  encInt true 1 0 ++ (encInt true 2 1 ++ (encInt true 1 s.streamid ++ encInt true 2 (PES_len s)))
@[simp] theorem PES_prefix_length (s : PES) : (PES_prefix s).length = 6 := by simp [PES_prefix]

/-- the TS payload `PES.pack` builds -/
def PES_payload (s : PES) : Bytes := PES_prefix s ++ (PES_extBytes s ++ s.pesdata)

/-- the TS packet `PES.pack` hands to `MPEGPacket.pack` -/
def PES_pkt (s : PES) : Pkt := { s.pkt with payload := PES_payload s }

def PES_WF (s : PES) : Prop :=
  Pkt_WF s.pkt ∧ s.streamid < 256 ∧ PES_len s < 65536 ∧
  (∀ w1 w2 hd, PES_ext s = some (w1, w2, hd) → w1 < 256 ∧ w2 < 256 ∧ hd.length < 256)

instance (s : PES) : Decidable (PES_WF s) :=
  if h : Pkt_WF s.pkt ∧ s.streamid < 256 ∧ PES_len s < 65536 ∧
      (∀ x, PES_ext s = some x → x.1 < 256 ∧ x.2.1 < 256 ∧ x.2.2.length < 256) then
    isTrue ⟨h.1, h.2.1, h.2.2.1, fun w1 w2 hd he => h.2.2.2 (w1, w2, hd) he⟩
  else
    isFalse (fun hh => h ⟨hh.1, hh.2.1, hh.2.2.1, fun x he => hh.2.2.2 x.1 x.2.1 x.2.2 he⟩)

theorem PES_pack_eq (s : PES) (h : PES_WF s) :
    PES.pack s = ({ s with pkt := Pkt_packed (PES_pkt s) }, .ok (Pkt_bytes (PES_pkt s))) := by
  obtain ⟨hw, hs, hl, hx⟩ := h
  have hwp : Pkt_WF (PES_pkt s) := hw
  rw [PES_pack_via]
  unfold PES_prefixR PES_extR
  cases he : PES_ext s with
  | none =>
    have he' : PES.ext s = none := he
    have hlen : PES_len s = s.pesdata.length := by simp [PES_len, PES_extBytes, he]
    have hfit : Fits PES_pack_fmt0.codes [0, 1, s.streamid, s.pesdata.length] := by
      simp [Fits, PES_pack_fmt0, Code.bound]; omega
    simp only [he', structPack_eq _ _ hfit]
    have hpay : encCodes PES_pack_fmt0.big PES_pack_fmt0.codes [0, 1, s.streamid, s.pesdata.length] ++ [] ++ s.pesdata
        = PES_payload s := by
      simp [PES_payload, PES_prefix, PES_extBytes, he, hlen, encCodes, PES_pack_fmt0, Code.size]
    rw [hpay]
    show ({ s with pkt := (Pkt.pack (PES_pkt s)).1 }, (Pkt.pack (PES_pkt s)).2) = _
    rw [Pkt_pack_eq _ false hwp]; rfl
  | some x =>
    obtain ⟨w1, w2, hd⟩ := x
    have he' : PES.ext s = some (w1, w2, hd) := he
    obtain ⟨b1, b2, b3⟩ := hx w1 w2 hd he
    have hlen : PES_len s = 3 + s.pesdata.length + hd.length := by simp [PES_len, PES_extBytes, he]; omega
    have hfit : Fits PES_pack_fmt0.codes [0, 1, s.streamid, 3 + s.pesdata.length + hd.length] := by
      simp [Fits, PES_pack_fmt0, Code.bound]; omega
    have hfit1 : Fits PES_pack_fmt1.codes [w1, w2, hd.length] := by
      simp [Fits, PES_pack_fmt1, Code.bound]; omega
    simp only [he', structPack_eq _ _ hfit, structPack_eq _ _ hfit1]
    have hpay : encCodes PES_pack_fmt0.big PES_pack_fmt0.codes [0, 1, s.streamid, 3 + s.pesdata.length + hd.length] ++
        (encCodes PES_pack_fmt1.big PES_pack_fmt1.codes [w1, w2, hd.length] ++ hd) ++ s.pesdata = PES_payload s := by
      simp [PES_payload, PES_prefix, PES_extBytes, he, hlen, encCodes, PES_pack_fmt0, PES_pack_fmt1, Code.size]
    rw [hpay]
    show ({ s with pkt := (Pkt.pack (PES_pkt s)).1 }, (Pkt.pack (PES_pkt s)).2) = _
    rw [Pkt_pack_eq _ false hwp]; rfl

/-- what follows the 6-byte PES prefix in the decoded TS payload -/
def PES_tail (s : PES) : Bytes := PES_extBytes s ++ (s.pesdata ++ Pkt_stuffing (PES_pkt s))

/-- first byte after the prefix (0 when there is none) -/
def PES_firstByte (s : PES) : Nat := decInt true ((PES_tail s).take 1)

/-- the decoder's heuristic for "an optional header is present": high nibble 8 and the PES packet
    ends exactly where the TS packet ends -/
def looksLikeHeader (s : PES) : Prop := PES_firstByte s / 16 = 8 ∧ (Pkt_stuffing (PES_pkt s)).length = 0
instance (s : PES) : Decidable (looksLikeHeader s) := by unfold looksLikeHeader; infer_instance

theorem pesParse_prefix (p : Pkt) (s : PES) (T : Bytes) (hpl : p.payload = PES_prefix s ++ T)
    (hsid : s.streamid < 256) (hl : PES_len s < 65536) :
    pesParse p =
      if 3 ≤ T.length ∧ decInt true (slice T 0 1) / 16 = 8 ∧ T.length = PES_len s then
        .ok ({ pkt := p, streamid := s.streamid, extension_w1 := some (decInt true (slice T 0 1)),
               extension_w2 := some (decInt true (slice T 1 2)),
               header_data := some (slice T 3 (3 + decInt true (slice T 2 3))),
               pesdata := T.drop (3 + decInt true (slice T 2 3)) }, ())
      else .ok ({ pkt := p, streamid := s.streamid, extension_w1 := none, extension_w2 := none, header_data := none,
                  pesdata := T }, ()) := by
  have d0 : p.payload.drop 0 = encInt true 1 0 ++ (encInt true 2 1 ++ (encInt true 1 s.streamid ++
      (encInt true 2 (PES_len s) ++ T))) := by
    rw [hpl]; simp only [PES_prefix, List.drop_zero, List.append_assoc]
  have d1 : p.payload.drop 1 = _ := drop_step d0
  have d3 : p.payload.drop 3 = _ := drop_step d1
  have d4 : p.payload.drop 4 = _ := drop_step d3
  have d6 : p.payload.drop 6 = T := drop_step d4
  have v0 : decInt true (slice p.payload 0 1) = 0 := decInt_slice_enc 1 d0 (by decide)
  have v1 : decInt true (slice p.payload 1 3) = 1 := decInt_slice_enc 2 d1 (by decide)
  have v3 : decInt true (slice p.payload 3 4) = s.streamid := decInt_slice_enc 1 d3 hsid
  have v4 : decInt true (slice p.payload 4 6) = PES_len s := decInt_slice_enc 2 d4 hl
  have hlen : p.payload.length = T.length + 6 := by rw [hpl]; simp; omega
  have hs : ∀ lo hi, slice p.payload (6 + lo) (6 + hi) = slice T lo hi := fun lo hi => by
    rw [← slice_drop, d6]
  have s67 : slice p.payload 6 7 = slice T 0 1 := hs 0 1
  have s78 : slice p.payload 7 8 = slice T 1 2 := hs 1 2
  have s89 : slice p.payload 8 9 = slice T 2 3 := hs 2 3
  have s9 : ∀ n, slice p.payload 9 (9 + n) = slice T 3 (3 + n) := fun n => by
    rw [show 9 + n = 6 + (3 + n) by omega]; exact hs 3 _
  have dr9 : ∀ n, p.payload.drop (9 + n) = T.drop (3 + n) := fun n => by
    rw [show 9 + n = 6 + (3 + n) by omega, ← List.drop_drop, d6]
  unfold pesParse
  rw [if_neg (by omega), v0, v1, if_neg (by decide), v3, v4, s67, s78, s89, s9, dr9, d6, hlen]
  simp only [Nat.add_right_cancel_iff, show 9 ≤ T.length + 6 ↔ 3 ≤ T.length by omega]

/-- everything in front of the PES data in the packet `pack` emits -/
def PES_front (s : PES) : Bytes :=
  Pkt_hdr (PES_pkt s) ++ (Pkt_af (PES_pkt s) ++ (PES_prefix s ++ PES_extBytes s))

theorem PES_bytes_front (s : PES) :
    Pkt_bytes (PES_pkt s) = PES_front s ++ (s.pesdata ++ Pkt_stuffing (PES_pkt s)) := by
  have : (PES_pkt s).payload = PES_payload s := rfl
  simp only [Pkt_bytes, PES_front, this, PES_payload, Pkt_stuffing, List.append_assoc]

theorem PES_decodedWith (s : PES) :
    Pkt_decodedWith (PES_pkt s) (PES_prefix s ++ (PES_extBytes s ++ (s.pesdata ++ Pkt_stuffing (PES_pkt s)))) =
      Pkt_decoded (PES_pkt s) := by
  have : (PES_pkt s).payload = PES_payload s := rfl
  simp only [Pkt_decodedWith, Pkt_decoded, this, PES_payload, List.append_assoc]

theorem PES_unpack_front (s t : PES) (T : Bytes) (hw : Pkt_WF s.pkt) (hsid : s.streamid < 256) (hl : PES_len s < 65536)
    (hs : s.pkt.sync = 0x47) (hafc : s.pkt.adaption_ctrl = 1 ∨ s.pkt.adaption_ctrl = 3) :
    PES.unpack t (Pkt_hdr (PES_pkt s) ++ (Pkt_af (PES_pkt s) ++ (PES_prefix s ++ T))) =
      (if 3 ≤ T.length ∧ decInt true (slice T 0 1) / 16 = 8 ∧ T.length = PES_len s then
        { pkt := Pkt_decodedWith (PES_pkt s) (PES_prefix s ++ T), streamid := s.streamid,
          extension_w1 := some (decInt true (slice T 0 1)), extension_w2 := some (decInt true (slice T 1 2)),
          header_data := some (slice T 3 (3 + decInt true (slice T 2 3))),
          pesdata := T.drop (3 + decInt true (slice T 2 3)) }
      else { pkt := Pkt_decodedWith (PES_pkt s) (PES_prefix s ++ T), streamid := s.streamid, extension_w1 := none,
             extension_w2 := none, header_data := none, pesdata := T }, .ok ()) := by
  have hafc' : (PES_pkt s).adaption_ctrl = 1 ∨ (PES_pkt s).adaption_ctrl = 3 := hafc
  have hu := Pkt_unpack_frame (PES_pkt s) t.pkt (PES_prefix s ++ T) hw hs
    (fun c => by have : s.pkt.adaption_ctrl = 2 := c; omega)
  have := PES_after t _ _ hu
  rw [pesParse_prefix _ s T (by simp only [Pkt_decodedWith, if_pos hafc']) hsid hl] at this
  split at this <;> rename_i c
  · rw [if_pos c]; exact this
  · rw [if_neg c]; exact this

/-- `hnl`: the heuristic must not fire where there is room for it to look (with fewer than 3 bytes after the prefix
    the decoder does not peek) -/
theorem PES_unpack_noheader (s t : PES) (T : Bytes) (hw : Pkt_WF s.pkt) (hsid : s.streamid < 256) (hl : PES_len s < 65536)
    (hs : s.pkt.sync = 0x47) (hafc : s.pkt.adaption_ctrl = 1 ∨ s.pkt.adaption_ctrl = 3) (hne : PES.ext s = none)
    (hnl : 3 ≤ T.length → decInt true (slice T 0 1) / 16 = 8 → T.length ≠ PES_len s) :
    PES.unpack t (PES_front s ++ T) =
      ({ pkt := Pkt_decodedWith (PES_pkt s) (PES_prefix s ++ T), streamid := s.streamid, pesdata := T,
         extension_w1 := none, extension_w2 := none, header_data := none }, .ok ()) := by
  have hext : PES_extBytes s = [] := by simp [PES_extBytes, PES_ext, hne]
  rw [PES_front, hext, List.append_nil, List.append_assoc, List.append_assoc,
    PES_unpack_front s t T hw hsid hl hs hafc, if_neg fun c => hnl c.1 c.2.1 c.2.2]

theorem PES_unpack_withheader (s t : PES) (D : Bytes) (h : PES_WF s) (hs : s.pkt.sync = 0x47)
    (hafc : s.pkt.adaption_ctrl = 1 ∨ s.pkt.adaption_ctrl = 3) (w1 w2 : Nat) (hd : Bytes)
    (he : PES.ext s = some (w1, w2, hd)) (hw1 : w1 / 16 = 8) (hD : D.length = s.pesdata.length) :
    PES.unpack t (PES_front s ++ D) =
      ({ pkt := Pkt_decodedWith (PES_pkt s) (PES_prefix s ++ (PES_extBytes s ++ D)), streamid := s.streamid, pesdata := D,
         extension_w1 := some w1, extension_w2 := some w2, header_data := some hd }, .ok ()) := by
  obtain ⟨hw, hsid, hl, hx⟩ := h
  obtain ⟨b1, b2, b3⟩ := hx w1 w2 hd he
  have hext : PES_extBytes s = encInt true 1 w1 ++ (encInt true 1 w2 ++ (encInt true 1 hd.length ++ hd)) := by
    simp [PES_extBytes, PES_ext, he]
  have d0 : (PES_extBytes s ++ D).drop 0 = encInt true 1 w1 ++ (encInt true 1 w2 ++ (encInt true 1 hd.length ++ (hd ++ D))) := by
    simp [hext, List.append_assoc]
  have d1 : (PES_extBytes s ++ D).drop 1 = _ := drop_step d0
  have d2 : (PES_extBytes s ++ D).drop 2 = _ := drop_step d1
  have d3 : (PES_extBytes s ++ D).drop 3 = _ := drop_step d2
  have v0 : decInt true (slice (PES_extBytes s ++ D) 0 1) = w1 := decInt_slice_enc 1 d0 b1
  have v1 : decInt true (slice (PES_extBytes s ++ D) 1 2) = w2 := decInt_slice_enc 1 d1 b2
  have v2 : decInt true (slice (PES_extBytes s ++ D) 2 3) = hd.length := decInt_slice_enc 1 d2 b3
  have hL : (PES_extBytes s ++ D).length = PES_len s := by rw [PES_len, List.length_append, hD]
  have h3 : 3 ≤ (PES_extBytes s ++ D).length := by rw [hext]; simp; omega
  rw [PES_front, List.append_assoc, List.append_assoc, List.append_assoc,
    PES_unpack_front s t _ hw hsid hl hs hafc, if_pos ⟨h3, by rw [v0]; exact hw1, hL⟩, v0, v1, v2,
    ← take_drop_slice, drop_step d3, d3, List.take_left]

theorem PES_unpack_headerless_any (s t : PES) (h : PES_WF s) (hs : s.pkt.sync = 0x47)
    (hafc : s.pkt.adaption_ctrl = 1 ∨ s.pkt.adaption_ctrl = 3) (hne : PES.ext s = none)
    (hnl : 3 ≤ (PES_tail s).length → ¬ looksLikeHeader s) :
    PES.unpack t (Pkt_bytes (PES_pkt s)) =
      ({ pkt := Pkt_decoded (PES_pkt s), streamid := s.streamid, pesdata := s.pesdata ++ Pkt_stuffing (PES_pkt s),
         extension_w1 := none, extension_w2 := none, header_data := none }, .ok ()) := by
  have hext : PES_extBytes s = [] := by simp [PES_extBytes, PES_ext, hne]
  have htail : PES_tail s = s.pesdata ++ Pkt_stuffing (PES_pkt s) := by rw [PES_tail, hext, List.nil_append]
  have hlen : PES_len s = s.pesdata.length := by rw [PES_len, hext]; simp
  have hdw := PES_decodedWith s
  rw [hext, List.nil_append] at hdw
  rw [PES_bytes_front, PES_unpack_noheader s t _ h.1 h.2.1 h.2.2.1 hs hafc hne, hdw]
  intro c3 c1 c2
  rw [← htail] at c3 c1 c2
  exact hnl c3 ⟨by rw [PES_firstByte, take_eq_slice0]; exact c1, by
    rw [htail, List.length_append, hlen] at c2; omega⟩

theorem PES_unpack_header (s t : PES) (h : PES_WF s) (hs : s.pkt.sync = 0x47)
    (hafc : s.pkt.adaption_ctrl = 1 ∨ s.pkt.adaption_ctrl = 3) (w1 w2 : Nat) (hd : Bytes)
    (he : PES.ext s = some (w1, w2, hd)) (hw1 : w1 / 16 = 8) (hfull : (Pkt_stuffing (PES_pkt s)).length = 0) :
    PES.unpack t (Pkt_bytes (PES_pkt s)) =
      ({ pkt := Pkt_decoded (PES_pkt s), streamid := s.streamid, pesdata := s.pesdata,
         extension_w1 := some w1, extension_w2 := some w2, header_data := some hd }, .ok ()) := by
  have hdw := PES_decodedWith s
  rw [List.eq_nil_of_length_eq_zero hfull, List.append_nil] at hdw
  rw [PES_bytes_front, List.eq_nil_of_length_eq_zero hfull, List.append_nil,
    PES_unpack_withheader s t _ h hs hafc w1 w2 hd he hw1 rfl, hdw]

/-- the packet of `q` with other PES data `D` of the same length: the header heuristic looks at the first data byte
    only (`h1`), so data that differs from `q.pesdata` further on is decoded the same way -/
theorem PES_unpack_withData (q t : PES) (D : Bytes) (hl : D.length = q.pesdata.length) (h : PES_WF q)
    (hs : q.pkt.sync = 0x47) (hafc : q.pkt.adaption_ctrl = 1 ∨ q.pkt.adaption_ctrl = 3)
    (hfull : Pkt_used (PES_pkt q) = 188) (h3 : 3 ≤ D.length) (h1 : D.take 1 = q.pesdata.take 1)
    (hhdr : (PES.ext q = none ∧ ¬ looksLikeHeader q) ∨ (∃ w1 w2 hd, PES.ext q = some (w1, w2, hd) ∧ w1 / 16 = 8)) :
    ∃ p, PES.unpack t (PES_front q ++ D) = (p, .ok ()) ∧ p.pesdata = D ∧ p.pkt.pid = q.pkt.pid := by
  rcases hhdr with ⟨hne, hnl⟩ | ⟨w1, w2, hd, he, hw1⟩
  · refine ⟨_, PES_unpack_noheader q t D h.1 h.2.1 h.2.2.1 hs hafc hne fun _ c1 _ => hnl ⟨?_, ?_⟩, rfl, rfl⟩
    · have hext : PES_extBytes q = [] := by simp [PES_extBytes, PES_ext, hne]
      rw [PES_firstByte, PES_tail, hext, List.nil_append, List.take_append_of_le_length (by omega), ← h1, take_eq_slice0]
      exact c1
    · simp [Pkt_stuffing, hfull]
  · exact ⟨_, PES_unpack_withheader q t D h hs hafc w1 w2 hd he hw1 hl, rfl, rfl⟩

/-- the bytes summed by the checksum: key, BER length, tag 2 / length 8 / time, tag 1 / length 2 -/
def STANAG_prot (tm : Nat) : Bytes :=
  STANAG4609_UNIVERSAL_KEY ++ (encInt true 1 STANAG4609_LEN ++ (encInt true 1 STANAG4609_DATA_TAG ++
    (encInt true 1 STANAG4609_DTAG_LEN ++ (encInt true 8 tm ++ (encInt true 1 STANAG4609_TIME_TAG ++
      encInt true 1 STANAG4609_TTAG_LEN)))))

theorem STANAG_prot_length (tm : Nat) : (STANAG_prot tm).length = 29 := by
  simp [STANAG_prot, STANAG4609_UNIVERSAL_KEY]

theorem STANAG_prot_spec (tm : Nat) : STANAG_prot tm = Spec.MPEG.uasKey ++ [14, 2, 8] ++ beBytes 8 tm ++ [1, 2] := by
  simp [STANAG_prot, STANAG4609_UNIVERSAL_KEY, Spec.MPEG.uasKey, STANAG4609_LEN, STANAG4609_DATA_TAG,
    STANAG4609_DTAG_LEN, STANAG4609_TIME_TAG, STANAG4609_TTAG_LEN, encInt, beBytes, leBytes]

/-- the 36 bytes of PES data `STANAG4609.pack` builds -/
def STANAG_data (c u1 u2 tm : Nat) : Bytes :=
  (encInt true 2 c ++ (encInt true 1 u1 ++ encInt true 2 u2)) ++ (STANAG_prot tm ++
    encInt true 2 (checksum_stanag (STANAG_prot tm)))

theorem STANAG_data_length (c u1 u2 tm : Nat) : (STANAG_data c u1 u2 tm).length = 36 := by
  simp [STANAG_data, STANAG_prot_length]

theorem STANAG_tail (t : STANAG) (buf : Bytes) (p : PES) (c u1 u2 tm : Nat)
    (hc : c < 65536) (hu1 : u1 < 256) (hu2 : u2 < 65536) (htm : tm < 18446744073709551616)
    (hp : PES.unpack t.pes buf = (p, .ok ())) (hpid : p.pkt.pid = 260) (hd : p.pesdata = STANAG_data c u1 u2 tm) :
    STANAG.unpack t buf = ({ pes := p, stanag_counter := c, unknown := u1, unknown2 := u2, time_us := tm }, .ok ()) := by
  have hcs : checksum_stanag (STANAG_prot tm) < 65536 := by unfold checksum_stanag; omega
  have hpl := STANAG_prot_length tm
  have hlen : p.pesdata.length = 36 := by rw [hd, STANAG_data_length]
  -- the 36 bytes field by field: `stanagParse` reads each at its offset
  have d0 : p.pesdata.drop 0 = encInt true 2 c ++ (encInt true 1 u1 ++ (encInt true 2 u2 ++ (STANAG4609_UNIVERSAL_KEY ++
      (encInt true 1 STANAG4609_LEN ++ (encInt true 1 STANAG4609_DATA_TAG ++ (encInt true 1 STANAG4609_DTAG_LEN ++
      (encInt true 8 tm ++ (encInt true 1 STANAG4609_TIME_TAG ++ (encInt true 1 STANAG4609_TTAG_LEN ++
      (encInt true 2 (checksum_stanag (STANAG_prot tm)) ++ [])))))))))) := by
    rw [hd]; simp only [STANAG_data, STANAG_prot, List.drop_zero, List.append_assoc, List.append_nil]
  have d2 : p.pesdata.drop 2 = _ := drop_step d0
  have d3 : p.pesdata.drop 3 = _ := drop_step d2
  have d5 : p.pesdata.drop 5 = _ := drop_step d3
  have d21 : p.pesdata.drop 21 = _ := drop_step d5
  have d22 : p.pesdata.drop 22 = _ := drop_step d21
  have d23 : p.pesdata.drop 23 = _ := drop_step d22
  have d24 : p.pesdata.drop 24 = _ := drop_step d23
  have d32 : p.pesdata.drop 32 = _ := drop_step d24
  have d33 : p.pesdata.drop 33 = _ := drop_step d32
  have d34 : p.pesdata.drop 34 = _ := drop_step d33
  have v0 : decInt true (slice p.pesdata 0 2) = c := decInt_slice_enc 2 d0 hc
  have v2 : decInt true (slice p.pesdata 2 3) = u1 := decInt_slice_enc 1 d2 hu1
  have v3 : decInt true (slice p.pesdata 3 5) = u2 := decInt_slice_enc 2 d3 hu2
  have v22 : decInt true (slice p.pesdata 22 23) = 2 := decInt_slice_enc 1 d22 (by decide)
  have v23 : decInt true (slice p.pesdata 23 24) = 8 := decInt_slice_enc 1 d23 (by decide)
  have v24 : decInt true (slice p.pesdata 24 32) = tm := decInt_slice_enc 8 d24 htm
  have v34 : decInt true (slice p.pesdata 34 36) = checksum_stanag (STANAG_prot tm) := decInt_slice_enc 2 d34 hcs
  have hkey : slice p.pesdata 5 21 = STANAG4609_UNIVERSAL_KEY := by
    rw [show 21 = 5 + 16 from rfl, ← take_drop_slice, d5]; exact List.take_left' rfl
  have hsl : slice p.pesdata 5 (p.pesdata.length - 2) = STANAG_prot tm := by
    rw [hlen, hd]; unfold STANAG_data
    exact slice_mid _ _ _ _ _ (by simp) (by simp [hpl])
  have := STANAG_after t buf p hp
  rw [stanagParse, if_neg (fun c => c hpid), if_neg (by omega), if_neg (fun c => c hkey), if_neg (by omega), v22, v23,
    if_neg (by decide), if_neg (by decide), if_neg (by omega), hsl, v34, if_neg (fun c => c rfl), v0, v2, v3, v24] at this
  exact this

def STANAG_WF (s : STANAG) : Prop :=
  s.stanag_counter < 65536 ∧ s.unknown < 256 ∧ s.unknown2 < 65536 ∧ s.time_us < 18446744073709551616
instance (s : STANAG) : Decidable (STANAG_WF s) := by unfold STANAG_WF; infer_instance

end Acra.Lemmas.PES

-- the C07 statements about `STANAG4609.pack` are stated with this second constant of the same body; Props/C07/Mpeg and
-- Props/C07/MpegFlip both use it and neither imports the other, so it is declared here.  A proof in terms of the one is a
-- proof in terms of the other by unfolding.
namespace Acra.Props.C07
open Acra.Model.PES

def STANAG_WF (s : STANAG) : Prop :=
  s.stanag_counter < 65536 ∧ s.unknown < 256 ∧ s.unknown2 < 65536 ∧ s.time_us < 18446744073709551616
instance (s : STANAG) : Decidable (STANAG_WF s) := by unfold STANAG_WF; infer_instance

end Acra.Props.C07

namespace Acra.Lemmas.PES
open Acra.Py Acra.Model.MPEGTS Acra.Model.PES Acra.Gen.PES Acra.Lemmas.MPEGTS Acra.Lemmas.MpegParse Acra.Lemmas.CRCMpeg Acra.Lemmas.MpegBytes
open Acra.Lemmas.MpegPackVia

/-- the PES object `STANAG4609.pack` hands to `PES.pack`: PID forced, metadata rebuilt -/
def STANAG_pes (s : STANAG) : PES :=
  { s.pes with pkt := { s.pes.pkt with pid := STANAG4609_PID },
               pesdata := STANAG_data s.stanag_counter s.unknown s.unknown2 s.time_us }

theorem STANAG_dataR_eq (s : STANAG) (h : STANAG_WF s) :
    STANAG_dataR s = .ok (STANAG_data s.stanag_counter s.unknown s.unknown2 s.time_us) := by
  obtain ⟨h1, h2, h3, h4⟩ := h
  have f0 : Fits STANAG_pack_fmt0.codes [s.stanag_counter, s.unknown, s.unknown2] := by
    simp [Fits, STANAG_pack_fmt0, Code.bound]; omega
  have f1 : Fits STANAG_pack_fmt1.codes [STANAG4609_LEN, STANAG4609_DATA_TAG, STANAG4609_DTAG_LEN] := by decide
  have f2 : Fits STANAG_pack_fmt2.codes [s.time_us] := by simp [Fits, STANAG_pack_fmt2, Code.bound]; omega
  have f3 : Fits STANAG_pack_fmt3.codes [STANAG4609_TIME_TAG, STANAG4609_TTAG_LEN] := by decide
  unfold STANAG_dataR
  simp only [structPack_eq _ _ f0, structPack_eq _ _ f1, structPack_eq _ _ f2, structPack_eq _ _ f3]
  have hD : encCodes STANAG_pack_fmt0.big STANAG_pack_fmt0.codes [s.stanag_counter, s.unknown, s.unknown2] ++
      STANAG4609_UNIVERSAL_KEY ++
      encCodes STANAG_pack_fmt1.big STANAG_pack_fmt1.codes [STANAG4609_LEN, STANAG4609_DATA_TAG, STANAG4609_DTAG_LEN] ++
      encCodes STANAG_pack_fmt2.big STANAG_pack_fmt2.codes [s.time_us] ++
      encCodes STANAG_pack_fmt3.big STANAG_pack_fmt3.codes [STANAG4609_TIME_TAG, STANAG4609_TTAG_LEN] =
      (encInt true 2 s.stanag_counter ++ (encInt true 1 s.unknown ++ encInt true 2 s.unknown2)) ++ STANAG_prot s.time_us := by
    simp [encCodes, STANAG_pack_fmt0, STANAG_pack_fmt1, STANAG_pack_fmt2, STANAG_pack_fmt3, Code.size, STANAG_prot,
      List.append_assoc]
  rw [hD]
  have hdrop : List.drop STANAG4609_UNKNOWN_OFFSET
      ((encInt true 2 s.stanag_counter ++ (encInt true 1 s.unknown ++ encInt true 2 s.unknown2)) ++ STANAG_prot s.time_us)
      = STANAG_prot s.time_us := drop_append_len _ _ _ (by simp [STANAG4609_UNKNOWN_OFFSET])
  rw [hdrop]
  have hcs : checksum_stanag (STANAG_prot s.time_us) < 65536 := by unfold checksum_stanag; omega
  have f4 : Fits STANAG_pack_fmt4.codes [checksum_stanag (STANAG_prot s.time_us)] := by
    simp only [Fits, STANAG_pack_fmt4, Code.bound, and_true]; exact hcs
  simp only [structPack_eq _ _ f4]
  have : (encInt true 2 s.stanag_counter ++ (encInt true 1 s.unknown ++ encInt true 2 s.unknown2)) ++ STANAG_prot s.time_us ++
      encCodes STANAG_pack_fmt4.big STANAG_pack_fmt4.codes [checksum_stanag (STANAG_prot s.time_us)]
      = STANAG_data s.stanag_counter s.unknown s.unknown2 s.time_us := by
    simp [STANAG_data, encCodes, STANAG_pack_fmt4, Code.size, List.append_assoc]
  rw [this]

theorem STANAG_pack_eq (s : STANAG) (h : STANAG_WF s) :
    STANAG.pack s = ({ s with pes := (PES.pack (STANAG_pes s)).1 }, (PES.pack (STANAG_pes s)).2) := by
  rw [STANAG_pack_via, STANAG_dataR_eq s h]
  rfl

/-- what decoding the packed STANAG packet gives -/
def STANAG_decoded (s : STANAG) (w : Option (Nat × Nat × Bytes)) : STANAG :=
  { pes := { pkt := Pkt_decoded (PES_pkt (STANAG_pes s)), streamid := s.pes.streamid,
             pesdata := STANAG_data s.stanag_counter s.unknown s.unknown2 s.time_us,
             extension_w1 := w.map (·.1), extension_w2 := w.map (·.2.1), header_data := w.map (·.2.2) },
    stanag_counter := s.stanag_counter, unknown := s.unknown, unknown2 := s.unknown2, time_us := s.time_us }

theorem STANAG_unpack_headerless (s t : STANAG) (h : STANAG_WF s) (hw : PES_WF (STANAG_pes s))
    (hs : s.pes.pkt.sync = 0x47) (hafc : s.pes.pkt.adaption_ctrl = 1 ∨ s.pes.pkt.adaption_ctrl = 3)
    (hne : PES.ext s.pes = none) (hfull : Pkt_used (PES_pkt (STANAG_pes s)) = 188)
    (hnl : ¬ looksLikeHeader (STANAG_pes s)) :
    STANAG.unpack t (Pkt_bytes (PES_pkt (STANAG_pes s))) = (STANAG_decoded s none, .ok ()) := by
  obtain ⟨h1, h2, h3, h4⟩ := h
  have hst : Pkt_stuffing (PES_pkt (STANAG_pes s)) = [] := (Pkt_stuffing_eq_nil _).2 (by omega)
  have hne' : PES.ext (STANAG_pes s) = none := hne
  have hp := PES_unpack_headerless_any (STANAG_pes s) t.pes hw hs hafc hne' fun _ => hnl
  rw [hst, List.append_nil] at hp
  exact STANAG_tail t _ _ _ _ _ _ h1 h2 h3 h4 hp rfl rfl

theorem STANAG_unpack_header (s t : STANAG) (h : STANAG_WF s) (hw : PES_WF (STANAG_pes s))
    (hs : s.pes.pkt.sync = 0x47) (hafc : s.pes.pkt.adaption_ctrl = 1 ∨ s.pes.pkt.adaption_ctrl = 3)
    (w1 w2 : Nat) (hd : Bytes) (he : PES.ext s.pes = some (w1, w2, hd)) (hw1 : w1 / 16 = 8)
    (hfull : Pkt_used (PES_pkt (STANAG_pes s)) = 188) :
    STANAG.unpack t (Pkt_bytes (PES_pkt (STANAG_pes s))) = (STANAG_decoded s (some (w1, w2, hd)), .ok ()) := by
  obtain ⟨h1, h2, h3, h4⟩ := h
  have he' : PES.ext (STANAG_pes s) = some (w1, w2, hd) := he
  have hp := PES_unpack_header (STANAG_pes s) t.pes hw hs hafc w1 w2 hd he' hw1 (by simp [Pkt_stuffing, hfull])
  exact STANAG_tail t _ _ _ _ _ _ h1 h2 h3 h4 hp rfl rfl

theorem PES_reencode_gen (s D : PES) (h : PES_WF s) (hf : Pkt_used (PES_pkt s) ≤ 188)
    (hD1 : D.pkt = Pkt_decoded (PES_pkt s)) (hD2 : D.streamid = s.streamid)
    (hD3 : D.pesdata = s.pesdata ++ Pkt_stuffing (PES_pkt s)) (hD4 : PES.ext D = PES.ext s) :
    ∃ b', (PES.pack D).2 = .ok b' ∧ b'.length = 188 ∧
      (Pkt_stuffing (PES_pkt s) = [] → b' = Pkt_bytes (PES_pkt s)) := by
  obtain ⟨hw, hsid, hl, hx⟩ := h
  have hwp : Pkt_WF (PES_pkt s) := hw
  have hdec := Pkt_decoded_bytes (PES_pkt s) hwp hf
  have hafD : Pkt_af (PES_pkt D) = Pkt_af (PES_pkt s) := by
    show Pkt_af { D.pkt with payload := PES_payload D } = _
    rw [Pkt_af_payload, hD1, Pkt_af_decoded _ hwp]
  have hext : PES_extBytes D = PES_extBytes s := by
    unfold PES_extBytes PES_ext; rw [hD4]
  have hstuff := Pkt_stuffing_length (PES_pkt s)
  have hlenD : PES_len D = PES_len s + (Pkt_stuffing (PES_pkt s)).length := by
    unfold PES_len; rw [hext, hD3]; simp; omega
  have hpayS : (PES_payload s).length = 6 + PES_len s := by
    simp [PES_payload, PES_len]
  have hpayD : (PES_payload D).length = 6 + PES_len D := by
    simp [PES_payload, PES_len]
  have husedS : Pkt_used (PES_pkt s) = 4 + (Pkt_af (PES_pkt s)).length + (PES_payload s).length := rfl
  have husedD : Pkt_used (PES_pkt D) = 4 + (Pkt_af (PES_pkt D)).length + (PES_payload D).length := rfl
  have hused : Pkt_used (PES_pkt D) = 188 := by
    rw [husedD, hafD, hpayD, hlenD, hstuff]; omega
  have hWD : PES_WF D := by
    refine ⟨by rw [hD1]; exact hdec.1, by rw [hD2]; exact hsid, by rw [hlenD, hstuff]; omega, ?_⟩
    intro w1 w2 hd he
    exact hx w1 w2 hd (by rw [← he]; exact hD4.symm)
  refine ⟨Pkt_bytes (PES_pkt D), by rw [PES_pack_eq D hWD], by rw [Pkt_bytes_length, hused]; rfl, ?_⟩
  intro hnil
  have hpl : PES_payload D = PES_payload s := by
    have hl' : PES_len D = PES_len s := by rw [hlenD, hnil]; simp
    simp only [PES_payload, PES_prefix, hext, hl', hD2, hD3, hnil, List.append_nil]
  have hhdr : Pkt_hdr (PES_pkt D) = Pkt_hdr (PES_pkt s) := by
    show Pkt_hdr { D.pkt with payload := PES_payload D } = _
    rw [hD1]; rfl
  have hus : Pkt_used (PES_pkt s) = 188 := by
    have : (Pkt_stuffing (PES_pkt s)).length = 0 := by rw [hnil]; rfl
    omega
  have hplD : (PES_pkt D).payload = PES_payload D := rfl
  have hplS : (PES_pkt s).payload = PES_payload s := rfl
  unfold Pkt_bytes
  rw [hhdr, hafD, hused, hus, hplD, hplS, hpl]

theorem STANAG_reencode_gen (s : STANAG) (w : Option (Nat × Nat × Bytes)) (h : STANAG_WF s)
    (hw : PES_WF (STANAG_pes s)) (hew : PES.ext s.pes = w) (hfull : Pkt_used (PES_pkt (STANAG_pes s)) = 188) :
    (STANAG.pack (STANAG_decoded s w)).2 = .ok (Pkt_bytes (PES_pkt (STANAG_pes s))) := by
  have hst : Pkt_stuffing (PES_pkt (STANAG_pes s)) = [] := (Pkt_stuffing_eq_nil _).2 (by omega)
  have hWD : STANAG_WF (STANAG_decoded s w) := h
  rw [STANAG_pack_eq _ hWD]
  have hext : PES.ext (STANAG_pes (STANAG_decoded s w)) = PES.ext (STANAG_pes s) := by
    have : PES.ext (STANAG_pes s) = w := hew
    rw [this]
    cases w with
    | none => rfl
    | some x => obtain ⟨w1, w2, hd⟩ := x; rfl
  obtain ⟨b', hb', _, heq⟩ := PES_reencode_gen (STANAG_pes s) (STANAG_pes (STANAG_decoded s w)) hw (by omega)
    rfl rfl (by rw [hst, List.append_nil]; rfl) hext
  show (PES.pack (STANAG_pes (STANAG_decoded s w))).2 = _
  rw [hb', heq hst]

theorem STANAG_data_split (c u1 u2 tm : Nat) :
    STANAG_data c u1 u2 tm =
      (beBytes 2 c ++ [Spec.MPEG.byte u1] ++ beBytes 2 u2) ++
        (STANAG_prot tm ++ beBytes 2 (Spec.MPEG.misbChecksum (STANAG_prot tm))) := by
  unfold STANAG_data
  rw [checksum_eq_spec]
  simp [encInt, Spec.MPEG.byte, beBytes, leBytes]

theorem STANAG_pack_bytes (s : STANAG) (h : STANAG_WF s) (hw : PES_WF (STANAG_pes s)) :
    (STANAG.pack s).2 = .ok
      ((PES_front (STANAG_pes s) ++ (beBytes 2 s.stanag_counter ++ [Spec.MPEG.byte s.unknown] ++ beBytes 2 s.unknown2)) ++
        (STANAG_prot s.time_us ++ (beBytes 2 (Spec.MPEG.misbChecksum (STANAG_prot s.time_us)) ++
          List.replicate (188 - Pkt_used (PES_pkt (STANAG_pes s))) 0xFF))) := by
  rw [STANAG_pack_eq s h, PES_pack_eq _ hw]
  have hb := PES_bytes_front (STANAG_pes s)
  show Except.ok (Pkt_bytes (PES_pkt (STANAG_pes s))) = _
  rw [hb]
  have hd : (STANAG_pes s).pesdata = STANAG_data s.stanag_counter s.unknown s.unknown2 s.time_us := rfl
  rw [hd, STANAG_data_split]
  simp [Pkt_stuffing, List.append_assoc]

theorem STANAG_front_length (s : STANAG) :
    (PES_front (STANAG_pes s) ++ (beBytes 2 s.stanag_counter ++ [Spec.MPEG.byte s.unknown] ++ beBytes 2 s.unknown2)).length + 31 =
      Pkt_used (PES_pkt (STANAG_pes s)) := by
  have hd : (STANAG_pes s).pesdata.length = 36 := STANAG_data_length _ _ _ _
  have hp : (PES_pkt (STANAG_pes s)).payload = PES_payload (STANAG_pes s) := rfl
  simp only [Pkt_used, hp, PES_payload, PES_front, List.length_append, Pkt_hdr_length, PES_prefix_length, hd,
    beBytes_length, List.length_cons, List.length_nil]
  omega

/-- one changed byte at the level of the decoded PES data (`C07.STANAG_detects_flip` states it on the 188-byte
    buffer); `[5, 36)` is the checksummed region (key, BER length, tags, lengths, time) and the stored checksum -/
theorem STANAG_detects_flip_pesdata (t : STANAG) (buf buf' : Bytes) (p p' : PES) (pre suf : Bytes) (a a' : UInt8)
    (hp : PES.unpack t.pes buf = (p, .ok ())) (hp' : PES.unpack t.pes buf' = (p', .ok ()))
    (hd : p.pesdata = pre ++ a :: suf) (hd' : p'.pesdata = pre ++ a' :: suf) (hne : a ≠ a')
    (hlen : (pre ++ a :: suf).length = 36) (hpos : 5 ≤ pre.length ∧ pre.length < 36)
    (hok : (STANAG.unpack t buf).2 = .ok ()) : (STANAG.unpack t buf').2 ≠ .ok () := by
  intro hok'
  have h1 := (stanagParse_ok_iff p).1 (((STANAG_after t buf p hp).ok_iff ()).1 hok)
  have h2 := (stanagParse_ok_iff p').1 (((STANAG_after t buf' p' hp').ok_iff ()).1 hok')
  rw [hd] at h1
  rw [hd'] at h2
  have hlen' : (pre ++ a' :: suf).length = 36 := by simpa using hlen
  obtain ⟨_, _, _, _, _, c1⟩ := h1
  obtain ⟨_, _, _, _, _, c2⟩ := h2
  rw [hlen] at c1
  rw [hlen'] at c2
  by_cases hin : pre.length < 34
  · rw [slice_one_changed pre suf a 5 (36 - 2) hpos.1 (by omega), slice_after_changed pre suf a 34 36 (by omega)] at c1
    rw [slice_one_changed pre suf a' 5 (36 - 2) hpos.1 (by omega), slice_after_changed pre suf a' 34 36 (by omega)] at c2
    exact checksum_detects_byte _ _ a a' hne (c1.trans c2.symm)
  · rw [slice_append_left pre (a :: suf) (by omega), slice_one_changed pre suf a 34 36 (by omega) hpos.2] at c1
    rw [slice_append_left pre (a' :: suf) (by omega), slice_one_changed pre suf a' 34 36 (by omega) hpos.2] at c2
    have e := c1.symm.trans c2
    simp only [decInt, if_true] at e
    have := beNat_inj _ _ (by simp) e
    simp at this
    exact hne this

end Acra.Lemmas.PES
