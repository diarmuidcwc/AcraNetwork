/-
  Normalisation lemmas for the source-tie proofs: bring the bit idioms a harmless rewrite may exchange
  (`& 1` / `% 2`, `>> 1` / `// 2`, `& 0xFFFF` / `% 65536`, `x & (m << k)` / `(x >> k) & m`, `|` / `+` on disjoint
  fields) to ONE form — division and remainder by literals — on which `omega` decides equalities.  The tie theorems
  end with `simp only [… these …]; omega` instead of `rfl` against one syntactic shape.
-/
import Lean.Elab.Tactic
import Acra.Py.IntOps
import Acra.Lemmas.SrcTie

/-- `unfold_src_helpers`: unfold every regenerated definition `Acra.Gen.Src.<Module>._name` (a PRIVATE helper of the
    Python module, translated on demand because the function under proof calls it) that occurs in the goal.  A helper
    extracted from — or inlined into — a tied function therefore does not change the proof. -/
elab "unfold_src_helpers" : tactic => do
  let g ← Lean.Elab.Tactic.getMainGoal
  let t ← Lean.instantiateMVars (← g.getType)
  for n in t.getUsedConstants do
    if (`Acra.Gen.Src).isPrefixOf n && n.components.length == 5 then
      match n with
      | .str _ last =>
        if last.startsWith "_" then
          Lean.Elab.Tactic.evalTactic (← `(tactic| try unfold $(Lean.mkIdent n)))
      | _ => pure ()

namespace Acra.Lemmas.SrcTieNorm
open Acra Acra.Py Acra.Lemmas Acra.Lemmas.SrcTie

theorem and_7fff (n : Nat) : n &&& 32767 = n % 32768 := Bits.and_7FFF n
theorem and_7 (n : Nat) : n &&& 7 = n % 8 := Bits.and_7 n
theorem shl_mul (n k : Nat) : n <<< k = n * 2 ^ k := Bits.shl n k

theorem field_in_place (x m j k s : Nat) (h : m + 1 = 2 ^ j) :
    (x &&& (m <<< k)) <<< s = ((x >>> k) &&& m) <<< (k + s) := by
  rw [Bits.and_field x m j k _ h (Bits.shl m k), Bits.and_low _ m j h, Bits.shr, Bits.shl, Bits.shl, Nat.pow_add,
    Nat.mul_assoc]

-- the instances the normalising `simp only` sets use: they cannot take `field_in_place` itself, whose side goal
-- `m + 1 = 2 ^ j` `simp only` does not discharge
theorem field_in_place_15 (x k s : Nat) : (x &&& (32767 <<< k)) <<< s = ((x >>> k) &&& 32767) <<< (k + s) :=
  field_in_place x 32767 15 k s (by decide)
theorem field_in_place_3 (x k s : Nat) : (x &&& (7 <<< k)) <<< s = ((x >>> k) &&& 7) <<< (k + s) :=
  field_in_place x 7 3 k s (by decide)
theorem field_in_place_12 (x k s : Nat) : (x &&& (4095 <<< k)) <<< s = ((x >>> k) &&& 4095) <<< (k + s) :=
  field_in_place x 4095 12 k s (by decide)
theorem field_in_place_8 (x k s : Nat) : (x &&& (255 <<< k)) <<< s = ((x >>> k) &&& 255) <<< (k + s) :=
  field_in_place x 255 8 k s (by decide)
theorem field_in_place_16 (x k s : Nat) : (x &&& (65535 <<< k)) <<< s = ((x >>> k) &&& 65535) <<< (k + s) :=
  field_in_place x 65535 16 k s (by decide)

theorem foldl_congr_mem {σ α : Type} (f g : σ → α → σ) (l : List α) (st : σ)
    (h : ∀ st, ∀ i ∈ l, f st i = g st i) : List.foldl f st l = List.foldl g st l := by
  induction l generalizing st with
  | nil => rfl
  | cons a l ih =>
    rw [List.foldl_cons, List.foldl_cons, h st a (List.mem_cons_self ..)]
    exact ih _ (fun st i hi => h st i (List.mem_cons_of_mem _ hi))

theorem foldlM_congr_mem {σ α : Type} (f g : σ → α → R σ) (l : List α) (st : σ)
    (h : ∀ st, ∀ i ∈ l, f st i = g st i) : List.foldlM f st l = List.foldlM g st l := by
  induction l generalizing st with
  | nil => rfl
  | cons a l ih =>
    rw [List.foldlM_cons, List.foldlM_cons, h st a (List.mem_cons_self ..)]
    cases g st a with
    | error e => rfl
    | ok s => exact ih _ (fun st i hi => h st i (List.mem_cons_of_mem _ hi))

theorem mem_range (N : Nat) (i : Int) (h : i ∈ Py.range (N : Int)) : ∃ n : Nat, n < N ∧ i = (n : Int) := by
  rw [Py.range_natCast] at h
  simp only [List.mem_map, List.mem_range] at h
  obtain ⟨n, hn, rfl⟩ := h
  exact ⟨n, hn, rfl⟩

/-- the two ways of testing bit `11 - n` of `x` in a 12-step row loop: `x & (0x800 >> n)` and `(x >> (11 - n)) & 1` -/
theorem bit_forms (x n : Nat) (hn : n < 12) :
    (band (x : Int) (shr 2048 (n : Int)) ≠ 0) ↔ (band (shr (x : Int) (11 - (n : Int))) 1 ≠ 0) := by
  have e : (11 - (n : Int)).toNat = 11 - n := by omega
  simp only [shr_natCast, shr_lit, band_natCast, band_natCast_lit, Int.toNat_natCast, e, ne_eq, Int.natCast_eq_zero]
  have hp : 2048 >>> n = 2 ^ (11 - n) := by
    rw [Bits.shr, show (2048 : Nat) = 2 ^ 11 from rfl, Nat.pow_div (by omega) (by decide)]
  rw [hp, Bits.and_1, Bits.shr]
  have := and_two_pow_ne_zero x (11 - n)
  simp only [ne_eq] at this
  rw [this]
  omega

end Acra.Lemmas.SrcTieNorm
