/-
  What the float theorems assume about binary64 rounding, as a structure over an arbitrary rounding
  function `fl : ℚ → ℚ` on non-negative values:
    * `err`   : the result is within relative error 2^-53 of the exact value (round to nearest);
    * `exact` : natural numbers below 2^53 are representable, hence unchanged.
  The theorems in Props that mention floats are stated for all `fl` with these two facts, with two exceptions:
  `to_rtc_ticks_exact_exec`, whose sharp bound needs `rne` itself, and Props/C15/ExtraTime, whose models
  (`Model/ExtraTime`, `Model/ExtraMpeg`) call `rne` directly; the lemmas about them use nothing but the two facts of
  `rne`.  From the two facts alone the idioms `int(a / d)` and `int(M + n / d)` are exact integer arithmetic
  (`floor_div`, `floor_add_div`); `rne_floor_stable` is the one property of `rne` that is sharper than they are.
-/
import Mathlib.Tactic.Linarith
import Mathlib.Tactic.Positivity
import Mathlib.Tactic.NormNum
import Mathlib.Algebra.Order.Floor.Defs
import Mathlib.Data.Rat.Floor
import Mathlib.Tactic.Ring
import Mathlib.Tactic.FieldSimp
import Acra.Py.Float
namespace Acra.Lemmas.Float
open Acra.Py

structure FloatSem (fl : ℚ → ℚ) : Prop where
  err : ∀ x : ℚ, 0 ≤ x → |fl x - x| ≤ x * (1 / 2 ^ 53)
  exact : ∀ n : ℕ, n < 2 ^ 53 → fl (n : ℚ) = (n : ℚ)

open Acra.Py.Float

theorem floorNat_eq_floor (q : ℚ) : floorNat q = ⌊q⌋₊ := by
  unfold floorNat
  rw [← Rat.floor_def', Int.floor_toNat]

theorem floorNat_eq (q : ℚ) (n : ℕ) (h1 : (n : ℚ) ≤ q) (h2 : q < (n : ℚ) + 1) : floorNat q = n := by
  rw [floorNat_eq_floor]
  exact (Nat.floor_eq_iff (le_trans n.cast_nonneg h1)).mpr ⟨h1, h2⟩

theorem floorNat_natCast (n : ℕ) : floorNat (n : ℚ) = n := by
  rw [floorNat_eq_floor, Nat.floor_natCast]

theorem floorNat_le (m : ℚ) (h : 0 ≤ m) : (floorNat m : ℚ) ≤ m := by
  rw [floorNat_eq_floor]
  exact Nat.floor_le h

theorem lt_floorNat_add_one (m : ℚ) : m < (floorNat m : ℚ) + 1 := by
  rw [floorNat_eq_floor]
  exact Nat.lt_floor_add_one m

theorem floorNat_lt_iff (m : ℚ) (n : ℕ) (h : 0 ≤ m) : floorNat m < n ↔ m < n := by
  rw [floorNat_eq_floor]
  exact Nat.floor_lt h

/-- Python's float `x % 10` (exact for the values in question) and then `int()`: the last digit of `int(x)` -/
theorem floorNat_sub_tens (q : ℚ) (h0 : 0 ≤ q) :
    floorNat (q - ((10 * (q / 10).floor.toNat : ℕ) : ℚ)) = floorNat q % 10 := by
  have h1 := floorNat_le q h0
  have h2 := lt_floorNat_add_one q
  generalize floorNat q = n at h1 h2 ⊢
  have e : (n : ℚ) = 10 * (n / 10 : ℕ) + (n % 10 : ℕ) := by exact_mod_cast (Nat.div_add_mod n 10).symm
  have hm : ((n % 10 : ℕ) : ℚ) + 1 ≤ 10 := by exact_mod_cast Nat.mod_lt n (by norm_num)
  have hm0 : (0 : ℚ) ≤ (n % 10 : ℕ) := Nat.cast_nonneg _
  have hk : (q / 10).floor = ((n / 10 : ℕ) : ℤ) := by
    show ⌊q / 10⌋ = _
    rw [Int.floor_eq_iff, Int.cast_natCast]
    constructor <;> linarith only [h1, h2, e, hm, hm0]
  rw [hk, Int.toNat_natCast]
  apply floorNat_eq <;> push_cast <;> linarith only [h1, h2, e]

theorem div_split (a d : ℕ) (hd : 0 < d) : (a : ℚ) / d = (a / d : ℕ) + (a % d : ℕ) / d := by
  have hd' : (d : ℚ) ≠ 0 := Nat.cast_ne_zero.mpr hd.ne'
  rw [div_eq_iff hd', add_mul, div_mul_cancel₀ _ hd']
  exact_mod_cast (Nat.div_add_mod' a d).symm

theorem div_exact (a d : ℕ) (hd : 0 < d) (hr : a % d = 0) : (a : ℚ) / d = (a / d : ℕ) := by
  rw [div_split a d hd, hr, Nat.cast_zero, zero_div, add_zero]

theorem div_between (a d : ℕ) (hd : 0 < d) (hr : a % d ≠ 0) :
    ((a / d : ℕ) : ℚ) + 1 / d ≤ a / d ∧ (a : ℚ) / d ≤ (a / d : ℕ) + 1 - 1 / d := by
  have hd' : (0 : ℚ) < d := Nat.cast_pos.mpr hd
  have h1 : (1 : ℚ) ≤ (a % d : ℕ) := by exact_mod_cast Nat.one_le_iff_ne_zero.mpr hr
  have h2 : ((a % d : ℕ) : ℚ) + 1 ≤ d := by exact_mod_cast Nat.mod_lt a hd
  rw [div_split a d hd]
  constructor
  · have := div_le_div_of_nonneg_right h1 hd'.le
    linarith only [this]
  · have := div_le_div_of_nonneg_right h2 hd'.le
    rw [add_div, div_self hd'.ne'] at this
    linarith only [this]

theorem le_add_div_of_mul_le {a b c e k : ℚ} (hk : 0 < k) (hc : k ≤ c) (he : 0 ≤ e) (h : a * c ≤ b * c + e) :
    a ≤ b + e / k := by
  by_contra hlt
  have h1 : e / k < a - b := by linarith
  have h2 : e < (a - b) * k := (div_lt_iff₀ hk).mp h1
  have h3 : (a - b) * k ≤ (a - b) * c := mul_le_mul_of_nonneg_left hc (by linarith [div_nonneg he hk.le])
  linarith

namespace FloatSem
variable {fl : ℚ → ℚ} (F : FloatSem fl)
include F

theorem near {x B : ℚ} (h0 : 0 ≤ x) (hB : x ≤ B) : x - B / 2 ^ 53 ≤ fl x ∧ fl x ≤ x + B / 2 ^ 53 := by
  have h := abs_le.mp (F.err x h0)
  have : x * (1 / 2 ^ 53) ≤ B / 2 ^ 53 := by
    rw [mul_one_div]
    exact div_le_div_of_nonneg_right hB (by positivity)
  constructor <;> linarith only [h.1, h.2, this]

theorem nonneg {x : ℚ} (h0 : 0 ≤ x) : 0 ≤ fl x := by
  have := (F.near h0 le_rfl).1
  have : x / 2 ^ 53 ≤ x := div_le_self h0 (by norm_num)
  linarith

theorem floor_natCast (n : ℕ) (h : n < 2 ^ 53) : floorNat (fl (n : ℚ)) = n := by
  rw [F.exact n h, floorNat_natCast]

/-- `int(a / d)` (Python 3 true division of naturals below 2^53, then truncation) is integer division: when
    `d ∣ a` the quotient is a natural number below 2^53, which `fl` leaves unchanged; otherwise the exact quotient
    is at least `1/d` away from the integers around it and the rounding error `(a/d)·2^-53` is below `1/d` -/
theorem floor_div (a d : ℕ) (ha : a < 2 ^ 53) (hd : 0 < d) : floorNat (fl ((a : ℚ) / (d : ℚ))) = a / d := by
  by_cases hr : a % d = 0
  · rw [div_exact a d hd hr]
    exact F.floor_natCast _ (lt_of_le_of_lt (Nat.div_le_self a d) ha)
  · have hd' : (0 : ℚ) < d := Nat.cast_pos.mpr hd
    have hb := div_between a d hd hr
    have he := F.near (div_nonneg a.cast_nonneg hd'.le) le_rfl
    have hsmall : (a : ℚ) / d / 2 ^ 53 < 1 / d := by
      rw [div_right_comm]
      apply div_lt_div_of_pos_right _ hd'
      rw [div_lt_one (by norm_num)]
      exact_mod_cast ha
    apply floorNat_eq
    · linarith only [hb.1, he.1, hsmall]
    · linarith only [hb.2, he.2, hsmall]

/-- `int(M + n / d)` when `d ∣ n`: every operation is exact -/
theorem floor_add_div_of_dvd (M n d : ℕ) (hd : 0 < d) (hr : n % d = 0) (h : M + n / d < 2 ^ 53) :
    floorNat (fl ((M : ℚ) + fl ((n : ℚ) / (d : ℚ)))) = M + n / d := by
  rw [div_exact n d hd hr, F.exact _ (by omega), ← Nat.cast_add]
  exact F.floor_natCast _ h

/-- `int(M + n / d)`, two roundings: exact as long as the sum leaves room for two errors of `(M + n/d + 1)·2^-53`
    inside the `1/d` that separates a non-integer quotient from the integers around it -/
theorem floor_add_div (M n d : ℕ) (hd : 0 < d) (h : (M + n / d + 1) * (2 * d) < 2 ^ 53) :
    floorNat (fl ((M : ℚ) + fl ((n : ℚ) / (d : ℚ)))) = M + n / d := by
  by_cases hr : n % d = 0
  · have : M + n / d + 1 ≤ (M + n / d + 1) * (2 * d) := Nat.le_mul_of_pos_right _ (by omega)
    exact F.floor_add_div_of_dvd M n d hd hr (by omega)
  · have hd' : (0 : ℚ) < d := Nat.cast_pos.mpr hd
    have hb := div_between n d hd hr
    have hM : (0 : ℚ) ≤ M := M.cast_nonneg
    have hinv : (0 : ℚ) < 1 / d := by positivity
    -- `B` bounds both rounded values; `2·B·2^-53 < 1/d`
    obtain ⟨B, hB⟩ : ∃ B : ℚ, B = (M : ℚ) + (n / d : ℕ) + 1 := ⟨_, rfl⟩
    have hsmall : 2 * (B / 2 ^ 53) < 1 / d := by
      rw [hB, lt_div_iff₀ hd']
      have : (((M + n / d + 1) * (2 * d) : ℕ) : ℚ) < 2 ^ 53 := by exact_mod_cast h
      push_cast at this
      linarith only [this]
    have h1 := F.near (div_nonneg n.cast_nonneg hd'.le) (by linarith only [hb.2, hB, hM, hinv] : (n : ℚ) / d ≤ B)
    have h0 := F.nonneg (div_nonneg n.cast_nonneg hd'.le)
    have h2 := F.near (add_nonneg hM h0)
      (by linarith only [hb.2, h1.2, hB, hsmall] : (M : ℚ) + fl ((n : ℚ) / d) ≤ B)
    apply floorNat_eq
    · push_cast; linarith only [hb.1, h1.1, h2.1, hsmall]
    · push_cast; linarith only [hb.2, h1.2, h2.2, hsmall]

end FloatSem

theorem roundHalfEven_err (m : ℚ) (h : 0 ≤ m) : |(roundHalfEven m : ℚ) - m| ≤ 1 / 2 := by
  have h1 := floorNat_le m h
  have h2 := lt_floorNat_add_one m
  unfold roundHalfEven
  simp only
  split
  · rename_i hr; rw [abs_le]; push_cast; constructor <;> linarith only [h1, h2, hr]
  · split
    · rename_i hr1 hr; rw [abs_le]; constructor <;> linarith only [h1, h2, hr]
    · rename_i hr1 hr2
      have hr : m - (floorNat m : ℚ) = 1 / 2 := le_antisymm (not_lt.mp hr1) (not_lt.mp hr2)
      split
      · rw [abs_le]; push_cast; constructor <;> linarith only [hr]
      · rw [abs_le]; constructor <;> linarith only [hr]

theorem roundHalfEven_nat (k : ℕ) : roundHalfEven (k : ℚ) = k := by
  unfold roundHalfEven
  simp only [floorNat_natCast, sub_self]
  norm_num

theorem roundHalfEven_eq (y : ℚ) (p : ℕ) (h0 : 0 ≤ y) (h1 : (p : ℚ) - 1 / 2 < y) (h2 : y < (p : ℚ) + 1 / 2) :
    roundHalfEven y = p := by
  unfold roundHalfEven
  rcases le_or_gt (p : ℚ) y with hge | hlt
  · have hfl : floorNat y = p := floorNat_eq y p hge (by linarith only [h2])
    simp only [hfl]
    rw [if_neg (by linarith only [h2]), if_pos (by linarith only [h2])]
  · have hp : (0 : ℚ) < p := lt_of_le_of_lt h0 hlt
    obtain ⟨k, rfl⟩ := Nat.exists_eq_succ_of_ne_zero (Nat.cast_pos.mp hp).ne'
    push_cast at h1 hlt
    have hfl : floorNat y = k := floorNat_eq y k (by linarith only [h1]) hlt
    simp only [hfl]
    rw [if_pos (by linarith only [h1])]

theorem pow2_pos (e : ℤ) : 0 < pow2 e := by
  unfold pow2
  split
  · positivity
  · positivity

theorem pow2_inv (e : ℤ) (h : pow2 e < 2) : ∃ j : ℕ, pow2 e = 1 / 2 ^ j := by
  unfold pow2 at h ⊢
  split
  · rename_i he
    rw [if_pos he] at h
    refine ⟨0, ?_⟩
    have : 2 ^ e.toNat < 2 ^ 1 := by exact_mod_cast h
    rw [Nat.pow_lt_pow_iff_right (by norm_num)] at this
    rw [Nat.lt_one_iff.mp this]
    norm_num
  · exact ⟨(-e).toNat, by push_cast; rfl⟩

/-- the literals are 2^52 and 2^53: the significand is taken at the exponent that brackets `x` -/
theorem rne_cases (x : ℚ) (hx : 0 < x) :
    rne x = x ∨ ∃ e : ℤ, (4503599627370496 : ℚ) ≤ x / pow2 e ∧ x / pow2 e < 9007199254740992 ∧
      rne x = (roundHalfEven (x / pow2 e) : ℚ) * pow2 e := by
  unfold rne
  simp only [not_le.mpr hx, if_false]
  split
  · rename_i hb; right; exact ⟨expOf x, hb.1, hb.2, rfl⟩
  · left; rfl

theorem rne_zero : rne 0 = 0 := by
  unfold rne
  rw [if_pos le_rfl]

theorem rne_err (x : ℚ) (hx : 0 ≤ x) : |rne x - x| ≤ x * (1 / 2 ^ 53) := by
  rcases hx.eq_or_lt with rfl | hx
  · simp [rne_zero]
  rcases rne_cases x hx with h | ⟨e, hlo, -, h⟩
  · rw [h, sub_self, abs_zero]; positivity
  · have hp := pow2_pos e
    have herr := roundHalfEven_err (x / pow2 e) (by positivity)
    have hx' : x = x / pow2 e * pow2 e := (div_mul_cancel₀ x hp.ne').symm
    generalize x / pow2 e = m at hx' hlo herr h
    -- half a unit of the significand, which is at least 2^52, is at most `m · 2^-53`
    rw [h, hx', ← sub_mul, abs_mul, abs_of_pos hp, mul_right_comm]
    apply mul_le_mul_of_nonneg_right _ hp.le
    linarith

theorem rne_exact (n : ℕ) (hn : n < 2 ^ 53) : rne (n : ℚ) = (n : ℚ) := by
  rcases n.eq_zero_or_pos with rfl | hn0
  · exact_mod_cast rne_zero
  rcases rne_cases n (by exact_mod_cast hn0) with h | ⟨e, hlo, -, h⟩
  · exact h
  · -- the exponent is not positive, so the significand is a natural number
    have hp := pow2_pos e
    have hn' : (n : ℚ) < 2 ^ 53 := by exact_mod_cast hn
    obtain ⟨j, hj⟩ := pow2_inv e (by rw [le_div_iff₀ hp] at hlo; linarith)
    have hk : (n : ℚ) / pow2 e = ((n * 2 ^ j : ℕ) : ℚ) := by rw [hj]; push_cast; field_simp
    rw [h, hk, roundHalfEven_nat, ← hk, div_mul_cancel₀ _ hp.ne']

theorem rne_floatSem : FloatSem rne := ⟨rne_err, rne_exact⟩

/-- `140737488355328` is 2^47; `j ≥ 6` because the significand `v·2^j` is at least 2^52 -/
theorem rne_grid (v : ℚ) (hv : 0 < v) (h47 : v < 140737488355328) :
    rne v = v ∨ ∃ j R : ℕ, 6 ≤ j ∧ |(R : ℚ) - v * 2 ^ j| ≤ 1 / 2 ∧ rne v = R / 2 ^ j := by
  rcases rne_cases v hv with h | ⟨e, hlo, -, h⟩
  · left; exact h
  · right
    rw [le_div_iff₀ (pow2_pos e)] at hlo
    obtain ⟨j, hj⟩ := pow2_inv e (by linarith)
    rw [hj] at hlo h
    rw [div_div_eq_mul_div, div_one, mul_one_div] at h
    refine ⟨j, roundHalfEven (v * 2 ^ j), ?_, roundHalfEven_err _ (by positivity), h⟩
    by_contra hlt
    have h32 : (2 : ℚ) ^ j ≤ 2 ^ 5 := pow_le_pow_right₀ (by norm_num) (by omega)
    have := one_div_le_one_div_of_le (by positivity) h32
    linarith

/-- below 2^47 the grid of binary64 is 1/64 or finer, so rounding moves a value by at most 1/128 -/
theorem rne_floor_stable (v : ℚ) (N : ℕ) (h1 : (N : ℚ) < v) (h2 : v < (N : ℚ) + 1 - 1 / 128)
    (h47 : v < 140737488355328) : (N : ℚ) ≤ rne v ∧ rne v < (N : ℚ) + 1 := by
  rcases rne_grid v (lt_of_le_of_lt N.cast_nonneg h1) h47 with h | ⟨j, R, hj, herr, h⟩
  · rw [h]; constructor <;> linarith
  · have hP0 : (0 : ℚ) < 2 ^ j := by positivity
    have hP : (2 : ℚ) ^ 6 ≤ 2 ^ j := pow_le_pow_right₀ (by norm_num) hj
    rw [abs_le] at herr
    have hNP : (N : ℚ) * 2 ^ j < v * 2 ^ j := mul_lt_mul_of_pos_right h1 hP0
    have hvP : v * 2 ^ j < ((N : ℚ) + 1 - 1 / 128) * 2 ^ j := mul_lt_mul_of_pos_right h2 hP0
    -- `N·2^j` and `(N+1)·2^j` are integers, and so is `R`, which is within 1/2 of `v·2^j`
    have hlow : N * 2 ^ j ≤ R := by
      have : ((N * 2 ^ j : ℕ) : ℚ) < (R + 1 : ℕ) := by push_cast; linarith only [hNP, herr.1]
      exact Nat.lt_succ_iff.mp (by exact_mod_cast this)
    have hhigh : R < (N + 1) * 2 ^ j := by
      have : (R : ℚ) < ((N + 1) * 2 ^ j : ℕ) := by push_cast; linarith only [hvP, hP, herr.2]
      exact_mod_cast this
    rw [h]
    constructor
    · rw [le_div_iff₀ hP0]; exact_mod_cast hlow
    · rw [div_lt_iff₀ hP0]; exact_mod_cast hhigh

end Acra.Lemmas.Float
