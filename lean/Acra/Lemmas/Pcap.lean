/-
  The pcap reader on bytes: the bytes of a record, one step of the reader as a function of the bytes after the
  cursor, and what iterating it makes of a (possibly truncated) sequence of records.  Iteration is the record loop
  `Py.decOff` with `Pcap.next` as its step (`recStep`, `recMore`); `recs_succ` is one round of it.  The file model on
  top of this is in `Lemmas/PcapFile`.
-/
import Acra.Model.Pcap
import Acra.Spec.Net
import Acra.Py.Records
import Acra.Lemmas.Decoder

namespace Acra.Lemmas.Pcap
open Acra.Py Acra.Model.Pcap Acra.Gen.Pcap Acra.Lemmas.RecordsErr

def Rec_fits (r : Rec) : Prop := r.sec < 2 ^ 32 ∧ r.usec < 2 ^ 32 ∧ r.incl_len < 2 ^ 32 ∧ r.orig_len < 2 ^ 32

/-- what the `payload` setter guarantees: the two length fields are in step with the payload -/
def Rec_WF (r : Rec) : Prop :=
  r.sec < 2 ^ 32 ∧ r.usec < 2 ^ 32 ∧ r.incl_len = r.payload.length ∧ r.orig_len = r.payload.length ∧
  r.payload.length < 2 ^ 32

theorem Rec_WF.fits {r : Rec} (h : Rec_WF r) : Rec_fits r := by
  obtain ⟨h1, h2, h3, h4, h5⟩ := h
  exact ⟨h1, h2, h3 ▸ h5, h4 ▸ h5⟩

theorem Rec_WF.setPayload_self {r : Rec} (h : Rec_WF r) : r.setPayload r.payload = r := by
  obtain ⟨_, _, h3, h4, _⟩ := h
  cases r
  simp_all [Rec.setPayload]

def recHdr (r : Rec) : Bytes :=
  encInt false 4 r.sec ++ (encInt false 4 r.usec ++ (encInt false 4 r.incl_len ++ encInt false 4 r.orig_len))

/-- the bytes `PcapRecord.pack` emits -/
def recBytes (r : Rec) : Bytes := recHdr r ++ r.payload

@[simp] theorem recHdr_length (r : Rec) : (recHdr r).length = 16 := by simp [recHdr]
@[simp] theorem recBytes_length (r : Rec) : (recBytes r).length = 16 + r.payload.length := by simp [recBytes]

theorem recBytes_eq_spec (r : Rec) : recBytes r = Spec.Pcap.record r.sec r.usec r.incl_len r.orig_len r.payload := by
  simp [recBytes, recHdr, Spec.Pcap.record, encInt]

theorem recHdr_eq_enc (r : Rec) :
    recHdr r = encCodes RECORD_HEADER_FORMAT.big RECORD_HEADER_FORMAT.codes [r.sec, r.usec, r.incl_len, r.orig_len] := by
  simp [RECORD_HEADER_FORMAT, encCodes, Code.size, recHdr]

theorem Rec_fits.codes {r : Rec} (h : Rec_fits r) :
    Fits RECORD_HEADER_FORMAT.codes [r.sec, r.usec, r.incl_len, r.orig_len] := by
  obtain ⟨h1, h2, h3, h4⟩ := h
  exact ⟨h1, h2, h3, h4, trivial⟩

theorem Rec_pack_eq (r : Rec) (h : Rec_fits r) : Rec.pack r = (r, .ok (recBytes r)) := by
  simp only [Rec.pack, structPack_eq _ _ h.codes, ← recHdr_eq_enc, recBytes]

/-- the record `PcapRecord.unpack` makes of a 16-byte header -/
def decHdr (b : Bytes) : Rec :=
  { sec := decInt false (slice b 0 4), usec := decInt false (slice b 4 8), incl_len := decInt false (slice b 8 12),
    orig_len := decInt false (slice b 12 16), payload := [] }

/-- `PcapRecord.unpack` as a parser of the bytes alone -/
def recRun (_ : Unit) (buf : Bytes) : R (Rec × Unit) :=
  if buf.length = 16 then .ok (decHdr buf, ()) else .error .value

theorem Rec_decodes : Decodes Rec.unpack (fun _ => ()) recRun := by
  intro s buf
  unfold Rec.unpack recRun
  rw [structUnpack_flds]
  by_cases h : buf.length = 16
  · rw [if_neg (fun c => c h.symm), if_pos (show buf.length = RECORD_HEADER_FORMAT.size from h), if_pos h]; rfl
  · rw [if_pos (fun e => h e.symm), if_neg h]; rfl

theorem decHdr_recHdr (r : Rec) (h : Rec_fits r) : decHdr (recHdr r) = { r with payload := [] } := by
  have := structUnpack_enc RECORD_HEADER_FORMAT _ h.codes
  rw [← recHdr_eq_enc, structUnpack_flds, if_pos (show (recHdr r).length = RECORD_HEADER_FORMAT.size from recHdr_length r)] at this
  have : [(decHdr (recHdr r)).sec, (decHdr (recHdr r)).usec, (decHdr (recHdr r)).incl_len, (decHdr (recHdr r)).orig_len] =
      [r.sec, r.usec, r.incl_len, r.orig_len] := Except.ok.inj this
  simp only [List.cons.injEq, and_true] at this
  obtain ⟨h1, h2, h3, h4⟩ := this
  rw [← h1, ← h2, ← h3, ← h4]
  rfl

theorem nextRec_eq (rest : Bytes) :
    nextRec rest =
      if rest.length < 16 then none
      else
        let pl := (rest.drop 16).take (decHdr (rest.take 16)).incl_len
        some ((decHdr (rest.take 16)).setPayload pl, 16 + pl.length) := by
  simp only [nextRec, RECORD_HEADER_SIZE]
  by_cases h : rest.length < 16
  · obtain ⟨s, hs⟩ := Rec_decodes.of_run_error (t := Rec.fresh) (buf := rest.take 16) (e := .value)
      (by rw [recRun, if_neg (by rw [List.length_take]; omega)])
    rw [if_pos h, hs]
  · rw [if_neg h, Rec_decodes.of_run (t := Rec.fresh) (buf := rest.take 16) (s := decHdr (rest.take 16)) (r := ())
      (by rw [recRun, if_pos (by rw [List.length_take]; omega)])]
    simp only [List.length_take, Nat.min_eq_left (Nat.le_of_not_lt h)]

theorem nextRec_eq_none (rest : Bytes) : nextRec rest = none ↔ rest.length < 16 := by
  rw [nextRec_eq]
  split <;> simp [*]

theorem nextRec_short (rest : Bytes) (h : rest.length < 16) : nextRec rest = none :=
  (nextRec_eq_none rest).2 h

theorem nextRec_some (rest : Bytes) (r : Rec) (n : Nat) (h : nextRec rest = some (r, n)) :
    16 ≤ n ∧ n ≤ rest.length ∧ n = 16 + r.payload.length ∧ r.incl_len = r.payload.length ∧ r.orig_len = r.payload.length := by
  rw [nextRec_eq] at h
  split at h
  · cases h
  · simp only [Option.some.injEq, Prod.mk.injEq] at h
    obtain ⟨rfl, rfl⟩ := h
    simp only [Rec.setPayload, List.length_take, List.length_drop]
    exact ⟨by omega, by omega, trivial, trivial, trivial⟩

theorem nextRec_hdr (r : Rec) (tail : Bytes) (h : Rec_fits r) :
    nextRec (recHdr r ++ tail) = some (r.setPayload (tail.take r.incl_len), 16 + (tail.take r.incl_len).length) := by
  have ht : List.take 16 (recHdr r ++ tail) = recHdr r := take_append_len _ _ _ (by simp)
  have hd : List.drop 16 (recHdr r ++ tail) = tail := drop_append_len _ _ _ (by simp)
  rw [nextRec_eq, if_neg (by simp), ht, hd, decHdr_recHdr r h]
  rfl

theorem nextRec_recBytes (r : Rec) (rest : Bytes) (h : Rec_WF r) :
    nextRec (recBytes r ++ rest) = some (r, 16 + r.payload.length) := by
  rw [recBytes, List.append_assoc, nextRec_hdr r _ h.fits, h.2.2.1, take_append_len _ _ _ rfl, h.setPayload_self]

theorem nextRec_cut (r : Rec) (m : Nat) (h : Rec_WF r) (hm : m < r.payload.length) :
    nextRec (recHdr r ++ r.payload.take m) = some (r.setPayload (r.payload.take m), 16 + m) := by
  rw [nextRec_hdr r _ h.fits, List.take_of_length_le (by rw [List.length_take, h.2.2.1]; omega), List.length_take,
    Nat.min_eq_left (by omega)]

/-- `Pcap.next` as a step of the record loop: StopIteration is the step's failure -/
def recStep (b : Bytes) : R (Rec × Nat) :=
  match nextRec b with
  | none => .error .value
  | some x => .ok x

/-- a complete record header is left -/
def recMore (off len : Nat) : Bool := off + 16 ≤ len

theorem recStep_ok {b : Bytes} {r : Rec} {n : Nat} (h : recStep b = .ok (r, n)) : nextRec b = some (r, n) := by
  unfold recStep at h
  split at h
  · cases h
  · next x hx => cases h; exact hx

theorem recMore_iff (buf : Bytes) (off : Nat) : recMore off buf.length = true ↔ nextRec (buf.drop off) ≠ none := by
  rw [Ne, nextRec_eq_none, List.length_drop, recMore, decide_eq_true_eq]
  omega

theorem recs_succ (buf : Bytes) (fuel off : Nat) :
    decOff recStep recMore buf (fuel + 1) off =
      match nextRec (buf.drop off) with
      | none => .ok []
      | some (r, n) => (decOff recStep recMore buf fuel (off + n)).map (r :: ·) := by
  rw [decOff]
  cases hn : nextRec (buf.drop off) with
  | none => rw [if_neg (by rw [recMore_iff, hn]; simp)]
  | some p =>
    obtain ⟨r, n⟩ := p
    rw [if_pos (by rw [recMore_iff, hn]; simp), recStep, hn]
    dsimp only
    cases decOff recStep recMore buf fuel (off + n) <;> rfl

theorem recs_at (pre x : Bytes) (fuel : Nat) :
    decOff recStep recMore (pre ++ x) (fuel + 1) pre.length =
      match nextRec x with
      | none => .ok []
      | some (r, n) => (decOff recStep recMore (pre ++ x) fuel (pre.length + n)).map (r :: ·) := by
  rw [recs_succ, List.drop_left]

theorem recStep_stride (b : Bytes) (r : Rec) (n : Nat) (h : recStep b = .ok (r, n)) : 16 ≤ n ∧ n ≤ b.length :=
  have ⟨h1, h2, _⟩ := nextRec_some b r n (recStep_ok h)
  ⟨h1, h2⟩

theorem recStep_progress : Progress recStep where
  pos := fun b r n h => by have := recStep_stride b r n h; omega
  nofuel := fun b h => by unfold recStep at h; split at h <;> cases h
  empty := fun r n h => by have := recStep_stride [] r n h; simp at this; omega

/-- fuel: one iteration per 16 bytes, plus the stopping one -/
theorem recs_ok (buf : Bytes) (fuel off : Nat) (hf : (buf.length - off) / 16 + 1 ≤ fuel) :
    ∃ rs, decOff recStep recMore buf fuel off = .ok rs :=
  decOff_total recStep recMore buf 16 (by decide) recStep_stride
    (fun o e hm hd => by
      rw [recMore_iff] at hm
      unfold recStep at hd
      split at hd
      · next hn => exact hm hn
      · cases hd)
    fuel off hf

theorem recs_items_le (buf : Bytes) (fuel off : Nat) (rs : List Rec) (h : decOff recStep recMore buf fuel off = .ok rs) :
    rs.length * 16 ≤ buf.length - off :=
  decOff_items_stride_exact recStep recMore buf 16 recStep_stride fuel off rs h

/-- the record the reader returns when only the first `m` payload bytes are there -/
def shorten (r : Rec) (m : Nat) : Rec := r.setPayload (r.payload.take m)

/-- what reading the first `n` bytes of `rs.flatMap recBytes` yields (the statement of C05, as a function):
    every record completely present, then — if the next header is complete — that record shortened -/
def truncSpec : List Rec → Nat → List Rec
  | [], _ => []
  | r :: rs, n =>
    if n < 16 then []
    else if n < 16 + r.payload.length then [shorten r (n - 16)]
    else r :: truncSpec rs (n - (16 + r.payload.length))

def bytesOf (rs : List Rec) : Nat := (rs.flatMap recBytes).length

@[simp] theorem bytesOf_nil : bytesOf [] = 0 := rfl
@[simp] theorem bytesOf_cons (r : Rec) (rs : List Rec) : bytesOf (r :: rs) = 16 + r.payload.length + bytesOf rs := by
  simp [bytesOf]

/-- the bytes already read are carried as `pre`; fuel: one iteration per 16 of the `min n (bytesOf rs)` bytes that are
    there, plus the stopping one (the model's `fuelFor`, one per byte, is more) -/
theorem recs_truncated (rs : List Rec) (n fuel : Nat) (pre : Bytes) (hwf : ∀ r ∈ rs, Rec_WF r)
    (hf : min n (bytesOf rs) / 16 + 1 ≤ fuel) :
    decOff recStep recMore (pre ++ (rs.flatMap recBytes).take n) fuel pre.length = .ok (truncSpec rs n) := by
  induction rs generalizing n fuel pre with
  | nil =>
    obtain ⟨fuel, rfl⟩ : ∃ k, fuel = k + 1 := ⟨fuel - 1, by omega⟩
    rw [recs_at, nextRec_short _ (by simp)]; rfl
  | cons r rs ih =>
    have hr := hwf r (by simp)
    obtain ⟨fuel, rfl⟩ : ∃ k, fuel = k + 1 := ⟨fuel - 1, by omega⟩
    rw [bytesOf_cons] at hf
    rw [List.flatMap_cons, truncSpec, recs_at]
    by_cases h16 : n < 16
    · rw [if_pos h16, nextRec_short _ (Nat.lt_of_le_of_lt (List.length_take_le _ _) h16)]
    · rw [if_neg h16]
      by_cases hcut : n < 16 + r.payload.length
      · have e : List.take n (recBytes r ++ rs.flatMap recBytes) = recHdr r ++ r.payload.take (n - 16) := by
          rw [List.take_append_of_le_length (by rw [recBytes_length]; omega), recBytes,
            take_prefix_append _ _ _ (by rw [recHdr_length]; omega), recHdr_length]
        obtain ⟨fuel, rfl⟩ : ∃ k, fuel = k + 1 := ⟨fuel - 1, by omega⟩
        rw [if_pos hcut, e, nextRec_cut r (n - 16) hr (by omega)]
        dsimp only
        rw [recs_succ, nextRec_short _ (by simp [List.length_take]; omega)]
        rfl
      · have e : List.take n (recBytes r ++ rs.flatMap recBytes) =
            recBytes r ++ (rs.flatMap recBytes).take (n - (16 + r.payload.length)) := by
          rw [take_prefix_append _ _ _ (by rw [recBytes_length]; omega), recBytes_length]
        rw [if_neg hcut, e, nextRec_recBytes r _ hr]
        dsimp only
        have := ih (n - (16 + r.payload.length)) fuel (pre ++ recBytes r)
          (fun x hx => hwf x (List.mem_cons_of_mem _ hx)) (by omega)
        rw [List.length_append, recBytes_length, List.append_assoc] at this
        rw [this]
        rfl

theorem truncSpec_all (rs : List Rec) (n : Nat) (h : bytesOf rs ≤ n) : truncSpec rs n = rs := by
  induction rs generalizing n with
  | nil => rfl
  | cons r rs ih =>
    rw [bytesOf_cons] at h
    rw [truncSpec, if_neg (by omega), if_neg (by omega), ih _ (by omega)]

theorem recs_all (pre : Bytes) (rs : List Rec) (fuel : Nat) (hwf : ∀ r ∈ rs, Rec_WF r) (hf : bytesOf rs / 16 + 1 ≤ fuel) :
    decOff recStep recMore (pre ++ rs.flatMap recBytes) fuel pre.length = .ok rs := by
  have := recs_truncated rs (bytesOf rs) fuel pre hwf (by rwa [Nat.min_self])
  rwa [List.take_of_length_le (Nat.le_refl (bytesOf rs)), truncSpec_all _ _ (Nat.le_refl _)] at this

end Acra.Lemmas.Pcap
