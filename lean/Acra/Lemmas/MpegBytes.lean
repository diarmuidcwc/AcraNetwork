/-
  Byte-string surgery for the "one byte of the buffer changed" statements of the MPEG family: in which part of a
  concatenation a distinguished element lies, what a read at a fixed index sees of the change, two-byte big-endian reads,
  a flipped bit as a changed byte.  Nothing here mentions a packet format.
-/
import Acra.Py.Struct
import Acra.Lemmas.CRC
namespace Acra.Lemmas.MpegBytes
open Acra.Py

theorem split_right {α} (A B pre suf : List α) (a : α) (h : A ++ B = pre ++ a :: suf) (hl : A.length ≤ pre.length) :
    ∃ pre2, pre = A ++ pre2 ∧ B = pre2 ++ a :: suf := by
  rcases List.append_eq_append_iff.mp h with ⟨m, h1, h2⟩ | ⟨m, h1, h2⟩
  · exact ⟨m, h1, h2⟩
  · cases m with
    | nil => exact ⟨[], by simpa using h1.symm, by simpa using h2.symm⟩
    | cons x xs =>
      have := congrArg List.length h1
      simp at this; omega

theorem split_left {α} (A B pre suf : List α) (a : α) (h : A ++ B = pre ++ a :: suf) (hl : pre.length < A.length) :
    ∃ suf1, A = pre ++ a :: suf1 ∧ suf = suf1 ++ B := by
  rcases List.append_eq_append_iff.mp h with ⟨m, h1, h2⟩ | ⟨m, h1, h2⟩
  · have := congrArg List.length h1
    simp at this; omega
  · cases m with
    | nil =>
      have := congrArg List.length h1
      simp at this; omega
    | cons x xs =>
      simp only [List.cons_append, List.cons.injEq] at h2
      obtain ⟨rfl, rfl⟩ := h2
      exact ⟨xs, h1, rfl⟩

theorem length_changed {α} (pre suf : List α) (a a' : α) : (pre ++ a' :: suf).length = (pre ++ a :: suf).length := by
  simp

theorem getD_changed_ne {α} (pre suf : List α) (a a' d : α) (k : Nat) (h : pre.length ≠ k) :
    (pre ++ a' :: suf).getD k d = (pre ++ a :: suf).getD k d := by
  simp only [List.getD_eq_getElem?_getD]
  by_cases hk : k < pre.length
  · rw [List.getElem?_append_left hk, List.getElem?_append_left hk]
  · have hk' : pre.length ≤ k := by omega
    rw [List.getElem?_append_right hk', List.getElem?_append_right hk']
    obtain ⟨m, hm⟩ : ∃ m, k - pre.length = m + 1 := ⟨k - pre.length - 1, by omega⟩
    rw [hm]; rfl

theorem getD_changed_eq {α} (pre suf : List α) (a d : α) : (pre ++ a :: suf).getD pre.length d = a := by
  simp [List.getD_eq_getElem?_getD]

theorem low12_changed (pre suf : Bytes) (a a' : UInt8) (k : Nat) (h2 : pre.length ≠ k + 1)
    (h1 : pre.length = k → a.toNat % 16 = a'.toNat % 16) :
    (((pre ++ a' :: suf).getD k 0).toNat * 256 + ((pre ++ a' :: suf).getD (k + 1) 0).toNat) % 4096 =
      (((pre ++ a :: suf).getD k 0).toNat * 256 + ((pre ++ a :: suf).getD (k + 1) 0).toNat) % 4096 := by
  rw [getD_changed_ne pre suf a a' 0 (k + 1) h2]
  by_cases c : pre.length = k
  · subst c
    rw [getD_changed_eq, getD_changed_eq]
    have := h1 rfl
    omega
  · rw [getD_changed_ne pre suf a a' 0 k c]

theorem one_diff_middle {α} (F B B' T pre suf : List α) (a a' : α) (hne : a ≠ a') (hl : B.length = B'.length)
    (h : F ++ (B ++ T) = pre ++ a :: suf) (h' : F ++ (B' ++ T) = pre ++ a' :: suf) :
    ∃ p q, B = p ++ a :: q ∧ B' = p ++ a' :: q := by
  by_cases c1 : pre.length < F.length
  · obtain ⟨s1, e1, _⟩ := split_left _ _ pre suf a h c1
    obtain ⟨s2, e2, _⟩ := split_left _ _ pre suf a' h' c1
    rw [e1] at e2
    have := List.append_cancel_left e2
    simp only [List.cons.injEq] at this
    exact absurd this.1 hne
  · obtain ⟨pre2, rfl, e1⟩ := split_right _ _ pre suf a h (by omega)
    have e2 : B' ++ T = pre2 ++ a' :: suf := by
      rw [List.append_assoc] at h'
      exact List.append_cancel_left h'
    by_cases c2 : pre2.length < B.length
    · obtain ⟨s1, b1, t1⟩ := split_left _ _ pre2 suf a e1 c2
      obtain ⟨s2, b2, t2⟩ := split_left _ _ pre2 suf a' e2 (by omega)
      rw [t1] at t2
      have := List.append_cancel_right t2
      subst this
      exact ⟨pre2, s1, b1, b2⟩
    · obtain ⟨p3, r1, t1⟩ := split_right _ _ pre2 suf a e1 (by omega)
      obtain ⟨p4, r2, t2⟩ := split_right _ _ pre2 suf a' e2 (by omega)
      have hl34 : p3.length = p4.length := by
        have := congrArg List.length r1
        have := congrArg List.length r2
        simp only [List.length_append] at *
        omega
      rw [t1] at t2
      have := (List.append_inj t2 hl34).2
      simp only [List.cons.injEq] at this
      exact absurd this.1 hne

theorem beNat_inj (x y : Bytes) (hl : x.length = y.length) (h : beNat x = beNat y) : x = y := by
  have hx := beBytes_beNat x
  have hy := beBytes_beNat y
  rw [← hx, ← hy, hl, h]

theorem beNat_pair (P : Bytes) (k : Nat) (h : k + 2 ≤ P.length) :
    beNat ((P.drop k).take 2) = (P.getD k 0).toNat * 256 + (P.getD (k + 1) 0).toNat := by
  have h0 : k < P.length := by omega
  have h1 : k + 1 < P.length := by omega
  rw [List.drop_eq_getElem_cons h0, List.take_succ_cons, List.drop_eq_getElem_cons h1, List.take_succ_cons, List.take_zero]
  simp only [List.getD_eq_getElem?_getD, List.getElem?_eq_getElem h0, List.getElem?_eq_getElem h1, Option.getD_some,
    beNat, leNat, List.reverse_cons, List.reverse_nil, List.nil_append, List.cons_append]
  omega

theorem slice_one_changed (pre suf : Bytes) (a : UInt8) (lo hi : Nat) (h1 : lo ≤ pre.length) (h2 : pre.length < hi) :
    slice (pre ++ a :: suf) lo hi = List.drop lo pre ++ a :: List.take (hi - pre.length - 1) suf := by
  obtain ⟨k, hk⟩ : ∃ k, hi - pre.length = k + 1 := ⟨hi - pre.length - 1, by omega⟩
  have hk' : hi - pre.length - 1 = k := by omega
  simp only [slice]
  rw [List.take_append, hk', hk]
  have : List.take hi pre = pre := List.take_of_length_le (by omega)
  rw [this, List.take_succ_cons, List.drop_append_of_le_length h1]

theorem slice_after_changed (pre suf : Bytes) (a : UInt8) (lo hi : Nat) (h : pre.length < lo) :
    slice (pre ++ a :: suf) lo hi = slice suf (lo - pre.length - 1) (hi - pre.length - 1) := by
  rw [show pre ++ a :: suf = (pre ++ [a]) ++ suf by simp, slice_skip _ _ _ _ (by simp; omega), List.length_append,
    List.length_singleton, Nat.sub_add_eq, Nat.sub_add_eq]

theorem flip_nibble (b : UInt8) (j : Nat) (hj : j < 8) (h4 : 4 ≤ j) :
    b.toNat % 16 = (b ^^^ ((1 : UInt8) <<< UInt8.ofNat j)).toNat % 16 := by
  have hm : ((1 : UInt8) <<< UInt8.ofNat j).toNat % 2 ^ 4 = 0 := by
    obtain rfl | rfl | rfl | rfl : j = 4 ∨ j = 5 ∨ j = 6 ∨ j = 7 := by omega
    all_goals rfl
  rw [UInt8.toNat_xor, show 16 = 2 ^ 4 from rfl, Nat.xor_mod_two_pow, hm, Nat.xor_zero]

theorem flipBit_split (buf : Bytes) (k : Nat) (h : k / 8 < buf.length) :
    ∃ pre a suf, buf = pre ++ a :: suf ∧ pre.length = k / 8 ∧
      Acra.Lemmas.CRC.flipBit buf k = pre ++ (a ^^^ ((1 : UInt8) <<< UInt8.ofNat (k % 8))) :: suf := by
  refine ⟨buf.take (k / 8), buf[k / 8], buf.drop (k / 8 + 1), ?_, by simp; omega, ?_⟩
  · simp
  · unfold Acra.Lemmas.CRC.flipBit
    rw [List.getD_eq_getElem?_getD, List.getElem?_eq_getElem h]
    simp [List.set_eq_take_append_cons_drop, h]

end Acra.Lemmas.MpegBytes
