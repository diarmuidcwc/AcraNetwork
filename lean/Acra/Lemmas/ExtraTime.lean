/-
  ptptime / nanotime.  The float idioms of the two modules — `int(a / d)`,
  `int(n / 1000.0)`, the digits of `digitSplit`, `int(td.total_seconds())` — are exact integer arithmetic below 2^53
  (`Lemmas.Float`: only the two facts of `rne_floatSem` are used; the models name `rne` itself); the BCD helpers read and
  write lists of nibbles.
-/
import Acra.Lemmas.Bits
import Acra.Lemmas.Float
import Acra.Model.ExtraTime
import Acra.Lemmas.Datetime
namespace Acra.Lemmas.ExtraTime
open Acra.Py Acra.Py.Float Acra.Lemmas.Float Acra.Model.ExtraTime

theorem floorNat_rne_div (a d : ℕ) (ha : a < 2 ^ 53) (hd : 0 < d) :
    floorNat (rne ((a : ℚ) / (d : ℚ))) = a / d :=
  rne_floatSem.floor_div a d ha hd

theorem rneI_nonneg (q : ℚ) (h : 0 ≤ q) : rneI q = rne q := by
  unfold rneI; rw [if_neg (not_lt.mpr h)]

theorem truncI_nonneg (x : ℚ) (h : 0 ≤ x) : truncI x = ((floorNat x : ℕ) : ℤ) := by
  unfold truncI; rw [if_neg (not_lt.mpr h)]

theorem intDivF_nat (n d : ℕ) (hn : n < 2 ^ 53) (hd : 0 < d) : intDivF (n : ℤ) d = ((n / d : ℕ) : ℤ) := by
  have hq : (0 : ℚ) ≤ (n : ℚ) / (d : ℚ) := by positivity
  unfold intDivF
  rw [Int.cast_natCast, rneI_nonneg _ hq, truncI_nonneg _ (rne_floatSem.nonneg hq), floorNat_rne_div n d hn hd]

/-- `int(n / 1000.0)`: the conversion of `n < 2^53` to binary64 is exact, so this is integer division too -/
theorem intDivFF_nat (n d : ℕ) (hn : n < 2 ^ 53) (hd : 0 < d) : intDivFF (n : ℤ) d = ((n / d : ℕ) : ℤ) := by
  have hc : rneI ((n : ℤ) : ℚ) = ((n : ℤ) : ℚ) := by
    rw [Int.cast_natCast, rneI_nonneg _ n.cast_nonneg, rne_exact n hn]
  unfold intDivFF
  rw [hc]
  exact intDivF_nat n d hn hd

theorem digit_floor (a i : ℕ) (ha : a < 2 ^ 53) :
    floorNat (rne ((a : ℚ) / ((10 ^ i : ℕ) : ℚ)) -
      ((10 * (rne ((a : ℚ) / ((10 ^ i : ℕ) : ℚ)) / 10).floor.toNat : ℕ) : ℚ)) = a / 10 ^ i % 10 := by
  rw [floorNat_sub_tens _ (rne_floatSem.nonneg (by positivity)),
    floorNat_rne_div a (10 ^ i) ha (Nat.pow_pos (by norm_num))]

/-- the number with the given digits in base `B`, least significant first -/
def ofDigits (B : Nat) : List Nat → Nat
  | [] => 0
  | d :: ds => d + B * ofDigits B ds

theorem ofDigits_eq_zero (ds : List Nat) (h : ofDigits 16 ds = 0) : ofDigits 10 ds = 0 := by
  induction ds with
  | nil => rfl
  | cons d ds ih =>
    simp only [ofDigits] at h ⊢
    rw [ih (by omega)]
    omega

/-- `bcdTointConvert` reads the nibbles of its argument as decimal digits (any nibble values, BCD or not): each
    turn of the loop takes the lowest nibble off `a` and adds it to `b` with the weight `10^i` -/
theorem bcdToIntLoop_nibbles (ds : List Nat) (hd : ∀ d ∈ ds, d < 16) :
    ∀ fuel b i, ofDigits 16 ds < fuel → bcdToIntLoop fuel (ofDigits 16 ds) b i = b + 10 ^ i * ofDigits 10 ds := by
  induction ds with
  | nil =>
    intro fuel b i h
    cases fuel with
    | zero => omega
    | succ k => simp [bcdToIntLoop, ofDigits]
  | cons d ds ih =>
    intro fuel b i h
    have hd0 : d < 16 := hd d List.mem_cons_self
    cases fuel with
    | zero => omega
    | succ k =>
      unfold bcdToIntLoop
      split
      · rename_i h0
        rw [ofDigits_eq_zero _ h0, Nat.mul_zero, Nat.add_zero]
      · rename_i h0
        simp only [ofDigits] at h h0 ⊢
        have e1 : (d + 16 * ofDigits 16 ds) >>> 4 = ofDigits 16 ds := by rw [Bits.shr]; omega
        have e2 : (d + 16 * ofDigits 16 ds) &&& 0xf = d := by rw [Bits.and_F]; omega
        rw [e1, e2, ih (fun x hx => hd x (List.mem_cons_of_mem _ hx)) k _ _ (by omega), Nat.pow_succ]
        ring

theorem bcdToInt_nibbles (ds : List Nat) (hd : ∀ d ∈ ds, d < 16) : bcdToInt (ofDigits 16 ds) = ofDigits 10 ds := by
  unfold bcdToInt
  rw [bcdToIntLoop_nibbles ds hd _ 0 0 (Nat.lt_succ_self _)]
  omega

theorem bcdToInt_digits4 (d0 d1 d2 d3 : Nat) (h0 : d0 < 16) (h1 : d1 < 16) (h2 : d2 < 16) (h3 : d3 < 16) :
    bcdToInt (d0 + 16 * d1 + 256 * d2 + 4096 * d3) = d0 + 10 * d1 + 100 * d2 + 1000 * d3 := by
  have e : ofDigits 16 [d0, d1, d2, d3] = d0 + 16 * d1 + 256 * d2 + 4096 * d3 := by simp only [ofDigits]; omega
  rw [← e, bcdToInt_nibbles _ (by simp; omega)]
  simp only [ofDigits]
  ring

theorem bcdToInt_nibbles4 (a : Nat) (ha : a < 65536) :
    bcdToInt a = a % 16 + 10 * (a / 16 % 16) + 100 * (a / 256 % 16) + 1000 * (a / 4096 % 16) := by
  have e : a % 16 + 16 * (a / 16 % 16) + 256 * (a / 256 % 16) + 4096 * (a / 4096 % 16) = a := by omega
  have h := bcdToInt_digits4 (a % 16) (a / 16 % 16) (a / 256 % 16) (a / 4096 % 16) (by omega) (by omega) (by omega) (by omega)
  rwa [e] at h

theorem ptpWord_eq (T us ns : Nat) (h : us * 1000 + ns < 4294967296) :
    ptpWord T us ns = T * 4294967296 + (us * 1000 + ns) := by
  unfold ptpWord
  exact Bits.shl_or T _ 32 h

theorem truncI_nonpos (x : ℚ) (h : x ≤ 0) : truncI x = -((floorNat (-x) : ℕ) : ℤ) := by
  unfold truncI
  split
  · rfl
  · have : x = 0 := le_antisymm h (not_lt.mp ‹_›)
    subst this; simp [floorNat]

theorem rneI_neg (q : ℚ) (h : 0 ≤ q) : rneI (-q) = -(rne q) := by
  unfold rneI
  split
  · simp
  · have : q = 0 := by linarith
    subst this; simp [rne]

theorem intDivFF_neg (m d : ℕ) (hm : m < 2 ^ 53) (hd : 0 < d) : intDivFF (-(m : ℤ)) d = -((m / d : ℕ) : ℤ) := by
  unfold intDivFF
  have hc : (((-(m : ℤ) : ℤ)) : ℚ) = -(m : ℚ) := by push_cast; rfl
  have h0 : (0 : ℚ) ≤ (m : ℚ) := by positivity
  have hq : (0 : ℚ) ≤ (m : ℚ) / (d : ℚ) := by positivity
  rw [hc, rneI_neg _ h0, rne_exact m hm, neg_div, rneI_neg _ hq,
    truncI_nonpos _ (neg_nonpos.mpr (rne_floatSem.nonneg hq)), neg_neg, floorNat_rne_div m d hm hd]

theorem tdCarry_nonneg (us : Int) (ns : Nat) (h : ns < 2 ^ 53) :
    tdCarry us ns = (us + ((ns / 1000 : ℕ) : ℤ), ns % 1000) := by
  unfold tdCarry
  have h1 : ¬ ((ns : ℤ) < 0) := by omega
  have h2 : ((ns : ℤ) % 1000).toNat = ns % 1000 := by omega
  simp only [h1, if_false, intDivFF_nat ns 1000 h (by norm_num), h2]

/-- `int(td.total_seconds())` is the idiom `int(n / 10**6)` applied to the microsecond total -/
theorem truncI_totalSeconds (d : TD) :
    truncI d.totalSeconds = intDivF ((d.days * 86400 + d.seconds) * 1000000 + d.microseconds) 1000000 := by
  unfold TD.totalSeconds intDivF
  rw [Nat.cast_ofNat]

/-- the `timedelta` built from `N = T·10^6 + us` microseconds (below 2^53) reports `N / 10^6` whole seconds -/
theorem sinceEpoch_seconds (T us ns : Nat) (hus : us < 1000000) (hns : ns < 1000) (hb : T * 1000000 + us < 9007199254740992) :
    ∃ d, tdMake 0 (T : ℤ) (us : ℤ) (ns : ℤ) = .ok d ∧ truncI d.totalSeconds = (T : ℤ) := by
  unfold tdMake
  rw [tdCarry_nonneg _ ns (by omega)]
  have hz : ns / 1000 = 0 := by omega
  simp only [hz]
  unfold tdOfMicros
  have hN : ((0 : ℤ) * 86400 + (T : ℤ)) * 1000000 + ((us : ℤ) + ((0 : ℕ) : ℤ)) = ((T * 1000000 + us : ℕ) : ℤ) := by
    push_cast; ring
  rw [hN]
  set N := T * 1000000 + us with hNdef
  have hdays : ((N : ℤ) / 86400000000) = ((N / 86400000000 : ℕ) : ℤ) := by omega
  have hrest : ((N : ℤ) % 86400000000).toNat = N % 86400000000 := by omega
  simp only [hdays, hrest]
  have hr : ¬ ((((N / 86400000000 : ℕ) : ℤ)) < -999999999 ∨ 999999999 < (((N / 86400000000 : ℕ) : ℤ))) := by
    omega
  rw [if_neg hr]
  refine ⟨_, rfl, ?_⟩
  have hrec : (((N / 86400000000 : ℕ) : ℤ) * 86400 + ((N % 86400000000 / 1000000 : ℕ) : ℤ)) * 1000000 +
      ((N % 86400000000 % 1000000 : ℕ) : ℤ) = (N : ℤ) := by omega
  rw [truncI_totalSeconds, hrec, intDivF_nat N 1000000 (by omega) (by norm_num), show N / 1000000 = T by omega]

theorem tdCarry_neg (us : Int) (m : Nat) (hm0 : 0 < m) (h : m < 2 ^ 53) :
    tdCarry us (-(m : ℤ)) = (us - 1 - ((m / 1000 : ℕ) : ℤ), (1000 - m % 1000) % 1000) := by
  unfold tdCarry
  have h1 : (-(m : ℤ)) < 0 := by omega
  have h2 : ((-(m : ℤ)) % 1000).toNat = (1000 - m % 1000) % 1000 := by omega
  simp only [h1, if_true, intDivFF_neg m 1000 h (by norm_num), h2]
  rw [Int.sub_eq_add_neg (a := us - 1)]

/-! ### timefromptp on words whose time lies in 1970 … 2099 -/
section
open Acra.Model.Ch11Pay.TimeFmt Acra.Lemmas.Datetime Acra.Lemmas.Ch11Calendar

theorem timefromptpParts_eq (T x L : Nat) (hT : T < 4102444800) (hL : L ≤ T) (hx : x < 1000000000) :
    timefromptpParts T x (L : Int) = .ok (ptOfDate (dateOfSeconds (T - L)) (x / 1000) (x % 1000) (.int L)) := by
  have hsub : ((T : Int) - (L : Int)) = ((T - L : Nat) : Int) := by omega
  have hle : ¬ ((L : Int) ≤ -1) := by omega
  have hu2 : ¬ (1000000 ≤ x / 1000) := by omega
  unfold timefromptpParts
  rw [fromTimestamp_eq T (by unfold DAYS; omega)]
  unfold tfpOffset
  dsimp only
  rw [if_neg hle, hsub, fromTimestamp_eq (T - L) (by unfold DAYS; omega)]
  unfold tfpFinish
  dsimp only
  rw [intDivF_nat x 1000 (by omega) (by norm_num), Int.toNat_natCast, if_neg hu2]

theorem ptOfDate_epoch (n us ns : Nat) (l : Leap) : (ptOfDate (dateOfSeconds n) us ns l).epochSeconds = (n : Int) :=
  toTimestamp_dateOfSeconds n

end

end Acra.Lemmas.ExtraTime
