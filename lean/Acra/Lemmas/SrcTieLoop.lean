/-
  The loop rules of the source ties.  A translated `for i in range(..)` is a `List.foldl(M)` over `(List.range N).map idx`,
  a translated `while` is `Py.whileLoopM` with fuel.  `for_ok` / `for_inv`: invariant rules for loops that do not raise.
  `for_tie` / `while_tie`: the tie with a model that is a recursion of its own (over the bytes still to come, over fuel).
-/
import Acra.Py.IntOps
namespace Acra.Lemmas.SrcTieLoop
open Acra Acra.Py

theorem for_ok {σ α : Type} (idx : Nat → α) (I : Nat → σ → Prop) (step : σ → α → R σ) (N : Nat)
    (h : ∀ n st, n < N → I n st → ∃ st', step st (idx n) = .ok st' ∧ I (n + 1) st') (st : σ) (h0 : I 0 st) :
    ∃ st', List.foldlM step st ((List.range N).map idx) = .ok st' ∧ I N st' := by
  induction N with
  | zero => exact ⟨st, rfl, h0⟩
  | succ N ih =>
    obtain ⟨s, h1, h2⟩ := ih (fun n st hn => h n st (by omega))
    obtain ⟨s', h3, h4⟩ := h N s (by omega) h2
    rw [List.range_succ, List.map_append, List.foldlM_append, h1]
    exact ⟨s', by simp only [List.map_cons, List.map_nil, List.foldlM_cons, List.foldlM_nil, ok_bind, h3]; rfl, h4⟩

theorem for_inv {σ α : Type} (idx : Nat → α) (I : Nat → σ → Prop) (step : σ → α → σ) (N : Nat)
    (h : ∀ n st, n < N → I n st → I (n + 1) (step st (idx n))) (st : σ) (h0 : I 0 st) :
    I N (List.foldl step st ((List.range N).map idx)) := by
  induction N with
  | zero => exact h0
  | succ N ih =>
    rw [List.range_succ, List.map_append, List.foldl_append]
    exact h N _ (by omega) (ih (fun n st hn => h n st (by omega)))

/-! `for_tie`, `while_tie`:
  `M n t` is the model's result from pass `n` (for `while`: with `n` passes allowed) in model state `t`; `φ` maps model
  states to translated states.  The step hypothesis is the loop equation with the rest of the translated loop as an
  unknown `K` that agrees with the model from the next pass on: each instance unfolds the model's recursion once and
  walks one pass, both sides in the goal. -/

theorem for_tie {σ τ α ρ : Type} (φ : τ → σ) (ψ : σ → ρ) (idx : Nat → α) (step : σ → α → R σ)
    (N : Nat) (M : Nat → τ → R ρ) (hend : ∀ t, M N t = .ok (ψ (φ t)))
    (hs : ∀ n t (K : σ → R ρ), n < N → (∀ t', K (φ t') = M (n + 1) t') → (step (φ t) (idx n) >>= K) = M n t) (t : τ) :
    (List.foldlM step (φ t) ((List.range N).map idx) >>= fun s => .ok (ψ s)) = M 0 t := by
  have key : ∀ k n, n + k = N → ∀ t,
      (List.foldlM step (φ t) ((List.range' n k).map idx) >>= fun s => .ok (ψ s)) = M n t := by
    intro k
    induction k with
    | zero => intro n hn t; subst hn; exact (hend t).symm
    | succ k ih =>
      intro n hn t
      rw [List.range'_succ, List.map_cons, List.foldlM_cons, bind_assoc]
      exact hs n t _ (by omega) (fun t' => ih (n + 1) (by omega) t')
  rw [List.range_eq_range']
  exact key N 0 (by omega) t

theorem while_tie {σ τ ρ : Type} (φ : τ → σ) (ψ : σ → ρ) (cond : σ → R Bool) (body : σ → R σ) (M : Nat → τ → R ρ)
    (h0 : ∀ t, M 0 t = .error .fuel)
    (hs : ∀ n t (K : σ → R ρ), (∀ t', K (φ t') = M n t') →
      (cond (φ t) >>= fun c => if c = true then body (φ t) >>= K else .ok (ψ (φ t))) = M (n + 1) t) :
    ∀ fuel t, (whileLoopM cond body fuel (φ t) >>= fun s => .ok (ψ s)) = M fuel t := by
  intro fuel
  induction fuel with
  | zero => intro t; exact (h0 t).symm
  | succ fuel ih =>
    intro t
    rw [← hs fuel t (fun s => whileLoopM cond body fuel s >>= fun s => .ok (ψ s)) ih]
    have e : whileLoopM cond body (fuel + 1) (φ t) =
        (cond (φ t) >>= fun c => if c = true then body (φ t) >>= whileLoopM cond body fuel else .ok (φ t)) := rfl
    rw [e, bind_assoc]
    refine congrArg _ (funext fun c => ?_)
    cases c
    · rfl
    · exact bind_assoc (body (φ t)) (whileLoopM cond body fuel) _

theorem while_tie_id {σ τ : Type} (φ : τ → σ) (cond : σ → R Bool) (body : σ → R σ) (M : Nat → τ → R σ)
    (h0 : ∀ t, M 0 t = .error .fuel)
    (hs : ∀ n t (K : σ → R σ), (∀ t', K (φ t') = M n t') →
      (cond (φ t) >>= fun c => if c = true then body (φ t) >>= K else .ok (φ t)) = M (n + 1) t)
    (fuel : Nat) (t : τ) : whileLoopM cond body fuel (φ t) = M fuel t := by
  rw [← while_tie φ id cond body M h0 hs fuel t]
  cases whileLoopM cond body fuel (φ t) <;> rfl

end Acra.Lemmas.SrcTieLoop
