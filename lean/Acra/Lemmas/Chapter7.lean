/-
  Chapter 7: PTDP and PTFR as codecs — the bytes `pack` emits, decoding of a (possibly corrupted) encoding,
  `unpack` on an arbitrary buffer as a function of its bytes, bit-field arithmetic of the header words;
  `PTFR.add_payload` in closed form (`addPayload_eq`); `__eq__` as the attributes it compares; at the end the
  vocabulary of the C10 / C20 statements about corrupted encodings (`xorBytes`, `corruptPTDP`, `corruptPTFR`; `noisyWord`
  is at the top).
-/
import Acra.Lemmas.Golay
import Acra.Lemmas.Decoder
import Acra.Model.Chapter7
import Acra.Spec.Chapter7

namespace Acra.Lemmas.Chapter7
open Acra.Py Acra.Model Acra.Model.Chapter7 Acra.Gen.Chapter7 Acra.Lemmas.Golay Acra.Lemmas.Bits Acra.Lemmas

/-- a Golay word carrying `x` with the error pattern `e` added in transmission -/
def noisyWord (x e : Nat) : Bytes := beBytes 3 (Golay.encode x ^^^ e)

@[simp] theorem noisyWord_length (x e : Nat) : (noisyWord x e).length = 3 := by simp [noisyWord]

theorem encodeStr_word (x : Nat) : Golay.encodeStr x = .ok (noisyWord x 0) := by
  simp [noisyWord, encodeStr_eq]

theorem noisyWord_zero_spec (x : Nat) : noisyWord x 0 = Spec.Golay.word x := by
  simp [noisyWord, Spec.Golay.word, encode_spec]

theorem decode_noisyWord (x e : Nat) (hx : x < 4096) (he : e < 2 ^ 24) (hw : wt e ≤ 3) :
    Golay.decodeBytes (noisyWord x e) = .ok x :=
  decode_corrects_bytes x e hx he hw

/-- the value the Golay decoder assigns to a 3-byte string (always defined: `decodeInt_ok`) -/
def gval (w : Bytes) : Nat :=
  match Golay.decodeBytes w with
  | .ok r => r
  | .error _ => 0

theorem gval_of_ok {w : Bytes} {r : Nat} (h : Golay.decodeBytes w = .ok r) : gval w = r := by
  simp only [gval, h]

theorem decodeBytes_gval (w : Bytes) (h : w.length = 3) : Golay.decodeBytes w = .ok (gval w) := by
  obtain ⟨r, hr⟩ := decodeInt_ok (beNat w)
  have : Golay.decodeBytes w = .ok r := by rw [decodeBytes_eq w h, hr]
  rw [gval_of_ok this, this]

/-- the PTDP header fields fit their bit fields and the payload fits one PTDP -/
def PTDP_WF (s : PTDP.State) : Prop := s.fragment < 4 ∧ s.content < 16 ∧ s.payload.length ≤ 2048

/-- first header word: content(4) | fragment(2) | length[15:12], the last being 0 for a length ≤ 2048 -/
def lswOf (s : PTDP.State) : Nat := s.content * 64 + s.fragment * 16

theorem lswOf_fields (s : PTDP.State) (hf : s.fragment < 4) (hc : s.content < 16) :
    lswOf s < 4096 ∧ lswOf s &&& 0xF = 0 ∧ (lswOf s >>> 4) &&& 0x3 = s.fragment ∧
      (lswOf s >>> 6) &&& 0xF = s.content := by
  simp only [and_F, and_3, shr, lswOf]
  omega

/-- the bytes of a well-formed PTDP -/
def encB (p : PTDP.State) : Bytes := noisyWord (lswOf p) 0 ++ noisyWord p.payload.length 0 ++ p.payload

theorem encB_length (p : PTDP.State) : (encB p).length = 6 + p.payload.length := by
  rw [encB, List.length_append, List.length_append, noisyWord_length, noisyWord_length]

/-- `PTDP.pack` never raises: the Golay encoder takes any integer -/
theorem ptdp_pack_any (s : PTDP.State) :
    PTDP.pack s = ({ s with length := s.payload.length },
      .ok (noisyWord ((s.payload.length >>> 12) + (s.fragment <<< 4) + (s.content <<< 6)) 0 ++
        noisyWord (s.payload.length &&& 0xFFF) 0 ++ s.payload)) := by
  unfold PTDP.pack
  simp only [encodeStr_word]

theorem ptdp_pack_eq (s : PTDP.State) (h : PTDP_WF s) :
    PTDP.pack s = ({ s with length := s.payload.length }, .ok (encB s)) := by
  obtain ⟨hf, hc, hp⟩ := h
  have h1 : (s.payload.length >>> 12) + (s.fragment <<< 4) + (s.content <<< 6) = lswOf s := by
    simp only [shr, shl, lswOf]; omega
  have h2 : s.payload.length &&& 0xFFF = s.payload.length := by rw [and_FFF]; omega
  rw [ptdp_pack_any, h1, h2, encB]

theorem ptdp_wire_spec (s : PTDP.State) (hp : s.payload.length ≤ 2048) :
    encB s = Spec.PTDP.encode s.fragment s.content s.payload := by
  rw [encB, Spec.PTDP.encode, noisyWord_zero_spec, noisyWord_zero_spec, lswOf,
    show s.payload.length / 4096 = 0 by omega, show s.payload.length % 4096 = s.payload.length by omega]
  rfl

/-- the length a PTDP header declares -/
def ptdpDeclared (b : Bytes) : Nat := gval (slice b 3 6) + ((gval (slice b 0 3) &&& 0xF) <<< 12)

/-- the object a successful `PTDP.unpack` of `b` leaves, whatever it held before -/
def ptdpOf (b : Bytes) : PTDP.State :=
  { payload := slice b 6 (6 + ptdpDeclared b), low_latency := false, length := ptdpDeclared b,
    content := (gval (slice b 0 3) >>> 6) &&& 0xF, fragment := (gval (slice b 0 3) >>> 4) &&& 0x3 }

-- stated by `simp only`: `rfl` would compare `slice …` with the projection by unfolding `slice` and evaluating
-- `6 + ptdpDeclared b` down to the Golay decoder
theorem ptdpOf_payload (b : Bytes) : (ptdpOf b).payload = slice b 6 (6 + ptdpDeclared b) := by simp only [ptdpOf]
theorem ptdpOf_length (b : Bytes) : (ptdpOf b).length = ptdpDeclared b := by simp only [ptdpOf]
theorem ptdpOf_low_latency (b : Bytes) : (ptdpOf b).low_latency = false := by simp only [ptdpOf]

/-- the outcome of `PTDP.unpack` on `b`: the three rejections in the order the code makes them, else
    the decoded object and the bytes after it -/
def ptdpRun (b : Bytes) : R (PTDP.State × Bytes) :=
  if b.length < 6 then .error .ptdpRemaining
  else if 2048 < ptdpDeclared b then .error .ptdpLength
  else if b.length - 6 < ptdpDeclared b then .error .ptdpRemaining
  else .ok (ptdpOf b, b.drop (6 + ptdpDeclared b))

theorem PTDP_decodes : Decodes PTDP.unpack (fun _ => ()) fun _ => ptdpRun := by
  intro t b
  show Agree (PTDP.unpack t b) (ptdpRun b)
  unfold ptdpRun PTDP.unpack
  by_cases h6 : b.length < 6
  · rw [if_pos h6, if_pos h6]
    rfl
  · have h6' : 6 ≤ b.length := Nat.not_lt.1 h6
    unfold ptdpOf ptdpDeclared
    simp only [h6, if_false, PTDP_MAX_LEN, gt_iff_lt, List.length_drop,
      decodeBytes_gval _ (slice_length_of_le b 0 3 (Nat.le_trans (by decide) h6')),
      decodeBytes_gval _ (slice_length_of_le b 3 6 h6')]
    -- the declared length as a variable, so that nothing below looks inside it
    generalize gval (slice b 3 6) + ((gval (slice b 0 3) &&& 0xF) <<< 12) = d
    by_cases hd : 2048 < d
    · simp only [hd, if_true]
      rfl
    · by_cases hb : b.length - 6 < d
      · simp only [hd, hb, if_true, if_false]
        rfl
      · have hp : ¬ 2048 < (slice b 6 (6 + d)).length := by rw [slice_length]; omega
        simp only [hd, hb, if_false, PTDP.setPayload, PTDP_MAX_LEN, gt_iff_lt, Nat.add_comm d 6, hp]
        rfl

theorem ptdp_unpack_short (t : PTDP.State) (b : Bytes) (h : b.length < 6) :
    (PTDP.unpack t b).2 = .error .ptdpRemaining :=
  (PTDP_decodes.error_iff t b _).2 (if_pos h)

theorem ptdpRun_ok (b r : Bytes) (p : PTDP.State) (h : ptdpRun b = .ok (p, r)) :
    6 ≤ b.length ∧ ptdpDeclared b ≤ 2048 ∧ ptdpDeclared b ≤ b.length - 6 ∧
      p = ptdpOf b ∧ r = b.drop (6 + ptdpDeclared b) := by
  rw [ptdpRun, R.ite_error_eq_ok, R.ite_error_eq_ok, R.ite_error_eq_ok] at h
  obtain ⟨h6, hd, hb, h⟩ := h
  obtain ⟨hp, hr⟩ := Prod.mk.inj (Except.ok.inj h)
  exact ⟨Nat.not_lt.1 h6, Nat.not_lt.1 hd, Nat.not_lt.1 hb, hp.symm, hr.symm⟩

/-- the low latency marking is not carried by the PTDP itself -/
theorem ptdp_unpack_ok_ll (t p : PTDP.State) (b rest : Bytes) (h : PTDP.unpack t b = (p, .ok rest)) :
    p.low_latency = false := by
  rw [(ptdpRun_ok b rest p ((PTDP_decodes.eq_ok_iff t b p rest).1 h)).2.2.2.1, ptdpOf_low_latency]

theorem ptdpOf_payload_length (b : Bytes) (hb : ptdpDeclared b ≤ b.length - 6) :
    (ptdpOf b).payload.length = ptdpDeclared b := by
  rw [ptdpOf_payload, slice_length]
  generalize ptdpDeclared b = d at hb ⊢
  omega

theorem ptdp_unpack_total (t : PTDP.State) (b : Bytes) :
    (∃ rest, (PTDP.unpack t b).2 = .ok rest) ∨ (PTDP.unpack t b).2 = .error .ptdpRemaining ∨
    (PTDP.unpack t b).2 = .error .ptdpLength :=
  R.ok_or_error fun e h => by
    simp only [PTDP_decodes.error_iff, ptdpRun, R.ite_error_eq_error, reduceCtorEq, and_false, or_false] at h
    rcases h with ⟨_, rfl⟩ | ⟨_, ⟨_, rfl⟩ | ⟨_, _, rfl⟩⟩ <;> simp

theorem ptdp_unpack_ok_len (t p : PTDP.State) (b rest : Bytes) (h : PTDP.unpack t b = (p, .ok rest)) :
    rest.length + 6 ≤ b.length ∧ rest.length + PTDP.len p = b.length := by
  obtain ⟨h6, _, hb, hp, hr⟩ := ptdpRun_ok b rest p ((PTDP_decodes.eq_ok_iff t b p rest).1 h)
  rw [hp, hr, PTDP.len, ptdpOf_payload_length b hb, List.length_drop, PTDP_HDR_LEN]
  generalize ptdpDeclared b = d at hb ⊢
  omega

theorem ptdp_unpack_append (t p : PTDP.State) (x y rest : Bytes) (h : PTDP.unpack t x = (p, .ok rest)) :
    PTDP.unpack t (x ++ y) = (p, .ok (rest ++ y)) := by
  obtain ⟨h6, hd, hb, hp, hr⟩ := ptdpRun_ok x rest p ((PTDP_decodes.eq_ok_iff t x p rest).1 h)
  have h3 : 3 ≤ x.length := Nat.le_trans (by decide) h6
  have e : ptdpDeclared (x ++ y) = ptdpDeclared x := by
    rw [ptdpDeclared, ptdpDeclared, slice_append_left (lo := 3) (hi := 6) x y h6, slice_append_left (lo := 0) (hi := 3) x y h3]
  rw [PTDP_decodes.eq_ok_iff, hp, hr, ptdpRun, if_neg (by rw [List.length_append]; omega), e, if_neg (Nat.not_lt.2 hd),
    if_neg (by rw [List.length_append]; omega), ptdpOf, e, ptdpOf]
  generalize ptdpDeclared x = d at hb ⊢
  rw [slice_append_left (lo := 0) (hi := 3) x y h3, slice_append_left (lo := 6) (hi := 6 + d) x y (by omega),
    List.drop_append_of_le_length (show 6 + d ≤ x.length by omega)]

theorem slice_words (w1 w2 body : Bytes) (h1 : w1.length = 3) (h2 : w2.length = 3) :
    slice (w1 ++ w2 ++ body) 0 3 = w1 ∧ slice (w1 ++ w2 ++ body) 3 6 = w2 ∧ (w1 ++ w2 ++ body).drop 6 = body := by
  simp [slice, List.take_append, List.drop_append, h1, h2]

theorem ptdpDeclared_append (w1 w2 body : Bytes) (h1 : w1.length = 3) (h2 : w2.length = 3) :
    ptdpDeclared (w1 ++ w2 ++ body) = gval w2 + ((gval w1 &&& 0xF) <<< 12) := by
  obtain ⟨e1, e2, _⟩ := slice_words w1 w2 body h1 h2
  rw [ptdpDeclared, e1, e2]

/-- `d` is a variable tied by `hd`, as in `PTDP_decodes`: nothing in the proof then looks inside the declared length -/
theorem ptdpRun_words (w1 w2 body : Bytes) (h1 : w1.length = 3) (h2 : w2.length = 3) (d : Nat)
    (hd : gval w2 + ((gval w1 &&& 0xF) <<< 12) = d) (h : d ≤ 2048) :
    ptdpRun (w1 ++ w2 ++ body) =
      if body.length < d then .error .ptdpRemaining
      else .ok ({ payload := body.take d, low_latency := false, length := d,
                  content := (gval w1 >>> 6) &&& 0xF, fragment := (gval w1 >>> 4) &&& 0x3 }, body.drop d) := by
  obtain ⟨e1, _, e3⟩ := slice_words w1 w2 body h1 h2
  have hlen : (w1 ++ w2 ++ body).length = 6 + body.length := by
    rw [List.length_append, List.length_append, h1, h2]
  unfold ptdpRun ptdpOf
  rw [ptdpDeclared_append w1 w2 body h1 h2, hd, e1, hlen, if_neg (by omega), if_neg (Nat.not_lt.2 h),
    Nat.add_sub_cancel_left, ← take_drop_slice, ← List.drop_drop, e3]

theorem ptdpRun_noisy (s : PTDP.State) (h : PTDP_WF s) (e1 e2 : Nat) (he1 : e1 < 2 ^ 24)
    (he2 : e2 < 2 ^ 24) (hw1 : wt e1 ≤ 3) (hw2 : wt e2 ≤ 3) (body : Bytes) :
    ptdpRun (noisyWord (lswOf s) e1 ++ noisyWord s.payload.length e2 ++ body) =
      if body.length < s.payload.length then .error .ptdpRemaining
      else .ok ({ s with payload := body.take s.payload.length, length := s.payload.length, low_latency := false },
        body.drop s.payload.length) := by
  obtain ⟨hf, hc, hp⟩ := h
  obtain ⟨hl, a1, a2, a3⟩ := lswOf_fields s hf hc
  have g1 := gval_of_ok (decode_noisyWord _ e1 hl he1 hw1)
  have g2 := gval_of_ok (decode_noisyWord _ e2 (Nat.lt_of_le_of_lt hp (by decide)) he2 hw2)
  rw [ptdpRun_words _ _ body (noisyWord_length _ _) (noisyWord_length _ _) s.payload.length
    (by rw [g1, g2, a1, Nat.zero_shiftLeft, Nat.add_zero]) hp, g1, a2, a3]

theorem ptdp_unpack_noisy (s t : PTDP.State) (h : PTDP_WF s) (e1 e2 : Nat) (he1 : e1 < 2 ^ 24)
    (he2 : e2 < 2 ^ 24) (hw1 : wt e1 ≤ 3) (hw2 : wt e2 ≤ 3) (rest : Bytes) :
    PTDP.unpack t (noisyWord (lswOf s) e1 ++ noisyWord s.payload.length e2 ++ (s.payload ++ rest)) =
      ({ s with length := s.payload.length, low_latency := false }, .ok rest) := by
  rw [PTDP_decodes.eq_ok_iff, ptdpRun_noisy s h e1 e2 he1 he2 hw1 hw2,
    if_neg (by rw [List.length_append]; exact Nat.not_lt.2 (Nat.le_add_right _ _)), List.take_left' rfl, List.drop_left' rfl]

theorem ptdp_unpack_clean (s t : PTDP.State) (h : PTDP_WF s) (rest : Bytes) :
    PTDP.unpack t (encB s ++ rest) = ({ s with length := s.payload.length, low_latency := false }, .ok rest) := by
  rw [encB, List.append_assoc]
  exact ptdp_unpack_noisy s t h 0 0 (by decide) (by decide) wt_zero_le wt_zero_le rest

theorem ptdp_unpack_prefix (p : PTDP.State) (h : PTDP_WF p) (m : Nat) (hm : m < (encB p).length)
    (t : PTDP.State) : (PTDP.unpack t ((encB p).take m)).2 = .error .ptdpRemaining := by
  rw [encB_length] at hm
  by_cases h6 : m < 6
  · rw [ptdp_unpack_short t _ (by rw [List.length_take]; omega)]
  · have hsplit : (encB p).take m = noisyWord (lswOf p) 0 ++ noisyWord p.payload.length 0 ++ p.payload.take (m - 6) := by
      rw [encB, List.take_append, List.take_of_length_le (by simp; omega), List.length_append, noisyWord_length,
        noisyWord_length]
    rw [PTDP_decodes.snd_eq, hsplit, ptdpRun_noisy p h 0 0 (by decide) (by decide) wt_zero_le wt_zero_le,
      if_pos (by rw [List.length_take]; omega)]
    rfl

/-- the header fields fit their bit fields (the offset its 11 bits) and the payload fills the frame: what `PTFR.pack`
    needs to emit the Chapter 7 layout -/
def PTFR_WF (s : PTFR.State) : Prop :=
  s.version < 4 ∧ s.streamid < 16 ∧ s.ptdp_offset < 2048 ∧ s.payload.length = s.length

/-- the protected word: LLP(1) | offset(11) -/
def protOf (s : PTFR.State) : Nat := s.ptdp_offset + (if s.llp then 2048 else 0)

theorem protOf_fields (s : PTFR.State) (ho : s.ptdp_offset < 2048) :
    protOf s < 4096 ∧ (((protOf s >>> 11) &&& 0x1) != 0) = s.llp ∧ protOf s &&& 0x7FF = s.ptdp_offset := by
  simp only [and_1, and_7FF, shr, protOf]
  cases s.llp <;> simp <;> omega

/-- the unprotected first byte: streamid(4) | 0(2) | version(2) -/
theorem byte0_fields (v sid : Nat) (hv : v < 4) (hs : sid < 16) :
    v + sid * 16 < 256 ∧ (v + sid * 16) &&& 0x3 = v ∧ ((v + sid * 16) >>> 4) &&& 0xF = sid := by
  simp only [and_3, and_F, shr]
  omega

/-- the bytes `PTFR.pack` returns for a well-formed frame -/
def wire (f : PTFR.State) : Bytes := beBytes 1 (f.version + f.streamid * 16) ++ noisyWord (protOf f) 0 ++ f.payload

theorem wire_length (f : PTFR.State) : (wire f).length = 4 + f.payload.length := by
  rw [wire, List.length_append, List.length_append, beBytes_length, noisyWord_length]

/-- `PTFR.pack` on every state: `Exception` unless the payload fills the frame, then `struct.error` if the first byte is
    not a byte -/
theorem ptfr_pack_any (s : PTFR.State) :
    PTFR.pack s = (s,
      if s.payload.length ≠ s.length then .error .generic
      else (structPack PTFR_pack_fmt0 [s.version + s.streamid * 16]).bind fun h =>
        .ok (h ++ noisyWord (protOf s) 0 ++ s.payload)) := by
  have hp : s.ptdp_offset + ((if s.llp then 1 else 0) <<< 11) = protOf s := by
    simp only [protOf, shl]; split <;> rfl
  unfold PTFR.pack
  rw [shl s.streamid 4, hp]
  split
  · rfl
  · cases structPack PTFR_pack_fmt0 [s.version + s.streamid * 16] with
    | error e => rfl
    | ok h => simp only [encodeStr_word]; rfl

theorem ptfr_pack_bytes (s : PTFR.State) (hb : s.version + s.streamid * 16 < 256) (hl : s.payload.length = s.length) :
    PTFR.pack s = (s, .ok (wire s)) := by
  rw [ptfr_pack_any, if_neg (fun h => h hl), wire]
  simp only [structPack, PTFR_pack_fmt0, packCodes, Code.bound, hb, if_true, Code.size, encInt, List.append_nil]
  rfl

theorem ptfr_pack_eq (s : PTFR.State) (h : PTFR_WF s) : PTFR.pack s = (s, .ok (wire s)) :=
  ptfr_pack_bytes s (byte0_fields _ _ h.1 h.2.1).1 h.2.2.2

theorem pack_wire (f : PTFR.State) (h : PTFR_WF f) : (PTFR.pack f).2 = .ok (wire f) := by
  rw [ptfr_pack_eq f h]

theorem ptfr_wire_spec (s : PTFR.State) :
    wire s = Spec.PTFR.encode s.version s.streamid s.llp s.ptdp_offset s.payload := by
  rw [wire, Spec.PTFR.encode, noisyWord_zero_spec, protOf, Nat.add_comm s.version, Nat.add_comm s.ptdp_offset]

/-- the object a successful `PTFR.unpack` of `b` leaves in an object whose `length` option is `L` -/
def ptfrOf (L : Nat) (b : Bytes) : PTFR.State :=
  { version := decInt true (slice b 0 1) &&& 0x3, streamid := (decInt true (slice b 0 1) >>> 4) &&& 0xF,
    llp := ((gval (slice b 1 4) >>> 11) &&& 0x1) != 0, ptdp_offset := gval (slice b 1 4) &&& 0x7FF, length := L,
    payload := b.drop 4 }

/-- the outcome of `PTFR.unpack` on `b`; of the prior state only the `length` option `L` is read, as the bound on the
    payload.  Fewer than the 4 header bytes: `struct.error` on the empty buffer, else the Golay decoder's `Exception`;
    a payload longer than `L`: the setter's `Exception` -/
def ptfrRun (L : Nat) (b : Bytes) : R (PTFR.State × Unit) :=
  if 4 ≤ b.length ∧ b.length - 4 ≤ L then .ok (ptfrOf L b, ()) else .error (if b = [] then .struct else .generic)

theorem PTFR_decodes : Decodes PTFR.unpack (·.length) ptfrRun := by
  intro t b
  show Agree (PTFR.unpack t b) (ptfrRun t.length b)
  unfold ptfrRun PTFR.unpack
  rw [unpack_u8 PTFR_unpack_fmt0 rfl]
  cases b with
  | nil => rfl
  | cons x xs =>
    have hne : (x :: xs) ≠ [] := List.cons_ne_nil _ _
    rw [if_pos (by rw [List.length_cons]; omega), if_neg hne]
    by_cases h4 : 4 ≤ (x :: xs).length
    · simp only [decodeBytes_gval _ (slice_length_of_le (x :: xs) 1 4 h4), PTFR.setPayload, List.length_nil,
        Nat.add_zero, gt_iff_lt, List.nil_append, List.length_drop]
      by_cases hL : (x :: xs).length - 4 ≤ t.length
      · rw [if_neg (Nat.not_lt.2 hL), if_pos ⟨h4, hL⟩]
        rfl
      · rw [if_pos (Nat.lt_of_not_le hL), if_neg (fun h => hL h.2)]
        rfl
    · have hs : (slice (x :: xs) 1 4).length ≠ 3 := by rw [slice_length]; omega
      rw [if_neg (fun h => h4 h.1)]
      simp only [decodeBytes_bad _ hs]
      rfl

theorem ptfrRun_words (L byte_ : Nat) (w body : Bytes) (p : Nat) (hb : byte_ < 256) (hw : w.length = 3)
    (d : Golay.decodeBytes w = .ok p) :
    ptfrRun L (beBytes 1 byte_ ++ w ++ body) =
      if body.length ≤ L then
        .ok ({ version := byte_ &&& 0x3, streamid := (byte_ >>> 4) &&& 0xF, llp := ((p >>> 11) &&& 0x1) != 0,
               ptdp_offset := p &&& 0x7FF, length := L, payload := body }, ())
      else .error .generic := by
  have e : decInt true (slice (beBytes 1 byte_ ++ w ++ body) 0 1) = byte_ ∧
      slice (beBytes 1 byte_ ++ w ++ body) 1 4 = w ∧ (beBytes 1 byte_ ++ w ++ body).drop 4 = body := by
    simp [slice, List.take_append, List.drop_append, hw, decInt, beNat_beBytes_of_lt 1 byte_ hb]
  have hlen : (beBytes 1 byte_ ++ w ++ body).length = 4 + body.length := by
    rw [List.length_append, List.length_append, beBytes_length, hw]
  have hne : beBytes 1 byte_ ++ w ++ body ≠ [] := fun h => by rw [h] at hlen; simp at hlen; omega
  unfold ptfrRun ptfrOf
  rw [e.1, e.2.1, e.2.2, gval_of_ok d, hlen, if_neg hne]
  by_cases hL : body.length ≤ L
  · rw [if_pos hL, if_pos ⟨by omega, by omega⟩]
  · rw [if_neg hL, if_neg (fun h => hL (by omega))]

theorem ptfr_unpack_noisy (s t : PTFR.State) (hv : s.version < 4) (hs : s.streamid < 16)
    (ho : s.ptdp_offset < 2048) (e : Nat) (he : e < 2 ^ 24) (hw : wt e ≤ 3) (hL : s.payload.length ≤ t.length) :
    PTFR.unpack t (beBytes 1 (s.version + s.streamid * 16) ++ noisyWord (protOf s) e ++ s.payload) =
      ({ s with length := t.length }, .ok ()) := by
  obtain ⟨hb, a1, a2⟩ := byte0_fields _ _ hv hs
  obtain ⟨hp, a3, a4⟩ := protOf_fields s ho
  rw [PTFR_decodes.eq_ok_iff,
    ptfrRun_words t.length _ _ _ (protOf s) hb (noisyWord_length _ _) (decode_noisyWord _ _ hp he hw),
    if_pos hL, a1, a2, a3, a4]

theorem ptfr_unpack_clean (s t : PTFR.State) (h : PTFR_WF s) (hL : s.payload.length ≤ t.length) :
    PTFR.unpack t (wire s) = ({ s with length := t.length }, .ok ()) :=
  ptfr_unpack_noisy s t h.1 h.2.1 h.2.2.1 0 (by decide) wt_zero_le hL

/-- the last step of `add_payload`: the frame keeps `length` bytes, the rest is handed back -/
def cutFrame (s : PTFR.State) : PTFR.State × Bytes :=
  if s.payload.length > s.length then ({ s with payload := s.payload.take s.length }, s.payload.drop s.length)
  else (s, [])

theorem cutFrame_fits (s : PTFR.State) (h : s.payload.length ≤ s.length) : cutFrame s = (s, []) :=
  if_neg (Nat.not_lt.2 h)

theorem cutFrame_facts (s : PTFR.State) :
    (cutFrame s).1.length = s.length ∧ (cutFrame s).1.version = s.version ∧ (cutFrame s).1.streamid = s.streamid ∧
    (cutFrame s).1.payload.length ≤ s.length ∧ ((cutFrame s).2 ≠ [] → (cutFrame s).1.payload.length = s.length) ∧
    (cutFrame s).1.payload.length + (cutFrame s).2.length = s.payload.length := by
  unfold cutFrame
  split
  · refine ⟨rfl, rfl, rfl, ?_, fun _ => ?_, ?_⟩ <;> simp only [List.length_take, List.length_drop] <;> omega
  · rename_i h
    exact ⟨rfl, rfl, rfl, Nat.le_of_not_lt h, fun h => absurd rfl h, rfl⟩

theorem byte1_val (f : Fmt) (v : Nat) (hf : f = ⟨true, [.u8]⟩) (hv : v < 256) : PTFR.byte1 f v = [UInt8.ofNat v] := by
  subst hf
  simp [PTFR.byte1, structPack, packCodes, Code.bound, hv, Code.size, encInt, beBytes, leBytes,
    Nat.mod_eq_of_lt hv]

/-- `add_payload` before the cut: a normal buffer goes behind what the frame holds; a low-latency one goes in front,
    followed by its continuation byte (0xFF if low-latency data follow, else 0x00), and the offset points behind the
    low-latency data -/
def placed (s : PTFR.State) (buf : Bytes) (isLlp : Bool) : PTFR.State :=
  if isLlp then
    { s with
      llp := true,
      ptdp_offset := (if 0 < s.payload.length ∧ s.llp = true then s.ptdp_offset else 0) + (buf.length + 1),
      payload := buf ++ [if 0 < s.payload.length ∧ s.llp = true then 0xFF else 0x00] ++ s.payload }
  else { s with payload := s.payload ++ buf }

theorem addPayload_eq (s : PTFR.State) (buf : Bytes) (isLlp : Bool) :
    PTFR.addPayload s buf isLlp = cutFrame (placed s buf isLlp) := by
  have hb0 : PTFR.byte1 PTFR_add_payload_fmt0 0xFF = [0xFF] := byte1_val _ _ rfl (by decide)
  have hb1 : PTFR.byte1 PTFR_add_payload_fmt1 0x0 = [0x00] := byte1_val _ _ rfl (by decide)
  have hb2 : PTFR.byte1 PTFR_add_payload_fmt2 0x0 = [0x00] := byte1_val _ _ rfl (by decide)
  unfold PTFR.addPayload cutFrame placed
  cases isLlp
  · simp
  · by_cases hp : 0 < s.payload.length
    · cases hl : s.llp <;> simp [hp, hb0, hb1]
    · have h0 : s.payload = [] := List.eq_nil_of_length_eq_zero (Nat.eq_zero_of_not_pos hp)
      simp [h0, hb2]

theorem addPayload_normal (s : PTFR.State) (buf : Bytes) :
    PTFR.addPayload s buf false = cutFrame { s with payload := s.payload ++ buf } :=
  addPayload_eq s buf false

theorem placed_facts (s : PTFR.State) (buf : Bytes) (isLlp : Bool) :
    (placed s buf isLlp).length = s.length ∧ (placed s buf isLlp).version = s.version ∧
    (placed s buf isLlp).streamid = s.streamid ∧
    (placed s buf isLlp).payload.length = s.payload.length + buf.length + (if isLlp then 1 else 0) := by
  cases isLlp
  · exact ⟨rfl, rfl, rfl, by simp [placed]⟩
  · refine ⟨rfl, rfl, rfl, ?_⟩
    simp only [placed, if_true, List.length_append, List.length_singleton]
    omega

theorem addPayload_fill (s : PTFR.State) (buf : Bytes) (hp : s.payload = []) (hb : buf.length ≤ s.length) :
    PTFR.addPayload s buf false = ({ s with payload := buf }, []) := by
  rw [addPayload_normal, hp, List.nil_append, cutFrame_fits _ hb]

theorem addPayload_facts (s : PTFR.State) (buf : Bytes) (isLlp : Bool) :
    (PTFR.addPayload s buf isLlp).1.length = s.length ∧
    (PTFR.addPayload s buf isLlp).1.version = s.version ∧
    (PTFR.addPayload s buf isLlp).1.streamid = s.streamid ∧
    (PTFR.addPayload s buf isLlp).1.payload.length ≤ s.length ∧
    ((PTFR.addPayload s buf isLlp).2 ≠ [] → (PTFR.addPayload s buf isLlp).1.payload.length = s.length) := by
  obtain ⟨c1, c2, c3, c4, c5, _⟩ := cutFrame_facts (placed s buf isLlp)
  obtain ⟨p1, p2, p3, _⟩ := placed_facts s buf isLlp
  rw [addPayload_eq]
  exact ⟨c1.trans p1, c2.trans p2, c3.trans p3, p1 ▸ c4, fun h => p1 ▸ c5 h⟩

theorem addPayload_conserve (s : PTFR.State) (buf : Bytes) (isLlp : Bool) :
    (PTFR.addPayload s buf isLlp).1.payload.length + (PTFR.addPayload s buf isLlp).2.length =
      s.payload.length + buf.length + (if isLlp then 1 else 0) := by
  rw [addPayload_eq, (cutFrame_facts _).2.2.2.2.2, (placed_facts s buf isLlp).2.2.2]

/-- `PTDP.__eq__` does not compare the low-latency marking -/
theorem PTDP_eq_iff (a b : PTDP.State) :
    PTDP.eq a b = true ↔ a.payload = b.payload ∧ a.length = b.length ∧ a.fragment = b.fragment ∧ a.content = b.content := by
  simp only [PTDP.eq, Bool.and_eq_true, beq_iff_eq, and_assoc]

/-- `PTFR.__eq__` does not compare the `length` option -/
theorem PTFR_eq_iff (a b : PTFR.State) :
    PTFR.eq a b = true ↔ a.version = b.version ∧ a.streamid = b.streamid ∧ a.llp = b.llp ∧
      a.ptdp_offset = b.ptdp_offset ∧ a.payload = b.payload := by
  simp only [PTFR.eq, Bool.and_eq_true, beq_iff_eq, and_assoc]

theorem ptfr_ext (a b : PTFR.State) (h1 : a.version = b.version) (h2 : a.streamid = b.streamid)
    (h3 : a.llp = b.llp) (h4 : a.ptdp_offset = b.ptdp_offset) (h5 : a.length = b.length)
    (h6 : a.payload = b.payload) : a = b := by
  cases a; cases b; simp_all

def xorBytes (a b : Bytes) : Bytes := List.zipWith (· ^^^ ·) a b

theorem xorBytes_be3 (v e : Nat) : xorBytes (beBytes 3 v) (beBytes 3 e) = beBytes 3 (v ^^^ e) := by
  have hm : ∀ a b : Nat, (a ^^^ b) % 256 = a % 256 ^^^ b % 256 := fun a b => Nat.xor_mod_two_pow (n := 8)
  have hd : ∀ a b : Nat, (a ^^^ b) / 256 = a / 256 ^^^ b / 256 := fun a b => Nat.xor_div_two_pow (n := 8)
  simp only [xorBytes, beBytes, leBytes, List.reverse_cons, List.reverse_nil, List.nil_append,
    List.cons_append, List.zipWith_cons_cons, List.zipWith_nil_left, ← UInt8.ofNat_xor, hm, hd]

/-- the header words of a packed PTDP with the patterns `e1`, `e2` XORed onto their bytes -/
def corruptPTDP (b : Bytes) (e1 e2 : Nat) : Bytes :=
  xorBytes (b.take 3) (beBytes 3 e1) ++ xorBytes ((b.drop 3).take 3) (beBytes 3 e2) ++ b.drop 6

/-- the protected word (bytes 1..3) of a packed PTFR with the pattern `e` XORed onto its bytes -/
def corruptPTFR (b : Bytes) (e : Nat) : Bytes :=
  b.take 1 ++ xorBytes ((b.drop 1).take 3) (beBytes 3 e) ++ b.drop 4

theorem noisyWord_xor (x e : Nat) : xorBytes (noisyWord x 0) (beBytes 3 e) = noisyWord x e := by
  simp [noisyWord, xorBytes_be3]

theorem corruptPTDP_eq (l m e1 e2 : Nat) (body : Bytes) :
    corruptPTDP (noisyWord l 0 ++ noisyWord m 0 ++ body) e1 e2 = noisyWord l e1 ++ noisyWord m e2 ++ body := by
  simp [corruptPTDP, List.drop_append, noisyWord_xor]

theorem corruptPTFR_eq (b0 p e : Nat) (body : Bytes) :
    corruptPTFR (beBytes 1 b0 ++ noisyWord p 0 ++ body) e = beBytes 1 b0 ++ noisyWord p e ++ body := by
  simp [corruptPTFR, List.drop_append, noisyWord_xor]

end Acra.Lemmas.Chapter7
