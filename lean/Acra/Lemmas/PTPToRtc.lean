/-
  `PTPTime.to_rtc`: the two float steps under the binary64 facts of `Lemmas.Float.FloatSem`, and the conversion as
  `ticks` of the seconds since the start of the year (`Lemmas.Datetime`).
-/
import Acra.Lemmas.Float
import Acra.Lemmas.Datetime
import Acra.Model.PTPToRtc
namespace Acra.Lemmas.PTPToRtc
open Acra.Py Acra.Py.Float Acra.Model.PTPToRtc Acra.Model.Ch11Pay.TimeFmt Acra.Lemmas.Float Acra.Lemmas.Datetime

/-- `int(td.total_seconds())` is the whole number of seconds (exact: the quotient is an integer below 2^53) -/
theorem totalSecondsInt_exact (fl : ℚ → ℚ) (F : FloatSem fl) (S : ℕ) (h : S < 2 ^ 53) :
    totalSecondsInt fl (S * 1000000) = S := by
  unfold totalSecondsInt
  rw [Nat.cast_mul, Nat.cast_ofNat, mul_div_cancel_right₀ _ (by norm_num)]
  exact F.floor_natCast S h

/-- the integer operands of `ticks` are converted exactly: what is left is `int(A + ns / 100)` with `A = S·10^7` -/
theorem ticks_eq {fl : ℚ → ℚ} (F : FloatSem fl) (S ns : ℕ) (h : S * 10000000 < 2 ^ 53) :
    ticks fl S ns = floorNat (fl (((S * 10000000 : ℕ) : ℚ) + fl ((ns : ℚ) / ((100 : ℕ) : ℚ)))) := by
  have e : (S : ℚ) * 10000000 = ((S * 10000000 : ℕ) : ℚ) := by push_cast; rfl
  unfold ticks
  rw [F.exact S (Nat.lt_of_le_of_lt (Nat.le_mul_of_pos_right S (by norm_num)) h), e, F.exact _ h, Nat.cast_ofNat]

/-- the tick computation is exact while `S·10^7 + ns/100` stays below 4.5·10^13: two rounding errors, each at most
    2^-53 of a value of at most 4.5·10^13, together stay under the 0.01 that separates `ns/100` from the
    neighbouring integers (`4.5·10^13 · 200 < 2^53`) -/
theorem ticks_exact (fl : ℚ → ℚ) (F : FloatSem fl) (S ns : ℕ)
    (h : S * 10000000 + ns / 100 < 45000000000000) : ticks fl S ns = ideal S ns := by
  -- `omega` runs out of recursion depth on the product `S * 10000000`; as an atom it is harmless
  have hA : S * 10000000 < 2 ^ 53 := by generalize S * 10000000 = A at h; omega
  rw [ticks_eq F S ns hA]
  refine F.floor_add_div _ ns 100 (by norm_num) ?_
  generalize S * 10000000 = A at h ⊢
  omega

/-- as long as `datetime` can represent the year, the calendar part and `total_seconds()` are exact -/
theorem toRtcWith_eq (fl : ℚ → ℚ) (F : FloatSem fl) (seconds ns : ℕ) (hy : (dateOfSeconds seconds).1 ≤ 9999) :
    toRtcWith fl seconds ns = .ok (ticks fl (seconds - yearStart seconds) ns) := by
  have hle := yearStart_le seconds
  unfold toRtcWith
  rw [fromTimestamp_of_year_le seconds hy]
  show Except.ok (ticks fl (totalSecondsInt fl (sinceStartOfYearUs _ _ _ _ _ _)) ns) = _
  unfold sinceStartOfYearUs
  rw [since_yearStart seconds, totalSecondsInt_exact fl F _ (by omega)]

/-- the executable model (CPython's binary64) is exact up to 2^47 ticks — the sharp bound: the first wrong result is
    at tick 140 737 490 000 000 (`to_rtc_off_by_one_witness`).  The quotient `ns/100` is below 2^26, so its rounding
    moves it by at most 2^-27, and the sum stays clear of the next integer by more than the 1/128 that
    `rne_floor_stable` asks for -/
theorem ticks_exact_exec (S ns : ℕ) (hns : ns < 2 ^ 32)
    (h : S * 10000000 + ns / 100 + 1 ≤ 140737488355328) : ticks rne S ns = ideal S ns := by
  have hA : S * 10000000 < 2 ^ 53 := by generalize S * 10000000 = A at h; omega
  rw [ticks_eq rne_floatSem S ns hA]
  unfold ideal
  by_cases hr : ns % 100 = 0
  · refine rne_floatSem.floor_add_div_of_dvd _ ns 100 (by norm_num) hr ?_
    generalize S * 10000000 = A at h ⊢
    omega
  · have hb := div_between ns 100 (by norm_num) hr
    have hx0 : (0 : ℚ) ≤ (ns : ℚ) / ((100 : ℕ) : ℚ) := by positivity
    have hN : ((S * 10000000 + ns / 100 + 1 : ℕ) : ℚ) ≤ 140737488355328 := by exact_mod_cast h
    have h1 := rne_floatSem.near hx0 (B := 2 ^ 26) (by rw [div_le_iff₀ (by norm_num)]; norm_num; omega)
    simp only [Nat.cast_ofNat] at hb h1 ⊢
    push_cast at hN
    have hst := rne_floor_stable (((S * 10000000 : ℕ) : ℚ) + rne ((ns : ℚ) / 100)) (S * 10000000 + ns / 100)
      (by push_cast; linarith only [hb.1, h1.1]) (by push_cast; linarith only [hb.2, h1.2])
      (by push_cast; linarith only [hb.2, h1.2, hN])
    exact floorNat_eq _ _ hst.1 hst.2

end Acra.Lemmas.PTPToRtc
