/-
  A fold whose step is injective in the state and in the input detects one changed element (`foldl_detects`).  The
  instance is the reflected CRC-32 (IEEE 802.3, polynomial 0xEDB88320): two messages of the same length that differ in
  one byte (in particular in one bit) have different CRCs.  No polynomial algebra is needed: the top bit of the shifted
  register tells whether the polynomial was added.
-/
import Acra.Py.Basic
import Acra.Spec.Net
import Acra.Lemmas.Bits
namespace Acra.Lemmas.CRC
open Acra.Py Acra.Spec
open Acra.Lemmas.Bits (xor_cancel_right)

theorem xor_cancel_left (a b c : Nat) (h : c ^^^ a = c ^^^ b) : a = b := by
  rw [Nat.xor_comm c a, Nat.xor_comm c b] at h; exact xor_cancel_right a b c h

theorem foldl_inj {σ β} (f : σ → β → σ) (P : σ → Prop) (hP : ∀ r b, P r → P (f r b))
    (injr : ∀ r s b, P r → P s → f r b = f s b → r = s) (r s : σ) (hr : P r) (hs : P s) (bs : List β)
    (he : bs.foldl f r = bs.foldl f s) : r = s := by
  induction bs generalizing r s with
  | nil => exact he
  | cons b bs ih => exact injr r s b hr hs (ih _ _ (hP r b hr) (hP s b hs) he)

theorem foldl_detects {σ β} (f : σ → β → σ) (P : σ → Prop) (hP : ∀ r b, P r → P (f r b))
    (injr : ∀ r s b, P r → P s → f r b = f s b → r = s) (injb : ∀ r a b, P r → f r a = f r b → a = b)
    (r0 : σ) (h0 : P r0) (pre suf : List β) (a a' : β) (h : a ≠ a') :
    (pre ++ a :: suf).foldl f r0 ≠ (pre ++ a' :: suf).foldl f r0 := by
  intro he
  simp only [List.foldl_append, List.foldl_cons] at he
  have hr : P (pre.foldl f r0) := List.foldlRecOn pre f h0 fun r hr b _ => hP r b hr
  exact h (injb _ a a' hr (foldl_inj f P hP injr _ _ (hP _ a hr) (hP _ a' hr) suf he))

def BInj (f : Nat → Nat) : Prop :=
  (∀ r, r < 2 ^ 32 → f r < 2 ^ 32) ∧ ∀ r r', r < 2 ^ 32 → r' < 2 ^ 32 → f r = f r' → r = r'

theorem BInj.comp {f g : Nat → Nat} (hf : BInj f) (hg : BInj g) : BInj fun r => f (g r) :=
  ⟨fun r h => hf.1 _ (hg.1 r h), fun r r' h h' he => hg.2 r r' h h' (hf.2 _ _ (hg.1 r h) (hg.1 r' h') he)⟩

theorem BInj.iterate {f : Nat → Nat} (hf : BInj f) : ∀ n, BInj (Nat.repeat f n)
  | 0 => ⟨fun _ h => h, fun _ _ _ _ he => he⟩
  | n + 1 => hf.comp (BInj.iterate hf n)

theorem byteFold_detects (g : Nat → Nat) (hg : BInj g) (emb : UInt8 → Nat) (hlt : ∀ b, emb b < 2 ^ 32)
    (hinj : ∀ a b, emb a = emb b → a = b) (init : Nat) (hi : init < 2 ^ 32) (pre suf : Bytes) (a a' : UInt8)
    (hne : a ≠ a') :
    (pre ++ a :: suf).foldl (fun r b => g (r ^^^ emb b)) init ≠ (pre ++ a' :: suf).foldl (fun r b => g (r ^^^ emb b)) init :=
  foldl_detects (fun r b => g (r ^^^ emb b)) (· < 2 ^ 32) (fun _ b hr => hg.1 _ (Nat.xor_lt_two_pow hr (hlt b)))
    (fun _ _ b h h' he => xor_cancel_right _ _ _
      (hg.2 _ _ (Nat.xor_lt_two_pow h (hlt b)) (Nat.xor_lt_two_pow h' (hlt b)) he))
    (fun _ b b' h he => hinj _ _ (xor_cancel_left _ _ _
      (hg.2 _ _ (Nat.xor_lt_two_pow h (hlt b)) (Nat.xor_lt_two_pow h (hlt b')) he)))
    init hi pre suf a a' hne

theorem crcPoly_lt : crcPoly < 2 ^ 32 := by decide

theorem xor_poly_ge (a : Nat) (h : a < 2 ^ 31) : 2 ^ 31 ≤ a ^^^ crcPoly := by
  apply Nat.ge_two_pow_of_testBit
  rw [Nat.testBit_xor, Nat.testBit_lt_two_pow h]
  decide

theorem crcStep_lt (r : Nat) (h : r < 2 ^ 32) : crcStep r < 2 ^ 32 := by
  unfold crcStep
  split
  · exact Nat.xor_lt_two_pow (by omega) crcPoly_lt
  · omega

theorem crcStep_inj (r r' : Nat) (h : r < 2 ^ 32) (h' : r' < 2 ^ 32) (he : crcStep r = crcStep r') : r = r' := by
  unfold crcStep at he
  have p1 := xor_poly_ge (r / 2) (by omega)
  have p2 := xor_poly_ge (r' / 2) (by omega)
  split at he <;> split at he
  · have := xor_cancel_right _ _ _ he; omega
  · omega
  · omega
  · omega

theorem crcStep8_binj : BInj crcStep8 :=
  -- written out: `BInj.iterate … 8` makes the unifier unfold `crcStep8` against `Nat.repeat`, at fifty times the cost
  have h : BInj crcStep := ⟨crcStep_lt, crcStep_inj⟩
  h.comp (h.comp (h.comp (h.comp (h.comp (h.comp (h.comp h))))))

theorem byte_lt (b : UInt8) : b.toNat < 2 ^ 32 := by have := b.toNat_lt; omega

theorem crcByte_lt (r : Nat) (b : UInt8) (h : r < 2 ^ 32) : crcByte r b < 2 ^ 32 :=
  crcStep8_binj.1 _ (Nat.xor_lt_two_pow h (byte_lt b))

theorem crc32_lt (bs : Bytes) : crc32 bs < 2 ^ 32 :=
  Nat.xor_lt_two_pow (List.foldlRecOn bs crcByte (motive := (· < 2 ^ 32)) (by decide) fun r hr b _ => crcByte_lt r b hr)
    (by decide)

theorem crc32_detects_byte (pre suf : Bytes) (b b' : UInt8) (hne : b ≠ b') :
    crc32 (pre ++ b :: suf) ≠ crc32 (pre ++ b' :: suf) := fun he =>
  byteFold_detects _ crcStep8_binj UInt8.toNat byte_lt (fun _ _ => UInt8.toNat_inj.1) 0xFFFFFFFF (by decide) pre suf b b' hne
    (xor_cancel_right _ _ _ he)

theorem crc32_set_ne (bs : Bytes) (i : Nat) (v : UInt8) (hi : i < bs.length) (hv : bs[i]? ≠ some v) :
    crc32 (bs.set i v) ≠ crc32 bs := by
  have hsplit : bs = bs.take i ++ bs[i] :: bs.drop (i + 1) := by
    rw [List.getElem_cons_drop, List.take_append_drop]
  rw [List.set_eq_take_append_cons_drop, if_pos hi]
  conv => rhs; rw [hsplit]
  exact crc32_detects_byte _ _ _ _ fun hvb => hv (by rw [List.getElem?_eq_getElem hi, hvb])

theorem fcs_detects_byte (B : Bytes) (i : Nat) (v : UInt8) (hi : i < (B ++ leBytes 4 (crc32 B)).length)
    (hv : (B ++ leBytes 4 (crc32 B))[i]? ≠ some v) :
    crc32 (((B ++ leBytes 4 (crc32 B)).set i v).take B.length) ≠
      leNat (((B ++ leBytes 4 (crc32 B)).set i v).drop B.length) := by
  have hcrcB : leNat (leBytes 4 (crc32 B)) = crc32 B := leNat_leBytes_of_lt _ _ (crc32_lt B)
  by_cases hib : i < B.length
  · -- a byte of the message changed: the CRC changes, the stored FCS does not
    rw [List.set_append_left _ _ hib, List.take_left' List.length_set, List.drop_left' List.length_set, hcrcB]
    exact crc32_set_ne B i v hib fun hh => hv (by rw [List.getElem?_append_left hib]; exact hh)
  · -- a byte of the FCS changed: the CRC does not, and four bytes are determined by their value
    have hj : i - B.length < (leBytes 4 (crc32 B)).length := by
      rw [List.length_append] at hi; omega
    rw [List.set_append_right _ _ (by omega), List.take_left' rfl, List.drop_left' rfl]
    intro heq
    have a1 := leBytes_leNat ((leBytes 4 (crc32 B)).set (i - B.length) v)
    rw [List.length_set, leBytes_length, ← heq] at a1
    have := congrArg (·[i - B.length]?) a1
    rw [List.getElem?_set_self hj] at this
    exact hv (by rw [List.getElem?_append_right (by omega)]; exact this)

/-- flip bit `k % 8` (least significant = 0) of byte `k / 8` -/
def flipBit (bs : Bytes) (k : Nat) : Bytes :=
  bs.set (k / 8) (bs.getD (k / 8) 0 ^^^ ((1 : UInt8) <<< UInt8.ofNat (k % 8)))

theorem flip_ne (b : UInt8) (j : Nat) (hj : j < 8) : b ^^^ ((1 : UInt8) <<< UInt8.ofNat j) ≠ b := by
  intro h
  have hm : (1 : UInt8) <<< UInt8.ofNat j = 0 := by
    have := congrArg (b ^^^ ·) h
    simpa [← UInt8.xor_assoc] using this
  have hbit : ∀ j, j < 8 → (1 : UInt8) <<< UInt8.ofNat j ≠ 0 := by decide
  exact hbit j hj hm

/-- the standard check value -/
theorem crc32_check : crc32 [0x31, 0x32, 0x33, 0x34, 0x35, 0x36, 0x37, 0x38, 0x39] = 0xCBF43926 := by decide +kernel

end Acra.Lemmas.CRC
