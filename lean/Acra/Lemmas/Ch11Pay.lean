/-
  Shared by the Chapter 11 payload theorems: the intra-packet time stamp, element
  lists, and the round trip through a `Py.decOff` loop whose continuation test cannot see a trailing
  element of minimal size (UART `abs(offset-len) > 4`, 1553 `offset + 14 < len`).
-/
import Acra.Model.Ch11PayTs
import Acra.Spec.Ch11
import Acra.Lemmas.ListAux
import Acra.Lemmas.Decoder
namespace Acra.Lemmas.Ch11Pay
open Acra.Py Acra.Model.Ch11Pay Acra.Gen.Ch11PayTs Acra.Lemmas.RecordsErr

/-- the time stamp fits its 64-bit field: a 48-bit counter, or two 32-bit words -/
def Ipts_WF : Ipts → Prop
  | .rtc c => c < 2 ^ 48
  | .ptp s ns => s < 2 ^ 32 ∧ ns < 2 ^ 32
  | .none => True

/-- the 8 bytes of a time stamp (none: no bytes) -/
def iptsBytes : Ipts → Bytes
  | .rtc c => encInt false 4 (c % 4294967296) ++ (encInt false 2 (c / 4294967296 % 65536) ++ encInt false 2 0)
  | .ptp s ns => encInt false 4 ns ++ encInt false 4 s
  | .none => []

/-- the two time stamps are of the same class (RTC, PTP or none): the hypothesis of the round trips, since a decoder reads its
    prior `ipts` only for the class.  `kindOf a = kindOf b` says the same (`kindOf_eq_iff`) as an equation between objects. -/
def sameKind : Ipts → Ipts → Prop
  | .rtc _, .rtc _ => True
  | .ptp _ _, .ptp _ _ => True
  | .none, .none => True
  | _, _ => False

theorem iptsBytes_length' (i : Ipts) : (iptsBytes i).length = if i = .none then 0 else 8 := by
  cases i <;> simp [iptsBytes]

theorem iptsBytes_length (i : Ipts) (h : i ≠ .none) : (iptsBytes i).length = 8 := by
  rw [iptsBytes_length', if_neg h]

theorem Ipts_pack_eq (i : Ipts) (h : Ipts_WF i) (hn : i ≠ .none) : i.pack = .ok (iptsBytes i) := by
  cases i with
  | rtc c =>
    have hf : Fits RTC_pack_fmt0.codes [c % 4294967296, c / 4294967296 % 65536, 0] := by
      simp [Fits, RTC_pack_fmt0, Code.bound]; omega
    simp only [Ipts.pack, structPack_eq _ _ hf]
    simp [iptsBytes, RTC_pack_fmt0, encCodes, Code.size]
  | ptp s ns =>
    obtain ⟨h1, h2⟩ := h
    have hf : Fits PTP_pack_fmt0.codes [ns, s] := by
      simp [Fits, PTP_pack_fmt0, Code.bound]; omega
    simp only [Ipts.pack, structPack_eq _ _ hf]
    simp [iptsBytes, PTP_pack_fmt0, encCodes, Code.size]
  | none => exact absurd rfl hn

/-- what 8 bytes decode to in a time stamp object of the kind of `t` -/
def iptsDec : Ipts → Bytes → Ipts
  | .rtc _, b => .rtc (decInt false (b.take 4) + 4294967296 * decInt false ((b.drop 4).take 2))
  | .ptp _ _, b => .ptp (decInt false ((b.drop 4).take 4)) (decInt false (b.take 4))
  | .none, _ => .none

theorem Ipts_unpack_eq (t : Ipts) (b : Bytes) :
    Ipts.unpack t b =
      if t = .none then .error .attribute else if b.length = 8 then .ok (iptsDec t b) else .error .struct := by
  cases t <;> by_cases h : b.length = 8 <;>
    simp [Ipts.unpack, structUnpack, RTC_unpack_fmt0, PTP_unpack_fmt0, Fmt.size, codesSize, Code.size, unpackCodes,
      iptsDec, h]

theorem sameKind_iptsDec (t : Ipts) (b : Bytes) : sameKind t (iptsDec t b) := by
  cases t <;> trivial

theorem sameKind_none {t i : Ipts} (h : sameKind t i) : t = .none ↔ i = .none := by
  cases t <;> cases i <;> first | exact h.elim | simp

theorem iptsDec_congr (t u : Ipts) (h : sameKind t u) : iptsDec t = iptsDec u := by
  cases t <;> cases u <;> first | exact h.elim | rfl

/-- the kind of a time stamp object, as the empty object of that kind: all that a decoder reads of it -/
def kindOf : Ipts → Ipts
  | .rtc _ => .rtc 0
  | .ptp _ _ => .ptp 0 0
  | .none => .none

theorem kindOf_eq_iff (a b : Ipts) : kindOf a = kindOf b ↔ sameKind a b := by
  cases a <;> cases b <;> simp [kindOf, sameKind]

theorem sameKind_kindOf (t : Ipts) : sameKind (kindOf t) t := by
  cases t <;> trivial

theorem iptsDec_kindOf (t : Ipts) : iptsDec (kindOf t) = iptsDec t := iptsDec_congr _ _ (sameKind_kindOf t)

theorem kindOf_none (t : Ipts) : kindOf t = .none ↔ t = .none := sameKind_none (sameKind_kindOf t)

theorem iptsDec_bytes (i t : Ipts) (rest : Bytes) (h : Ipts_WF i) (hk : sameKind t i) :
    iptsDec t (iptsBytes i ++ rest) = i := by
  rw [iptsDec_congr t i hk]
  cases i with
  | rtc c =>
    simp only [Ipts_WF] at h
    simp only [iptsDec, iptsBytes, List.append_assoc, take_encInt_append, drop_encInt_append]
    rw [decInt_encInt4 _ _ (by omega), decInt_encInt2 _ _ (by omega)]
    congr 1
    omega
  | ptp s ns =>
    simp only [iptsDec, iptsBytes, List.append_assoc, take_encInt_append, drop_encInt_append]
    rw [decInt_encInt4 _ _ h.1, decInt_encInt4 _ _ h.2]
  | none => rfl

theorem Ipts_unpack_kind (t i : Ipts) (buf : Bytes) (h : Ipts.unpack t buf = .ok i) : sameKind t i := by
  rw [Ipts_unpack_eq] at h
  split at h
  · cases h
  · split at h
    · cases h; exact sameKind_iptsDec t buf
    · cases h

theorem iptsDec_take8 (t : Ipts) (b : Bytes) : iptsDec t (b.take 8) = iptsDec t b := by
  cases t <;> simp [iptsDec, List.take_take, List.drop_take]

theorem unpackTs_eq (t : Ipts) (buf : Bytes) :
    unpackTs t buf =
      if t = .none then .ok (.none, 0) else if 8 ≤ buf.length then .ok (iptsDec t buf, 8) else .error .struct := by
  have h8 : min 8 buf.length = 8 ↔ 8 ≤ buf.length := by omega
  unfold unpackTs
  simp only [Ipts_unpack_eq, List.length_take, h8, iptsDec_take8]
  by_cases hn : t = .none <;> by_cases h : 8 ≤ buf.length <;> simp only [hn, h, if_true, if_false]

theorem unpackTs_congr (t u : Ipts) (buf : Bytes) (h : sameKind t u) : unpackTs t buf = unpackTs u buf := by
  simp only [unpackTs_eq, iptsDec_congr t u h, sameKind_none h]

theorem iptsOfSource_ne_none {s : Nat} {i : Ipts} (h : iptsOfSource s = some i) : i ≠ .none := by
  unfold iptsOfSource at h
  repeat' split at h
  all_goals cases h
  all_goals nofun

/-- the declarative form of the same time stamp -/
def toSpec : Ipts → Spec.Ch11.TS
  | .rtc c => .rtc c
  | .ptp s ns => .ptp s ns
  | .none => .absent

theorem iptsBytes_spec (i : Ipts) (h : Ipts_WF i) : iptsBytes i = (toSpec i).encode := by
  cases i with
  | rtc c =>
    simp only [iptsBytes, toSpec, Spec.Ch11.TS.encode, encInt, Bool.false_eq_true, if_false]
    rw [leBytes_mod 2, ← List.append_assoc, ← leBytes_split 2 4]
    rfl
  | ptp s ns => simp [iptsBytes, toSpec, Spec.Ch11.TS.encode, encInt]
  | none => rfl

theorem packList_eq (f : α → R Bytes) (g : α → Bytes) (xs : List α) (h : ∀ x ∈ xs, f x = .ok (g x)) :
    packList f xs = .ok (xs.flatMap g) :=
  packLoop_eq _ _ xs rfl fun x hx ys r hr => by simp only [packList, h x hx, hr]

theorem packList_listEq (f : α → R Bytes) (eq : α → α → Bool) (as bs : List α)
    (h : ∀ a ∈ as, ∀ b ∈ bs, eq a b = true → f a = f b) (he : listEq eq as bs = true) : packList f as = packList f bs := by
  induction as generalizing bs with
  | nil => cases bs <;> simp_all [listEq]
  | cons a as ih =>
    cases bs with
    | nil => simp [listEq] at he
    | cons b bs =>
      simp only [listEq, Bool.and_eq_true] at he
      simp only [packList, h a (by simp) b (by simp) he.1, ih bs (fun x hx y hy => h x (by simp [hx]) y (by simp [hy])) he.2]

theorem packList_congr (f g : α → R Bytes) (xs : List α) (h : ∀ x ∈ xs, f x = g x) :
    packList f xs = packList g xs := by
  induction xs with
  | nil => rfl
  | cons x xs ih =>
    simp only [packList, h x (by simp), ih (fun y hy => h y (by simp [hy]))]

theorem packList_nofuel (f : α → R Bytes) (xs : List α) (h : ∀ x, f x ≠ .error .fuel) :
    packList f xs ≠ .error .fuel := by
  induction xs with
  | nil => simp [packList]
  | cons x xs ih =>
    simp only [packList]
    have := h x
    split
    · simp_all
    · split <;> simp_all

/-- Round trip for a list of records when the loop condition needs either a following byte or a
    "big" element: every element but the last may be of minimal size.  The decoder may normalise what
    it returns (`norm`: a length attribute recomputed from the data).  `Big`: UART a word with a time stamp or a data
    byte, 1553 a message with a data byte. -/
theorem decOff_encAll_last (dec1 : Bytes → R (α × Nat)) (more : Nat → Nat → Bool) (enc1 : α → Bytes) (norm : α → α)
    (Big : α → Prop) (xs : List α) (pre : Bytes) (fuel : Nat) (hfuel : (xs.flatMap enc1).length < fuel)
    (hdec : ∀ x ∈ xs, ∀ rest, dec1 (enc1 x ++ rest) = .ok (norm x, (enc1 x).length))
    (hne : ∀ x ∈ xs, enc1 x ≠ [])
    (hmore : ∀ x ∈ xs, ∀ (p q : Bytes), (q ≠ [] ∨ Big x) → more p.length (p ++ (enc1 x ++ q)).length = true)
    (hlast : ∀ x, xs.getLast? = some x → Big x)
    (hstop : ∀ n, more n n = false) :
    decOff dec1 more (pre ++ xs.flatMap enc1) fuel pre.length = .ok (xs.map norm) := by
  refine reach_decOff_ok (reach_encAll_at enc1 norm xs pre hdec fun ys x zs h => ?_) (hstop _) ?_
  · refine hmore x (by simp [h]) _ _ ?_
    cases zs with
    | nil => exact .inr (hlast x (by simp [h]))
    | cons z zs =>
      refine .inl fun hq => hne z (by simp [h]) ?_
      rw [List.flatMap_cons, List.append_eq_nil_iff] at hq
      exact hq.1
  · have := flatMap_length_ge enc1 xs (fun x hx => List.length_pos_iff.2 (hne x hx))
    rw [List.length_map]
    omega

/-! The predicates on time stamps, and statements about the last element of a list, are decidable, so that concrete
    witnesses of the well-formedness predicates built from them are checked by evaluation. -/

instance : (i : Ipts) → Decidable (Ipts_WF i)
  | .rtc c => inferInstanceAs (Decidable (c < 2 ^ 48))
  | .ptp s ns => inferInstanceAs (Decidable (s < 2 ^ 32 ∧ ns < 2 ^ 32))
  | .none => isTrue trivial

instance (a b : Ipts) : Decidable (sameKind a b) := by
  cases a <;> cases b <;> first | exact isTrue trivial | exact isFalse id

instance decLast {α : Type} (xs : List α) (P : α → Prop) [DecidablePred P] : Decidable (∀ x, xs.getLast? = some x → P x) :=
  match xs.getLast? with
  | Option.none => isTrue (fun _ hx => nomatch hx)
  | some y => if hy : P y then isTrue (fun _ hx => Option.some.inj hx ▸ hy) else isFalse (fun hall => hy (hall y rfl))

instance (o : Option Nat) : Decidable (∃ s i, o = some s ∧ iptsOfSource s = some i) :=
  match o with
  | Option.none => isFalse (fun ⟨_, _, h, _⟩ => nomatch h)
  | some s =>
    match h : iptsOfSource s with
    | Option.none => isFalse (fun ⟨_, _, h1, h2⟩ => by cases h1; rw [h] at h2; cases h2)
    | some i => isTrue ⟨s, i, rfl, h⟩

end Acra.Lemmas.Ch11Pay
