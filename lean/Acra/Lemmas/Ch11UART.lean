/-
  UART format 0.  A word is [time stamp] · length · flags|sub-channel · data filled to a 16-bit boundary, the data
  byte-swapped per 16-bit word for a little-endian object (`body`, `extract_body`).  The decoders as parsers of the bytes:
  `Word_decodes` (`wordRun`: the header stands at offset 0 or 8; it is the loop step, `decWord_run`), `Packet_decodes`
  (`packetRun`); `wordAt_bytes` evaluates the word decoder on what the encoder emits (`datalength` comes back
  recomputed, `norm`).
-/
import Acra.Model.Ch11UART
import Acra.Lemmas.Ch11Pay
namespace Acra.Lemmas.Ch11UART
open Acra.Py Acra.Model.Ch11Pay Acra.Model.Ch11Pay.UART Acra.Gen.Ch11UART Acra.Lemmas.Ch11Pay Acra.Lemmas

theorem endianSwap_length (x : Bytes) : (endianSwap x).length = x.length - x.length % 2 := by
  induction x using pairs_induction with
  | nil => rfl
  | one a => rfl
  | two a b rest ih =>
    rw [endianSwap, List.length_cons, List.length_cons, ih, List.length_cons, List.length_cons]
    show rest.length - rest.length % 2 + 2 = rest.length + 2 - (rest.length + 2) % 2
    rw [Nat.add_mod_right, Nat.sub_add_comm (Nat.mod_le _ _)]

theorem endianSwap_involutive (x : Bytes) (h : x.length % 2 = 0) : endianSwap (endianSwap x) = x := by
  induction x using pairs_induction with
  | nil => rfl
  | one a => cases h
  | two a b rest ih =>
    simp only [List.length_cons] at h
    simp only [endianSwap, ih (by omega)]

theorem endianSwap_drops_odd (x : Bytes) (a : UInt8) (h : x.length % 2 = 0) : endianSwap (x ++ [a]) = endianSwap x := by
  induction x using pairs_induction with
  | nil => rfl
  | one c => cases h
  | two c b rest ih =>
    simp only [List.length_cons] at h
    simp only [List.cons_append, endianSwap, ih (by omega)]

/-- what the layout can carry: a 16-bit data length, a 14-bit sub-channel, a time stamp that fits -/
def Word_Fits (w : Word) : Prop := Ipts_WF w.ipts ∧ w.subchannel < 2 ^ 14 ∧ w.payload.length < 2 ^ 16

/-- what the decoder returns unchanged: additionally the sub-channel below 2^13 (the decoder masks
    with 0x1FFF — known finding K4, /verif/known_findings.json) -/
def Word_WF (w : Word) : Prop := Word_Fits w ∧ w.subchannel < 2 ^ 13

def pad (n : Nat) : Bytes := if n % 2 = 1 then [0xFF] else []

/-- the data bytes with their fill byte, in the byte order selected by `data_endianness` -/
def body (w : Word) : Bytes :=
  if w.data_endianness = ENDIAN_LITTLE then endianSwap (w.payload ++ pad w.payload.length) else w.payload ++ pad w.payload.length

def wordHdr (w : Word) : Bytes :=
  encInt false 2 w.payload.length ++ encInt false 2 (if w.parity_error then w.subchannel + 0x8000 else w.subchannel)

def wordBytes (w : Word) : Bytes := iptsBytes w.ipts ++ (wordHdr w ++ body w)

/-- the decoder resets `datalength` to the number of data bytes -/
def norm (w : Word) : Word := { w with datalength := some w.payload.length }

theorem pad_length (n : Nat) : (pad n).length = n % 2 := by
  unfold pad
  by_cases h : n % 2 = 1
  · rw [if_pos h, h]; rfl
  · rw [if_neg h]; exact (Nat.mod_two_eq_zero_or_one n).resolve_right h ▸ rfl

theorem padded_even (n : Nat) (x : Bytes) (h : x.length = n) : (x ++ pad n).length % 2 = 0 := by
  rw [List.length_append, pad_length, h]; omega

theorem body_length (w : Word) : (body w).length = w.payload.length + w.payload.length % 2 := by
  have hl : (w.payload ++ pad w.payload.length).length = w.payload.length + w.payload.length % 2 := by
    rw [List.length_append, pad_length]
  unfold body
  by_cases hle : w.data_endianness = ENDIAN_LITTLE
  · rw [if_pos hle, endianSwap_length, hl]; omega
  · rw [if_neg hle, hl]

@[simp] theorem wordHdr_length (w : Word) : (wordHdr w).length = 4 := by simp [wordHdr]

theorem wordBytes_length (w : Word) :
    (wordBytes w).length = (if w.ipts = .none then 0 else 8) + 4 + w.payload.length + w.payload.length % 2 := by
  simp only [wordBytes, List.length_append, iptsBytes_length', wordHdr_length, body_length]; omega

theorem Word_pack_eq (w : Word) (h : Word_Fits w) : w.pack = .ok (wordBytes w) := by
  obtain ⟨h1, h2, h3⟩ := h
  have hts : (if w.ipts = .none then (.ok [] : R Bytes) else w.ipts.pack) = .ok (iptsBytes w.ipts) := by
    by_cases hn : w.ipts = .none
    · rw [if_pos hn, hn]; rfl
    · rw [if_neg hn]; exact Ipts_pack_eq _ h1 hn
  have hf : Fits UW_pack_fmt0.codes [w.payload.length, if w.parity_error then w.subchannel + 0x8000 else w.subchannel] := by
    simp only [Fits, UW_pack_fmt0, Code.bound, and_true]
    constructor
    · omega
    · split <;> omega
  have hz : structPack UW_pack_fmt1 [0xFF] = .ok [0xFF] := by rw [UW_pack_fmt1, pack_one]; rfl
  simp only [Word.pack, hts, structPack_eq _ _ hf, hz]
  by_cases hodd : w.payload.length % 2 = 1
  · simp [hodd, wordBytes, wordHdr, body, pad, UW_pack_fmt0, encCodes, Code.size]
  · simp [hodd, wordBytes, wordHdr, body, pad, UW_pack_fmt0, encCodes, Code.size]

theorem extract_body (w : Word) (pre rest : Bytes) (off : Nat) (hoff : off = pre.length) :
    Word.extract w.data_endianness (pre ++ (body w ++ rest)) off w.payload.length = w.payload := by
  subst hoff
  -- in either byte order the decoder cuts out exactly the bytes of `body w`
  have hs (n : Nat) (hn : n = (body w).length) : slice (pre ++ (body w ++ rest)) pre.length (pre.length + n) = body w :=
    slice_mid _ _ _ _ _ rfl (by rw [hn])
  have hbl := body_length w
  unfold Word.extract
  by_cases hle : w.data_endianness = ENDIAN_LITTLE
  · have hb : endianSwap (body w) = w.payload ++ pad w.payload.length := by
      rw [body, if_pos hle, endianSwap_involutive _ (padded_even _ _ rfl)]
    rw [if_pos (beq_iff_eq.2 hle)]
    by_cases hodd : w.payload.length % 2 = 1
    · rw [if_pos (beq_iff_eq.2 hodd), Nat.add_assoc, hs _ (by omega), hb, pad, if_pos hodd, List.dropLast_concat]
    · rw [if_neg (mt beq_iff_eq.1 hodd), hs _ (by omega), hb, pad, if_neg hodd, List.append_nil]
  · rw [if_neg (mt beq_iff_eq.1 hle), body, if_neg hle, List.append_assoc]
    exact slice_mid _ _ _ _ _ rfl rfl

/-- the loop test `abs(offset - len) > 4` sees a word of `k` time-stamp bytes, 4 header bytes and `n` data bytes
    followed by `r` more bytes as soon as one of `k`, `n`, `r` is positive -/
theorem moreUART_word (a k n r : Nat) (h : 0 < r ∨ 0 < k ∨ 0 < n) : moreUART a (a + (k + 4 + n + n % 2 + r)) = true := by
  rw [moreUART, decide_eq_true_eq, Nat.add_sub_cancel_left]
  generalize n % 2 = m
  exact .inr (by omega)

theorem UW_unpack (buf : Bytes) (off : Nat) (h : off + 4 ≤ buf.length) : structUnpackFrom UW_unpack_fmt0 buf off =
    .ok [decInt false ((buf.drop off).take 2), decInt false ((buf.drop (off + 2)).take 2)] := by
  have : off + UW_unpack_fmt0.size ≤ buf.length := h
  rw [structUnpackFrom_flds, if_pos this, take_drop_slice, take_drop_slice]
  rfl

/-- the word a decoder `t` reads from `buf` when the word header stands at `off` (0 without time
    stamp, else 8): sub-channel masked to 13 bits, parity flag from bit 15, `datalength` recomputed -/
def wordAt (t : Word) (off : Nat) (buf : Bytes) : Word :=
  let pe := decInt false ((buf.drop (off + 2)).take 2)
  let pp := Word.extract t.data_endianness buf (off + 4) (decInt false ((buf.drop off).take 2))
  { ipts := iptsDec t.ipts buf, parity_error := decide (pe / 32768 ≠ 0), subchannel := pe % 8192,
    datalength := some pp.length, payload := pp, data_endianness := t.data_endianness }

/-- what `UARTDataWord.unpack` reads of the object: the kind of time stamp it holds and its byte order -/
def wcfg (t : Word) : Ipts × Nat := (kindOf t.ipts, t.data_endianness)

/-- where the word header stands: 0 for a decoder without time stamp object, else 8 -/
def tsOff (k : Ipts) : Nat := if k = .none then 0 else 8

/-- `UARTDataWord.unpack` as a parser: it needs the time stamp (if any) and the 4-byte word header -/
def wordRun (c : Ipts × Nat) (buf : Bytes) : R (Word × Nat) :=
  if buf.length < tsOff c.1 + 4 then .error .struct
  else .ok (wordAt (Word.fresh c.1 c.2) (tsOff c.1) buf,
    tsOff c.1 + 4 + (wordAt (Word.fresh c.1 c.2) (tsOff c.1) buf).payload.length +
      (wordAt (Word.fresh c.1 c.2) (tsOff c.1) buf).payload.length % 2)

theorem wordAt_wcfg (t : Word) (off : Nat) (buf : Bytes) :
    wordAt (Word.fresh (wcfg t).1 (wcfg t).2) off buf = wordAt t off buf := by
  simp only [wordAt, wcfg, Word.fresh, iptsDec_kindOf]

theorem tsOff_kindOf (i : Ipts) : tsOff (kindOf i) = if i = .none then 0 else 8 := by
  simp only [tsOff, kindOf_none]

theorem tsOff_wcfg (t : Word) : tsOff (wcfg t).1 + 4 = if t.ipts = .none then 4 else 12 := by
  rw [show (wcfg t).1 = kindOf t.ipts from rfl, tsOff_kindOf]
  by_cases h : t.ipts = .none
  · rw [if_pos h, if_pos h]
  · rw [if_neg h, if_neg h]

theorem Word_decodes : Decodes Word.unpack wcfg wordRun := by
  intro t buf
  show Agree (Word.unpack t buf) (wordRun (wcfg t) buf)
  rw [wordRun, wordAt_wcfg, show (wcfg t).1 = kindOf t.ipts from rfl, tsOff_kindOf]
  obtain ⟨i, pe, sc, dl, pl, en⟩ := t
  simp only [Word.unpack, unpackTs_eq, pad_eq]
  by_cases hn : i = .none
  · subst hn
    simp only [if_true, Nat.zero_add]
    by_cases h4 : buf.length < 4
    · rw [structUnpackFrom_short _ _ _ (by exact h4), if_pos h4]; rfl
    · rw [UW_unpack buf 0 (by omega), if_neg h4]; rfl
  · simp only [hn, if_false]
    by_cases h8 : buf.length < 8
    · simp only [Nat.not_le.2 h8, show buf.length < 8 + 4 by omega, if_false, if_true]; rfl
    · simp only [Nat.not_lt.1 h8, if_true]
      by_cases h12 : buf.length < 8 + 4
      · rw [structUnpackFrom_short _ _ _ (by exact h12), if_pos h12]; rfl
      · rw [UW_unpack buf 8 (by omega), if_neg h12]; rfl

theorem wordRun_ok_iff (c : Ipts × Nat) (buf : Bytes) (x : Word × Nat) :
    wordRun c buf = .ok x ↔ tsOff c.1 + 4 ≤ buf.length ∧
      x = (wordAt (Word.fresh c.1 c.2) (tsOff c.1) buf,
        tsOff c.1 + 4 + (wordAt (Word.fresh c.1 c.2) (tsOff c.1) buf).payload.length +
          (wordAt (Word.fresh c.1 c.2) (tsOff c.1) buf).payload.length % 2) := by
  simp only [wordRun, R.ite_error_eq_ok, Except.ok.injEq, Nat.not_lt, eq_comm (a := x)]

theorem wordRun_error_iff (c : Ipts × Nat) (buf : Bytes) (e : Err) :
    wordRun c buf = .error e ↔ e = .struct ∧ buf.length < tsOff c.1 + 4 := by
  rw [wordRun, R.ite_error_eq_error, and_comm]; exact or_iff_left fun h => nomatch h.2

/-- bit 15 carries the parity flag above a sub-channel of at most 13 bits: both are read back -/
theorem parity_sub (pe : Bool) (s v : Nat) (h : s < 2 ^ 13) (hv : v = if pe then s + 0x8000 else s) :
    v < 65536 ∧ v % 8192 = s ∧ decide (v / 32768 ≠ 0) = pe := by
  subst hv
  cases pe
  · refine ⟨?_, ?_, ?_⟩ <;> simp <;> omega
  · refine ⟨?_, ?_, ?_⟩ <;> simp <;> omega

theorem wordAt_bytes (w t : Word) (rest : Bytes) (h : Word_WF w) (hk : sameKind t.ipts w.ipts)
    (he : t.data_endianness = w.data_endianness) :
    wordAt t (iptsBytes w.ipts).length (wordBytes w ++ rest) = norm w := by
  obtain ⟨⟨h1, h2, h3⟩, h4⟩ := h
  generalize hsub : (if w.parity_error then w.subchannel + 0x8000 else w.subchannel) = sub
  obtain ⟨hsub16, e1, e2⟩ := parity_sub w.parity_error w.subchannel sub h4 hsub.symm
  have e : wordBytes w ++ rest = iptsBytes w.ipts ++ (encCodes UW_unpack_fmt0.big UW_unpack_fmt0.codes
      [w.payload.length, sub] ++ (body w ++ rest)) := by
    simp [wordBytes, wordHdr, UW_unpack_fmt0, encCodes, Code.size, hsub]
  -- the two header words: what the format reads after the time stamp is what was written there
  have hf : Fits UW_unpack_fmt0.codes [w.payload.length, sub] := ⟨h3, hsub16, trivial⟩
  have hu := structUnpackFrom_enc UW_unpack_fmt0 _ (iptsBytes w.ipts) (body w ++ rest) hf _ rfl
  have hlen : (iptsBytes w.ipts).length + 4 ≤ (wordBytes w ++ rest).length := by
    rw [List.length_append, wordBytes_length, ← iptsBytes_length']; omega
  rw [← e, UW_unpack _ _ hlen] at hu
  simp only [Except.ok.injEq, List.cons.injEq, and_true] at hu
  have hext : Word.extract w.data_endianness (wordBytes w ++ rest) ((iptsBytes w.ipts).length + 4) w.payload.length =
      w.payload := by
    rw [wordBytes, List.append_assoc, List.append_assoc, ← List.append_assoc]
    exact extract_body w _ rest _ (by simp)
  simp only [wordAt, hu.1, hu.2, he, hext, e1, e2]
  rw [wordBytes, List.append_assoc, iptsDec_bytes _ _ _ h1 hk]
  rfl

theorem Word_unpack_bytes (w t : Word) (rest : Bytes) (h : Word_WF w) (hk : sameKind t.ipts w.ipts)
    (he : t.data_endianness = w.data_endianness) :
    Word.unpack t (wordBytes w ++ rest) = (norm w, .ok (wordBytes w).length) := by
  have hoff : tsOff (wcfg t).1 = (iptsBytes w.ipts).length := by
    rw [show (wcfg t).1 = kindOf t.ipts from rfl, tsOff_kindOf, iptsBytes_length']; simp only [sameKind_none hk]
  have hl : (wordBytes w).length = (iptsBytes w.ipts).length + 4 + w.payload.length + w.payload.length % 2 := by
    rw [wordBytes_length, iptsBytes_length']
  refine Word_decodes.of_run ((wordRun_ok_iff _ _ _).2 ⟨by rw [hoff, List.length_append, hl]; omega, ?_⟩)
  rw [wordAt_wcfg, hoff, wordAt_bytes w t rest h hk he, hl]
  rfl

theorem decWord_run (proto : Word) (b : Bytes) : decWord proto b = wordRun (wcfg proto) b :=
  (Word_decodes proto b).step_eq (fun _ _ h => by rw [decWord, h]) (fun _ _ h => by rw [decWord, h])

/-- the two codec options: all that `UARTDataPacket.unpack` reads of the object -/
def pcfg (t : Packet) : Option Nat × Nat := (t.ipts_source, t.data_endianness)

/-- `UARTDataPacket.unpack` as a parser -/
def packetRun (c : Option Nat × Nat) (buf : Bytes) : R (Packet × Unit) :=
  if buf.length < 4 then .error .struct else
  match (Packet.fresh c.1 c.2).proto with
  | Option.none => .error .attribute
  | some proto =>
    (decOff (decWord proto) moreUART buf (buf.length + 1) 4).map fun ws =>
      ({ uartwords := ws, ipts_source := c.1, data_endianness := c.2 }, ())

theorem Packet_decodes : Decodes Packet.unpack pcfg packetRun := by
  intro t buf
  refine .of_read UP_unpack_fmt0 buf 0 rfl (fun h => by rw [Packet.unpack, h]) fun h _ => ?_
  rw [Packet.unpack, h, show (Packet.fresh (pcfg t).1 (pcfg t).2).proto = t.proto from rfl]
  cases t.proto with
  | none => rfl
  | some proto => dsimp only; cases decOff (decWord proto) moreUART buf (buf.length + 1) 4 <;> rfl

theorem packetRun_ok {c : Option Nat × Nat} {buf : Bytes} {p : Packet} (h : packetRun c buf = .ok (p, ())) :
    4 ≤ buf.length ∧ pcfg p = c ∧ ∃ proto, (Packet.fresh c.1 c.2).proto = some proto ∧
      decOff (decWord proto) moreUART buf (buf.length + 1) 4 = .ok p.uartwords := by
  obtain ⟨h4, h⟩ := R.ite_error_eq_ok.1 h
  cases hp : (Packet.fresh c.1 c.2).proto with
  | none => rw [hp] at h; cases h
  | some proto =>
    rw [hp] at h
    obtain ⟨ws, hd, hq⟩ := R.map_eq_ok.1 h
    cases hq
    exact ⟨Nat.not_lt.1 h4, rfl, proto, rfl, hd⟩

theorem Word_eq_iff (a b : Word) :
    Word.eq a b = true ↔ (a.ipts = b.ipts ∧ a.parity_error = b.parity_error ∧ a.subchannel = b.subchannel ∧
      a.datalength = b.datalength ∧ a.payload = b.payload) := by
  simp only [Word.eq, Bool.and_eq_true, beq_iff_eq, and_assoc]

/-- the fields `UARTDataWord.__eq__` compares (`data_endianness`, a constructor option, is not among them) -/
def eqKey (w : Word) : Ipts × Bool × Nat × Option Nat × Bytes :=
  (w.ipts, w.parity_error, w.subchannel, w.datalength, w.payload)

theorem wordsEq_eq : wordsEq = listEq Word.eq := listEq_unique _ _ rfl (fun _ _ _ _ => rfl) (fun _ _ => rfl) (fun _ _ => rfl)

theorem wordsEq_iff_key (as bs : List Word) : wordsEq as bs = true ↔ as.map eqKey = bs.map eqKey :=
  wordsEq_eq ▸ listEq_iff_map _ eqKey (fun a b => by simp [Word_eq_iff, eqKey]) as bs

instance (w : Word) : Decidable (Word_WF w) := by unfold Word_WF Word_Fits; infer_instance

end Acra.Lemmas.Ch11UART
