/-
  Helper lemmas for the `endianness_swap` source tie (`Props/C17/SrcTie.lean`): extended slices.
-/
import Acra.Py.IntOps
import Acra.Model.Search
namespace Acra.Lemmas.SrcTieSwap
open Acra Acra.Py

theorem getStride_eq (step skip : Nat) (l : List α) :
    Py.getStride step skip l = Model.Search.getStride step skip l := by
  induction l generalizing skip with
  | nil => cases skip <;> rfl
  | cons x xs ih =>
    cases skip with
    | zero => simp only [Py.getStride, Model.Search.getStride, ih]
    | succ k => simp only [Py.getStride, Model.Search.getStride, ih]

theorem setStride_eq (step skip : Nat) (l vs : List α) :
    Py.setStride step skip l vs = Model.Search.setStride step skip l vs := by
  induction l generalizing skip vs with
  | nil => cases skip <;> rfl
  | cons x xs ih =>
    cases skip with
    | zero =>
      cases vs with
      | nil => rfl
      | cons v vs => simp only [Py.setStride, Model.Search.setStride, ih]
    | succ k => simp only [Py.setStride, Model.Search.setStride, ih]

theorem getStride_length (step : Nat) (hs : 0 < step) (skip : Nat) (l : List α) :
    (Py.getStride step skip l).length = (l.length + step - 1 - skip) / step := by
  induction l generalizing skip with
  | nil =>
    have : (Py.getStride step skip ([] : List α)) = [] := by cases skip <;> rfl
    rw [this]
    simp only [List.length_nil, Nat.zero_add]
    exact (Nat.div_eq_of_lt (by omega)).symm
  | cons x xs ih =>
    cases skip with
    | zero =>
      simp only [Py.getStride, List.length_cons, ih]
      have h1 : xs.length + step - 1 - (step - 1) = xs.length := by omega
      have h2 : xs.length + 1 + step - 1 - 0 = xs.length + step := by omega
      rw [h1, h2, Nat.add_div_right _ hs]
    | succ k =>
      simp only [Py.getStride, List.length_cons, ih]
      have : xs.length + 1 + step - 1 - (k + 1) = xs.length + step - 1 - k := by omega
      rw [this]

theorem setStride_length (step skip : Nat) (l vs : List α) :
    (Py.setStride step skip l vs).length = l.length := by
  induction l generalizing skip vs with
  | nil => cases skip <;> rfl
  | cons x xs ih =>
    cases skip with
    | zero =>
      cases vs with
      | nil => rfl
      | cons v vs => simp only [Py.setStride, List.length_cons, ih]
    | succ k => simp only [Py.setStride, List.length_cons, ih]

theorem getStride_length_of_dvd (k i : Nat) (hi : i < k) (l : List α) (h : l.length % k = 0) :
    (Py.getStride k i l).length = l.length / k := by
  have hk : 0 < k := by omega
  rw [getStride_length k hk]
  have hm : l.length = k * (l.length / k) := by have := Nat.div_add_mod l.length k; omega
  generalize l.length / k = q at hm ⊢
  rw [hm, show k * q + k - 1 - i = k * q + (k - 1 - i) by omega, Nat.mul_add_div hk,
    Nat.div_eq_of_lt (by omega), Nat.add_zero]

/-- one assignment of the swap, `c[i::k] = b[j::k]`: the sizes agree, no ValueError -/
theorem strideSetE_class (b c : List α) (i j k : Nat) (hi : i < k) (hj : j < k) (hc : c.length = b.length)
    (hb : b.length % k = 0) :
    Py.strideSetE c i k (Py.getStride k j b) = .ok (Py.setStride k i c (Py.getStride k j b)) := by
  unfold Py.strideSetE
  rw [if_pos]
  rw [getStride_length_of_dvd k i hi c (hc ▸ hb), getStride_length_of_dvd k j hj b hb, hc]

theorem pymod_eq_zero_iff (a b : Int) : pymod a b = 0 ↔ a % b = 0 := by
  unfold pymod
  constructor
  · intro h; exact Int.emod_eq_zero_of_dvd (Int.dvd_of_fmod_eq_zero h)
  · intro h; exact Int.fmod_eq_zero_of_dvd (Int.dvd_of_emod_eq_zero h)

end Acra.Lemmas.SrcTieSwap
