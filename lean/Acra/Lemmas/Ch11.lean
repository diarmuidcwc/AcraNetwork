/-
  Chapter11: the header bytes, the secondary header, the filler; the bytes `pack`
  emits; `unpack` on arbitrary bytes as a parser (`verdict`, `decode`, `decodes`); the round trip is that parser
  evaluated on what `pack` emits (`header_slices_mod` reads every header field back).

  `data_checksum_size = k` is carried through as a variable.  What the code does with it
  (AcraNetwork/IRIG106/Chapter11/__init__.py, `pack`): `k` is ADDED to the length from which the filler and the
  packet-length field are computed, and nothing else happens — no checksum byte is emitted, the packet flags are
  not touched, `unpack` never looks at the attribute.  `WFnK` / `WFsK` are the well-formedness predicates for any
  `k`; `WFn` / `WFs` add `k = 0`, and the lemmas about them are the `k = 0` instances (then the bytes are
  `Acra.Spec.Ch11.encode`).
-/
import Acra.Lemmas.Ch10
import Acra.Lemmas.Decoder
namespace Acra.Lemmas.Ch11
open Acra.Py Acra.Model.Ch11 Acra.Gen.Ch11 Acra.Lemmas.Ch10 Acra.Lemmas.Bits Acra

def codes10 : List Code := [.u16, .u16, .u32, .u32, .u8, .u8, .u8, .u8, .u32, .u16]

/-- the first ten header values as `pack` passes them to `struct.pack` -/
def vals10 (s : State) (plen dlen : Nat) : List Nat :=
  [s.syncpattern, s.channelID, plen, dlen, s.datatypeversion, s.sequence, s.packetflag, s.datatype,
   s.relativetimecounter % 4294967296, s.relativetimecounter / 4294967296]

/-- the 22 header bytes before the checksum -/
def h22 (s : State) (plen dlen : Nat) : Bytes := encCodes false codes10 (vals10 s plen dlen)

@[simp] theorem h22_length (s : State) (plen dlen : Nat) : (h22 s plen dlen).length = 22 := by
  simp [h22, codes10, vals10, encCodes, Code.size]

theorem hdr_codes : CH10_HDR_FORMAT.codes = codes10 ++ [.u16] := rfl

theorem h22_eq_spec (s : State) (plen dlen : Nat) :
    h22 s plen dlen = Spec.Ch11.header22 s.syncpattern s.channelID plen dlen s.datatypeversion s.sequence
      s.packetflag s.datatype s.relativetimecounter := by
  have e1 : leBytes 6 s.relativetimecounter =
      leBytes 4 (s.relativetimecounter % 4294967296) ++ leBytes 2 (s.relativetimecounter / 4294967296) :=
    leBytes_split 2 4 _
  simp only [h22, codes10, vals10, encCodes, encInt, Code.size, Spec.Ch11.header22, e1, List.append_assoc,
    List.append_nil, Bool.false_eq_true, if_false]

theorem hdr_with_cs (s : State) (plen dlen c : Nat) :
    encCodes false CH10_HDR_FORMAT.codes (vals10 s plen dlen ++ [c]) = h22 s plen dlen ++ encInt false 2 c := by
  rw [hdr_codes, encCodes_append _ _ _ _ _ (by simp [codes10, vals10])]
  simp [h22, encCodes, Code.size]

/-- no secondary header: flag bit 7 clear, derived fields as the setter leaves them.  `+ 28`: the 24 header bytes, the
    payload and fewer than 4 filler bytes must fit the 32-bit packet-length field (`+ 40` with the 12-byte secondary header) -/
def WFn (s : State) : Prop :=
  s.syncpattern < 2 ^ 16 ∧ s.channelID < 2 ^ 16 ∧ s.datatypeversion < 2 ^ 8 ∧ s.sequence < 2 ^ 8 ∧
  s.packetflag < 2 ^ 7 ∧ s.datatype < 2 ^ 8 ∧ s.relativetimecounter < 2 ^ 48 ∧ s.data_checksum_size = 0 ∧
  s.has_secondary_header = false ∧ s.ts_source = TS_RTC ∧ s.payload.length + 28 < 2 ^ 32

/-- IEEE-1588 secondary header present: flag bit 7 set, time format 01, derived fields as the setter leaves them -/
def WFs (s : State) : Prop :=
  s.syncpattern < 2 ^ 16 ∧ s.channelID < 2 ^ 16 ∧ s.datatypeversion < 2 ^ 8 ∧ s.sequence < 2 ^ 8 ∧
  (s.packetflag < 2 ^ 8 ∧ s.packetflag / 128 = 1 ∧ s.packetflag / 4 % 4 = 1) ∧ s.datatype < 2 ^ 8 ∧
  s.relativetimecounter < 2 ^ 48 ∧ s.data_checksum_size = 0 ∧
  s.has_secondary_header = true ∧ s.ts_source = TS_IEEE1558 ∧
  s.ptptime.seconds < 2 ^ 32 ∧ s.ptptime.nanoseconds < 2 ^ 32 ∧ s.payload.length + 40 < 2 ^ 32

/-- `WFn` without `data_checksum_size = 0` (the size bound includes the checksum size) -/
def WFnK (s : State) : Prop :=
  s.syncpattern < 2 ^ 16 ∧ s.channelID < 2 ^ 16 ∧ s.datatypeversion < 2 ^ 8 ∧ s.sequence < 2 ^ 8 ∧
  s.packetflag < 2 ^ 7 ∧ s.datatype < 2 ^ 8 ∧ s.relativetimecounter < 2 ^ 48 ∧
  s.has_secondary_header = false ∧ s.ts_source = TS_RTC ∧ s.payload.length + s.data_checksum_size + 28 < 2 ^ 32

/-- `WFs` without `data_checksum_size = 0` -/
def WFsK (s : State) : Prop :=
  s.syncpattern < 2 ^ 16 ∧ s.channelID < 2 ^ 16 ∧ s.datatypeversion < 2 ^ 8 ∧ s.sequence < 2 ^ 8 ∧
  (s.packetflag < 2 ^ 8 ∧ s.packetflag / 128 = 1 ∧ s.packetflag / 4 % 4 = 1) ∧ s.datatype < 2 ^ 8 ∧
  s.relativetimecounter < 2 ^ 48 ∧ s.has_secondary_header = true ∧ s.ts_source = TS_IEEE1558 ∧
  s.ptptime.seconds < 2 ^ 32 ∧ s.ptptime.nanoseconds < 2 ^ 32 ∧ s.payload.length + s.data_checksum_size + 40 < 2 ^ 32

theorem WFn_iff_K (s : State) : WFn s ↔ WFnK s ∧ s.data_checksum_size = 0 := by
  simp only [WFn, WFnK]
  constructor
  · rintro ⟨h1, h2, h3, h4, h5, h6, h7, h8, h9, h10, h11⟩
    exact ⟨⟨h1, h2, h3, h4, h5, h6, h7, h9, h10, by omega⟩, h8⟩
  · rintro ⟨⟨h1, h2, h3, h4, h5, h6, h7, h9, h10, h11⟩, h8⟩
    exact ⟨h1, h2, h3, h4, h5, h6, h7, h8, h9, h10, by omega⟩

theorem WFs_iff_K (s : State) : WFs s ↔ WFsK s ∧ s.data_checksum_size = 0 := by
  simp only [WFs, WFsK]
  constructor
  · rintro ⟨h1, h2, h3, h4, h5, h6, h7, h8, h9, h10, h11, h12, h13⟩
    exact ⟨⟨h1, h2, h3, h4, h5, h6, h7, h9, h10, h11, h12, by omega⟩, h8⟩
  · rintro ⟨⟨h1, h2, h3, h4, h5, h6, h7, h9, h10, h11, h12, h13⟩, h8⟩
    exact ⟨h1, h2, h3, h4, h5, h6, h7, h8, h9, h10, h11, h12, by omega⟩

theorem WF_K (s : State) (h : WFn s ∨ WFs s) : (WFnK s ∨ WFsK s) ∧ s.data_checksum_size = 0 :=
  h.elim (fun h => ⟨.inl ((WFn_iff_K s).1 h).1, ((WFn_iff_K s).1 h).2⟩)
    (fun h => ⟨.inr ((WFs_iff_K s).1 h).1, ((WFs_iff_K s).1 h).2⟩)

theorem fillR_eq (n : Nat) :
    (if n % 4 = 0 then (.ok [] : R Bytes)
     else structPack (Ch11_pack_fmt2 (4 - n % 4)) (List.replicate (4 - n % 4) 0xFF)) =
      .ok (List.replicate (Spec.Ch11.fillLen n) 0xFF) := by
  unfold Spec.Ch11.fillLen
  by_cases h : n % 4 = 0
  · rw [if_pos h, h]; rfl
  · rw [if_neg h, structPack, Ch11_pack_fmt2, packCodes_fill, Nat.mod_eq_of_lt (a := 4 - n % 4) (by omega)]

theorem fillLen_lt (n : Nat) : Spec.Ch11.fillLen n < 4 := by unfold Spec.Ch11.fillLen; omega
theorem fillLen_mod (n : Nat) : (n + Spec.Ch11.fillLen n) % 4 = 0 := by unfold Spec.Ch11.fillLen; omega

theorem secHdr_none (s : State) (h : s.has_secondary_header = false) : secHdr s = .ok [] := by
  simp [secHdr, h]

theorem PTP_unpack_eq (buf : Bytes) :
    PTP.unpack buf =
      if buf.length = 8 then .ok ⟨leNat (slice buf 4 8), leNat (slice buf 0 4)⟩ else .error .struct := by
  rw [PTP.unpack, structUnpack_flds]
  by_cases h : buf.length = 8
  · rw [if_pos (by exact h), if_pos h]; rfl
  · rw [if_neg (by exact h), if_neg h]

theorem rtcUnpack_eq (buf : Bytes) :
    rtcUnpack buf =
      if buf.length = 8 then .ok (leNat (slice buf 0 4) + leNat (slice buf 4 6) * 4294967296) else .error .struct := by
  rw [rtcUnpack, structUnpack_flds]
  by_cases h : buf.length = 8
  · rw [if_pos (by exact h), if_pos h]
    simp only [RTC_unpack_fmt0, flds, Code.size, bits, Nat.reducePow]; rfl
  · rw [if_neg (by exact h), if_neg h]

theorem PTP_roundtrip (t : PTP) (hs : t.seconds < 2 ^ 32) (hn : t.nanoseconds < 2 ^ 32) :
    t.pack = .ok (leBytes 4 t.nanoseconds ++ leBytes 4 t.seconds) ∧
    PTP.unpack (leBytes 4 t.nanoseconds ++ leBytes 4 t.seconds) = .ok t := by
  have hf : Fits PTP_pack_fmt0.codes [t.nanoseconds, t.seconds] := by
    simp only [PTP_pack_fmt0, Fits, Code.bound, and_true]; omega
  refine ⟨by rw [PTP.pack, structPack_eq _ _ hf]; simp [PTP_pack_fmt0, encCodes, encInt, Code.size], ?_⟩
  rw [PTP_unpack_eq, if_pos (by simp), slice_skip _ _ 4 8 (by simp), slice_prefix _ _ 4 (by simp), leBytes_length,
    slice_all _ _ (by simp), leNat_leBytes_of_lt _ _ hs, leNat_leBytes_of_lt _ _ hn]

theorem PTP_reencode (b : Bytes) (h : b.length = 8) :
    (⟨leNat (slice b 4 8), leNat (slice b 0 4)⟩ : PTP).pack = .ok b := by
  have hp := packCodes_unpackCodes false PTP_unpack_fmt0.codes b (by simp [Unsigned, PTP_unpack_fmt0]) (by rw [h]; exact Nat.le_refl 8)
  rw [show codesSize PTP_unpack_fmt0.codes = 8 from rfl, List.take_of_length_le (by omega), ← List.drop_zero (l := b),
    unpackCodes_flds] at hp
  exact hp

theorem RTC_roundtrip (c : Nat) (h : c < 2 ^ 48) :
    rtcPack c = .ok (leBytes 6 c ++ [0, 0]) ∧ rtcUnpack (leBytes 6 c ++ [0, 0]) = .ok c := by
  have hf : Fits RTC_pack_fmt0.codes [c % 4294967296, c / 4294967296 % 65536, 0] := by
    simp only [RTC_pack_fmt0, Fits, Code.bound, and_true]; omega
  have e6 : leBytes 6 c = leBytes 4 (c % 4294967296) ++ leBytes 2 (c / 4294967296 % 65536) := by
    rw [leBytes_mod 2]; exact leBytes_split 2 4 c
  constructor
  · simp only [rtcPack, bits, Nat.reducePow]
    rw [structPack_eq _ _ hf, e6]; simp [RTC_pack_fmt0, encCodes, encInt, Code.size, leBytes]
  · rw [rtcUnpack_eq, if_pos (by simp), e6, List.append_assoc, slice_prefix _ _ 4 (by simp),
      slice_mid _ _ _ 4 6 (by simp) (by simp), leNat_leBytes_of_lt _ _ (by omega), leNat_leBytes_of_lt _ _ (by omega)]
    congr 1; omega

/-- a time stamp with nanoseconds in [0, 10⁹) is determined by its total nanosecond count -/
theorem iptp_ext {a b : IPTP} (ha : 0 ≤ a.2 ∧ a.2 < 1000000000) (hb : 0 ≤ b.2 ∧ b.2 < 1000000000)
    (h : a.1 * 1000000000 + a.2 = b.1 * 1000000000 + b.2) : a = b := by
  obtain ⟨a1, a2⟩ := a
  obtain ⟨b1, b2⟩ := b
  exact Prod.ext (by omega) (by omega)

/-- `TS_IEEE1558 = 1 ≠ TS_CH4 = 0`, so the time is the 8 bytes of `PTP.pack`; the checksum is the byte sum of the first 10 of
    the 12 header bytes, which are those 8 and two zero bytes (`ht10`) -/
theorem secHdr_some (s : State) (h : s.has_secondary_header = true) (ht : s.ts_source = TS_IEEE1558)
    (h1 : s.ptptime.seconds < 2 ^ 32) (h2 : s.ptptime.nanoseconds < 2 ^ 32) :
    secHdr s = .ok (Spec.Ch11.secHeader s.ptptime.seconds s.ptptime.nanoseconds) := by
  have hf0 : Fits Ch11_pack_fmt0.codes [0, 0] := by
    simp only [Ch11_pack_fmt0, Fits, Code.bound, and_true]; omega
  simp only [secHdr, h, ht, (PTP_roundtrip s.ptptime h1 h2).1, structPack_eq _ _ hf0, if_true]
  have e : encCodes Ch11_pack_fmt0.big Ch11_pack_fmt0.codes [0, 0] = [0, 0, 0, 0] := by decide
  rw [e, show leBytes 4 s.ptptime.nanoseconds ++ leBytes 4 s.ptptime.seconds ++ [0, 0, 0, 0] =
    (leBytes 4 s.ptptime.nanoseconds ++ leBytes 4 s.ptptime.seconds ++ [0, 0]) ++ [0, 0] by simp]
  simp only [TS_IEEE1558, TS_CH4]
  rw [getChecksumByteBuf_eq _ (by simp)]
  simp only [show (1:Nat) = 0 ↔ False by decide, if_false]
  simp only [Ch11_pack_fmt1, pack_one, Code.bound, Nat.mod_lt _ (show 65536 > 0 by decide), if_true]
  rw [byteSum_append]
  have ht10 : ∀ (A B : Bytes), A.length = 4 → B.length = 4 →
      List.take 10 (A ++ (B ++ [0, 0, 0, 0])) = A ++ (B ++ [(0 : UInt8), 0]) := by
    intro A B hA hB
    have : A ++ (B ++ [0, 0, 0, 0]) = (A ++ (B ++ [0, 0])) ++ [(0 : UInt8), 0] := by simp
    rw [this, List.take_left' (by simp [hA, hB])]
  simp [Spec.Ch11.secHeader, Spec.Ch11.secChecksum, encInt, Code.size, Spec.byteSum,
    ht10 _ _ (leBytes_length 4 _) (leBytes_length 4 _)]

theorem secHdr_indep (s : State) (f : Bytes) (pl dl : Nat) :
    secHdr { s with filler := f, packetlen := pl, datalen := dl } = secHdr s := rfl

/-- the filler `pack` computes from the secondary header and payload lengths -/
def fillOf (s : State) (sec : Bytes) : R Bytes :=
  let total := sec.length + s.payload.length + CH10_HDR_FORMAT_LEN + s.data_checksum_size
  if total % 4 = 0 then .ok []
  else structPack (Ch11_pack_fmt2 (4 - total % 4)) (List.replicate (4 - total % 4) 0xFF)

/-- the state `pack` leaves once the filler is known -/
def withFill (s : State) (sec filler : Bytes) : State :=
  { s with filler := filler,
           packetlen := sec.length + s.payload.length + CH10_HDR_FORMAT_LEN + s.data_checksum_size + filler.length,
           datalen := s.payload.length }

/-- header, header checksum and assembly, once secondary header and filler are known; reads none of the fields
    `pack` writes -/
def bytesOf (s : State) (sec filler : Bytes) : R Bytes :=
  match structPack CH10_HDR_FORMAT
      [s.syncpattern, s.channelID,
       sec.length + s.payload.length + CH10_HDR_FORMAT_LEN + s.data_checksum_size + filler.length, s.payload.length,
       s.datatypeversion, s.sequence, s.packetflag, s.datatype, s.relativetimecounter &&& 0xFFFFFFFF,
       s.relativetimecounter >>> 32, 0] with
  | .error e => .error e
  | .ok hdr =>
    match getChecksumBuf hdr with
    | .error e => .error e
    | .ok cs =>
      match structPack Ch11_pack_fmt3 [cs] with
      | .error e => .error e
      | .ok c => .ok (hdr.take (hdr.length - 2) ++ c ++ sec ++ s.payload ++ filler)

/-- the only fields `pack` writes are `filler`, `packetlen`, `datalen` — and it writes them whenever the secondary
    header and the filler could be built, whatever happens afterwards -/
theorem pack_eq (s : State) :
    pack s =
      match secHdr s with
      | .error e => (s, .error e)
      | .ok sec =>
        match fillOf s sec with
        | .error e => (s, .error e)
        | .ok filler => (withFill s sec filler, bytesOf s sec filler) := by
  unfold pack
  cases secHdr s with
  | error e => rfl
  | ok sec =>
    simp only [fillOf]
    cases (if (sec.length + s.payload.length + CH10_HDR_FORMAT_LEN + s.data_checksum_size) % 4 = 0 then (.ok [] : R Bytes)
      else structPack (Ch11_pack_fmt2 (4 - (sec.length + s.payload.length + CH10_HDR_FORMAT_LEN + s.data_checksum_size) % 4))
        (List.replicate (4 - (sec.length + s.payload.length + CH10_HDR_FORMAT_LEN + s.data_checksum_size) % 4) 0xFF)) with
    | error e => rfl
    | ok filler =>
      simp only [bytesOf, withFill]
      cases structPack CH10_HDR_FORMAT
        [s.syncpattern, s.channelID,
         sec.length + s.payload.length + CH10_HDR_FORMAT_LEN + s.data_checksum_size + filler.length, s.payload.length,
         s.datatypeversion, s.sequence, s.packetflag, s.datatype, s.relativetimecounter &&& 0xFFFFFFFF,
         s.relativetimecounter >>> 32, 0] with
      | error e => rfl
      | ok hdr =>
        simp only
        cases getChecksumBuf hdr with
        | error e => rfl
        | ok cs => simp only; cases structPack Ch11_pack_fmt3 [cs] <;> rfl

/-- the length `pack` computes filler and packet length from: header, secondary header, payload AND the checksum size -/
def totalK (s : State) (secLen : Nat) : Nat := 24 + secLen + s.payload.length + s.data_checksum_size

/-- the state `pack` leaves behind -/
def packedK (s : State) (secLen : Nat) : State :=
  { s with filler := List.replicate (Spec.Ch11.fillLen (totalK s secLen)) 0xFF,
           packetlen := totalK s secLen + Spec.Ch11.fillLen (totalK s secLen),
           datalen := s.payload.length }

/-- the bytes `pack` emits: the header declaring `totalK + filler` bytes, then secondary header, payload, filler —
    and NO checksum bytes -/
def bytesK (s : State) (sec : Bytes) : Bytes :=
  Spec.Ch11.header s.syncpattern s.channelID (totalK s sec.length + Spec.Ch11.fillLen (totalK s sec.length))
    s.payload.length s.datatypeversion s.sequence s.packetflag s.datatype s.relativetimecounter ++ sec ++ s.payload ++
    List.replicate (Spec.Ch11.fillLen (totalK s sec.length)) 0xFF

theorem bytesK_assoc (s : State) (sec : Bytes) :
    bytesK s sec = Spec.Ch11.header s.syncpattern s.channelID (totalK s sec.length + Spec.Ch11.fillLen (totalK s sec.length))
      s.payload.length s.datatypeversion s.sequence s.packetflag s.datatype s.relativetimecounter ++
      (sec ++ (s.payload ++ List.replicate (Spec.Ch11.fillLen (totalK s sec.length)) 0xFF)) := by
  simp only [bytesK, List.append_assoc]

theorem bytesK_length (s : State) (sec : Bytes) :
    (bytesK s sec).length + s.data_checksum_size = totalK s sec.length + Spec.Ch11.fillLen (totalK s sec.length) := by
  simp [bytesK, Spec.Ch11.header, Spec.Ch11.header22, totalK]
  omega

/-- `pack` packs the 24 header bytes with checksum field 0 and sums them as 16-bit words; 22 is even, so the sum splits
    (`sum16le_append`) and the zero word adds nothing: the checksum is `sum16le` of the 22 bytes, and putting it over the
    last two bytes gives `Spec.Ch11.header`.  `sec` is a parameter so that `[]` and the 12-byte header share the proof;
    `totalK` is abstracted to `T` so that `fillLen T` stays one atom for `omega` and the closing `simp`. -/
theorem pack_coreK (s : State) (sec : Bytes) (hsec : secHdr s = .ok sec)
    (hw : s.syncpattern < 2 ^ 16 ∧ s.channelID < 2 ^ 16 ∧ s.datatypeversion < 2 ^ 8 ∧ s.sequence < 2 ^ 8 ∧
      s.packetflag < 2 ^ 8 ∧ s.datatype < 2 ^ 8 ∧ s.relativetimecounter < 2 ^ 48 ∧
      sec.length + s.payload.length + s.data_checksum_size + 28 < 2 ^ 32) :
    pack s = (packedK s sec.length, .ok (bytesK s sec)) := by
  obtain ⟨h1, h2, h3, h4, h5, h6, h7, h9⟩ := hw
  have hk := fillLen_lt (totalK s sec.length)
  have htot : sec.length + s.payload.length + CH10_HDR_FORMAT_LEN + s.data_checksum_size = totalK s sec.length := by
    simp [CH10_HDR_FORMAT_LEN, totalK]; omega
  rw [pack_eq, hsec]
  simp only [fillOf, withFill, bytesOf, htot, fillR_eq, List.length_replicate]
  simp only [bits, Nat.reducePow]
  have hT : totalK s sec.length + 28 < 2 ^ 32 + 24 := by simp only [totalK]; omega
  generalize hTT : totalK s sec.length = T at *
  have hf : Fits CH10_HDR_FORMAT.codes (vals10 s (T + Spec.Ch11.fillLen T) s.payload.length ++ [0]) := by
    simp only [CH10_HDR_FORMAT, vals10, Fits, Code.bound, List.cons_append, List.nil_append, and_true]
    simp only [totalK] at hTT
    omega
  have hv : [s.syncpattern, s.channelID, T + Spec.Ch11.fillLen T,
      s.payload.length, s.datatypeversion, s.sequence, s.packetflag, s.datatype, s.relativetimecounter % 4294967296,
      s.relativetimecounter / 4294967296, 0] =
      vals10 s (T + Spec.Ch11.fillLen T) s.payload.length ++ [0] := by
    simp [vals10]
  rw [hv, structPack_eq _ _ hf, show CH10_HDR_FORMAT.big = false from rfl, hdr_with_cs]
  have hcsum : getChecksumBuf (h22 s (T + Spec.Ch11.fillLen T) s.payload.length ++ encInt false 2 0)
      = .ok (Spec.sum16le (h22 s (T + Spec.Ch11.fillLen T) s.payload.length) % 65536) := by
    rw [getChecksumBuf_eq _ (by simp) (by simp)]
    rw [sum16le_append _ _ (by simp)]
    simp [encInt, leBytes, Spec.sum16le]
  simp only [hcsum]
  simp only [Ch11_pack_fmt3, pack_one, Code.bound, Nat.mod_lt _ (show 65536 > 0 by decide), if_true]
  simp [packedK, bytesK, hTT, Code.size, Spec.Ch11.header, Spec.Ch11.hdrChecksum,
    ← h22_eq_spec, encInt]

theorem pack_nosecK (s : State) (h : WFnK s) : pack s = (packedK s 0, .ok (bytesK s [])) := by
  obtain ⟨h1, h2, h3, h4, h5, h6, h7, h9, h10, h11⟩ := h
  exact pack_coreK s [] (secHdr_none s h9) ⟨h1, h2, h3, h4, by omega, h6, h7, by simp; omega⟩

theorem header_length (sync chid plen dlen dtv sq flag dt rtc : Nat) :
    (Spec.Ch11.header sync chid plen dlen dtv sq flag dt rtc).length = 24 := by
  simp [Spec.Ch11.header, Spec.Ch11.header22]

theorem secHeader_length (sec ns : Nat) : (Spec.Ch11.secHeader sec ns).length = 12 := by
  simp [Spec.Ch11.secHeader]

theorem pack_secK (s : State) (h : WFsK s) :
    pack s = (packedK s 12, .ok (bytesK s (Spec.Ch11.secHeader s.ptptime.seconds s.ptptime.nanoseconds))) := by
  obtain ⟨h1, h2, h3, h4, ⟨h5, h5a, h5b⟩, h6, h7, h9, h10, h11, h12, h13⟩ := h
  have hl := secHeader_length s.ptptime.seconds s.ptptime.nanoseconds
  have := pack_coreK s _ (secHdr_some s h9 h10 h11 h12) ⟨h1, h2, h3, h4, h5, h6, h7, by omega⟩
  rw [this, hl]

theorem packK (s : State) (h : WFnK s ∨ WFsK s) :
    ∃ sec : Bytes, (sec.length = 0 ∨ sec.length = 12) ∧ pack s = (packedK s sec.length, .ok (bytesK s sec)) ∧
      totalK s sec.length + Spec.Ch11.fillLen (totalK s sec.length) < 2 ^ 32 := by
  rcases h with h | h
  · have hfl := fillLen_lt (totalK s 0)
    have := h.2.2.2.2.2.2.2.2.2
    exact ⟨[], .inl rfl, pack_nosecK s h, by simp only [totalK, List.length_nil] at hfl ⊢; omega⟩
  · have hl := secHeader_length s.ptptime.seconds s.ptptime.nanoseconds
    have hfl := fillLen_lt (totalK s 12)
    have := h.2.2.2.2.2.2.2.2.2.2.2
    exact ⟨_, .inr hl, by rw [hl]; exact pack_secK s h, by rw [hl]; simp only [totalK] at hfl ⊢; omega⟩

/-- the packet-flag byte of a buffer (byte 14) -/
def flagByte (buf : Bytes) : Nat := decInt false ((buf.drop 14).take 1)

theorem flagByte_eq (buf : Bytes) : flagByte buf = leNat (slice buf 14 15) := by
  rw [flagByte, take_drop_slice]; rfl

/-- accepted, or the exception `unpack` raises: a function of the flag byte and the length.  The setter rejects
    time formats 2 and 3 before the secondary header is read; format 0 (Chapter 4 time) is rejected after.
    `Accepted` below is the same decision as a proposition (`verdict_spec`): a change of `unpack` touches `verdict`, `decode`,
    `Accepted`, `decodes` and `verdict_spec` together. -/
def verdict (buf : Bytes) : R Unit :=
  if buf.length < 24 then .error .struct
  else if flagByte buf < 128 then .ok ()
  else if 2 ≤ flagByte buf / 4 % 4 then .error .generic
  else if buf.length < 36 then .error .struct
  else if flagByte buf / 4 % 4 = 1 then .ok () else .error .generic

/-- what an accepted buffer leaves in an object whose `data_checksum_size` is `k`: every other field comes from
    the bytes (little-endian header fields; with flag bit 7 the IEEE-1588 time of the secondary header: `verdict` has
    rejected the time formats 0, 2 and 3 by then, so `ts_source` has two cases only) -/
def decode (k : Nat) (buf : Bytes) : State :=
  { syncpattern := leNat (slice buf 0 2), channelID := leNat (slice buf 2 4), packetlen := leNat (slice buf 4 8),
    datalen := leNat (slice buf 8 12), datatypeversion := leNat (slice buf 12 13), sequence := leNat (slice buf 13 14),
    packetflag := flagByte buf, datatype := leNat (slice buf 15 16), relativetimecounter := leNat (slice buf 16 22),
    ptptime := if flagByte buf < 128 then ⟨0, 0⟩ else ⟨leNat (slice buf 28 32), leNat (slice buf 24 28)⟩,
    ts_source := if flagByte buf < 128 then TS_RTC else TS_IEEE1558,
    payload := buf.drop (if flagByte buf < 128 then 24 else 36), data_checksum_size := k, filler := [],
    has_secondary_header := decide (¬ flagByte buf < 128) }

/-- `Chapter11.unpack` as a parser: `k` is the object's `data_checksum_size`, which it keeps -/
def run (k : Nat) (buf : Bytes) : R (State × Unit) := (verdict buf).map fun _ => (decode k buf, ())

/-- The case split follows `verdict` branch by branch.  With bit 7 set and time format 0, fewer than 36 bytes give
    `.struct`, not `.generic`: the secondary header is read before the format bits are looked at. -/
theorem decodes : Lemmas.Decodes unpack (·.data_checksum_size) run := by
  intro t buf
  show Lemmas.Agree (unpack t buf) (run t.data_checksum_size buf)
  by_cases h24 : buf.length < 24
  · simp only [unpack, run, verdict, structUnpackFrom_short _ _ _ (show buf.length < 0 + CH10_HDR_FORMAT.size from h24), if_pos h24]
    rfl
  · have e1 : structUnpackFrom CH10_HDR_FORMAT buf 0 = .ok [leNat (slice buf 0 2), leNat (slice buf 2 4),
        leNat (slice buf 4 8), leNat (slice buf 8 12), leNat (slice buf 12 13), leNat (slice buf 13 14), flagByte buf,
        leNat (slice buf 15 16), leNat (slice buf 16 20), leNat (slice buf 20 22), leNat (slice buf 22 24)] := by
      rw [structUnpackFrom_flds, flagByte_eq]; exact (if_pos (Nat.le_of_not_lt h24)).trans rfl
    have hfl : ¬ flagByte buf > 255 := Nat.not_lt.2 (Nat.le_of_lt_succ (decInt_take_lt false _ 1))
    simp only [unpack, run, verdict, decode, e1, setPacketflag, hfl, h24, if_false, bits, Nat.reducePow, CH10_HDR_FORMAT_LEN,
      CH10_OPT_HDR_FORMAT_LEN, leNat_slice_cat buf 16 20 22 (by omega) (by omega) (by omega), Nat.reduceSub]
    by_cases h7 : flagByte buf < 128
    · have : ¬ flagByte buf / 128 = 1 := by omega
      simp only [this, h7, if_true, if_false]
      simp [Lemmas.Agree, Except.map]
    · have h128 : flagByte buf / 128 = 1 := by omega
      simp only [h128, h7, if_true, if_false]
      by_cases hi : 2 ≤ flagByte buf / 4 % 4
      · have : ¬ flagByte buf / 4 % 4 = 0 ∧ ¬ flagByte buf / 4 % 4 = 1 := by omega
        simp only [this, hi, if_true, if_false]
        rfl
      · simp only [hi, if_false]
        by_cases h36 : buf.length < 36
        · simp only [structUnpackFrom_short _ _ _ (show buf.length < 24 + CH10_OPT_HDR_FORMAT.size from h36), if_pos h36]
          by_cases h0 : flagByte buf / 4 % 4 = 0
          · simp only [h0, if_true]; rfl
          · have h1 : flagByte buf / 4 % 4 = 1 := by omega
            simp only [h1, Nat.reduceEqDiff, if_true, if_false]; rfl
        · have e2 : structUnpackFrom CH10_OPT_HDR_FORMAT buf 24 = .ok [leNat (slice buf 24 28), leNat (slice buf 28 32),
              leNat (slice buf 32 34), leNat (slice buf 34 36)] := by
            rw [structUnpackFrom_flds]; exact (if_pos (Nat.le_of_not_lt h36)).trans rfl
          simp only [e2, if_neg h36]
          by_cases h0 : flagByte buf / 4 % 4 = 0
          · simp only [h0, Nat.reduceEqDiff, if_true, if_false]; rfl
          · have h1 : flagByte buf / 4 % 4 = 1 := by omega
            simp only [h1, Nat.reduceEqDiff, if_true, if_false]; simp [Lemmas.Agree, Except.map]

theorem unpack_snd (t : State) (buf : Bytes) : (unpack t buf).2 = verdict buf := by
  rw [decodes.snd_eq, run]
  cases verdict buf <;> rfl

theorem unpack_ok (t : State) (buf : Bytes) (h : verdict buf = .ok ()) :
    unpack t buf = (decode t.data_checksum_size buf, .ok ()) :=
  decodes.of_run (by rw [run, h]; rfl)

/-- the buffers `unpack` accepts: at least 24 bytes, and either bit 7 of the flag byte is clear, or the time-format bits
    are 01 and the 12-byte secondary header is there too -/
def Accepted (buf : Bytes) : Prop :=
  24 ≤ buf.length ∧ (flagByte buf < 128 ∨ (flagByte buf / 4 % 4 = 1 ∧ 36 ≤ buf.length))

theorem verdict_spec (buf : Bytes) :
    (Accepted buf ∧ verdict buf = .ok ()) ∨
    (¬ Accepted buf ∧ (verdict buf = .error .struct ∨ verdict buf = .error .generic)) := by
  unfold verdict Accepted
  by_cases h24 : buf.length < 24
  · rw [if_pos h24]; exact .inr ⟨by omega, .inl rfl⟩
  rw [if_neg h24]
  by_cases h7 : flagByte buf < 128
  · rw [if_pos h7]; exact .inl ⟨by omega, rfl⟩
  rw [if_neg h7]
  by_cases hi : 2 ≤ flagByte buf / 4 % 4
  · rw [if_pos hi]; exact .inr ⟨by omega, .inr rfl⟩
  rw [if_neg hi]
  by_cases h36 : buf.length < 36
  · rw [if_pos h36]; exact .inr ⟨by omega, .inl rfl⟩
  rw [if_neg h36]
  by_cases h1 : flagByte buf / 4 % 4 = 1
  · rw [if_pos h1]; exact .inl ⟨by omega, rfl⟩
  · rw [if_neg h1]; exact .inr ⟨by omega, .inr rfl⟩

theorem verdict_ok_iff (buf : Bytes) : verdict buf = .ok () ↔ Accepted buf := by
  rcases verdict_spec buf with ⟨a, h⟩ | ⟨a, h | h⟩ <;> simp [a, h]

theorem verdict_cases (buf : Bytes) :
    verdict buf = .ok () ∨ verdict buf = .error .struct ∨ verdict buf = .error .generic := by
  rcases verdict_spec buf with ⟨_, h⟩ | ⟨_, h | h⟩ <;> simp [h]

theorem header_slices_mod (sync chid plen dlen dtv sq flag dt rtc : Nat) (rest : Bytes) :
    let buf := Spec.Ch11.header sync chid plen dlen dtv sq flag dt rtc ++ rest
    leNat (slice buf 0 2) = sync % 2 ^ 16 ∧ leNat (slice buf 2 4) = chid % 2 ^ 16 ∧ leNat (slice buf 4 8) = plen % 2 ^ 32 ∧
    leNat (slice buf 8 12) = dlen % 2 ^ 32 ∧ leNat (slice buf 12 13) = dtv % 2 ^ 8 ∧ leNat (slice buf 13 14) = sq % 2 ^ 8 ∧
    flagByte buf = flag % 2 ^ 8 ∧ leNat (slice buf 15 16) = dt % 2 ^ 8 ∧ leNat (slice buf 16 22) = rtc % 2 ^ 48 ∧
    buf.drop 24 = rest ∧ buf.length = 24 + rest.length := by
  simp only [flagByte_eq, Spec.Ch11.header, Spec.Ch11.header22, List.append_assoc]
  simp only [slice_skip, slice_prefix, leBytes_length, Nat.le_refl, Nat.reduceSub, Nat.reduceLeDiff,
    leNat_leBytes, Nat.reducePow, true_and]
  refine ⟨?_, by simp; omega⟩
  simp only [← List.append_assoc]
  exact drop_append_len _ _ 24 (by simp)

theorem secHeader_slices (sec ns : Nat) (pre rest : Bytes) (hp : pre.length = 24) (h1 : sec < 2 ^ 32) (h2 : ns < 2 ^ 32) :
    let buf := pre ++ (Spec.Ch11.secHeader sec ns ++ rest)
    leNat (slice buf 24 28) = ns ∧ leNat (slice buf 28 32) = sec ∧ buf.drop 36 = rest := by
  simp only [Spec.Ch11.secHeader, List.append_assoc]
  simp only [slice_skip, slice_prefix, hp, leBytes_length, Nat.le_refl, Nat.reduceSub, Nat.reduceLeDiff, leNat_leBytes,
    Nat.reducePow]
  refine ⟨Nat.mod_eq_of_lt h2, Nat.mod_eq_of_lt h1, ?_⟩
  simp only [← List.append_assoc]
  exact drop_append_len _ _ 36 (by simp [hp])

/-- what an object (in any prior state `t`) holds after decoding the bytes `pack s` emitted -/
def decodedK (s t : State) (secLen : Nat) : State :=
  { packedK s secLen with
      payload := s.payload ++ List.replicate (Spec.Ch11.fillLen (totalK s secLen)) 0xFF,
      filler := [], data_checksum_size := t.data_checksum_size,
      ptptime := if secLen = 0 then ⟨0, 0⟩ else s.ptptime }

theorem roundtrip_nosecK (s t : State) (h : WFnK s) : unpack t (bytesK s []) = (decodedK s t 0, .ok ()) := by
  obtain ⟨h1, h2, h3, h4, h5, h6, h7, h9, h10, h11⟩ := h
  have hk := fillLen_lt (totalK s 0)
  have hP : totalK s 0 + Spec.Ch11.fillLen (totalK s 0) < 2 ^ 32 := by simp only [totalK] at hk ⊢; omega
  have hs := header_slices_mod s.syncpattern s.channelID (totalK s 0 + Spec.Ch11.fillLen (totalK s 0)) s.payload.length
    s.datatypeversion s.sequence s.packetflag s.datatype s.relativetimecounter
    (s.payload ++ List.replicate (Spec.Ch11.fillLen (totalK s 0)) 0xFF)
  simp only [Nat.mod_eq_of_lt h1, Nat.mod_eq_of_lt h2, Nat.mod_eq_of_lt hP, Nat.mod_eq_of_lt h3, Nat.mod_eq_of_lt h4,
    Nat.mod_eq_of_lt h6, Nat.mod_eq_of_lt h7, Nat.mod_eq_of_lt (show s.payload.length < 2 ^ 32 by omega),
    Nat.mod_eq_of_lt (show s.packetflag < 2 ^ 8 by omega)] at hs
  simp only [bytesK, List.length_nil, List.append_nil, List.append_assoc]
  generalize Spec.Ch11.header s.syncpattern s.channelID (totalK s 0 + Spec.Ch11.fillLen (totalK s 0)) s.payload.length
    s.datatypeversion s.sequence s.packetflag s.datatype s.relativetimecounter ++
    (s.payload ++ List.replicate (Spec.Ch11.fillLen (totalK s 0)) 0xFF) = buf at hs ⊢
  obtain ⟨e1, e2, e3, e4, e5, e6, e7, e8, e9, e10, e11⟩ := hs
  have hf : flagByte buf < 128 := e7 ▸ h5
  rw [unpack_ok t _ (by rw [verdict, if_neg (by omega), if_pos hf])]
  simp only [decode, e1, e2, e3, e4, e5, e6, e7, e8, e9, e10, h5, if_true, not_true, decide_false, decodedK, packedK, h9, h10]

theorem roundtrip_secK (s t : State) (h : WFsK s) :
    unpack t (bytesK s (Spec.Ch11.secHeader s.ptptime.seconds s.ptptime.nanoseconds)) = (decodedK s t 12, .ok ()) := by
  obtain ⟨h1, h2, h3, h4, ⟨h5, h5a, h5b⟩, h6, h7, h9, h10, h11, h12, h13⟩ := h
  have hk := fillLen_lt (totalK s 12)
  have hP : totalK s 12 + Spec.Ch11.fillLen (totalK s 12) < 2 ^ 32 := by simp only [totalK] at hk ⊢; omega
  have hs := header_slices_mod s.syncpattern s.channelID (totalK s 12 + Spec.Ch11.fillLen (totalK s 12)) s.payload.length
    s.datatypeversion s.sequence s.packetflag s.datatype s.relativetimecounter
    (Spec.Ch11.secHeader s.ptptime.seconds s.ptptime.nanoseconds ++
      (s.payload ++ List.replicate (Spec.Ch11.fillLen (totalK s 12)) 0xFF))
  have hs2 := secHeader_slices s.ptptime.seconds s.ptptime.nanoseconds
    (Spec.Ch11.header s.syncpattern s.channelID (totalK s 12 + Spec.Ch11.fillLen (totalK s 12)) s.payload.length
      s.datatypeversion s.sequence s.packetflag s.datatype s.relativetimecounter)
    (s.payload ++ List.replicate (Spec.Ch11.fillLen (totalK s 12)) 0xFF)
    (header_length ..) h11 h12
  simp only [Nat.mod_eq_of_lt h1, Nat.mod_eq_of_lt h2, Nat.mod_eq_of_lt hP, Nat.mod_eq_of_lt h3, Nat.mod_eq_of_lt h4,
    Nat.mod_eq_of_lt h5, Nat.mod_eq_of_lt h6, Nat.mod_eq_of_lt h7,
    Nat.mod_eq_of_lt (show s.payload.length < 2 ^ 32 by omega)] at hs
  simp only [bytesK, secHeader_length, List.append_assoc]
  generalize Spec.Ch11.header s.syncpattern s.channelID (totalK s 12 + Spec.Ch11.fillLen (totalK s 12)) s.payload.length
    s.datatypeversion s.sequence s.packetflag s.datatype s.relativetimecounter ++
    (Spec.Ch11.secHeader s.ptptime.seconds s.ptptime.nanoseconds ++
      (s.payload ++ List.replicate (Spec.Ch11.fillLen (totalK s 12)) 0xFF)) = buf at hs hs2 ⊢
  obtain ⟨e1, e2, e3, e4, e5, e6, e7, e8, e9, _, e11⟩ := hs
  obtain ⟨s1, s2, s3⟩ := hs2
  rw [List.length_append, secHeader_length] at e11
  have hf : ¬ flagByte buf < 128 := by omega
  rw [unpack_ok t _ (by
    rw [verdict, if_neg (by omega), if_neg hf, if_neg (by rw [e7]; omega), if_neg (by omega), if_pos (by rw [e7]; exact h5b)])]
  simp only [decode, e1, e2, e3, e4, e5, e6, e8, e9, s1, s2, s3, hf, if_false, not_false_eq_true, decide_true, decodedK,
    packedK, h9, h10, Nat.reduceEqDiff]
  rw [e7]

/-- the state `pack` leaves behind -/
def packed (s : State) (secLen : Nat) : State :=
  { s with filler := List.replicate (Spec.Ch11.fillLen (24 + secLen + s.payload.length)) 0xFF,
           packetlen := 24 + secLen + s.payload.length + Spec.Ch11.fillLen (24 + secLen + s.payload.length),
           datalen := s.payload.length }

/-- what an object (in any prior state `t`) holds after decoding the encoding of `s`: the fields of `s`,
    the computed lengths, an empty filler, and the payload FOLLOWED BY the filler bytes (known finding K5, /verif/known_findings.json) -/
def decoded (s t : State) (secLen : Nat) : State :=
  { packed s secLen with
      payload := s.payload ++ List.replicate (Spec.Ch11.fillLen (24 + secLen + s.payload.length)) 0xFF,
      filler := [], data_checksum_size := t.data_checksum_size,
      ptptime := if secLen = 0 then ⟨0, 0⟩ else s.ptptime }

theorem packedK_zero (s : State) (n : Nat) (hk : s.data_checksum_size = 0) : packedK s n = packed s n := by
  simp only [packedK, packed, totalK, hk, Nat.add_zero]

theorem decodedK_zero (s t : State) (n : Nat) (hk : s.data_checksum_size = 0) : decodedK s t n = decoded s t n := by
  simp only [decodedK, decoded, packedK_zero s n hk, totalK, hk, Nat.add_zero]

theorem bytesK_zero (s : State) (hk : s.data_checksum_size = 0) :
    bytesK s [] = Spec.Ch11.encode s.syncpattern s.channelID s.datatypeversion s.sequence s.packetflag s.datatype
      s.relativetimecounter none s.payload ∧
    bytesK s (Spec.Ch11.secHeader s.ptptime.seconds s.ptptime.nanoseconds) =
      Spec.Ch11.encode s.syncpattern s.channelID s.datatypeversion s.sequence s.packetflag s.datatype
        s.relativetimecounter (some (s.ptptime.seconds, s.ptptime.nanoseconds)) s.payload := by
  simp [bytesK, totalK, hk, Spec.Ch11.encode]

theorem pack_nosec (s : State) (h : WFn s) :
    pack s = (packed s 0, .ok (Spec.Ch11.encode s.syncpattern s.channelID s.datatypeversion s.sequence s.packetflag
      s.datatype s.relativetimecounter none s.payload)) := by
  obtain ⟨hK, hk⟩ := (WFn_iff_K s).1 h
  rw [pack_nosecK s hK, packedK_zero s 0 hk, (bytesK_zero s hk).1]

theorem pack_sec (s : State) (h : WFs s) :
    pack s = (packed s 12, .ok (Spec.Ch11.encode s.syncpattern s.channelID s.datatypeversion s.sequence s.packetflag
      s.datatype s.relativetimecounter (some (s.ptptime.seconds, s.ptptime.nanoseconds)) s.payload)) := by
  obtain ⟨hK, hk⟩ := (WFs_iff_K s).1 h
  rw [pack_secK s hK, packedK_zero s 12 hk, (bytesK_zero s hk).2]

theorem roundtrip_nosec (s t : State) (h : WFn s) :
    ∃ b, pack s = (packed s 0, .ok b) ∧ unpack t b = (decoded s t 0, .ok ()) := by
  obtain ⟨hK, hk⟩ := (WFn_iff_K s).1 h
  exact ⟨_, by rw [pack_nosecK s hK, packedK_zero s 0 hk], by rw [roundtrip_nosecK s t hK, decodedK_zero s t 0 hk]⟩

theorem roundtrip_sec (s t : State) (h : WFs s) :
    ∃ b, pack s = (packed s 12, .ok b) ∧ unpack t b = (decoded s t 12, .ok ()) := by
  obtain ⟨hK, hk⟩ := (WFs_iff_K s).1 h
  exact ⟨_, by rw [pack_secK s hK, packedK_zero s 12 hk], by rw [roundtrip_secK s t hK, decodedK_zero s t 12 hk]⟩

end Acra.Lemmas.Ch11
