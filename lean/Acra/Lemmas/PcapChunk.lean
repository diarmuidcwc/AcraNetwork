/-
  `Pcap.next` reads a record's data in bounded pieces.  The loop `Model.Pcap.readLoop`
  (`while _todo > 0: _chunk = read(min(_todo, CHUNK)); if not _chunk: break; …`) with a positive piece size:
  * never runs out of the fuel `bytes left + 1` (every iteration but the last consumes ≥ 1 byte of the file);
  * returns exactly what one `read(_todo)` would: the next `min _todo (bytes left)` bytes, file position after them;
  * never asks `read()` for more than the piece size, nor for more than is still wanted, nor for 0 bytes;
  * makes at most `min _todo (bytes left) / CHUNK + 2` calls of `read()`.
  Hence `nextRecChunked = nextRec`, the one-`take` model used everywhere else (`Props/C08/PcapChunk`).
-/
import Acra.Model.Pcap
namespace Acra.Lemmas.Pcap
open Acra.Py Acra.Model.Pcap Acra.Gen.Pcap

/-- the count of `read()` calls through one iteration that delivers `cl = min chunk m` of the `m` bytes still to come:
    a full piece pays for its call; a last, short piece is followed by at most one more call (the one that finds
    nothing more is wanted, or nothing there) -/
theorem calls_step {chunk m cl L : Nat} (hcl : cl = min chunk m) (h : chunk * L ≤ m - cl + 2 * chunk)
    (h0 : m - cl = 0 → L ≤ 1) : chunk * (L + 1) ≤ m + 2 * chunk := by
  rw [Nat.mul_succ]
  by_cases hfull : chunk ≤ m
  · omega
  · have := Nat.mul_le_mul_left chunk (h0 (by omega))
    omega

theorem le_div_add_two {c L m : Nat} (hc : 0 < c) (h : c * L ≤ m + 2 * c) : L ≤ m / c + 2 := by
  rw [← Nat.add_mul_div_right m 2 hc]
  exact (Nat.le_div_iff_mul_le hc).2 (by rwa [Nat.mul_comm])

/-- the number of calls is carried in multiplicative form, `chunk * calls ≤ bytes delivered + 2 * chunk`, which one
    iteration preserves without reasoning about division (`calls_step`); `le_div_add_two` turns it into the quotient -/
theorem readLoop_spec (chunk : Nat) (hc : 0 < chunk) (fuel : Nat) (rest : Bytes) (todo : Nat) (acc : Bytes)
    (asks : List Nat) (hf : rest.length + 1 ≤ fuel) :
    ∃ asks', readLoop chunk fuel rest todo acc asks = .ok (acc ++ rest.take todo, rest.drop todo, asks ++ asks') ∧
      (∀ a ∈ asks', 0 < a ∧ a ≤ chunk ∧ a ≤ todo) ∧
      chunk * asks'.length ≤ min todo rest.length + 2 * chunk ∧ (min todo rest.length = 0 → asks'.length ≤ 1) := by
  induction fuel generalizing rest todo acc asks with
  | zero => omega
  | succ fuel ih =>
    rw [readLoop]
    by_cases ht : todo > 0
    · rw [if_pos ht]
      simp only
      by_cases hr : rest = []
      · subst hr
        refine ⟨[min todo chunk], by simp, ?_, by simp; omega, by simp⟩
        intro a ha
        rw [List.mem_singleton] at ha
        omega
      · have hlen : 0 < rest.length := List.length_pos_iff.2 hr
        have hne : (rest.take (min todo chunk)).isEmpty = false :=
          List.isEmpty_eq_false_iff.2 fun h => (List.take_eq_nil_iff.1 h).elim (by omega) hr
        rw [hne]
        simp only [Bool.false_eq_true, if_false]
        -- this iteration delivers `cl = min chunk (min todo rest.length)` bytes, at least one
        have e1 : rest.take (min todo chunk) = rest.take (rest.take (min todo chunk)).length := by
          rw [List.length_take, ← List.take_eq_take_min]
        have hcl : (rest.take (min todo chunk)).length = min chunk (min todo rest.length) := by
          rw [List.length_take, Nat.min_comm todo chunk, Nat.min_assoc]
        generalize (rest.take (min todo chunk)).length = cl at hcl e1
        have hb : 1 ≤ cl ∧ cl ≤ todo ∧ cl ≤ rest.length := by omega
        obtain ⟨asks', h, hall, hcnt, hz⟩ := ih (rest.drop cl) (todo - cl) (acc ++ rest.take (min todo chunk))
          (asks ++ [min todo chunk]) (by rw [List.length_drop]; omega)
        rw [List.length_drop, Nat.sub_min_sub_right] at hcnt hz
        refine ⟨min todo chunk :: asks', ?_, ?_, calls_step hcl hcnt hz, by omega⟩
        · have e2 : rest.take cl ++ (rest.drop cl).take (todo - cl) = rest.take todo := by
            rw [← List.take_add, Nat.add_sub_cancel' hb.2.1]
          have e3 : (rest.drop cl).drop (todo - cl) = rest.drop todo := by
            rw [List.drop_drop, Nat.add_sub_cancel' hb.2.1]
          rw [h, e1, List.append_assoc, e2, e3, List.append_assoc]
          rfl
        · intro a ha
          rcases List.mem_cons.1 ha with rfl | ha
          · exact ⟨Nat.lt_min.2 ⟨ht, hc⟩, Nat.min_le_right _ _, Nat.min_le_left _ _⟩
          · exact ⟨(hall a ha).1, (hall a ha).2.1, Nat.le_trans (hall a ha).2.2 (Nat.sub_le _ _)⟩
    · rw [if_neg ht]
      obtain rfl : todo = 0 := by omega
      exact ⟨[], by simp, by simp, by simp, fun _ => Nat.zero_le _⟩

end Acra.Lemmas.Pcap
