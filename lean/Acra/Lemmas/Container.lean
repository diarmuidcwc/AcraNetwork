/-
  The container protocol: what a `__len__` written `return len(self.pack())` inherits from `pack`, whatever the class.
-/
import Acra.Model.Container
import Acra.Lemmas.iNetX
import Acra.Lemmas.IENA
namespace Acra.Lemmas.Container
open Acra.Py

/-- `return len(self.pack())`: the object is left as `pack` leaves it, the number is the length of the bytes.
    `iNetX.len`, `IENA.Base.len` and `iNET.len` unfold to this with their own `pack`; the lemmas below are applied
    to them with `(pack := …)` given. -/
def lenOfPack (pack : σ → σ × R Bytes) (s : σ) : σ × R Nat := ((pack s).1, (pack s).2.map List.length)

theorem lenOfPack_ok {pack : σ → σ × R Bytes} {s : σ} {b : Bytes} (h : (pack s).2 = .ok b) :
    (lenOfPack pack s).2 = .ok b.length := by
  simp only [lenOfPack, h]
  rfl

theorem lenOfPack_error {pack : σ → σ × R Bytes} {s : σ} {e : Err} (h : (pack s).2 = .error e) :
    (lenOfPack pack s).2 = .error e := by
  simp only [lenOfPack, h]
  rfl

theorem lenOfPack_idem {pack : σ → σ × R Bytes} {s : σ} (h : pack (pack s).1 = pack s) :
    lenOfPack pack (lenOfPack pack s).1 = lenOfPack pack s := by
  simp only [lenOfPack, h]

theorem lenOfPack_total {pack : σ → σ × R Bytes} {s : σ} {e₀ : Err} (h : ∀ e, (pack s).2 = .error e → e = e₀) :
    (∃ n, (lenOfPack pack s).2 = .ok n) ∨ (lenOfPack pack s).2 = .error e₀ := by
  cases hp : (pack s).2 with
  | ok b => exact Or.inl ⟨_, lenOfPack_ok hp⟩
  | error e => exact Or.inr (h e hp ▸ lenOfPack_error hp)

theorem iNetX_pack_error (s : Acra.Model.iNetX.State) (e : Err) (h : (Acra.Model.iNetX.pack s).2 = .error e) :
    e = .struct := by
  rw [Acra.Lemmas.iNetX.pack_closed] at h
  exact structPack_error _ _ _ (R.map_eq_error.1 h)

theorem IENA_pack_error (s : Acra.Model.IENA.Base) (e : Err) (h : (Acra.Model.IENA.Base.pack s).2 = .error e) :
    e = .struct := by
  rw [Acra.Lemmas.IENA.IENA_pack_snd] at h
  rcases R.bind_eq_error h with h | ⟨_, _, h⟩
  · exact structPack_error _ _ _ h
  · rcases R.bind_eq_error h with h | ⟨_, _, h⟩
    · exact structPack_error _ _ _ h
    · cases h

end Acra.Lemmas.Container
