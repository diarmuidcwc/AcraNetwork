/-
  Model of the pattern-search and byte-swap helpers:
    AcraNetwork/__init__.py   KMP.partial, KMP.search, endianness_swap
    AcraNetwork/SamDec008.py  string_matching_boyer_moore_horspool
  Hand-written, statement by statement; core Lean only.  Texts and patterns are byte strings
  (indexing a `bytes` gives an int 0..255; this is how the library itself calls the helpers).

  Python details that are kept:
    * `while` loops carry fuel; `Err.fuel` is how a loop that never ends shows up (Horspool with an
      empty pattern on a non-empty text; never for a non-empty pattern — `BMH_fuel_sufficient`).
    * list / bytes indexing that can leave the range is `[i]?` with `Err.index` (KMP with an empty
      pattern on a non-empty text raises IndexError at `P[j]`; Horspool with both empty raises
      IndexError at `text[k]` with k = -1).
    * Horspool's `i`, `k` and the offsets, KMP's `i - (j - 1)` are Python ints, hence `Int` here;
      a negative index wraps (`pyIdx`), exactly as `text[-1]` would.
    * `endianness_swap`: `len(buffer) % bytecount` raises ZeroDivisionError for 0 and has the sign
      of `bytecount` for negative values; the extended-slice assignments read all right-hand sides
      from the old buffer first and then assign left to right.
-/
import Acra.Py.Basic
namespace Acra.Model.Search
open Acra.Py

/-! ### KMP -/

/-- `while j > 0 and pattern[j] != c: j = ret[j - 1]` (the same loop in `partial` and `search`) -/
def kmpFall (p : Bytes) (tbl : List Nat) (c : UInt8) : Nat → Nat → R Nat
  | 0, _ => .error .fuel
  | fuel + 1, j =>
    if j > 0 then
      match p[j]? with
      | none => .error .index
      | some x =>
        if x ≠ c then
          match tbl[j - 1]? with
          | none => .error .index
          | some j' => kmpFall p tbl c fuel j'
        else .ok j
    else .ok j

/-- `for i in range(1, len(pattern))`: `cs` are the pattern bytes still to come (`pattern[i:]`) -/
def kmpPartialLoop (p : Bytes) : Bytes → Nat → List Nat → R (List Nat)
  | [], _, ret => .ok ret
  | c :: cs, i, ret =>
    match ret[i - 1]? with
    | none => .error .index
    | some j =>
      match kmpFall p ret c (j + 1) j with
      | .error e => .error e
      | .ok j =>
        match p[j]? with
        | none => .error .index
        | some x => kmpPartialLoop p cs (i + 1) (ret ++ [if x == c then j + 1 else j])

/-- `KMP.partial` -/
def kmpPartial (p : Bytes) : R (List Nat) := kmpPartialLoop p (p.drop 1) 1 [0]

/-- `for i in range(len(T))` of `KMP.search`; `rest = T[i:]` -/
def kmpSearchLoop (p : Bytes) (tbl : List Nat) : Bytes → Nat → Nat → List Int → R (List Int)
  | [], _, _, ret => .ok ret
  | c :: rest, i, j, ret =>
    match kmpFall p tbl c (j + 1) j with
    | .error e => .error e
    | .ok j =>
      match p[j]? with
      | none => .error .index
      | some x =>
        let j := if c == x then j + 1 else j
        if j == p.length then
          match tbl[j - 1]? with
          | none => .error .index
          | some j' => kmpSearchLoop p tbl rest (i + 1) j' (ret ++ [(i : Int) - ((j : Int) - 1)])
        else kmpSearchLoop p tbl rest (i + 1) j ret

/-- `KMP().search(T, P)` -/
def kmpSearch (t p : Bytes) : R (List Int) :=
  match kmpPartial p with
  | .error e => .error e
  | .ok tbl => kmpSearchLoop p tbl t 0 0 []

/-! ### Boyer–Moore–Horspool -/

/-- Python `b[i]` for an int `i`: negative indices count from the end -/
def pyIdx (b : List α) (i : Int) : Option α :=
  if 0 ≤ i then b[i.toNat]?
  else if 0 ≤ i + b.length then b[(i + b.length).toNat]?
  else none

/-- `while j >= 0 and text[i] == pattern[j]: j -= 1; i -= 1`, with `j1 = j + 1`.
    Returns the final `(j + 1, i)`. -/
def bmhInner (text pat : Bytes) : Nat → Int → R (Nat × Int)
  | 0, i => .ok (0, i)
  | j1 + 1, i =>
    match pyIdx text i, pat[j1]? with
    | some a, some b => if a == b then bmhInner text pat j1 (i - 1) else .ok (j1 + 1, i)
    | _, _ => .error .index

/-- `skip = [m] * 256; for k in range(m - 1): skip[pattern[k]] = m - k - 1` -/
def bmhSkip (pat : Bytes) : List Nat :=
  (List.range (pat.length - 1)).foldl
    (fun sk k => match pat[k]? with
      | some c => sk.set c.toNat (pat.length - k - 1)
      | none => sk)
    (List.replicate 256 pat.length)

/-- `while k < n:` … `k += skip[text[k]]` -/
def bmhOuter (text pat : Bytes) (skip : List Nat) : Nat → Int → List Int → R (List Int)
  | 0, _, _ => .error .fuel
  | fuel + 1, k, offs =>
    if k < text.length then
      match bmhInner text pat pat.length k with
      | .error e => .error e
      | .ok (j1, i) =>
        let offs := if j1 == 0 then offs ++ [i + 1] else offs
        match pyIdx text k with
        | none => .error .index
        | some c =>
          match skip[c.toNat]? with
          | none => .error .index
          | some s => bmhOuter text pat skip fuel (k + s) offs
    else .ok offs

/-- `string_matching_boyer_moore_horspool(text, pattern)` -/
def bmh (text pat : Bytes) : R (List Int) :=
  if pat.length > text.length then .ok []
  else bmhOuter text pat (bmhSkip pat) (text.length + 1) ((pat.length : Int) - 1) []

/-! ### endianness_swap -/

/-- `b[start::step]` where `skip` elements are still to be passed over before the next hit -/
def getStride (step : Nat) : Nat → List α → List α
  | _, [] => []
  | 0, x :: xs => x :: getStride step (step - 1) xs
  | k + 1, _ :: xs => getStride step k xs

/-- `b[start::step] = vals` (sizes agree whenever the code reaches the assignment; if `vals`
    runs out the rest is left alone) -/
def setStride (step : Nat) : Nat → List α → List α → List α
  | _, [], _ => []
  | 0, x :: xs, [] => x :: xs
  | 0, _ :: xs, v :: vs => v :: setStride step (step - 1) xs vs
  | k + 1, x :: xs, vs => x :: setStride step k xs vs

/-- `buffer[0::2], buffer[1::2] = buffer[1::2], buffer[0::2]` -/
def swap2 (b : List α) : List α :=
  let r0 := getStride 2 1 b
  let r1 := getStride 2 0 b
  setStride 2 1 (setStride 2 0 b r0) r1

/-- `buffer[0::4], buffer[1::4], buffer[2::4], buffer[3::4] = buffer[3::4], buffer[2::4], buffer[1::4], buffer[0::4]` -/
def swap4 (b : List α) : List α :=
  let r0 := getStride 4 3 b
  let r1 := getStride 4 2 b
  let r2 := getStride 4 1 b
  let r3 := getStride 4 0 b
  setStride 4 3 (setStride 4 2 (setStride 4 1 (setStride 4 0 b r0) r1) r2) r3

/-- `endianness_swap(buffer, bytecount)` -/
def endiannessSwap (b : Bytes) (bytecount : Int) : R Bytes :=
  if bytecount = 0 then .error .zeroDiv
  else if (b.length : Int) % bytecount ≠ 0 then .error .generic      -- Python `%`: zero iff divisible, for either sign
  else if bytecount = 2 then .ok (swap2 b)
  else if bytecount = 4 then .ok (swap4 b)
  else .error .generic

end Acra.Model.Search
