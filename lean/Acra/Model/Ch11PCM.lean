/-
  Model of AcraNetwork/IRIG106/Chapter11/PCM.py: `PCMMinorFrame`, `PCMDataPacket`.

  `KMP().search(buffer, pattern)` is modelled by its specification `occ`: the ascending list of all
  offsets at which the (non-empty) pattern occurs.  That the KMP code computes this list is the
  search family's theorem (C17 `KMP_search_eq_occ`, about `Spec.occ`, which `occ` equals:
  `Lemmas.Ch11PCM.occ_eq_spec`); here it is additionally compared with the real code by the correspondence
  check on every run.
-/
import Acra.Model.Ch11PayTs
import Acra.Gen.Ch11PCM
namespace Acra.Model.Ch11Pay.PCM
open Acra.Py Acra.Gen.Ch11PCM Acra.Gen.Ch11PayTs Acra.Model.Ch11Pay

/-- all offsets `i` with `t[i : i+|p|] = p`, ascending (`p` non-empty) -/
def occFrom (p : Bytes) : Bytes → Nat → List Nat
  | [], _ => []
  | t@(_ :: tl), i => if (t.take p.length == p) then i :: occFrom p tl (i + 1) else occFrom p tl (i + 1)

def occ (t p : Bytes) : List Nat := occFrom p t 0

structure Frame where
  ipts : Ipts
  throughput : Bool
  hdr : Option Nat               -- `intra_packet_data_header`
  data : Bytes                   -- `minor_frame_data`
  alignment : Nat
  syncword : Option Nat
  sfid : Option Nat
  deriving Repr, DecidableEq

/-- `PCMMinorFrame(ipts_source, throughput, alignment)`: `None` in throughput mode, `RTCTime()` for
    `TS_CH4`, `PTPTime()` for every other source -/
def Frame.fresh (src : Option Nat) (throughput : Bool) (alignment : Nat) : Frame :=
  { ipts := if throughput then .none else if src = some TS_CH4 then .rtc 0 else .ptp 0 0,
    throughput := throughput, hdr := Option.none, data := [], alignment := alignment,
    syncword := Option.none, sfid := Option.none }

/-- `DATA_HEADER_FORMAT[alignment]`, `DATA_HEADER_LEN[alignment]` (`KeyError` for other keys) -/
def hdrFmt (alignment : Nat) : R (Fmt × Nat) :=
  if alignment = ALIGN_16b then .ok (DATA_HEADER_FORMAT_16, DATA_HEADER_LEN_16)
  else if alignment = ALIGN_32b then .ok (DATA_HEADER_FORMAT_32, DATA_HEADER_LEN_32)
  else .error .key

def packOpt (f : Fmt) : Option Nat → R Bytes
  | Option.none => .ok []
  | some v => structPack f [v]

/-- `PCMMinorFrame.pack` -/
def Frame.pack (f : Frame) : R Bytes :=
  if f.throughput then .ok f.data else
  if f.ipts = .none then .error .generic else
  match f.ipts.pack with
  | .error e => .error e
  | .ok ts =>
    match hdrFmt f.alignment with
    | .error e => .error e
    | .ok (fmt, _) =>
      match (match f.hdr with
             | Option.none => (.error .struct : R Bytes)        -- struct.pack(fmt, None)
             | some v => structPack fmt [v]) with
      | .error e => .error e
      | .ok h =>
        match packOpt MF_pack_fmt0 f.syncword with
        | .error e => .error e
        | .ok sw =>
          match packOpt MF_pack_fmt1 f.sfid with
          | .error e => .error e
          | .ok sf => .ok (ts ++ h ++ sw ++ sf ++ f.data)

/-- `PCMMinorFrame.unpack(buffer, extract_sync_sfid)` -/
def Frame.unpack (f : Frame) (buf : Bytes) (extract : Bool) : Frame × R Unit :=
  match (if f.ipts = .none then (.ok Ipts.none : R Ipts) else f.ipts.unpack (buf.take 8)) with
  | .error e => (f, .error e)
  | .ok i =>
    -- syncword, sfid and the data header are cleared before decoding (only `extract_sync_sfid` and the
    -- non-throughput branch fill them in)
    let f1 := { f with ipts := i, syncword := Option.none, sfid := Option.none, hdr := Option.none }
    if f.throughput then ({ f1 with data := buf }, .ok ()) else
    match hdrFmt f.alignment with
    | .error e => (f1, .error e)
    | .ok (fmt, hl) =>
      match structUnpackFrom fmt buf 8 with
      | .ok [h] =>
        let f2 := { f1 with hdr := some h }
        if extract then
          match structUnpackFrom MF_unpack_fmt0 buf (8 + hl) with
          | .ok [msw, lsw, sfid] =>
            ({ f2 with sfid := some sfid, syncword := some (lsw + 65536 * msw), data := buf.drop (hl + TS_LEN) }, .ok ())
          | .ok _ => (f2, .error .struct)
          | .error e => (f2, .error e)
        else ({ f2 with data := buf.drop (hl + TS_LEN) }, .ok ())
      | .ok _ => (f1, .error .struct)
      | .error e => (f1, .error e)

/-- `PCMMinorFrame.__eq__`: ipts, intra_packet_data_header, minor_frame_data, syncword, sfid, throughput -/
def Frame.eq (a b : Frame) : Bool :=
  a.ipts == b.ipts && a.hdr == b.hdr && a.data == b.data && a.syncword == b.syncword && a.sfid == b.sfid &&
  a.throughput == b.throughput

structure Packet where
  channel_specific_word : Nat
  ipts_source : Option Nat       -- codec option `_ipts_source`
  assigned : Option Nat          -- codec option: `minor_frame_size_bytes` as assigned by the user
  detected : Option Int          -- `_minor_frame_size_detected`
  syncword : Option Nat          -- codec option
  minor_frames : List Frame
  deriving Repr, DecidableEq

def Packet.fresh (src : Option Nat) (syncword size : Option Nat) : Packet :=
  { channel_specific_word := 0, ipts_source := src, assigned := size, detected := Option.none,
    syncword := syncword, minor_frames := [] }

/-- the `minor_frame_size_bytes` property -/
def Packet.mfsb (p : Packet) : Option Int :=
  match p.assigned with
  | some n => some (n : Int)
  | Option.none => p.detected

/-- one minor frame and the fill byte after an odd one -/
def packFrame (f : Frame) : R Bytes :=
  match f.pack with
  | .error e => .error e
  | .ok b =>
    if b.length % 2 == 1 then
      match structPack PCM_pack_fmt1 [PCM_DATA_FRAME_FILL] with
      | .error e => .error e
      | .ok z => .ok (b ++ z)
    else .ok b

/-- `PCMDataPacket.pack` -/
def Packet.pack (p : Packet) : R Bytes :=
  match structPack PCM_pack_fmt0 [p.channel_specific_word] with
  | .error e => .error e
  | .ok csw =>
    match packList packFrame p.minor_frames with
    | .error e => .error e
    | .ok body => .ok (csw ++ body)

/-- the packed-mode loop: `while offset + req <= len(buffer)`; a frame that fails to decode turns
    into a bare `Exception` -/
def decFrames (proto : Frame) (extract : Bool) (req : Nat) (buf : Bytes) : Nat → Nat → R (List Frame)
  | 0, _ => .error .fuel
  | fuel + 1, off =>
    if off + req ≤ buf.length then
      match Frame.unpack proto (slice buf off (off + req)) extract with
      | (_, .error _) => .error .generic
      | (f, .ok ()) =>
        match decFrames proto extract req buf fuel (off + req + (if req % 2 != 0 then 1 else 0)) with
        | .ok fs => .ok (f :: fs)
        | .error e => .error e
    else .ok []

/-- the size the decoder works out when none is assigned -/
def detect (p : Packet) (buf : Bytes) (hl : Nat) : R Int :=
  let whole : Int := (buf.length : Int) - TS_LEN - hl - 4
  match p.syncword with
  | Option.none => .ok whole
  | some sw =>
    match structPack PCM_unpack_fmt1 [sw] with
    | .error e => .error e
    | .ok pat =>
      match occ buf pat with
      | o0 :: o1 :: _ => .ok ((o1 : Int) - o0 - TS_LEN - hl)
      | _ => .ok whole

/-- `PCMDataPacket.unpack(buffer, extract_sync_sfid)` -/
def Packet.unpack (p : Packet) (buf : Bytes) (extract : Bool) : Packet × R Unit :=
  match structUnpackFrom PCM_unpack_fmt0 buf 0 with
  | .ok [csw] =>
    let thr := decide ((csw / MODE_THROUGHPUT) % 2 = 1)
    let align := (csw / MODE_ALIGNMENT) % 2
    let p1 := { p with channel_specific_word := csw, minor_frames := [], detected := Option.none }
    if thr then
      match Frame.unpack (Frame.fresh (some DEFAULT_IPTS_SOURCE) true align) (buf.drop 4) false with
      | (f, .ok ()) => ({ p1 with minor_frames := [f] }, .ok ())
      | (_, .error e) => (p1, .error e)
    else
      let hl := if align = ALIGN_16b then DATA_HEADER_LEN_16 else DATA_HEADER_LEN_32
      match (match p.assigned with
             | some n => (.ok (p1, (n : Int)) : R (Packet × Int))
             | Option.none =>
               match detect p buf hl with
               | .ok d => .ok ({ p1 with detected := some d }, d)
               | .error e => .error e) with
      | .error e => (p1, .error e)
      | .ok (p2, size) =>
        let req := (size + TS_LEN + hl).toNat
        match decFrames (Frame.fresh p.ipts_source false align) extract req buf (buf.length + 1) 4 with
        | .ok fs => ({ p2 with minor_frames := fs }, .ok ())
        | .error e => (p2, .error e)
  | .ok _ => (p, .error .struct)
  | .error e => (p, .error e)

/-- `PCMDataPacket.append` -/
def Packet.append (p : Packet) (f : Frame) : Packet := { p with minor_frames := p.minor_frames ++ [f] }

def framesEq : List Frame → List Frame → Bool
  | [], [] => true
  | a :: as, b :: bs => Frame.eq a b && framesEq as bs
  | _, _ => false

/-- `PCMDataPacket.__eq__`: channel-specific word and the frames -/
def Packet.eq (a b : Packet) : Bool :=
  a.channel_specific_word == b.channel_specific_word && framesEq a.minor_frames b.minor_frames

end Acra.Model.Ch11Pay.PCM
