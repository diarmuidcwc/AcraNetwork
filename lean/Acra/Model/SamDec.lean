/-
  Model of AcraNetwork/SamDec008.py: `SamDec008.frames` as driven by `SamDecPcap._get_data` over a
  pcap file (the socket source is not modelled).  Constants come from Acra.Gen.SamDec.

  A file is its bytes.  `Pcap.__init__(mode="r")` reads the 24-byte global header with
  `struct.unpack` (struct.error when the file is shorter); `Pcap.next` reads a 16-byte record header
  (anything shorter: ValueError inside `PcapRecord.unpack`, turned into StopIteration) and then reads
  `incl_len` bytes (in bounded pieces; modelled by the net effect, one `take`), getting what is left when the file ends early.  Only what the decommutator
  uses is modelled; the `net` family owns the full Pcap model.

  `frames()` is a generator: frames yielded before an exception have been handed to the consumer, so
  the model returns the frames together with the exception (if any) that ended the iteration.
    * first qualifying packet without a sync word: `Exception("No Frame sync found")`  → `.generic`
    * a frame that does not start with the sync word sets `frame_length = None` and the loop
      condition then evaluates `int + None`                                        → `.type`
    * `self._sequence` is never assigned, so the sequence check is dead code (not modelled);
      `self._payload_offset` is re-initialised for every packet, so it is a local of the step.
-/
import Acra.Py.Struct
import Acra.Py.Records
import Acra.Model.iNetX
import Acra.Model.Search
import Acra.Gen.SamDec
namespace Acra.Model.SamDec
open Acra.Py Acra.Gen.SamDec Acra.Model.Search

/-! ### pcap reading (what `for rec in self._pcap` sees) -/

/-- one `Pcap.next()` on the bytes after the cursor: the record payload and the bytes consumed -/
def pcapRec (rem : Bytes) : R (Bytes × Nat) :=
  let hdr := rem.take SamDec_PCAP_RECORD_HEADER_SIZE
  if SamDec_PCAP_RECORD_HEADER_SIZE ≠ hdr.length then .error .value else
  match structUnpack SamDec_PCAP_RECORD_HEADER_FORMAT hdr with
  | .ok [_, _, incl, _] =>
    let body := (rem.drop hdr.length).take incl
    .ok (body, hdr.length + body.length)
  | .ok _ => .error .struct
  | .error e => .error e

/-- iteration stops (StopIteration) as soon as a complete record header cannot be read -/
def pcapMore (off len : Nat) : Bool := off + SamDec_PCAP_RECORD_HEADER_SIZE ≤ len

/-- payloads of all records after the global header -/
def pcapRecords (file : Bytes) : R (List Bytes) :=
  decOff pcapRec pcapMore file (file.length + 1) SamDec_PCAP_GLOBAL_HEADER_SIZE

/-- `SamDecPcap._get_data`: the UDP filter at fixed offsets -/
def udpData (rec : Bytes) : Option Bytes :=
  if rec.length > SamDec_min_len then
    match structUnpackFrom SamDec_get_data_fmt0 rec SamDec_proto_off with
    | .ok [t] => if t == SamDec_UDP_TYPE then some (rec.drop SamDec_data_off) else none
    | _ => none
  else none

/-! ### frames() -/

/-- Python slice index normalisation for an int bound -/
def normIdx (n : Nat) (i : Int) : Nat := if i < 0 then (i + n).toNat else min i.toNat n

/-- `b[lo:hi]` for Python ints -/
def pySlice (b : List α) (lo hi : Int) : List α :=
  slice b (normIdx b.length lo) (normIdx b.length hi)

/-- `while (self._payload_offset + self.frame_length) <= len(payload)`.
    Returns the frames yielded, the final `frame_length`, and the exception that ended the loop. -/
def sliceLoop (sync payload : Bytes) : Nat → Int → Option Int → List Bytes × Option Int × Option Err
  | 0, _, fl => ([], fl, some .fuel)
  | _ + 1, _, none => ([], none, some .type)
  | fuel + 1, off, some fl =>
    if off + fl ≤ payload.length then
      let fb := pySlice payload off (off + fl)
      let off := off + fl
      if fb.take 4 != sync then sliceLoop sync payload fuel off none
      else
        let (fs, fl', e) := sliceLoop sync payload fuel off (some fl)
        (fb :: fs, fl', e)
    else ([], some fl, none)

/-- frame length inference on the first qualifying packet -/
def inferLength (sync payload : Bytes) : R Int :=
  match bmh payload sync with
  | .error e => .error e
  | .ok [] => .error .generic
  | .ok [_] => .ok ((payload.length : Int) - SamDec_PCM_HDR_LEN)
  | .ok (o0 :: o1 :: _) => .ok (o1 - o0)

/-- the body of `for udp_payload in self._get_data()` for one datagram -/
def onPacket (sync udp : Bytes) (fl : Option Int) : List Bytes × Option Int × Option Err :=
  match iNetX.unpack iNetX.fresh udp with
  | (_, .error _) => ([], fl, none)
  | (pkt, .ok _) =>
    if pkt.streamid == SamDec_streamid then
      let payload := pkt.payload
      match fl with
      | some fl => sliceLoop sync payload (payload.length + 2) SamDec_PCM_HDR_LEN (some fl)
      | none =>
        match inferLength sync payload with
        | .error e => ([], none, some e)
        | .ok fl => sliceLoop sync payload (payload.length + 2) SamDec_PCM_HDR_LEN (some fl)
    else ([], fl, none)

def framesLoop (sync : Bytes) : List Bytes → Option Int → List Bytes × Option Err
  | [], _ => ([], none)
  | u :: us, fl =>
    match onPacket sync u fl with
    | (fs, _, some e) => (fs, some e)
    | (fs, fl', none) =>
      let (gs, e) := framesLoop sync us fl'
      (fs ++ gs, e)

/-- `list(SamDec008.frames())` over the given datagrams, with `frame_length = None` initially -/
def frames (udps : List Bytes) : List Bytes × Option Err :=
  match structPack SamDec_frames_fmt0 [SamDec_sync_word] with
  | .error e => ([], some e)
  | .ok sync => framesLoop sync udps none

/-- the datagrams `SamDecPcap(file)._get_data()` yields; the constructor fails on a short file -/
def getData (file : Bytes) : R (List Bytes) :=
  match structUnpack SamDec_PCAP_GLOBAL_HEADER_FORMAT (file.take SamDec_PCAP_GLOBAL_HEADER_SIZE) with
  | .error e => .error e
  | .ok _ =>
    match pcapRecords file with
    | .error e => .error e
    | .ok recs => .ok (recs.filterMap udpData)

/-- `list(SamDecPcap(file).frames())` -/
def decom (file : Bytes) : List Bytes × Option Err :=
  match getData file with
  | .error e => ([], some e)
  | .ok udps => frames udps

end Acra.Model.SamDec
