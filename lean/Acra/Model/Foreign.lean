/-
  `a == x` for ANY right-hand operand, for every class of the library that defines `__eq__` (C14, third clause);
  `AFDX.eqOp` stands with its class in Model/AFDX.lean.

  Each `eqOp : σ → Operand σ → R Bool` is the class's comparison of two instances (`eq`, modelled with the class)
  behind the opening statement of its `__eq__` as found in the source today: `Gen.EqGuard.guarded_<Class>` is `true`
  when that statement is `if not isinstance(other, <Class>) [or …]: return False` (regenerated with `ast` on every run
  by harness/extract_tables/foreign.py), and then `Operand.opening` answers a foreign operand with `False`; were the
  guard missing, the first `getattr(other, …)` would raise AttributeError (`Operand.unguarded`).

  Instances of a library subclass or base class of the class are not foreign (they pass an `isinstance` guard
  somewhere in the family).  The classes that have such relatives (Gen.EqGuard.related) additionally define `eqSubclass` /
  `eqBaseclass` (the codec fields `eqSub` / `eqBase` of the driver) (see Py/Operand.lean for the order in which CPython asks the two operands):

    IENA  ⊃ IENAM, IENAQ, IENAD, IENAN     one inherited `__eq__`, which walks `self._req_attr` — the subclasses' list
                                           ends with "parameters", an attribute a plain IENA object does not have
    NPDSegment ⊃ ACQ/A429/PCMPacketizer/MIL1553 segments (inherit), RS232Segment (own `__eq__`)
    MPEGPacket ⊃ PES ⊃ STANAG4609, MPEGPacket ⊃ MPEGPacketPMT   every class has its own guarded `__eq__`
    Chapter11 ⊃ Chapter10 (the deprecated alias class, inherits everything)
-/
import Acra.Py.Operand
import Acra.Gen.EqGuard
import Acra.Model.iNetX
import Acra.Model.IENA
import Acra.Model.IENAQDN
import Acra.Model.iNET
import Acra.Model.NPD
import Acra.Model.ParserAligned
import Acra.Model.Chapter7
import Acra.Model.MPEGTS
import Acra.Model.PMT
import Acra.Model.PES
import Acra.Model.Net
import Acra.Model.Ch10UDP
import Acra.Model.Ch11
import Acra.Model.Ch11UART
import Acra.Model.Ch11MIL1553
import Acra.Model.Ch11ARINC
import Acra.Model.Ch11Misc
import Acra.Model.Ch11PCM
import Acra.Model.Ch11TimeFmt
import Acra.Model.Ch11Video

namespace Acra.Model.iNetX
open Acra.Py Acra.Gen.EqGuard
/-- `iNetX.__eq__` (iNetX.py:151): `if not isinstance(other, iNetX): return False`, then the comparison of two instances -/
def eqOp (a : State) : Operand State → R Bool :=
  Operand.opening guarded_iNetX (fun a b => .ok (eq a b)) a
end Acra.Model.iNetX

namespace Acra.Model.IENA
open Acra.Py Acra.Gen.EqGuard
/-- `IENA.__eq__` (IENA.py:198): `if not isinstance(other, IENA): return False`, then the comparison of two instances -/
def Base.eqOp (a : Base) : Operand Base → R Bool :=
  Operand.opening guarded_IENA (fun a b => .ok (Base.eq a b)) a
end Acra.Model.IENA

namespace Acra.Model.IENA
open Acra.Py Acra.Gen.EqGuard
/-- `IENA.__eq__` (IENA.py:198 (inherited by IENAM)): `if not isinstance(other, IENA): return False`, then the comparison of two instances -/
def MState.eqOp (a : MState) : Operand MState → R Bool :=
  Operand.opening guarded_IENA (fun a b => .ok (MState.eq a b)) a
end Acra.Model.IENA

namespace Acra.Model.IENA
open Acra.Py Acra.Gen.EqGuard
/-- `IENA.__eq__` (IENA.py:198 (inherited by IENAQ)): `if not isinstance(other, IENA): return False`, then the comparison of two instances -/
def QState.eqOp (a : QState) : Operand QState → R Bool :=
  Operand.opening guarded_IENA (fun a b => .ok (QState.eq a b)) a
end Acra.Model.IENA

namespace Acra.Model.IENA
open Acra.Py Acra.Gen.EqGuard
/-- `IENA.__eq__` (IENA.py:198 (inherited by IENAD)): `if not isinstance(other, IENA): return False`, then the comparison of two instances -/
def DState.eqOp (a : DState) : Operand DState → R Bool :=
  Operand.opening guarded_IENA (fun a b => .ok (DState.eq a b)) a
end Acra.Model.IENA

namespace Acra.Model.IENA
open Acra.Py Acra.Gen.EqGuard
/-- `IENA.__eq__` (IENA.py:198 (inherited by IENAN)): `if not isinstance(other, IENA): return False`, then the comparison of two instances -/
def NState.eqOp (a : NState) : Operand NState → R Bool :=
  Operand.opening guarded_IENA (fun a b => .ok (NState.eq a b)) a
end Acra.Model.IENA

namespace Acra.Model.iNET
open Acra.Py Acra.Gen.EqGuard
/-- `iNET.__eq__` (iNET.py:237): `if not isinstance(other, iNET): return False`, then the comparison of two instances -/
def eqOp (a : State) : Operand State → R Bool :=
  Operand.opening guarded_iNET (eq) a
end Acra.Model.iNET

namespace Acra.Model.NPD
open Acra.Py Acra.Gen.EqGuard
/-- `NPD.__eq__` (NPD.py:387): `if not isinstance(other, NPD): return False`, then the comparison of two instances -/
def eqOp (a : State) : Operand State → R Bool :=
  Operand.opening guarded_NPD (fun a b => .ok (eq a b)) a
end Acra.Model.NPD

namespace Acra.Model.ParserAligned
open Acra.Py Acra.Gen.EqGuard
/-- `ParserAlignedBlock.__eq__` (ParserAligned.py:96): `if not isinstance(other, ParserAlignedBlock): return False`, then the comparison of two instances -/
def Block.eqOp (a : Block) : Operand Block → R Bool :=
  Operand.opening guarded_ParserAlignedBlock (fun a b => .ok (Block.eq a b)) a
end Acra.Model.ParserAligned

namespace Acra.Model.ParserAligned
open Acra.Py Acra.Gen.EqGuard
/-- `ParserAlignedPacket.__eq__` (ParserAligned.py:191): `if not isinstance(other, ParserAlignedPacket): return False`, then the comparison of two instances -/
def Packet.eqOp (a : Packet) : Operand Packet → R Bool :=
  Operand.opening guarded_ParserAlignedPacket (fun a b => .ok (Packet.eq a b)) a
end Acra.Model.ParserAligned

namespace Acra.Model.Chapter7.PTDP
open Acra.Py Acra.Gen.EqGuard
/-- `PTDP.__eq__` (Chapter7.py:224): `if not isinstance(other, PTDP): return False`, then the comparison of two instances -/
def eqOp (a : State) : Operand State → R Bool :=
  Operand.opening guarded_PTDP (fun a b => .ok (eq a b)) a
end Acra.Model.Chapter7.PTDP

namespace Acra.Model.Chapter7.PTFR
open Acra.Py Acra.Gen.EqGuard
/-- `PTFR.__eq__` (Chapter7.py:479): `if not isinstance(other, PTFR): return False`, then the comparison of two instances -/
def eqOp (a : State) : Operand State → R Bool :=
  Operand.opening guarded_PTFR (fun a b => .ok (eq a b)) a
end Acra.Model.Chapter7.PTFR

namespace Acra.Model.MPEGTS
open Acra.Py Acra.Gen.EqGuard
/-- `MPEGAdaptionExtension.__eq__` (MPEGTS.py:44): `if not isinstance(other, MPEGAdaptionExtension): return False`, then the comparison of two instances -/
def Ext.eqOp (a : Ext) : Operand Ext → R Bool :=
  Operand.opening guarded_MPEGAdaptionExtension (fun a b => .ok (Ext.eq a b)) a
end Acra.Model.MPEGTS

namespace Acra.Model.MPEGTS
open Acra.Py Acra.Gen.EqGuard
/-- `MPEGAdaption.__eq__` (MPEGTS.py:140): `if not isinstance(other, MPEGAdaption): return False`, then the comparison of two instances -/
def AF.eqOp (a : AF) : Operand AF → R Bool :=
  Operand.opening guarded_MPEGAdaption (fun a b => .ok (AF.eq a b)) a
end Acra.Model.MPEGTS

namespace Acra.Model.MPEGTS
open Acra.Py Acra.Gen.EqGuard
/-- `MPEGPacket.__eq__` (MPEGTS.py:355): `if not isinstance(other, MPEGPacket): return False`, then the comparison of two instances -/
def Pkt.eqOp (a : Pkt) : Operand Pkt → R Bool :=
  Operand.opening guarded_MPEGPacket (fun a b => .ok (Pkt.eq a b)) a
end Acra.Model.MPEGTS

namespace Acra.Model.MPEGTS
open Acra.Py Acra.Gen.EqGuard
/-- `MPEGTS.__eq__` (MPEGTS.py:442): `if not isinstance(other, MPEGTS): return False`, then the comparison of two instances -/
def TS.eqOp (a : TS) : Operand TS → R Bool :=
  Operand.opening guarded_MPEGTS (fun a b => .ok (TS.eq a b)) a
end Acra.Model.MPEGTS

namespace Acra.Model.PMT
open Acra.Py Acra.Gen.EqGuard
/-- `DescriptorTag.__eq__` (MPEG/PMT.py:72): `if not isinstance(other, DescriptorTag): return False`, then the comparison of two instances -/
def Desc.eqOp (a : Desc) : Operand Desc → R Bool :=
  Operand.opening guarded_DescriptorTag (fun a b => .ok (a == b)) a
end Acra.Model.PMT

namespace Acra.Model.PMT
open Acra.Py Acra.Gen.EqGuard
/-- `PMTStream.__eq__` (MPEG/PMT.py:134): `if not isinstance(other, PMTStream): return False`, then the comparison of two instances -/
def Stream.eqOp (a : Stream) : Operand Stream → R Bool :=
  Operand.opening guarded_PMTStream (fun a b => .ok (a == b)) a
end Acra.Model.PMT

namespace Acra.Model.PMT
open Acra.Py Acra.Gen.EqGuard
/-- `MPEGPacketPMT.__eq__` (MPEG/PMT.py:294): `if not isinstance(other, MPEGPacketPMT): return False`, then the comparison of two instances -/
def PMT.eqOp (a : PMT) : Operand PMT → R Bool :=
  Operand.opening guarded_MPEGPacketPMT (fun a b => .ok (PMT.eq a b)) a
end Acra.Model.PMT

namespace Acra.Model.PES
open Acra.Py Acra.Gen.EqGuard
/-- `PES.__eq__` (MPEG/PES.py:106): `if not isinstance(other, PES): return False`, then the comparison of two instances -/
def PES.eqOp (a : PES) : Operand PES → R Bool :=
  Operand.opening guarded_PES (fun a b => .ok (PES.eq a b)) a
end Acra.Model.PES

namespace Acra.Model.PES
open Acra.Py Acra.Gen.EqGuard
/-- `STANAG4609.__eq__` (MPEG/PES.py:210): `if not isinstance(other, STANAG4609): return False`, then the comparison of two instances -/
def STANAG.eqOp (a : STANAG) : Operand STANAG → R Bool :=
  Operand.opening guarded_STANAG4609 (fun a b => .ok (STANAG.eq a b)) a
end Acra.Model.PES

namespace Acra.Model.Net
open Acra.Py Acra.Gen.EqGuard
/-- `Ethernet.__eq__` (SimpleEthernet.py:222): `if not isinstance(other, Ethernet): return False`, then the comparison of two instances -/
def Eth.eqOp (a : Eth) : Operand Eth → R Bool :=
  Operand.opening guarded_Ethernet (fun a b => .ok (Eth.eq a b)) a
end Acra.Model.Net

namespace Acra.Model.Net
open Acra.Py Acra.Gen.EqGuard
/-- `ARP.__eq__` (SimpleEthernet.py:766): `if not isinstance(other, ARP): return False`, then the comparison of two instances -/
def ARP.eqOp (a : ARP) : Operand ARP → R Bool :=
  Operand.opening guarded_ARP (fun a b => .ok (ARP.eq a b)) a
end Acra.Model.Net

namespace Acra.Model.Ch10UDP
open Acra.Py Acra.Gen.EqGuard
/-- `Chapter10UDP.__eq__` (IRIG106/Chapter10/Chapter10UDP.py:206): `if not isinstance(other, Chapter10UDP): return False`, then the comparison of two instances -/
def eqOp (a : State) : Operand State → R Bool :=
  Operand.opening guarded_Chapter10UDP (fun a b => .ok (eq a b)) a
end Acra.Model.Ch10UDP

namespace Acra.Model.Ch11
open Acra.Py Acra.Gen.EqGuard
/-- `PTPTime.__eq__` (IRIG106/Chapter11/__init__.py:90): `if not isinstance(other, PTPTime): return False`, then the comparison of two instances -/
def PTP.eqOp (a : PTP) : Operand PTP → R Bool :=
  Operand.opening guarded_PTPTime (fun a b => .ok (ptpEq (a.seconds, a.nanoseconds) (b.seconds, b.nanoseconds))) a
end Acra.Model.Ch11

namespace Acra.Model.Ch11
open Acra.Py Acra.Gen.EqGuard
/-- `RTCTime.__eq__` (IRIG106/Chapter11/__init__.py:151 (the state is the 48-bit count)): `if not isinstance(other, RTCTime): return False`, then the comparison of two instances -/
def RTC.eqOp (a : Nat) : Operand Nat → R Bool :=
  Operand.opening guarded_RTCTime (fun a b => .ok (a == b)) a
end Acra.Model.Ch11

namespace Acra.Model.Ch11
open Acra.Py Acra.Gen.EqGuard
/-- `Chapter11.__eq__` (IRIG106/Chapter11/__init__.py:413): `if not isinstance(other, Chapter11): return False`, then the comparison of two instances -/
def eqOp (a : State) : Operand State → R Bool :=
  Operand.opening guarded_Chapter11 (fun a b => .ok (eq a b)) a
end Acra.Model.Ch11

namespace Acra.Model.Ch11Pay.UART
open Acra.Py Acra.Gen.EqGuard
/-- `UARTDataWord.__eq__` (IRIG106/Chapter11/UART.py:120): `if not isinstance(other, UARTDataWord): return False`, then the comparison of two instances -/
def Word.eqOp (a : Word) : Operand Word → R Bool :=
  Operand.opening guarded_UARTDataWord (fun a b => .ok (Word.eq a b)) a
end Acra.Model.Ch11Pay.UART

namespace Acra.Model.Ch11Pay.UART
open Acra.Py Acra.Gen.EqGuard
/-- `UARTDataPacket.__eq__` (IRIG106/Chapter11/UART.py:218): `if not isinstance(other, UARTDataPacket): return False`, then the comparison of two instances -/
def Packet.eqOp (a : Packet) : Operand Packet → R Bool :=
  Operand.opening guarded_UARTDataPacket (fun a b => .ok (Packet.eq a b)) a
end Acra.Model.Ch11Pay.UART

namespace Acra.Model.Ch11Pay.MIL1553
open Acra.Py Acra.Gen.EqGuard
/-- `MILSTD1553Message.__eq__` (IRIG106/Chapter11/MILSTD1553.py:64): `if not isinstance(other, MILSTD1553Message): return False`, then the comparison of two instances -/
def Msg.eqOp (a : Msg) : Operand Msg → R Bool :=
  Operand.opening guarded_MILSTD1553Message (fun a b => .ok (Msg.eq a b)) a
end Acra.Model.Ch11Pay.MIL1553

namespace Acra.Model.Ch11Pay.MIL1553
open Acra.Py Acra.Gen.EqGuard
/-- `MILSTD1553DataPacket.__eq__` (IRIG106/Chapter11/MILSTD1553.py:172): `if not isinstance(other, MILSTD1553DataPacket): return False`, then the comparison of two instances -/
def Packet.eqOp (a : Packet) : Operand Packet → R Bool :=
  Operand.opening guarded_MILSTD1553DataPacket (fun a b => .ok (Packet.eq a b)) a
end Acra.Model.Ch11Pay.MIL1553

namespace Acra.Model.Ch11Pay.ARINC
open Acra.Py Acra.Gen.EqGuard
/-- `ARINC429DataWord.__eq__` (IRIG106/Chapter11/ARINC429.py:63): `if not isinstance(other, ARINC429DataWord): return False`, then the comparison of two instances -/
def Word.eqOp (a : Word) : Operand Word → R Bool :=
  Operand.opening guarded_ARINC429DataWord (fun a b => .ok (Word.eq a b)) a
end Acra.Model.Ch11Pay.ARINC

namespace Acra.Model.Ch11Pay.ARINC
open Acra.Py Acra.Gen.EqGuard
/-- `ARINC429DataPacket.__eq__` (IRIG106/Chapter11/ARINC429.py:175): `if not isinstance(other, ARINC429DataPacket): return False`, then the comparison of two instances -/
def Packet.eqOp (a : Packet) : Operand Packet → R Bool :=
  Operand.opening guarded_ARINC429DataPacket (fun a b => .ok (Packet.eq a b)) a
end Acra.Model.Ch11Pay.ARINC

namespace Acra.Model.Ch11Pay.Analog
open Acra.Py Acra.Gen.EqGuard
/-- `Analog.__eq__` (IRIG106/Chapter11/Analog.py:37): `if not isinstance(other, Analog): return False`, then the comparison of two instances -/
def eqOp (a : State) : Operand State → R Bool :=
  Operand.opening guarded_Analog (fun a b => .ok (eq a b)) a
end Acra.Model.Ch11Pay.Analog

namespace Acra.Model.Ch11Pay.PCM
open Acra.Py Acra.Gen.EqGuard
/-- `PCMMinorFrame.__eq__` (IRIG106/Chapter11/PCM.py:103): `if not isinstance(other, PCMMinorFrame): return False`, then the comparison of two instances -/
def Frame.eqOp (a : Frame) : Operand Frame → R Bool :=
  Operand.opening guarded_PCMMinorFrame (fun a b => .ok (Frame.eq a b)) a
end Acra.Model.Ch11Pay.PCM

namespace Acra.Model.Ch11Pay.PCM
open Acra.Py Acra.Gen.EqGuard
/-- `PCMDataPacket.__eq__` (IRIG106/Chapter11/PCM.py:270): `if not isinstance(other, PCMDataPacket): return False`, then the comparison of two instances -/
def Packet.eqOp (a : Packet) : Operand Packet → R Bool :=
  Operand.opening guarded_PCMDataPacket (fun a b => .ok (Packet.eq a b)) a
end Acra.Model.Ch11Pay.PCM

namespace Acra.Model.Ch11Pay.TimeFmt
open Acra.Py Acra.Gen.EqGuard
/-- `TimeDataFormat1.__eq__` (IRIG106/Chapter11/TimeDataFormat.py:147): `if not isinstance(other, TimeDataFormat1): return False`, then the comparison of two instances -/
def State1.eqOp (a : State1) : Operand State1 → R Bool :=
  Operand.opening guarded_TimeDataFormat1 (fun a b => .ok (State1.eq a b)) a
end Acra.Model.Ch11Pay.TimeFmt

namespace Acra.Model.Ch11Pay.TimeFmt
open Acra.Py Acra.Gen.EqGuard
/-- `TimeDataFormat2.__eq__` (IRIG106/Chapter11/TimeDataFormat.py:221): `if not isinstance(other, TimeDataFormat2): return False`, then the comparison of two instances -/
def State2.eqOp (a : State2) : Operand State2 → R Bool :=
  Operand.opening guarded_TimeDataFormat2 (fun a b => .ok (State2.eq a b)) a
end Acra.Model.Ch11Pay.TimeFmt

namespace Acra.Model.Ch11Pay.Video
open Acra.Py Acra.Gen.EqGuard
/-- `VideoFormat2.__eq__` (IRIG106/Chapter11/Video.py:51): `if not isinstance(other, VideoFormat2): return False`, then the comparison of two instances -/
def eqOp (a : State) : Operand State → R Bool :=
  Operand.opening guarded_VideoFormat2 (fun a b => .ok (eq a b)) a
end Acra.Model.Ch11Pay.Video

/-! ### classes with relatives -/

namespace Acra.Model.IENA
open Acra.Py Acra.Gen.EqGuard

/-- `a == x`: `a` a plain IENA object, `x` an instance of IENAM / IENAQ / IENAD / IENAN whose seven base attributes
    are `b`.  CPython asks the subclass operand first: `IENA.__eq__(x, a)` (inherited; `isinstance(a, IENA)` holds)
    walks `x._req_attr` — the seven base attributes, then "parameters": the first difference answers `False`; after
    seven equal attributes `getattr(a, "parameters")` raises AttributeError. -/
def Base.eqSubclass (a b : Base) : R Bool := if Base.eq b a then .error .attribute else .ok false

/-- `a == x`: `a` an IENAM / IENAQ / IENAD / IENAN object with base attributes `a`, `x` a plain IENA object with
    attributes `b`: `IENA.__eq__(a, x)` walks `a._req_attr` likewise -/
def Base.eqBaseOf (a b : Base) : R Bool := if Base.eq a b then .error .attribute else .ok false

def MState.eqBaseclass (a b : MState) : R Bool := Base.eqBaseOf a.base b.base
def QState.eqBaseclass (a b : QState) : R Bool := Base.eqBaseOf a.base b.base
def DState.eqBaseclass (a b : DState) : R Bool := Base.eqBaseOf a.base b.base
def NState.eqBaseclass (a b : NState) : R Bool := Base.eqBaseOf a.base b.base
end Acra.Model.IENA

namespace Acra.Model.NPD
open Acra.Py Acra.Gen.EqGuard

/-- a segment object of any of the six classes: `RS232Segment.__eq__` (NPD.py:215) for an RS-232 segment,
    `NPDSegment.__eq__` (NPD.py:87: `if not isinstance(other, NPDSegment) or type(other) is not type(self)`) for the
    others.  `.same b` ranges over the whole family (`b.kind` may differ: `Seg.eq` then answers `False`). -/
def Seg.eqOp (a : Seg) : Operand Seg → R Bool :=
  Operand.opening (if a.kind = .rs232 then guarded_RS232Segment else guarded_NPDSegment) (fun a b => .ok (Seg.eq a b)) a

/-- `a == x`: `a` a plain NPDSegment, `x` an instance of one of its five subclasses (any attributes).  The subclass
    operand is asked first: the inheriting four run `NPDSegment.__eq__(x, a)` — `type(a) is not type(x)`; an
    RS232Segment runs its own `__eq__`, whose guard `a` fails. -/
def Seg.eqSubclass (_a _b : Seg) : R Bool := Operand.rejects (guarded_NPDSegment && guarded_RS232Segment)

/-- `a == x`: `a` an instance of a subclass, `x` a plain NPDSegment: `type(x) is not type(a)`, resp. the RS-232 guard -/
def Seg.eqBaseclass (a _b : Seg) : R Bool :=
  Operand.rejects (if a.kind = .rs232 then guarded_RS232Segment else guarded_NPDSegment)
end Acra.Model.NPD

namespace Acra.Model.MPEGTS
open Acra.Py Acra.Gen.EqGuard
/-- `a == x`: `a` an MPEGPacket, `x` a PES / STANAG4609 / MPEGPacketPMT object: the subclass operand is asked first,
    and `a` is not an instance of it -/
def Pkt.eqSubclass (_a _b : Pkt) : R Bool := Operand.rejects (guarded_PES && guarded_STANAG4609 && guarded_MPEGPacketPMT)
end Acra.Model.MPEGTS

namespace Acra.Model.PMT
open Acra.Py Acra.Gen.EqGuard
/-- `a == x`: `a` an MPEGPacketPMT, `x` a plain MPEGPacket: not an instance of MPEGPacketPMT -/
def PMT.eqBaseclass (_a _b : PMT) : R Bool := Operand.rejects guarded_MPEGPacketPMT
end Acra.Model.PMT

namespace Acra.Model.PES
open Acra.Py Acra.Gen.EqGuard
/-- `a == x`: `a` a PES object, `x` a plain MPEGPacket -/
def PES.eqBaseclass (_a _b : PES) : R Bool := Operand.rejects guarded_PES
/-- `a == x`: `a` a PES object, `x` a STANAG4609 object (asked first; `a` is not a STANAG4609) -/
def PES.eqSubclass (_a _b : PES) : R Bool := Operand.rejects guarded_STANAG4609
/-- `a == x`: `a` a STANAG4609 object, `x` a PES or a plain MPEGPacket -/
def STANAG.eqBaseclass (_a _b : STANAG) : R Bool := Operand.rejects guarded_STANAG4609
end Acra.Model.PES

namespace Acra.Model.Ch11
open Acra.Py Acra.Gen.EqGuard
/-- `a == x`: `a` a Chapter11 object, `x` an instance of the deprecated subclass `Chapter10` (which adds nothing) with
    attributes `b`: asked first, it runs the inherited `Chapter11.__eq__(x, a)` — the comparison with the operands swapped -/
def eqSubclass (a b : State) : R Bool := .ok (eq b a)
/-- `a == x`: `a` an instance of `Chapter10`, `x` a Chapter11 object: `Chapter11.__eq__(a, x)` -/
def eqBaseclass (a b : State) : R Bool := .ok (eq a b)
end Acra.Model.Ch11
