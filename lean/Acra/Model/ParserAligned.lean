/-
  Model of AcraNetwork/ParserAligned.py: ParserAlignedBlock and ParserAlignedPacket
  (the ARINC429 class of that file, "not working yet", is modelled in Model/ExtraMisc.lean).
-/
import Acra.Py.Struct
import Acra.Py.Records
import Acra.Gen.ParserAligned
namespace Acra.Model.ParserAligned
open Acra.Py Acra.Gen.ParserAligned

structure Block where
  error : Bool
  errorcode : Nat
  quadbytes : Nat
  messagecount : Nat
  busid : Nat
  elapsedtime : Nat
  payload : Bytes
  deriving Repr, DecidableEq

def Block.fresh : Block :=
  { error := false, errorcode := 0, quadbytes := PAB_DEFAULT_QUADBYTES, messagecount := 0, busid := PAB_DEFAULT_BUSID,
    elapsedtime := PAB_DEFAULT_ELAPSEDTIME, payload := [] }

/-- `ParserAlignedBlock.unpack`: returns the length of the block -/
def Block.unpack (s : Block) (buf : Bytes) : Block × R Nat :=
  match structUnpackFrom PAB_FORMAT buf 0 with
  | .ok [eaq, mc, bi, et] =>
    let s1 := { s with messagecount := mc, busid := bi, elapsedtime := et, error := decide (eaq >>> 15 = 1) }
    let s2 := { s1 with errorcode := (eaq >>> 9) &&& 0x3F, quadbytes := eaq &&& 0x1FF }
    if s2.quadbytes < 2 then (s2, .error .value) else
    let payload_length_in_bytes := (s2.quadbytes - 2) * 4
    if buf.length < PAB_HEADERLEN + payload_length_in_bytes then (s2, .error .value) else
    ({ s2 with payload := slice buf PAB_HEADERLEN (s2.quadbytes * 4) }, .ok (s2.quadbytes * 4))
  | .ok _ => (s, .error .struct)
  | .error e => (s, .error e)

/-- `ParserAlignedBlock.pack` -/
def Block.pack (s : Block) : Block × R Bytes :=
  if s.payload.length % 4 ≠ 0 then (s, .error .generic) else
  let s' := { s with quadbytes := 2 + s.payload.length / 4 }
  let error_and_quad := ((if s'.error then 1 else 0) <<< 15) + ((s'.errorcode &&& 0x3F) <<< 9) + s'.quadbytes
  match structPack PAB_FORMAT [error_and_quad, s'.messagecount, s'.busid, s'.elapsedtime] with
  | .ok h => (s', .ok (h ++ s'.payload))
  | .error e => (s', .error e)

def Block.eq (a b : Block) : Bool :=
  a.quadbytes == b.quadbytes && a.error == b.error && a.errorcode == b.errorcode && a.busid == b.busid &&
  a.messagecount == b.messagecount && a.elapsedtime == b.elapsedtime && a.payload == b.payload

structure Packet where
  parserblocks : List Block
  numberofblocks : Nat          -- set to 0 by the constructor, to the block count by a successful unpack
  deriving Repr, DecidableEq

def Packet.fresh : Packet := { parserblocks := [], numberofblocks := 0 }

/-- one iteration of `while bufferparsed < fullbufferlen` -/
def decBlock (rem : Bytes) : R (Block × Nat) :=
  match Block.unpack Block.fresh rem with
  | (b, .ok n) => .ok (b, n)
  | (_, .error e) => .error e

def moreLt (off len : Nat) : Bool := decide (off < len)

def Packet.unpack (s : Packet) (buf : Bytes) : Packet × R Unit :=
  match decOff decBlock moreLt buf (buf.length + 1) 0 with
  | .ok bs => ({ parserblocks := bs, numberofblocks := bs.length }, .ok ())
  | .error e => ({ s with parserblocks := [] }, .error e)

def packBlocks : List Block → List Block × R Bytes
  | [] => ([], .ok [])
  | b :: bs =>
    match b.pack with
    | (b', .error e) => (b' :: bs, .error e)
    | (b', .ok x) =>
      match packBlocks bs with
      | (bs', .ok r) => (b' :: bs', .ok (x ++ r))
      | (bs', .error e) => (b' :: bs', .error e)

def Packet.pack (s : Packet) : Packet × R Bytes :=
  match packBlocks s.parserblocks with
  | (bs, r) => ({ s with parserblocks := bs }, r)

/-- `len(other) != len(self)`, then `other.parserblocks[i] != self.parserblocks[i]` for every i -/
def blocksEq : List Block → List Block → Bool
  | [], [] => true
  | l :: ls, r :: rs => Block.eq l r && blocksEq ls rs
  | _, _ => false

def Packet.eq (a b : Packet) : Bool := blocksEq b.parserblocks a.parserblocks

end Acra.Model.ParserAligned
