/-
  Model of AcraNetwork/Pcap.py: PcapRecord and Pcap (files).

  A file is a `Bytes` value (or absent); an open `Pcap` object is a `Handle` holding the mode, one file
  position, the closed flag and the public attributes.  `open(…, "wb")` truncates, `"ab"` keeps and
  always writes at the end, `"rb"` reads; `read(n)` returns at most `n` bytes and advances.
  Not modelled (trusted base, DESIGN §3 "Files"): user-space buffering — the file content is what is on
  disk after a flush (the harness flushes before it looks); the OS.  One consequence of buffering IS
  visible in a public attribute and is reproduced: after opening in mode "w" the constructor asks
  `os.path.getsize` while the 24 header bytes are still in the write buffer, so `filesize` restarts at 0.

  `PcapRecord.set_current_time` (float) is out of scope.
-/
import Acra.Py.Struct
import Acra.Gen.Pcap
namespace Acra.Model.Pcap
open Acra.Py Acra.Gen.Pcap

/-! ### PcapRecord -/

structure Rec where
  sec : Nat
  usec : Nat
  incl_len : Nat
  orig_len : Nat
  payload : Bytes            -- `_payload`, seen through the `payload` / `packet` properties
  deriving Repr, DecidableEq

def Rec.fresh : Rec := { sec := 0, usec := 0, incl_len := 0, orig_len := 0, payload := [] }

/-- the `payload` / `packet` property setter keeps both length fields in step -/
def Rec.setPayload (s : Rec) (p : Bytes) : Rec :=
  { s with payload := p, incl_len := p.length, orig_len := p.length }

/-- `PcapRecord.unpack(buf)`: the 16-byte record header only; `_payload` is cleared -/
def Rec.unpack (s : Rec) (buf : Bytes) : Rec × R Unit :=
  if RECORD_HEADER_FORMAT.size ≠ buf.length then (s, .error .value) else
  match structUnpack RECORD_HEADER_FORMAT buf with
  | .ok [a, b, c, d] => ({ sec := a, usec := b, incl_len := c, orig_len := d, payload := [] }, .ok ())
  | .ok _ => (s, .error .struct)
  | .error e => (s, .error e)

/-- `PcapRecord.pack()` -/
def Rec.pack (s : Rec) : Rec × R Bytes :=
  match structPack RECORD_HEADER_FORMAT [s.sec, s.usec, s.incl_len, s.orig_len] with
  | .ok h => (s, .ok (h ++ s.payload))
  | .error e => (s, .error e)

/-! ### Pcap files -/

inductive Mode where
  | r | w | a
  deriving Repr, DecidableEq

structure Handle where
  mode : Mode
  pos : Nat                 -- file position of `fopen`
  closed : Bool
  magic : Int
  versionmaj : Int
  versionmin : Int
  zone : Int
  sigfigs : Int
  snaplen : Int
  network : Int
  filesize : Nat
  deriving Repr, DecidableEq

structure FS where
  file : Option Bytes        -- `none`: the file does not exist
  h : Option Handle          -- the `Pcap` object, if one was constructed
  deriving Repr, DecidableEq

def FS.fresh : FS := { file := none, h := none }

/-- value `struct.unpack` returns for a code: two's complement for the signed ones -/
def codeToInt (c : Code) (n : Nat) : Int :=
  match c with
  | .i8 => if n < 128 then n else (n : Int) - 256
  | .i16 => if n < 32768 then n else (n : Int) - 65536
  | .i32 => if n < 2147483648 then n else (n : Int) - 4294967296
  | .i64 => if n < 9223372036854775808 then n else (n : Int) - 18446744073709551616
  | _ => n

def defaultHandle (m : Mode) : Handle :=
  { mode := m, pos := 0, closed := false, magic := DEFAULT_MAGIC, versionmaj := DEFAULT_VERSIONMAJ,
    versionmin := DEFAULT_VERSIONMIN, zone := DEFAULT_ZONE, sigfigs := DEFAULT_SIGFIGS,
    snaplen := DEFAULT_SNAPLEN, network := DEFAULT_NETWORK, filesize := 0 }

/-- the bytes `_write_global_header` writes for a freshly constructed object -/
def globalHeader : R Bytes :=
  structPack GLOBAL_HEADER_FORMAT [DEFAULT_MAGIC, DEFAULT_VERSIONMAJ, DEFAULT_VERSIONMIN, DEFAULT_ZONE,
    DEFAULT_SIGFIGS, DEFAULT_SNAPLEN, DEFAULT_NETWORK]

/-- write `data` at position `pos` (zero fill if `pos` is beyond the end) -/
def writeAt (f : Bytes) (pos : Nat) (data : Bytes) : Bytes :=
  f.take pos ++ List.replicate (pos - f.length) 0 ++ data ++ f.drop (pos + data.length)

/-- `Pcap(filename, mode=…)`.  A previous object is abandoned (the harness closes it first). -/
def openFile (fs : FS) (m : Mode) : FS × R Unit :=
  match m with
  | .r =>
    match fs.file with
    | none => ({ fs with h := none }, .error .os)
    | some f =>
      let header := f.take GLOBAL_HEADER_SIZE
      match structUnpack GLOBAL_HEADER_FORMAT header with
      | .error e => ({ fs with h := none }, .error e)
      | .ok vals =>
        match List.zipWith codeToInt GLOBAL_HEADER_FORMAT.codes vals with
        | [mg, vmaj, vmin, zone, sf, sl, nw] =>
          let h : Handle :=
            { mode := .r, pos := header.length, closed := false, magic := mg, versionmaj := vmaj,
              versionmin := vmin, zone := zone, sigfigs := sf, snaplen := sl, network := nw,
              filesize := f.length }
          ({ fs with h := some h }, .ok ())
        | _ => ({ fs with h := none }, .error .value)
  | .w =>
    match globalHeader with
    | .error e => ({ file := some [], h := none }, .error e)
    | .ok hd =>
      -- filesize += len(header), then os.path.getsize() of the still empty file
      ({ file := some hd, h := some { defaultHandle .w with pos := hd.length, filesize := 0 } }, .ok ())
  | .a =>
    let f := fs.file.getD []
    ({ file := some f, h := some { defaultHandle .a with pos := f.length, filesize := f.length } }, .ok ())

/-- `Pcap.write(record)` -/
def write (fs : FS) (rec : Rec) : FS × R Unit :=
  match fs.h with
  | none => (fs, .error .attribute)
  | some h =>
    match (Rec.pack rec).2 with
    | .error e => (fs, .error e)
    | .ok pkt =>
      if h.closed then (fs, .error .value) else
      match h.mode with
      | .r => (fs, .error .value)              -- io.UnsupportedOperation is a ValueError
      | .w =>
        let f := writeAt (fs.file.getD []) h.pos pkt
        ({ file := some f, h := some { h with pos := h.pos + pkt.length, filesize := h.filesize + pkt.length } }, .ok ())
      | .a =>
        let f := fs.file.getD [] ++ pkt
        ({ file := some f, h := some { h with pos := f.length, filesize := h.filesize + pkt.length } }, .ok ())

def close (fs : FS) : FS × R Unit :=
  match fs.h with
  | none => (fs, .error .attribute)
  | some h => ({ fs with h := some { h with closed := true } }, .ok ())

def flush (fs : FS) : FS × R Unit :=
  match fs.h with
  | none => (fs, .error .attribute)
  | some h => if h.closed then (fs, .error .value) else (fs, .ok ())

/-- one step of the reader on the bytes at and after the cursor: `none` when the 16-byte header is not
    all there (the reader stops), else the record — its payload is whatever `read(incl_len)` returned,
    put in through the `packet` setter — and the number of bytes consumed -/
def nextRec (rest : Bytes) : Option (Rec × Nat) :=
  let hd := rest.take RECORD_HEADER_SIZE
  match Rec.unpack Rec.fresh hd with
  | (_, .error _) => none
  | (r, .ok ()) =>
    let pl := (rest.drop hd.length).take r.incl_len
    some (r.setPayload pl, hd.length + pl.length)

/-! #### the bounded-piece read of `Pcap.next` (fix 0e0a76e), spelled out.
    `nextRec` above models `_chunks = []; _todo = incl_len; while _todo > 0: …; b"".join(_chunks)` by its net effect,
    one `take`.  `readLoop` is the loop itself, statement by statement, with `fopen.read(n)` = "the next `min n (bytes
    left)` bytes, advance"; it also records the argument of every `read()` call.  `Props.C08.Pcap_next_chunked_eq` (from
    `readLoop_spec` in `Lemmas/PcapChunk`) proves that the two agree, so `next`, the driver and the C05 theorems use `nextRec`. -/

/-- the `while _todo > 0:` loop.  State: the bytes at and after the file position, `_todo`, `b"".join(_chunks)` so far,
    the sizes passed to `read()` so far.  Result: the joined chunks, the bytes left after the file position, the sizes. -/
def readLoop (chunk : Nat) : Nat → Bytes → Nat → Bytes → List Nat → R (Bytes × Bytes × List Nat)
  | 0, _, _, _, _ => .error .fuel
  | fuel + 1, rest, todo, acc, asks =>
    if todo > 0 then
      let ask := min todo chunk
      let c := rest.take ask                       -- _chunk = self.fopen.read(min(_todo, 1 << 20))
      if c.isEmpty then .ok (acc, rest, asks ++ [ask])   -- if not _chunk: break
      else readLoop chunk fuel (rest.drop c.length) (todo - c.length) (acc ++ c) (asks ++ [ask])
    else .ok (acc, rest, asks)

/-- `nextRec` with the read loop spelled out; second component: the sizes passed to `read()` for the record data.
    Fuel: every iteration but the last consumes at least one byte of the file. -/
def nextRecChunked (rest : Bytes) : R (Option (Rec × Nat) × List Nat) :=
  let hd := rest.take RECORD_HEADER_SIZE
  match Rec.unpack Rec.fresh hd with
  | (_, .error _) => .ok (none, [])
  | (r, .ok ()) =>
    match readLoop READ_CHUNK ((rest.drop hd.length).length + 1) (rest.drop hd.length) r.incl_len [] [] with
    | .error e => .error e
    | .ok (pl, _, asks) => .ok (some (r.setPayload pl, hd.length + pl.length), asks)

/-- `Pcap.next()` -/
def next (fs : FS) : FS × R Rec :=
  match fs.h with
  | none => (fs, .error .attribute)
  | some h =>
    -- read() on a closed file or on a write-only file raises; the bare `except` turns it into StopIteration
    if h.closed || h.mode != .r then (fs, .error .stopIteration) else
    let rest := (fs.file.getD []).drop h.pos
    match nextRec rest with
    | none => ({ fs with h := some { h with pos := h.pos + min RECORD_HEADER_SIZE rest.length } }, .error .stopIteration)
    | some (r, n) => ({ fs with h := some { h with pos := h.pos + n } }, .ok r)

/-- `list(pcap)`: call `next` until StopIteration -/
def readAll : Nat → FS → FS × R (List Rec)
  | 0, fs => (fs, .error .fuel)
  | fuel + 1, fs =>
    match next fs with
    | (fs', .ok r) =>
      match readAll fuel fs' with
      | (fs'', .ok rs) => (fs'', .ok (r :: rs))
      | (fs'', .error e) => (fs'', .error e)
    | (fs', .error .stopIteration) => (fs', .ok [])
    | (fs', .error e) => (fs', .error e)

/-- fuel that is always enough: one unit per byte of file, plus one (an iteration that does not stop consumes at
    least the 16 header bytes, so a sixteenth of it would do) -/
def fuelFor (fs : FS) : Nat := (fs.file.getD []).length + 1

/-- the `for idx, rec in enumerate(self)` loop of `__getitem__` -/
def getLoop : Nat → FS → Int → Int → FS × R (Option Rec)
  | 0, fs, _, _ => (fs, .error .fuel)
  | fuel + 1, fs, idx, item =>
    match next fs with
    | (fs', .ok r) => if idx = item then (fs', .ok (some r)) else getLoop fuel fs' (idx + 1) item
    | (fs', .error .stopIteration) => (fs', .ok none)
    | (fs', .error e) => (fs', .error e)

/-- `Pcap.__getitem__(item)`: seek to the first record (allowed in every mode; it also moves the write
    position of a mode-"w" object), scan -/
def getitem (fs : FS) (item : Int) : FS × R (Option Rec) :=
  match fs.h with
  | none => (fs, .error .attribute)
  | some h =>
    if h.closed then (fs, .error .value) else
    let fs := { fs with h := some { h with pos := GLOBAL_HEADER_SIZE } }
    getLoop (fuelFor fs) fs 0 item

/-! Harness-level operations on the file itself (no library code involved): they first close the
    object, as a crash would. -/

def closeIfOpen (fs : FS) : FS :=
  { fs with h := fs.h.map fun h => { h with closed := true } }

/-- the crash model: the file is cut to its first `t` bytes (extended with zeros if `t` is larger) -/
def truncate (fs : FS) (t : Nat) : FS × R Unit :=
  let fs := closeIfOpen fs
  match fs.file with
  | none => (fs, .error .os)
  | some f => ({ fs with file := some (f.take t ++ List.replicate (t - f.length) 0) }, .ok ())

def setFile (fs : FS) (b : Bytes) : FS × R Unit :=
  ({ closeIfOpen fs with file := some b }, .ok ())

def deleteFile (fs : FS) : FS × R Unit :=
  ({ closeIfOpen fs with file := none }, .ok ())

end Acra.Model.Pcap
