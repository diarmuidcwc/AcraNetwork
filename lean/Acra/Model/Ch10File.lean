/-
  Model of AcraNetwork/IRIG106/Chapter10/FileParser.py.

  A file is a `Bytes` value; a `FileParser` opened for reading is the file plus `_offset`
  (`next` re-seeks to `_offset` on every call, so the OS cursor carries no information).
  `read(n)` at offset `o` is `slice data o (o+n)`: at most `n` bytes, fewer at end of file.
  Writing (mode "wb" only — any other mode makes `write` raise) truncates at open and appends.
  Buffering, close/flush and the OS are not modelled (DESIGN §7).

  `next` after the repair of D11: a sync word followed by a zero packet length is "not in sync" and the
  search moves on by one byte.
-/
import Acra.Py.Struct
import Acra.Gen.Ch11
import Acra.Gen.Ch10File
namespace Acra.Model.Ch10File
open Acra.Py Acra.Gen.Ch11 Acra.Gen.Ch10File

/-- `f.seek(off); f.read(n)` -/
def readAt (data : Bytes) (off n : Nat) : Bytes := slice data off (off + n)

/-- result of one `next()`: the new `_offset` and the packet, `none` = StopIteration -/
abbrev Step := Nat × Option Bytes

/-- `FileParser.next` with explicit fuel for the sync search (`while not in_sync`) -/
def nextFuel (data : Bytes) : Nat → Nat → R Step
  | 0, _ => .error .fuel
  | fuel + 1, off =>
    match structUnpack FP_next_fmt0 (readAt data off 8) with
    | .error _ => .ok (off, none)                 -- short read: struct.error → StopIteration
    | .ok [sync, _chid, pktLen] =>
      if sync = SYNC_WORD ∧ pktLen > 0 then
        let p := readAt data off pktLen
        if p.length ≠ pktLen then .ok (off + pktLen, none) else .ok (off + pktLen, some p)
      else nextFuel data fuel (off + 1)
    | .ok _ => .ok (off, none)

/-- `next()`: the search visits each offset at most once, so `|data| - off + 2` steps always suffice
    (`fileparser_next_fuel_sufficient` in Props/C08) -/
def next (data : Bytes) (off : Nat) : R Step := nextFuel data (data.length - off + 2) off

/-- `for p in fileparser`: repeated `next()` until StopIteration; outer fuel = number of packets -/
def iterFuel (data : Bytes) : Nat → Nat → R (List Bytes × Nat)
  | 0, _ => .error .fuel
  | fuel + 1, off =>
    match next data off with
    | .error e => .error e
    | .ok (off', none) => .ok ([], off')
    | .ok (off', some p) =>
      match iterFuel data fuel off' with
      | .error e => .error e
      | .ok (ps, o) => .ok (p :: ps, o)

def iterate (data : Bytes) (off : Nat := 0) : R (List Bytes × Nat) := iterFuel data (data.length + 1) off

/-- what `FileParser.write` is given: a Chapter11 object's `pack()` result, a `bytes` value, or
    something else (raises) -/
inductive Item where
  | packed (r : R Bytes)
  | raw (b : Bytes)
  | other

/-- the `write` calls of one "wb" session, in order: contents so far, stop at the first failing call -/
def writeItems (acc : Bytes) : List Item → Bytes × R Unit
  | [] => (acc, .ok ())
  | .packed (.ok b) :: rest => writeItems (acc ++ b) rest
  | .packed (.error e) :: _ => (acc, .error e)
  | .raw b :: rest => writeItems (acc ++ b) rest
  | .other :: _ => (acc, .error .generic)

/-- `with FileParser(name, mode) as f: for x in items: f.write(x)` — the new file contents
    (everything written before the first failing `write`) and the result.  Mode "wb" truncates at open;
    in any other mode (`"ab"`, `"rb"`) the first `write` raises ("File name not defined": `_mode != "wb"`). -/
def writeAll (old : Bytes) (mode : String) (items : List Item) : Bytes × R Unit :=
  if mode = "wb" then writeItems [] items
  else match items with
    | [] => (old, .ok ())
    | _ => (old, .error .generic)

end Acra.Model.Ch10File
