/-
  Model of AcraNetwork/Chapter7.py: PTDP, PTFR, datapkts_to_ptdp, datapkts_to_ptfr (generator as a
  fold), PTFR.get_aligned_payload (generator as a fuelled loop returning the yielded tuples and, if
  the generator raises, the exception), and the consumer loop around it that C10 assumes (see `decStep`).

  Hidden state: the shared default `Golay()` instance only caches its tables (Model.Golay: `decode`
  always initialises before use), so PTDP/PTFR carry no Golay state.
-/
import Acra.Model.Golay
import Acra.Gen.Chapter7
namespace Acra.Model.Chapter7
open Acra.Py Acra.Gen.Chapter7

/-! ### PTDP -/
namespace PTDP

structure State where
  payload : Bytes
  low_latency : Bool
  length : Nat
  content : Nat
  fragment : Nat
  deriving Repr, DecidableEq

def fresh : State :=
  { payload := [], low_latency := false, length := 0, content := PTDP_CONTENT_FILL,
    fragment := PTDP_FRAGMENT_COMPLETE }

/-- the `payload` property setter -/
def setPayload (s : State) (val : Bytes) : State × R Unit :=
  if val.length > PTDP_MAX_LEN then (s, .error .generic) else ({ s with payload := val }, .ok ())

/-- `PTDP.pack` -/
def pack (s : State) : State × R Bytes :=
  let s' := { s with length := s.payload.length }
  let msw := s'.length &&& 0xFFF
  let lsw := (s'.length >>> 12) + (s'.fragment <<< 4) + (s'.content <<< 6)
  match Golay.encodeStr lsw with
  | .error e => (s', .error e)
  | .ok a =>
    match Golay.encodeStr msw with
    | .error e => (s', .error e)
    | .ok b => (s', .ok (a ++ b ++ s'.payload))

/-- `PTDP.unpack`: returns the rest of the buffer -/
def unpack (s : State) (buffer : Bytes) : State × R Bytes :=
  if buffer.length < 6 then (s, .error .ptdpRemaining) else
  -- the low latency marking is not carried by the PTDP itself
  let s0 := { s with low_latency := false }
  match Golay.decodeBytes (slice buffer 0 3) with
  | .error e => (s0, .error e)
  | .ok lsw =>
    match Golay.decodeBytes (slice buffer 3 6) with
    | .error e => (s0, .error e)
    | .ok msw =>
      let s1 := { s0 with length := msw + ((lsw &&& 0xF) <<< 12), fragment := (lsw >>> 4) &&& 0x3,
                          content := (lsw >>> 6) &&& 0xF }
      if s1.length > PTDP_MAX_LEN then (s1, .error .ptdpLength)
      else if (buffer.drop 6).length < s1.length then (s1, .error .ptdpRemaining)
      else
        let (s2, r) := setPayload s1 (slice buffer 6 (s1.length + 6))
        match r with
        | .error e => (s2, .error e)
        | .ok () => (s2, .ok (buffer.drop (s1.length + 6)))

/-- `PTDP.__len__` -/
def len (s : State) : Nat := s.payload.length + PTDP_HDR_LEN

/-- `PTDP.__eq__` between PTDPs -/
def eq (a b : State) : Bool :=
  a.payload == b.payload && a.length == b.length && a.fragment == b.fragment && a.content == b.content

end PTDP

/-! ### datapkts_to_ptdp -/

def mkPtdp (llp : Bool) (fragment : Nat) (payload : Bytes) : PTDP.State :=
  { payload := payload, low_latency := llp, length := payload.length, content := PTDP_CONTENT_MAC,
    fragment := fragment }

/-- the fragments `i = from .. n-1` of a packet longer than PTDP_MAX_LEN -/
def fragmentsFrom (buffer : Bytes) (llp : Bool) (n : Nat) : Nat → Nat → List PTDP.State
  | 0, _ => []
  | cnt + 1, i =>
    (if i == 0 then mkPtdp llp PTDP_FRAGMENT_FIRST (slice buffer 0 PTDP_MAX_LEN)
     else if i == n - 1 then mkPtdp llp PTDP_FRAGMENT_LAST (buffer.drop (i * PTDP_MAX_LEN))
     else mkPtdp llp PTDP_FRAGMENT_MIDDLE (slice buffer (PTDP_MAX_LEN * i) (PTDP_MAX_LEN * (i + 1))))
    :: fragmentsFrom buffer llp n cnt (i + 1)

/-- the PTDPs of one packet -/
def ptdpsOf (buffer : Bytes) (llp : Bool) : List PTDP.State :=
  if buffer.length ≤ PTDP_MAX_LEN then [mkPtdp llp PTDP_FRAGMENT_COMPLETE buffer]
  else
    -- int(math.ceil(float(len) / PTDP_MAX_LEN)); exact in binary64 for every length < 2^53
    let n := (buffer.length + PTDP_MAX_LEN - 1) / PTDP_MAX_LEN
    fragmentsFrom buffer llp n n 0

def datapktsToPtdp (pkts : List (Bytes × Bool)) : List PTDP.State :=
  pkts.flatMap fun p => ptdpsOf p.1 p.2

/-! ### PTFR -/
namespace PTFR

structure State where
  version : Nat
  streamid : Nat
  llp : Bool
  ptdp_offset : Nat
  length : Nat
  payload : Bytes           -- `_payload`
  deriving Repr, DecidableEq

def fresh : State :=
  { version := 0, streamid := 0, llp := false, ptdp_offset := 0, length := 0, payload := [] }

/-- the `payload` property setter: APPENDS -/
def setPayload (s : State) (val : Bytes) : State × R Unit :=
  if val.length + s.payload.length > s.length then (s, .error .generic)
  else ({ s with payload := s.payload ++ val }, .ok ())

/-- `struct.pack(">B", v)` for the marker bytes -/
def byte1 (f : Fmt) (v : Nat) : Bytes :=
  match structPack f [v] with
  | .ok b => b
  | .error _ => []

/-- `PTFR.add_payload`: returns the bytes that did not fit -/
def addPayload (s : State) (buffer : Bytes) (isLlp : Bool) : State × Bytes :=
  let s1 : State :=
    if isLlp && decide (s.payload.length > 0) && s.llp then
      { s with ptdp_offset := s.ptdp_offset + (buffer.length + 1),
               payload := buffer ++ byte1 PTFR_add_payload_fmt0 0xFF ++ s.payload, llp := true }
    else if isLlp && decide (s.payload.length > 0) && !s.llp then
      { s with ptdp_offset := buffer.length + 1,
               payload := buffer ++ byte1 PTFR_add_payload_fmt1 0x0 ++ s.payload, llp := true }
    else if isLlp && decide (s.payload.length = 0) then
      { s with llp := true, ptdp_offset := buffer.length + 1,
               payload := buffer ++ byte1 PTFR_add_payload_fmt2 0x0 }
    else { s with payload := s.payload ++ buffer }
  if s1.payload.length > s1.length then
    -- len_to_take = length - len(payload) < 0; payload[len_to_take:], payload[:len_to_take]
    ({ s1 with payload := s1.payload.take s1.length }, s1.payload.drop s1.length)
  else (s1, [])

/-- `PTFR.pack` -/
def pack (s : State) : State × R Bytes :=
  if s.payload.length ≠ s.length then (s, .error .generic) else
  match structPack PTFR_pack_fmt0 [s.version + (s.streamid <<< 4)] with
  | .error e => (s, .error e)
  | .ok h =>
    match Golay.encodeStr (s.ptdp_offset + ((if s.llp then 1 else 0) <<< 11)) with
    | .error e => (s, .error e)
    | .ok g => (s, .ok (h ++ g ++ s.payload))

/-- `PTFR.unpack` -/
def unpack (s : State) (buffer : Bytes) : State × R Unit :=
  match structUnpackFrom PTFR_unpack_fmt0 buffer 0 with
  | .error e => (s, .error e)
  | .ok [byte_] =>
    let s1 := { s with version := byte_ &&& 0x3, streamid := (byte_ >>> 4) &&& 0xF }
    match Golay.decodeBytes (slice buffer 1 4) with
    | .error e => (s1, .error e)
    | .ok p =>
      let s2 := { s1 with llp := ((p >>> 11) &&& 0x1) != 0, ptdp_offset := p &&& 0x7FF, payload := [] }
      setPayload s2 (buffer.drop 4)
  | .ok _ => (s, .error .struct)

/-- `PTFR.check_offsets` (the logging aside) -/
def checkOffsets (s : State) (act : Int) : Bool :=
  if act ≠ (s.ptdp_offset : Int) && s.ptdp_offset ≠ 2047 then false else true

/-- `PTFR.__eq__` between PTFRs -/
def eq (a b : State) : Bool :=
  a.version == b.version && a.streamid == b.streamid && a.llp == b.llp &&
  a.ptdp_offset == b.ptdp_offset && a.payload == b.payload

end PTFR

/-! ### datapkts_to_ptfr -/

/-- `_new_ptfr` -/
def newPtfr (L sid : Nat) : PTFR.State := { PTFR.fresh with length := L, streamid := sid }

/-- the inner `while len(remainder) > ptfr_len` loop; state (at_ptdp_start, ptfr, remainder, yielded) -/
def spillFull (L sid : Nat) :
    Nat → Bool → PTFR.State → Bytes → List PTFR.State → R (Bool × PTFR.State × Bytes × List PTFR.State)
  | 0, _, _, _, _ => .error .fuel
  | fuel + 1, atStart, cur, rem, out =>
    if rem.length > L then
      let cur1 := { cur with ptdp_offset := if atStart then 0x0 else 0x7FF }
      let (cur2, _) := PTFR.addPayload cur1 (slice rem 0 L) false
      spillFull L sid fuel false (newPtfr L sid) (rem.drop L) (out ++ [cur2])
    else .ok (atStart, cur, rem, out)

/-- the outer `while remainder != bytes()` loop -/
def spill (L sid : Nat) :
    Nat → Bool → PTFR.State → Bytes → List PTFR.State → R (PTFR.State × List PTFR.State)
  | 0, _, _, _, _ => .error .fuel
  | fuel + 1, atStart, cur, rem, out =>
    if rem = [] then .ok (cur, out) else
    match spillFull L sid (rem.length + 1) atStart (newPtfr L sid) rem (out ++ [cur]) with
    | .error e => .error e
    | .ok (atStart', cur1, rem1, out1) =>
      let cur2 := { cur1 with ptdp_offset :=
        if atStart' then 0x0 else if rem1.length == L then 0x7FF else rem1.length }
      let (cur3, rem2) := PTFR.addPayload cur2 rem1 false
      spill L sid fuel atStart' cur3 rem2 out1

/-- one iteration of `for ptdp in datapkts_to_ptdp(...)` -/
def encStep (L sid : Nat) (st : PTFR.State × List PTFR.State) (ptdp : PTDP.State) :
    R (PTFR.State × List PTFR.State) :=
  let (cur, out) := st
  let atStart := cur.payload.length == L && !ptdp.low_latency
  match (PTDP.pack ptdp).2 with
  | .error e => .error e
  | .ok packed =>
    let (cur1, rem) := PTFR.addPayload cur packed ptdp.low_latency
    spill L sid (rem.length + 2) atStart cur1 rem out

def encFold (L sid : Nat) : List PTDP.State → PTFR.State × List PTFR.State → R (PTFR.State × List PTFR.State)
  | [], st => .ok st
  | p :: ps, st =>
    match encStep L sid st p with
    | .error e => .error e
    | .ok st' => encFold L sid ps st'

/-- `datapkts_to_ptfr`: the frames yielded (in order) and the frame still under construction when the
    input ends (never yielded by the library).  `.error .fuel` = the generator never finishes
    (`ptfr_len = 0` with a non-empty remainder). -/
def datapktsToPtfr (pkts : List (Bytes × Bool)) (L sid : Nat) : R (PTFR.State × List PTFR.State) :=
  encFold L sid (datapktsToPtdp pkts) (newPtfr L sid, [])

/-! ### get_aligned_payload -/

/-- one yielded tuple `(p, buf, e)` -/
inductive Item where
  | pkt (p : PTDP.State)            -- (p, b"", "")
  | lengthError                     -- (None, None, PTDPLengthError)
  | remaining (buf : Bytes)         -- (None, buf, PTDPRemainingData)
  deriving Repr, DecidableEq

structure GapSt where
  buf : Bytes
  isLlp : Bool
  byteOffset : Int
  doCheck : Bool
  checkCount : Nat
  deriving Repr

/-- result of running the generator: yielded tuples, the arguments of the `check_offsets` calls it
    made (in order), and the exception it raised, if any -/
structure GapOut where
  items : List Item
  checks : List Int
  raised : Option Err
  deriving Repr

def GapOut.cons (i : Item) (c : List Int) (o : GapOut) : GapOut :=
  { o with items := i :: o.items, checks := c ++ o.checks }

/-- the offset bookkeeping after a PTDP of `plen` bytes was decoded; returns the `check_offsets` argument, if called -/
def bookkeep (st : GapSt) (plen : Int) : GapSt × List Int :=
  if !st.isLlp && st.doCheck && decide (st.byteOffset ≥ 0) then
    ({ st with doCheck := false, checkCount := st.checkCount + 1 }, [st.byteOffset])
  else if !st.isLlp && !st.doCheck && decide (st.checkCount < 1) then
    ({ st with doCheck := true, byteOffset := st.byteOffset + plen }, [])
  else if !st.isLlp then ({ st with byteOffset := st.byteOffset + plen }, [])
  else (st, [])

/-- after a low-latency PTDP: look at the continuation byte `nextLlp`; `rest` = bytes after the PTDP -/
def afterLlp (self : PTFR.State) (first : Bool) (rem : Option Bytes) (st1 : GapSt) (plen : Int)
    (rest : Bytes) (nextLlp : Nat) : GapSt :=
  if nextLlp == 0xFF then
    { st1 with isLlp := true, buf := rest.drop 1, byteOffset := st1.byteOffset + plen + 1 }
  else if (rem == some [] && decide (self.ptdp_offset > 0)) || first then
    { st1 with isLlp := false, buf := self.payload.drop self.ptdp_offset, doCheck := false,
               byteOffset := self.ptdp_offset, checkCount := 1 }
  else match rem with
    | none =>
      { st1 with isLlp := false, buf := rest.drop 1, byteOffset := st1.byteOffset + plen + 1 }
    | some r =>
      { st1 with isLlp := false, buf := r ++ rest.drop 1,
                 byteOffset := st1.byteOffset + plen + 1 - r.length,
                 doCheck := if r.length > 0 then false else st1.doCheck }

/-- `while aligned:` — one PTDP per iteration -/
def gapLoop (self : PTFR.State) (first : Bool) (rem : Option Bytes) : Nat → GapSt → GapOut
  | 0, _ => { items := [], checks := [], raised := some .fuel }
  | fuel + 1, st =>
    match PTDP.unpack PTDP.fresh st.buf with
    | (_, .error .ptdpLength) => { items := [.lengthError], checks := [], raised := none }
    | (_, .error .ptdpRemaining) =>
      { items := [.remaining st.buf],
        checks := if !st.isLlp && decide (st.byteOffset > 0) && st.doCheck then [st.byteOffset] else [],
        raised := none }
    | (_, .error e) => { items := [], checks := [], raised := some e }
    | (p0, .ok rest) =>
      let plen : Int := (PTDP.len p0 : Nat)
      let (st1, chk) := bookkeep st plen
      -- set the low latency flag on the current packet
      let p := { p0 with low_latency := st.isLlp }
      if st.isLlp then
        -- struct.unpack_from(">B", buf) raises struct.error on an empty buffer, before the yield
        match structUnpackFrom PTFR_gap_fmt0 rest 0 with
        | .error e => { items := [], checks := chk, raised := some e }
        | .ok [nextLlp] =>
          (gapLoop self first rem fuel (afterLlp self first rem st1 plen rest nextLlp)).cons (.pkt p) chk
        | .ok _ => { items := [], checks := chk, raised := some .struct }
      else
        (gapLoop self first rem fuel { st1 with buf := rest }).cons (.pkt p) chk

/-- `PTFR.get_aligned_payload(first_PTFR, remainder)` -/
def getAlignedPayload (self : PTFR.State) (first : Bool) (rem : Option Bytes) : GapOut :=
  let isLlp := self.llp
  let offMid := decide (self.ptdp_offset > 0) && decide (self.ptdp_offset < 0x7FF)
  let buf : Bytes :=
    if isLlp then self.payload
    else if rem.isNone && offMid then self.payload.drop self.ptdp_offset
    else if rem == some [] && offMid then self.payload.drop self.ptdp_offset
    else match rem with
      | none => if self.ptdp_offset = 0x7FF then [] else self.payload   -- mid-capture: skip a "none begins" frame
      | some r => r ++ self.payload
  let byteOffset : Int :=
    if isLlp then 0
    else match rem with
      | none => self.ptdp_offset
      | some r => -(r.length : Int)
  gapLoop self first rem (self.payload.length + (rem.getD []).length + 2)
    { buf := buf, isLlp := isLlp, byteOffset := byteOffset, doCheck := true, checkCount := 0 }

/-! ### the consumer loop: the protocol C10 assumes for driving `get_aligned_payload`.
    The library documents the `remainder` argument only (docstring of `get_aligned_payload`) and shows no loop; this
    one passes `first_PTFR = True` and `remainder = b""` for the first frame, afterwards `False` and the second component
    of the last `(None, buf, e)` tuple.  The callers in test/test_ch7.py bind differently: they pass their `remainder` in
    the `first_PTFR` position and rebind it on every tuple. -/

/-- what the consumer has after the frames seen so far -/
structure DecSt where
  ptdps : List PTDP.State       -- every PTDP yielded, in order
  rem : Option Bytes            -- second component of the last `(None, buf, e)` tuple
  first : Bool
  deriving Repr

/-- the consumer's treatment of one yielded tuple: `if p is not None: collect else: remainder = buf` -/
def consume (acc : List PTDP.State × Option Bytes) : Item → List PTDP.State × Option Bytes
  | .pkt p => (acc.1 ++ [p], acc.2)
  | .lengthError => (acc.1, none)
  | .remaining b => (acc.1, some b)

/-- one frame: `ptfr = PTFR(); ptfr.length = L; ptfr.unpack(frame);
    for (p, buf, e) in ptfr.get_aligned_payload(first, remainder): …; first = False` -/
def decStep (L : Nat) (st : DecSt) (frame : Bytes) : DecSt × Option Err :=
  match PTFR.unpack { PTFR.fresh with length := L } frame with
  | (_, .error e) => (st, some e)
  | (ptfr, .ok ()) =>
    let o := getAlignedPayload ptfr st.first st.rem
    let (ps, rem) := o.items.foldl consume (st.ptdps, st.rem)
    ({ ptdps := ps, rem := rem, first := false }, o.raised)

def decFold (L : Nat) : List Bytes → DecSt → DecSt × Option Err
  | [], st => (st, none)
  | f :: fs, st =>
    match decStep L st f with
    | (st', some e) => (st', some e)
    | (st', none) => decFold L fs st'

/-- decapsulate a sequence of frames, first frame `get_aligned_payload(True, b"")` -/
def decap (L : Nat) (frames : List Bytes) : DecSt × Option Err :=
  decFold L frames { ptdps := [], rem := some [], first := true }

/-! ### fragment reassembly (FIRST / MIDDLE… / LAST per low-latency flag) — the consumer's last step.
    The library has no reassembler; this is the obvious one, used by the oracle and the theorems. -/

structure Asm where
  normal : Option Bytes
  low : Option Bytes
  done : List (Bytes × Bool)
  deriving Repr

def asmStep (a : Asm) (p : PTDP.State) : Asm :=
  let cur := if p.low_latency then a.low else a.normal
  let put (a : Asm) (v : Option Bytes) : Asm :=
    if p.low_latency then { a with low := v } else { a with normal := v }
  if p.fragment == PTDP_FRAGMENT_COMPLETE then { a with done := a.done ++ [(p.payload, p.low_latency)] }
  else if p.fragment == PTDP_FRAGMENT_FIRST then put a (some p.payload)
  else if p.fragment == PTDP_FRAGMENT_MIDDLE then put a (cur.map (· ++ p.payload))
  else
    match cur with
    | some b => put { a with done := a.done ++ [(b ++ p.payload, p.low_latency)] } none
    | none => a

def reassemble (ps : List PTDP.State) : List (Bytes × Bool) :=
  (ps.foldl asmStep { normal := none, low := none, done := [] }).done

end Acra.Model.Chapter7
