/-
  Model of AcraNetwork/MPEGTS.py: MPEGAdaptionExtension (`Ext`), MPEGAdaption (`AF`),
  MPEGPacket (`Pkt`, incl. the `nostuff` argument of pack) and MPEGTS (`TS`).
  Hand-written, statement by statement; struct formats and the named constants come from
  Acra.Gen.MPEGTS (regenerated from the source on every run).

  Notation: Python's `(x >> k) & (2^n - 1)` is written `x / 2^k % 2^n`, `a << k` as `a * 2^k`
  (identical on the naturals).  Flags are Python `bool`s (`Bool` here); `int(flag) << k` is
  `flag.toNat * 2^k`.

  Exceptions swallowed by the code (`except Exception: logger.error(…)`) are swallowed here: the
  nested object keeps the state the failed call left behind, which therefore IS specified by
  the `unpack` functions of the nested classes below (adaptation extension, adaptation field:
  first component of the result) even when they fail.
-/
import Acra.Py.Struct
import Acra.Py.Records
import Acra.Gen.MPEGTS
namespace Acra.Model.MPEGTS
open Acra.Py Acra.Gen.MPEGTS

/-! ### MPEGAdaptionExtension -/

structure Ext where
  ltw_flag : Bool
  piecewise_rate_flag : Bool
  seamless_splice_flag : Bool
  ltw : Bytes
  piecewise : Bytes
  seamless_splice : Bytes
  deriving Repr, DecidableEq

def Ext.fresh : Ext :=
  { ltw_flag := false, piecewise_rate_flag := false, seamless_splice_flag := false,
    ltw := [], piecewise := [], seamless_splice := [] }

/-- `MPEGAdaptionExtension.pack`: each part is absent (0 bytes) or has its exact size, else a bare
    `Exception`; the flags are derived from the lengths. -/
def Ext.pack (s : Ext) : Ext × R Bytes :=
  if s.ltw.length ≠ 2 ∧ s.ltw.length ≠ 0 then (s, .error .generic) else
  let s1 := { s with ltw_flag := s.ltw.length == 2 }
  if s.piecewise.length ≠ 3 ∧ s.piecewise.length ≠ 0 then (s1, .error .generic) else
  let s2 := { s1 with piecewise_rate_flag := s.piecewise.length == 3 }
  if s.seamless_splice.length ≠ 5 ∧ s.seamless_splice.length ≠ 0 then (s2, .error .generic) else
  let s3 := { s2 with seamless_splice_flag := s.seamless_splice.length == 5 }
  let len := 2 + s.ltw.length + s.piecewise.length + s.seamless_splice.length
  let flags := 0x1F + s3.ltw_flag.toNat * 128 + s3.piecewise_rate_flag.toNat * 64 +
    s3.seamless_splice_flag.toNat * 32
  match structPack Ext_pack_fmt0 [len, flags] with
  | .ok h => (s3, .ok (h ++ s.ltw ++ s.piecewise ++ s.seamless_splice))
  | .error e => (s3, .error e)

/-- `MPEGAdaptionExtension.unpack`: returns the offset of the data used -/
def Ext.unpack (t : Ext) (buffer : Bytes) : Ext × R Nat :=
  match structUnpackFrom Ext_unpack_fmt0 buffer 0 with
  | .error e => (t, .error e)
  | .ok [len, flags] =>
    if buffer.length < len then (t, .error .generic) else
    let payload := buffer.take len
    let f1 := flags / 128 % 2 == 1
    let f2 := flags / 64 % 2 == 1
    let f3 := flags / 32 % 2 == 1
    let o1 := if f1 then 4 else 2
    let o2 := if f2 then o1 + 3 else o1
    let o3 := if f3 then o2 + 5 else o2
    ({ ltw_flag := f1, piecewise_rate_flag := f2, seamless_splice_flag := f3,
       ltw := if f1 then slice payload 2 4 else [],
       piecewise := if f2 then slice payload o1 (o1 + 3) else [],
       seamless_splice := if f3 then slice payload o2 (o2 + 5) else [] }, .ok o3)
  | .ok _ => (t, .error .struct)

/-- `MPEGAdaptionExtension.__eq__` (every attribute of `__dict__`) -/
def Ext.eq (a b : Ext) : Bool := a == b

/-! ### MPEGAdaption -/

structure AF where
  length : Nat
  discontinutiy : Bool
  random_access : Bool
  es_priority : Bool
  pcr_flag : Bool
  opcr_flag : Bool
  splicing_flag : Bool
  transpart_flag : Bool
  extension_flag : Bool
  pcr : Bytes
  opcr : Bytes
  splice_countdown : Nat
  private_data : Bytes
  adaption_extension : Option Ext
  deriving Repr, DecidableEq

def AF.fresh : AF :=
  { length := 0, discontinutiy := false, random_access := false, es_priority := false,
    pcr_flag := false, opcr_flag := false, splicing_flag := false, transpart_flag := false,
    extension_flag := false, pcr := [], opcr := [], splice_countdown := 0, private_data := [],
    adaption_extension := none }

/-- `MPEGAdaption.unpack`.  On `struct.error` the object keeps what was assigned before the
    failing statement (observable through `MPEGPacket.unpack`, which swallows the exception). -/
def AF.unpack (t : AF) (buffer : Bytes) : AF × R Unit :=
  match structUnpackFrom AF_unpack_fmt0 buffer 0 with
  | .error e => (t, .error e)
  | .ok [len, flags] =>
    let pcrF := flags / 16 % 2 == 1
    let opcrF := flags / 8 % 2 == 1
    let splF := flags / 4 % 2 == 1
    let tpF := flags / 2 % 2 == 1
    let extF := flags % 2 == 1
    let o1 := if pcrF then 8 else 2
    let o2 := if opcrF then o1 + 6 else o1
    let s0 : AF :=
      { length := len, discontinutiy := flags / 128 % 2 == 1, random_access := flags / 64 % 2 == 1,
        es_priority := flags / 32 % 2 == 1, pcr_flag := pcrF, opcr_flag := opcrF, splicing_flag := splF,
        transpart_flag := tpF, extension_flag := extF,
        pcr := if pcrF then slice buffer 2 8 else [],
        opcr := if opcrF then slice buffer o1 (o1 + 6) else [],
        splice_countdown := 0, private_data := [], adaption_extension := none }
    -- splice countdown
    match (if splF then structUnpackFrom AF_unpack_fmt1 buffer o2 else .ok [0]) with
    | .error e => (s0, .error e)
    | .ok [sc] =>
      let s1 := { s0 with splice_countdown := sc }
      let o3 := if splF then o2 + 1 else o2
      -- transport private data
      match (if tpF then structUnpackFrom AF_unpack_fmt2 buffer o3 else .ok [0]) with
      | .error e => (s1, .error e)
      | .ok [tl] =>
        -- (private_data was reset to bytes() above, so "assign when the flag is set" is this conditional value)
        let s2 := { s1 with private_data := if tpF then slice buffer (o3 + 1) (o3 + 1 + tl) else [] }
        let o4 := if tpF then o3 + 1 + tl else o3
        -- extension: a failure inside is logged and swallowed, the fresh/partial extension object stays
        if extF then
          ({ s2 with adaption_extension := some (Ext.unpack Ext.fresh (buffer.drop o4)).1 }, .ok ())
        else (s2, .ok ())
      | .ok _ => (s1, .error .struct)
    | .ok _ => (s0, .error .struct)
  | .ok _ => (t, .error .struct)

/-- `MPEGAdaption.pack`.  Flags are only ever switched ON here (a flag left set with its part
    absent is emitted as set): `if len(x) > 0: self.x_flag = True` is written
    `x_flag := x_flag || (0 < len x)`.  `length` is raised to the data length when too small,
    otherwise the difference is stuffed with 0xFF (`length - dataLen` is the truncated difference,
    0 in the other branch). -/
def AF.pack (s : AF) : AF × R Bytes :=
  if 0 < s.pcr.length ∧ s.pcr.length ≠ 6 then (s, .error .generic) else
  let s := { s with pcr_flag := s.pcr_flag || decide (0 < s.pcr.length),
                    opcr_flag := s.opcr_flag || decide (0 < s.opcr.length),
                    splicing_flag := s.splicing_flag || decide (0 < s.splice_countdown) }
  match (if 0 < s.splice_countdown then structPack AF_pack_fmt0 [s.splice_countdown] else .ok []) with
  | .error e => (s, .error e)
  | .ok spl =>
    match (if 0 < s.private_data.length then structPack AF_pack_fmt1 [s.private_data.length] else .ok []) with
    | .error e => (s, .error e)
    | .ok tl =>
      let s := { s with transpart_flag := s.transpart_flag || decide (0 < s.private_data.length) }
      let sx : AF × R Bytes :=
        match s.adaption_extension with
        | none => (s, .ok [])
        | some x => ({ s with extension_flag := true, adaption_extension := some (Ext.pack x).1 }, (Ext.pack x).2)
      match sx.2 with
      | .error e => (sx.1, .error e)
      | .ok eb =>
        let s := sx.1
        let dataLen := s.pcr.length + s.opcr.length + tl.length + s.private_data.length + eb.length +
          spl.length + 1
        let s := { s with length := if s.length > dataLen then s.length else dataLen }
        let flags := s.discontinutiy.toNat * 128 + s.random_access.toNat * 64 + s.es_priority.toNat * 32 +
          s.pcr_flag.toNat * 16 + s.opcr_flag.toNat * 8 + s.splicing_flag.toNat * 4 +
          s.transpart_flag.toNat * 2 + s.extension_flag.toNat
        match structPack AF_pack_fmt2 [s.length, flags] with
        | .error e => (s, .error e)
        | .ok h => (s, .ok (h ++ s.pcr ++ s.opcr ++ spl ++ tl ++ s.private_data ++ eb ++
                            List.replicate (s.length - dataLen) 0xFF))

/-- `MPEGAdaption.__eq__` (every attribute of `__dict__`, the extension through its own `__eq__`) -/
def AF.eq (a b : AF) : Bool := a == b

/-! ### MPEGPacket -/

structure Pkt where
  sync : Nat
  pid : Nat
  tei : Bool
  pusi : Bool
  transport_priority : Nat
  tsc : Nat
  adaption_ctrl : Nat
  continuitycounter : Nat
  payload : Bytes
  adaption_field : Option AF
  deriving Repr, DecidableEq

def Pkt.fresh : Pkt :=
  { sync := MPEGPacket_DEFAULT_SYNC, pid := 0, tei := false, pusi := MPEGPacket_DEFAULT_PUSI,
    transport_priority := 0, tsc := 0, adaption_ctrl := MPEGPacket_DEFAULT_ADAPTION_CTRL,
    continuitycounter := 0, payload := [], adaption_field := none }

/-- `MPEGPacket.unpack` -/
def Pkt.unpack (t : Pkt) (buf : Bytes) : Pkt × R Unit :=
  match structUnpackFrom Pkt_unpack_fmt0 buf 0 with
  | .error e => (t, .error e)
  | .ok [sync, pidFull, counterFull] =>
    let t0 := { t with sync := sync }
    if sync ≠ 0x47 then (t0, .error .generic) else
    let t1 : Pkt :=
      { sync := sync, pid := pidFull % 8192, tei := pidFull / 32768 % 2 == 1, pusi := pidFull / 16384 % 2 == 1,
        transport_priority := pidFull / 8192 % 2, continuitycounter := counterFull % 16,
        adaption_ctrl := counterFull / 16 % 4, tsc := counterFull / 64 % 4,
        adaption_field := none, payload := [] }
    if t1.adaption_ctrl = ADAPTION_PAYLOAD_AND_ADAPTION then
      match structUnpackFrom Pkt_unpack_fmt1 (buf.drop 4) 0 with
      | .error e => (t1, .error e)
      | .ok [alen] =>
        if 0 < alen then
          ({ t1 with payload := buf.drop (4 + 1 + alen),
                     adaption_field := some (AF.unpack AF.fresh (slice buf 4 (alen + 1 + 4))).1 }, .ok ())
        else ({ t1 with payload := buf.drop (4 + 1) }, .ok ())
      | .ok _ => (t1, .error .struct)
    else if t1.adaption_ctrl = ADAPTION_ADAPTION_ONLY then
      ({ t1 with adaption_field := some (AF.unpack AF.fresh (buf.drop 4)).1 }, .ok ())
    else if t1.adaption_ctrl = ADAPTION_PAYLOAD_ONLY then
      ({ t1 with payload := buf.drop 4 }, .ok ())
    else (t1, .ok ())
  | .ok _ => (t, .error .struct)

/-- `MPEGPacket.pack(nostuff)`: no masking of the header fields, `b"\xff" * negative = b""`, so a
    packet whose parts exceed 188 bytes is emitted longer than 188 bytes. -/
def Pkt.pack (s : Pkt) (nostuff : Bool := false) : Pkt × R Bytes :=
  let pidFull := s.pid + s.transport_priority * 8192 + s.pusi.toNat * 16384 + s.tei.toNat * 32768
  let continuity := s.continuitycounter + s.adaption_ctrl * 16 + s.tsc * 64
  match structPack Pkt_pack_fmt0 [s.sync, pidFull, continuity] with
  | .error e => (s, .error e)
  | .ok hdr =>
    let sa : Pkt × R Bytes :=
      if s.adaption_ctrl = ADAPTION_ADAPTION_ONLY ∨ s.adaption_ctrl = ADAPTION_PAYLOAD_AND_ADAPTION then
        match s.adaption_field with
        | none => (s, structPack Pkt_pack_fmt1 [0])
        | some a => ({ s with adaption_field := some (AF.pack a).1 }, (AF.pack a).2)
      else (s, .ok [])
    match sa.2 with
    | .error e => (sa.1, .error e)
    | .ok af =>
      let unstuffed := hdr ++ af ++ s.payload
      let stuffing := if nostuff then [] else List.replicate (188 - unstuffed.length) (0xFF : UInt8)
      (sa.1, .ok (unstuffed ++ stuffing))

/-- `MPEGPacket.__eq__` on two MPEGPacket operands (`match_attr`) -/
def Pkt.eq (a b : Pkt) : Bool :=
  a.sync == b.sync && a.pid == b.pid && a.transport_priority == b.transport_priority && a.tei == b.tei &&
  a.pusi == b.pusi && a.continuitycounter == b.continuitycounter && a.tsc == b.tsc &&
  a.adaption_ctrl == b.adaption_ctrl && a.payload == b.payload && a.adaption_field == b.adaption_field

/-! ### MPEGTS -/

structure TS where
  blocks : List Pkt
  deriving Repr, DecidableEq

def TS.fresh : TS := { blocks := [] }

/-- one iteration of `while remainingbytes < len(buf)`: a new packet decodes the next 188 bytes
    (fewer at the end); any exception is re-raised as a bare `Exception` -/
def decBlock (rem : Bytes) : R (Pkt × Nat) :=
  match Pkt.unpack Pkt.fresh (rem.take 188) with
  | (p, .ok ()) => .ok (p, 188)
  | (_, .error _) => .error .generic

def moreBlocks (off len : Nat) : Bool := decide (off < len)

/-- `MPEGTS.unpack` (returns True) -/
def TS.unpack (_t : TS) (buf : Bytes) : TS × R Bool :=
  match decOff decBlock moreBlocks buf (buf.length + 1) 0 with
  | .ok bs => ({ blocks := bs }, .ok true)
  | .error e => ({ blocks := [] }, .error e)

/-- `MPEGTS.pack`: concatenation of `block.pack()`; packing mutates the blocks' adaptation fields -/
def packBlocks : List Pkt → List Pkt × R Bytes
  | [] => ([], .ok [])
  | p :: ps =>
    match Pkt.pack p with
    | (p', .error e) => (p' :: ps, .error e)
    | (p', .ok b) =>
      match packBlocks ps with
      | (ps', .ok r) => (p' :: ps', .ok (b ++ r))
      | (ps', .error e) => (p' :: ps', .error e)

def TS.pack (s : TS) : TS × R Bytes :=
  let r := packBlocks s.blocks
  ({ blocks := r.1 }, r.2)

/-- `MPEGTS.__eq__`: same number of blocks, pairwise equal -/
def TS.eq (a b : TS) : Bool :=
  a.blocks.length == b.blocks.length && (List.zipWith Pkt.eq a.blocks b.blocks).all id

end Acra.Model.MPEGTS
