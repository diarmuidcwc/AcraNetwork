import Acra.Model.Ch11Video
import Acra.Lemmas.Ch11Video
import Acra.Lemmas.MpegCanon
import Acra.Props.C06.MPEGTS
import Acra.Spec.Ch11
namespace Acra.Props.C04
open Acra.Py Acra.Model.Ch11Pay.Video Acra.Model.MPEGTS Acra.Gen.Ch11Video Acra.Lemmas.MPEGTS Acra.Lemmas.Ch11Video

/-! Video format 2 (C04), transport-stream packets of any adaptation control.  The nested `MPEGTS` object is
    the MPEG family's model, so the statements range over every adaptation-control mode and every combination of
    adaptation parts the C06 theorems cover.

    `TsWhole p` (Lemmas/Ch11Video.lean): every field of the packet fits its width, sync 0x47, the parts fit 188 bytes,
    control 2 has its adaptation-field object.  A payload-only 188-byte packet is the case `adaption_ctrl = 1`,
    184 payload bytes. -/

/-- video format 2 without intra-packet headers (bit 19 clear), carrying whole transport-stream packets -/
def Video_WF (s : State) : Prop :=
  s.channel_specific_word < 2 ^ 32 ∧ (s.channel_specific_word / 2 ^ IPH_OFFSET) % 2 = 0 ∧
  ∀ p ∈ s.mpegts.blocks, TsWhole p

instance (p : Pkt) : Decidable (TsWhole p) := by unfold TsWhole; infer_instance
instance (s : State) : Decidable (Video_WF s) := by unfold Video_WF; infer_instance

/-- `pack()`: the channel-specific word, then the transport-stream packets in order, each exactly 188 bytes
    (`Pkt_bytes p` is the ISO 13818-1 packet of C06: `TS_header_layout`, `TS_af_length`, `AF_pack_layout`) -/
theorem Video_pack_layout (s : State) (h : Video_WF s) :
    (pack s).2 = .ok (Spec.Ch11.video2 s.channel_specific_word (s.mpegts.blocks.map Pkt_bytes)) ∧
    ∀ c ∈ s.mpegts.blocks.map Pkt_bytes, c.length = 188 := by
  obtain ⟨h1, _, h3⟩ := h
  refine ⟨?_, ?_⟩
  · rw [Video_pack_eq s h1 (fun p hp => (h3 p hp).1)]
    simp [Video_bytes, Spec.Ch11.video2, encInt, List.flatMap_def]
  · intro c hc
    obtain ⟨p, hp, rfl⟩ := List.mem_map.mp hc
    have := (h3 p hp).2.2.1
    rw [Pkt_bytes_length]; omega

/-- round trip, into an object in ANY prior state: each packet comes back in its decoded form (C06 `TS_roundtrip`: all
    header fields, the adaptation field as `pack` normalised it, the payload followed by the 0xFF stuffing — the format
    has no payload length); the data stream bit is read from the channel-specific word -/
theorem Video_roundtrip (s t : State) (h : Video_WF s) :
    ∃ b, (pack s).2 = .ok b ∧ b.length = 4 + 188 * s.mpegts.blocks.length ∧
      unpack t b = ({ channel_specific_word := s.channel_specific_word,
                      datastream := (s.channel_specific_word / 2 ^ TP_OFFSET) % 2,
                      mpegts := { blocks := s.mpegts.blocks.map Pkt_decoded } }, .ok ()) ∧
      (s.mpegts.blocks.map Pkt_decoded).length = s.mpegts.blocks.length := by
  obtain ⟨h1, h2, h3⟩ := h
  refine ⟨Video_bytes s, by rw [Video_pack_eq s h1 (fun p hp => (h3 p hp).1)], ?_,
    Video_unpack_bytes s t h1 h2 h3, by simp⟩
  simp only [Video_bytes, List.length_append, encInt_length,
    flatMap_Pkt_bytes_length _ (fun p hp => (h3 p hp).2.2.1)]

/-- re-encoding the decoded object reproduces the bytes when the format can express every packet (no payload with
    adaptation control 0 or 2) -/
theorem Video_reencode (s : State) (h : Video_WF s) :
    (∃ b', (pack (Video_decoded s)).2 = .ok b' ∧ b'.length = 4 + 188 * s.mpegts.blocks.length) ∧
    ((∀ p ∈ s.mpegts.blocks, (p.adaption_ctrl = 0 ∨ p.adaption_ctrl = 2) → p.payload = []) →
      (pack (Video_decoded s)).2 = (pack s).2) := by
  obtain ⟨h1, h2, h3⟩ := h
  have hd := Pkt_decoded_whole s.mpegts.blocks fun p hp => ⟨(h3 p hp).1, (h3 p hp).2.2.1⟩
  have hwd : ∀ q ∈ (Video_decoded s).mpegts.blocks, Pkt_WF q := fun q hq => (hd q hq).1
  have hused : ∀ q ∈ (Video_decoded s).mpegts.blocks, Pkt_used q ≤ 188 := fun q hq => (hd q hq).2
  have hcd : (Video_decoded s).channel_specific_word < 2 ^ 32 := h1
  rw [Video_pack_eq _ hcd hwd, Video_pack_eq s h1 (fun p hp => (h3 p hp).1)]
  refine ⟨⟨_, rfl, ?_⟩, ?_⟩
  · have hl : (Video_decoded s).mpegts.blocks.length = s.mpegts.blocks.length := by simp [Video_decoded]
    simp only [Video_bytes, List.length_append, encInt_length, flatMap_Pkt_bytes_length _ hused, hl]
  · intro hpl
    have := flatMap_decoded_bytes s.mpegts.blocks (fun p hp => ⟨(h3 p hp).1, (h3 p hp).2.2.1, hpl p hp⟩)
    simp only [Video_bytes]
    show Except.ok (encInt false 4 s.channel_specific_word ++ (s.mpegts.blocks.map Pkt_decoded).flatMap Pkt_bytes) = _
    rw [this]

/-- **the same packets back**: when every packet is one the class encodes exactly (`Pkt_canon`: a packet that carries
    a payload fills its 188 bytes; controls 0 and 2 carry none; no stray adaptation-field object), the decoded blocks
    ARE the blocks as `pack` left them — field for field, adaptation fields included -/
theorem Video_roundtrip_exact (s t : State) (h : Video_WF s)
    (hc : ∀ p ∈ s.mpegts.blocks, Acra.Lemmas.MpegCanon.Pkt_canon p) :
    ∃ b, (pack s).2 = .ok b ∧
      unpack t b = ({ (pack s).1 with datastream := (s.channel_specific_word / 2 ^ TP_OFFSET) % 2 }, .ok ()) := by
  obtain ⟨b, hp, _, hu, _⟩ := Video_roundtrip s t h
  refine ⟨b, hp, ?_⟩
  rw [hu, Video_pack_eq s h.1 (fun p hp => (h.2.2 p hp).1)]
  have hm : s.mpegts.blocks.map Pkt_packed = s.mpegts.blocks.map Pkt_decoded :=
    List.map_congr_left (fun p hp => Acra.Lemmas.MpegCanon.Pkt_canon_packed_eq_decoded p (hc p hp))
  simp [Video_packed, hm]

/-- witness: a stream of three whole packets — adaptation field only (PCR, with stuffing after it), adaptation field
    (splice countdown, stuffed length) followed by 100 payload bytes, payload only — data-stream bit set; all three are
    also canonical -/
def videoExample : State :=
  { channel_specific_word := 0x1000, datastream := 1,
    mpegts := { blocks :=
      [ { Pkt.fresh with pid := 0x1FFF, adaption_ctrl := 2,
                         adaption_field := some { AF.fresh with pcr := [1, 2, 3, 4, 5, 6] } },
        { Pkt.fresh with pid := 5, adaption_ctrl := 3, payload := List.replicate 100 7,
                         adaption_field := some { AF.fresh with length := 83, splice_countdown := 3 } },
        { Pkt.fresh with pid := 0x100, adaption_ctrl := 1, continuitycounter := 15,
                         payload := List.replicate 184 0xAB } ] } }

example : Video_WF videoExample ∧ (∀ p ∈ videoExample.mpegts.blocks, Acra.Lemmas.MpegCanon.Pkt_canon p) ∧
    (∀ p ∈ videoExample.mpegts.blocks, (p.adaption_ctrl = 0 ∨ p.adaption_ctrl = 2) → p.payload = []) := by
  decide +kernel

/-- the model evaluated on the witness: 4 + 3·188 bytes, three blocks back, the second with its adaptation field
    (length 83, splicing flag set by `pack`, countdown 3); the first keeps its 7-byte adaptation field, the 0xFF stuffing after it is outside the field -/
example :
    ((pack videoExample).2.toOption.map List.length) = some 568 ∧
    ((pack videoExample).2.toOption.map fun b => ((unpack fresh b).1.mpegts.blocks.map fun p => p.adaption_ctrl)) = some [2, 3, 1] ∧
    ((pack videoExample).2.toOption.map fun b =>
      ((unpack fresh b).1.mpegts.blocks.map fun p => p.adaption_field.map fun a => (a.length, a.splicing_flag, a.splice_countdown))) =
      some [some (7, false, 0), some (83, true, 3), none] := by
  decide +kernel

/-- a packet with an adaptation field that is NOT exactly filled still round-trips in the sense of `Video_roundtrip`
    (the stuffing comes back as payload) but not in the sense of `Video_roundtrip_exact` -/
example :
    let s : State := { videoExample with mpegts := { blocks :=
      [ { Pkt.fresh with adaption_ctrl := 3, payload := [1, 2, 3], adaption_field := some { AF.fresh with pcr := [1, 2, 3, 4, 5, 6] } } ] } }
    Video_WF s ∧ ¬ (∀ p ∈ s.mpegts.blocks, Acra.Lemmas.MpegCanon.Pkt_canon p) := by
  decide +kernel

end Acra.Props.C04
