/-
  C04, UART payload (format 0): word and packet layout against the Spec, round trips.  `UART_WF` (below) rests on `Word_WF` of
  Lemmas/Ch11UART.lean; its last clause excludes a trailing word of exactly 4 bytes, which the decoder's loop test
  `abs(offset - len) > 4` does not see.  The decoding object must have the packet's `ipts_source` option (`ho`).
-/
import Acra.Lemmas.Ch11UART
import Acra.Spec.Ch11
namespace Acra.Props.C04
open Acra.Py Acra.Model.Ch11Pay Acra.Model.Ch11Pay.UART Acra.Gen.Ch11UART Acra.Gen.Ch11PayTs
open Acra.Lemmas.Ch11UART Acra.Lemmas.Ch11Pay

theorem endianSwap_eq_swapPairs (x : Bytes) (h : x.length % 2 = 0) : endianSwap x = Spec.Ch11.swapPairs x := by
  induction x using Lemmas.pairs_induction with
  | nil => rfl
  | one a => cases h
  | two a b rest ih =>
    simp only [List.length_cons] at h
    simp only [endianSwap, Spec.Ch11.swapPairs, ih (by omega)]

/-- UART data word: [time stamp] · data length · parity-error bit 15 | sub-channel · data, filled
    with 0xFF to a 16-bit boundary, byte-swapped per word when the object is little-endian -/
theorem UARTWord_pack_layout (w : Word) (h : Word_Fits w) :
    w.pack = .ok (Spec.Ch11.uartWord (toSpec w.ipts) w.parity_error w.subchannel w.payload
      (decide (w.data_endianness = ENDIAN_LITTLE))) := by
  rw [Word_pack_eq w h]
  have he := padded_even w.payload.length w.payload rfl
  have hh : wordHdr w = leBytes 2 w.payload.length ++ leBytes 2 (Spec.Ch11.bit w.parity_error 15 + w.subchannel) := by
    simp only [wordHdr, encInt, Bool.false_eq_true, if_false, Spec.Ch11.bit]
    cases w.parity_error <;> simp [Nat.add_comm]
  have hb : body w = (if decide (w.data_endianness = ENDIAN_LITTLE) = true then
      Spec.Ch11.swapPairs (w.payload ++ (if w.payload.length % 2 = 1 then [0xFF] else []))
      else w.payload ++ (if w.payload.length % 2 = 1 then [0xFF] else [])) := by
    simp only [pad] at he
    by_cases hle : w.data_endianness = ENDIAN_LITTLE
    · simp only [body, pad, hle, if_true, decide_true]
      exact endianSwap_eq_swapPairs _ he
    · simp [body, pad, hle]
  simp only [wordBytes, hh, hb, Spec.Ch11.uartWord, iptsBytes_spec _ h.1, List.append_assoc]

/-- padding rule, every residue: a packed word occupies an even number of bytes after its time stamp -/
theorem UARTWord_even (w : Word) : (wordBytes w).length % 2 = 0 := by
  rw [wordBytes_length]; split <;> omega

/-- word round trip (sub-channel below 2^13): the time stamp, the parity bit, the sub-channel and the
    data come back, `datalength` is the data size, the returned byte count is the size of the word
    (fill byte included) — into an object of the same time-stamp kind and byte order, in any prior state -/
theorem UARTWord_roundtrip (w t : Word) (rest : Bytes) (h : Word_WF w) (hk : sameKind t.ipts w.ipts)
    (he : t.data_endianness = w.data_endianness) :
    ∃ b, w.pack = .ok b ∧ Word.unpack t (b ++ rest) = (norm w, .ok b.length) ∧ (Word.unpack t (b ++ rest)).1.pack = .ok b := by
  refine ⟨wordBytes w, Word_pack_eq w h.1, Word_unpack_bytes w t rest h hk he, ?_⟩
  rw [Word_unpack_bytes w t rest h hk he]
  exact Word_pack_eq (norm w) h.1

/-- known finding K4 (/verif/known_findings.json): the decoder masks the sub-channel with 0x1FFF although the field is 14 bits wide: a word with
    sub-channel 0x2000 is laid out correctly but comes back with sub-channel 0 -/
example : let w : Word := { Word.fresh (.rtc 0) 0 with subchannel := 0x2000, payload := [1, 2] }
    Word_Fits w ∧ ∃ b, w.pack = .ok b ∧ (Word.unpack (Word.fresh (.rtc 0) 0) b).1.subchannel = 0 := by
  refine ⟨by simp [Word_Fits, Word.fresh, Ipts_WF], _, rfl, ?_⟩
  decide +kernel

/-- the time stamp object the packet decoder creates for its `ipts_source` option -/
def uartProtoIpts (p : Packet) : Ipts :=
  match p.ipts_source with
  | some s => (iptsOfSource s).getD .none
  | Option.none => .none

/-- every word is well formed, of the packet's time-stamp kind and byte order; at least one word;
    the last word has a time stamp or at least one data byte (the loop test `abs(offset-len) > 4`
    cannot see a trailing 4-byte word) -/
def UART_WF (p : Packet) : Prop :=
  (∀ w ∈ p.uartwords, Word_WF w ∧ sameKind (uartProtoIpts p) w.ipts ∧ w.data_endianness = p.data_endianness) ∧
  p.uartwords ≠ [] ∧ (p.ipts_source = Option.none ∨ ∃ s i, p.ipts_source = some s ∧ iptsOfSource s = some i) ∧
  (∀ w, p.uartwords.getLast? = some w → w.ipts ≠ .none ∨ 1 ≤ w.payload.length)

def UART_bytes (p : Packet) : Bytes :=
  encInt false 4 (if p.ipts_source.isSome then 0x80000000 else 0) ++ p.uartwords.flatMap wordBytes

theorem UART_pack_eq (p : Packet) (h : UART_WF p) : p.pack = .ok (UART_bytes p) := by
  obtain ⟨hw, hne, _, _⟩ := h
  have hlen : p.uartwords.length ≠ 0 := by
    intro h0; exact hne (List.length_eq_zero_iff.mp h0)
  simp only [Packet.pack, hlen, if_false, UP_pack_fmt0, UP_pack_fmt1, pack_word,
    packList_eq Word.pack wordBytes p.uartwords (fun w hx => Word_pack_eq w (hw w hx).1.1)]
  cases hs : p.ipts_source <;> simp [hs, UART_bytes]

/-- `pack()`: channel-specific word with bit 31 = time stamps present, then the words in order -/
theorem UART_pack_layout (p : Packet) (h : UART_WF p) :
    p.pack = .ok (Spec.Ch11.uartPacket p.ipts_source.isSome (p.uartwords.map wordBytes)) := by
  rw [UART_pack_eq p h]
  cases hs : p.ipts_source <;> simp [hs, UART_bytes, Spec.Ch11.uartPacket, Spec.Ch11.bit, encInt, List.flatMap_def]

theorem UART_proto (p : Packet) (h : UART_WF p) :
    p.proto = some (Word.fresh (uartProtoIpts p) p.data_endianness) := by
  obtain ⟨_, _, hs, _⟩ := h
  rcases hs with hs | ⟨s, i, hs, hi⟩
  · simp [Packet.proto, uartProtoIpts, hs]
  · simp [Packet.proto, uartProtoIpts, hs, hi]

theorem flatMap_wordBytes_norm (ws : List Word) : (ws.map norm).flatMap wordBytes = ws.flatMap wordBytes :=
  List.flatMap_map ..

theorem UART_unpack_bytes (p t : Packet) (h : UART_WF p) (ho : t.ipts_source = p.ipts_source)
    (he : t.data_endianness = p.data_endianness) :
    Packet.unpack t (UART_bytes p) = ({ t with uartwords := p.uartwords.map norm }, .ok ()) := by
  have hproto := UART_proto p h
  obtain ⟨hw, hne, hs, hlast⟩ := h
  have hproto' : t.proto = some (Word.fresh (uartProtoIpts p) p.data_endianness) := by
    simpa [Packet.proto, ho, he] using hproto
  have hdec := decOff_encAll_last (decWord (Word.fresh (uartProtoIpts p) p.data_endianness)) moreUART wordBytes norm
    (fun x => x.ipts ≠ .none ∨ 1 ≤ x.payload.length)
    p.uartwords (encInt false 4 (if p.ipts_source.isSome then 0x80000000 else 0)) ((UART_bytes p).length + 1)
    (by simp only [UART_bytes, List.length_append]; omega)
    (fun w hwm rest => by
      rw [decWord, Word_unpack_bytes w _ rest (hw w hwm).1 (hw w hwm).2.1 (hw w hwm).2.2.symm])
    (fun w _ hnil => by have := wordBytes_length w; rw [hnil, List.length_nil] at this; omega)
    (fun w _ a q hq => by
      rw [List.length_append, List.length_append, wordBytes_length]
      refine moreUART_word _ _ _ _ ?_
      rcases hq with hq | hq | hq
      · exact Or.inl (List.length_pos_iff.2 hq)
      · exact Or.inr (Or.inl (by rw [if_neg hq]; decide))
      · exact Or.inr (Or.inr hq))
    hlast (fun n => by simp [moreUART])
  have h4 : ¬ (UART_bytes p).length < 4 := by simp [UART_bytes]
  rw [encInt_length] at hdec
  refine Acra.Lemmas.Decodes.of_run Packet_decodes ?_
  rw [packetRun, if_neg h4, show (Packet.fresh (pcfg t).1 (pcfg t).2).proto = t.proto from rfl, hproto']
  simp only [UART_bytes] at hdec ⊢
  rw [hdec]
  rfl

/-- packet round trip: the same words in the same order with the same time stamps, parity bits,
    sub-channels and data; decoding does not depend on what the receiving object held -/
theorem UART_roundtrip (p t : Packet) (h : UART_WF p) (ho : t.ipts_source = p.ipts_source)
    (he : t.data_endianness = p.data_endianness) :
    ∃ b, p.pack = .ok b ∧ Packet.unpack t b = ({ t with uartwords := p.uartwords.map norm }, .ok ()) ∧
      (Packet.unpack t b).1.pack = .ok b := by
  refine ⟨UART_bytes p, UART_pack_eq p h, UART_unpack_bytes p t h ho he, ?_⟩
  rw [UART_unpack_bytes p t h ho he]
  have h' : UART_WF { t with uartwords := p.uartwords.map norm } := by
    obtain ⟨hw, hne, hs, hlast⟩ := h
    refine ⟨?_, by simpa using hne, by simpa [ho] using hs, ?_⟩
    · intro x hx
      obtain ⟨w, hwm, rfl⟩ := List.mem_map.mp hx
      have := hw w hwm
      exact ⟨this.1, by simpa [uartProtoIpts, ho, norm] using this.2.1, by simpa [norm, he] using this.2.2⟩
    · intro x hx
      obtain ⟨w, hg, rfl⟩ := Lemmas.getLast?_map_some hx
      exact hlast w hg
  rw [UART_pack_eq _ h']
  simp [UART_bytes, flatMap_wordBytes_norm, ho]

/-- a payload assembled through `append()` is accepted by the decoder and returned unchanged -/
theorem UART_append_accepted (src : Option Nat) (en : Nat) (ws : List Word) (t : Packet)
    (h : UART_WF { Packet.fresh src en with uartwords := ws }) (ho : t.ipts_source = src) (he : t.data_endianness = en) :
    ∃ b, (ws.foldl Packet.append (Packet.fresh src en)).pack = .ok b ∧
      (Packet.unpack t b).2 = .ok () ∧ (Packet.unpack t b).1.uartwords = ws.map norm := by
  have e : ws.foldl Packet.append (Packet.fresh src en) = { Packet.fresh src en with uartwords := ws } := by
    rw [Lemmas.foldl_eq_of_step Packet.append (fun q ws => { q with uartwords := q.uartwords ++ ws }) (fun q => by simp)
      (fun q w ws => by simp [Packet.append])]
    simp [Packet.fresh]
  rw [e]
  obtain ⟨b, h1, h2, _⟩ := UART_roundtrip _ t h (by simpa [Packet.fresh] using ho) (by simpa [Packet.fresh] using he)
  exact ⟨b, h1, by rw [h2], by rw [h2]⟩

/-- without time stamps a trailing word that carries no data is not seen by the decoder's loop test -/
example : let p : Packet := { uartwords := [Word.setPayload (Word.fresh .none 0) [7], Word.fresh .none 0],
                              ipts_source := Option.none, data_endianness := 0 }
    ∃ b, p.pack = .ok b ∧ (Packet.unpack (Packet.fresh Option.none 0) b).1.uartwords.length = 1 := by
  refine ⟨_, rfl, ?_⟩
  decide +kernel

/-- `UARTWord_roundtrip` with the helper `norm` unfolded: time stamp, parity-error bit, sub-channel and
    data bytes come back, `datalength` is the number of data bytes (whatever the caller had stored in
    that attribute), the byte-order option is the decoder's own -/
theorem UARTWord_roundtrip_fields (w t : Word) (rest : Bytes) (h : Word_WF w) (hk : sameKind t.ipts w.ipts)
    (he : t.data_endianness = w.data_endianness) :
    ∃ b, w.pack = .ok b ∧ (Word.unpack t (b ++ rest)).2 = .ok b.length ∧
      (Word.unpack t (b ++ rest)).1.ipts = w.ipts ∧ (Word.unpack t (b ++ rest)).1.parity_error = w.parity_error ∧
      (Word.unpack t (b ++ rest)).1.subchannel = w.subchannel ∧ (Word.unpack t (b ++ rest)).1.payload = w.payload ∧
      (Word.unpack t (b ++ rest)).1.datalength = some w.payload.length ∧
      (Word.unpack t (b ++ rest)).1.data_endianness = t.data_endianness := by
  obtain ⟨b, h1, h2, _⟩ := UARTWord_roundtrip w t rest h hk he
  exact ⟨b, h1, by rw [h2], by rw [h2]; rfl, by rw [h2]; rfl, by rw [h2]; rfl, by rw [h2]; rfl, by rw [h2]; rfl,
    by rw [h2]; exact he.symm⟩

/-- the packet layout with every word in its declarative form (`UART_pack_layout` without the helper `wordBytes`) -/
theorem UART_pack_layout_spec (p : Packet) (h : UART_WF p) :
    p.pack = .ok (Spec.Ch11.uartPacket p.ipts_source.isSome (p.uartwords.map fun w =>
      Spec.Ch11.uartWord (toSpec w.ipts) w.parity_error w.subchannel w.payload
        (decide (p.data_endianness = ENDIAN_LITTLE)))) := by
  rw [← List.map_congr_left fun w hw => Except.ok.inj
    ((Word_pack_eq w (h.1 w hw).1.1).symm.trans ((h.1 w hw).2.2 ▸ UARTWord_pack_layout w (h.1 w hw).1.1))]
  exact UART_pack_layout p h

/-- `UART_roundtrip` with `norm` unfolded: word by word and in order the same time stamps, parity
    bits, sub-channels and data bytes; every decoded `datalength` is the size of its data; the two
    codec options are the decoder's own -/
theorem UART_roundtrip_fields (p t : Packet) (h : UART_WF p) (ho : t.ipts_source = p.ipts_source)
    (he : t.data_endianness = p.data_endianness) :
    ∃ b, p.pack = .ok b ∧ (Packet.unpack t b).2 = .ok () ∧
      (Packet.unpack t b).1.uartwords.map (fun w => (w.ipts, w.parity_error, w.subchannel, w.payload)) =
        p.uartwords.map (fun w => (w.ipts, w.parity_error, w.subchannel, w.payload)) ∧
      (∀ w ∈ (Packet.unpack t b).1.uartwords, w.datalength = some w.payload.length) ∧
      (Packet.unpack t b).1.ipts_source = t.ipts_source ∧ (Packet.unpack t b).1.data_endianness = t.data_endianness := by
  obtain ⟨b, h1, h2, _⟩ := UART_roundtrip p t h ho he
  refine ⟨b, h1, by rw [h2], ?_, ?_, by rw [h2], by rw [h2]⟩
  · rw [h2]
    simp [List.map_map, Function.comp_def, norm]
  · rw [h2]
    intro w hw
    obtain ⟨x, _, rfl⟩ := List.mem_map.mp hw
    rfl

/-- example for `UARTWord_roundtrip` (`h`, `hk`, `he` together): little-endian word with an odd
    number of data bytes, parity error, the largest sub-channel the decoder keeps, into an object
    holding another RTC time and other data -/
example : let w : Word := ⟨.rtc 0xFFFFFFFFFFFF, true, 0x1FFF, some 3, [1, 2, 3], 1⟩
    let t : Word := ⟨.rtc 4, false, 9, some 1, [7], 1⟩
    Word_WF w ∧ sameKind t.ipts w.ipts ∧ t.data_endianness = w.data_endianness := by
  simp [Word_WF, Word_Fits, Ipts_WF, sameKind]

/-- `UARTWord_even` is a statement about the helper `wordBytes`; this is the same fact about what
    `UARTDataWord.pack` returns (time stamp included), for every word the layout can carry -/
theorem UARTWord_even_model (w : Word) (h : Word_Fits w) (b : Bytes) (hb : w.pack = .ok b) : b.length % 2 = 0 := by
  rw [Word_pack_eq w h] at hb
  rw [← Except.ok.inj hb]
  exact UARTWord_even w

/-- why `UART_WF` excludes the empty list (DESIGN §5 C04 quantifies over counts from 1): the encoder refuses it -/
example : (Packet.fresh (some 0) 0).pack = .error .generic := rfl

/-! `UART_WF` is decidable, so that the concrete witnesses below are checked by evaluation -/

instance (p : Packet) : Decidable (UART_WF p) := by unfold UART_WF; infer_instance

example : UART_WF { uartwords := [Word.setPayload (Word.fresh (.ptp 5 999999999) 1) [1, 2, 3],
                                  { Word.fresh (.ptp 6 0) 1 with parity_error := true, subchannel := 0x1FFF }],
                    ipts_source := some 1, data_endianness := 1 } := by decide

/-- example for `UART_roundtrip` (`h`, `ho`, `he` together), decoder in a non-trivial prior state:
    the theorem instantiated on the packet of the `UART_WF` example above -/
example : ∃ b, (⟨[Word.setPayload (Word.fresh (.ptp 5 999999999) 1) [1, 2, 3],
                  { Word.fresh (.ptp 6 0) 1 with parity_error := true, subchannel := 0x1FFF }], some 1, 1⟩ : Packet).pack = .ok b ∧
    (Packet.unpack ⟨[Word.fresh (.ptp 0 0) 1], some 1, 1⟩ b).2 = .ok () ∧
    (Packet.unpack ⟨[Word.fresh (.ptp 0 0) 1], some 1, 1⟩ b).1.uartwords.map (fun w => (w.ipts, w.parity_error, w.subchannel, w.payload)) =
      [(.ptp 5 999999999, false, 0, [1, 2, 3]), (.ptp 6 0, true, 0x1FFF, [])] := by
  obtain ⟨b, h1, h2, h3, _⟩ := UART_roundtrip_fields
    (⟨[Word.setPayload (Word.fresh (.ptp 5 999999999) 1) [1, 2, 3],
       { Word.fresh (.ptp 6 0) 1 with parity_error := true, subchannel := 0x1FFF }], some 1, 1⟩ : Packet)
    ⟨[Word.fresh (.ptp 0 0) 1], some 1, 1⟩
    (by decide)
    rfl rfl
  exact ⟨b, h1, h2, by rw [h3]; rfl⟩

/-- example for `UART_append_accepted` (`h` on the `fresh`-shaped packet, `ho`, `he` together):
    no intra-packet time stamps, big-endian, odd then even data sizes; the last word has data -/
example : ∃ b, (([Word.setPayload (Word.fresh .none 0) [7], Word.setPayload { Word.fresh .none 0 with subchannel := 5 } [8, 9]] : List Word).foldl
      Packet.append (Packet.fresh Option.none 0)).pack = .ok b ∧
    (Packet.unpack ⟨[Word.fresh .none 0], Option.none, 0⟩ b).2 = .ok () ∧
    (Packet.unpack ⟨[Word.fresh .none 0], Option.none, 0⟩ b).1.uartwords =
      [Word.setPayload (Word.fresh .none 0) [7], Word.setPayload { Word.fresh .none 0 with subchannel := 5 } [8, 9]] := by
  obtain ⟨b, h1, h2, h3⟩ := UART_append_accepted Option.none 0
    [Word.setPayload (Word.fresh .none 0) [7], Word.setPayload { Word.fresh .none 0 with subchannel := 5 } [8, 9]]
    ⟨[Word.fresh .none 0], Option.none, 0⟩
    (by decide)
    rfl rfl
  exact ⟨b, h1, h2, by rw [h3]; rfl⟩

end Acra.Props.C04
