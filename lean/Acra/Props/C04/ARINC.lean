/-
  C04, ARINC-429 payload (format 0): word and packet layout against the Spec, round trips.  `ARINC_WF`: every word is `Word_WF`
  (Lemmas/Ch11ARINC.lean) with a 4-byte payload, fewer than 2^16 words.  The decoded `msgcount` is the word count, whatever the
  packed object held (`append()` leaves `msgcount` alone, `pack` writes the count).
-/
import Acra.Lemmas.Ch11ARINC
import Acra.Spec.Ch11
namespace Acra.Props.C04
open Acra.Py Acra.Model.Ch11Pay Acra.Model.Ch11Pay.ARINC Acra.Gen.Ch11ARINC Acra.Lemmas.Ch11ARINC Acra.Lemmas.Ch11Pay

/-- ARINC-429 word header: `bus<<24 | FE<<23 | PE<<22 | speed<<21 | gap[20]`, then the data -/
theorem ARINCWord_pack_layout (w : Word) (h : Word_WF w) :
    w.pack = .ok (Spec.Ch11.arincWord w.bus w.format_error w.parity_error w.bus_speed w.gaptime w.payload) := by
  rw [Word_pack_eq w h]
  simp only [wordBytes, Spec.Ch11.arincWord, Spec.Ch11.bit, encInt, Word.ipdh, Bool.false_eq_true, if_false]
  congr 3
  cases w.format_error <;> cases w.parity_error <;> simp <;> omega

/-- word round trip: every status bit, the bus number, the speed, the gap time and the data come back,
    whatever the receiving object held -/
theorem ARINCWord_roundtrip (w t : Word) (h : Word_WF w) :
    ∃ b, w.pack = .ok b ∧ Word.unpack t b = (w, .ok ()) ∧ (Word.unpack t b).1.pack = .ok b :=
  ⟨wordBytes w, Word_pack_eq w h, Word_unpack_bytes w t h, by rw [Word_unpack_bytes w t h]; exact Word_pack_eq w h⟩

/-- the packet format carries 8-byte words (header + one 32-bit ARINC word) and a 16-bit count -/
def ARINC_WF (p : Packet) : Prop :=
  (∀ w ∈ p.arincwords, Word_WF w ∧ w.payload.length = 4) ∧ p.arincwords.length < 2 ^ 16

def ARINC_bytes (p : Packet) : Bytes :=
  encInt false 2 p.arincwords.length ++ (encInt false 2 0 ++ p.arincwords.flatMap wordBytes)

theorem ARINC_pack_eq (p : Packet) (h : ARINC_WF p) :
    p.pack = ({ p with msgcount := p.arincwords.length }, .ok (ARINC_bytes p)) := by
  obtain ⟨hw, hl⟩ := h
  have hf : Fits PKT_pack_fmt0.codes [p.arincwords.length, 0] := by
    simp [Fits, PKT_pack_fmt0, Code.bound]; omega
  simp only [Packet_pack_closed, structPack_eq _ _ hf,
    packList_eq Word.pack wordBytes p.arincwords (fun w hx => Word_pack_eq w (hw w hx).1)]
  simp [Except.bind, Except.map, ARINC_bytes, PKT_pack_fmt0, encCodes, Code.size]

/-- `pack()` writes the word count (and stores it in `msgcount`), a reserved zero, then the words in order -/
theorem ARINC_pack_layout (p : Packet) (h : ARINC_WF p) :
    p.pack.2 = .ok (Spec.Ch11.arincPacket (p.arincwords.map wordBytes)) ∧ p.pack.1.msgcount = p.arincwords.length := by
  rw [ARINC_pack_eq p h]
  simp [ARINC_bytes, Spec.Ch11.arincPacket, encInt, List.flatMap_def]

theorem ARINC_unpack_bytes (p t : Packet) (h : ARINC_WF p) :
    Packet.unpack t (ARINC_bytes p) = ({ msgcount := p.arincwords.length, arincwords := p.arincwords }, .ok ()) := by
  obtain ⟨hw, hl⟩ := h
  have hlen : (ARINC_bytes p).length = 4 + 8 * p.arincwords.length := by
    simp [ARINC_bytes, flatMap_wordBytes_length _ (fun w hx => (hw w hx).2)]; omega
  have hn : ((ARINC_bytes p).length - 4) / 8 = p.arincwords.length := by omega
  have hdec := decWords_enc (encInt false 2 p.arincwords.length ++ encInt false 2 0) p.arincwords 0 (by simp) hw
  rw [List.append_assoc, ← ARINC_bytes, decWords_eq _ _ _ (by omega)] at hdec
  refine Acra.Lemmas.Decodes.of_run Packet_decodes ((packetRun_ok_iff _ _).2 ⟨by omega, ?_, ?_⟩) <;>
    rw [hn, ARINC_bytes, take_encInt_append, decInt_encInt2 _ _ hl]
  rw [← ARINC_bytes, Except.ok.inj hdec]

/-- packet round trip: the same words in the same order, the count equal to their number; the bytes
    are accepted by the decoder whatever the receiving object held, and re-encode identically -/
theorem ARINC_roundtrip (p t : Packet) (h : ARINC_WF p) :
    ∃ b, p.pack.2 = .ok b ∧
      Packet.unpack t b = ({ msgcount := p.arincwords.length, arincwords := p.arincwords }, .ok ()) ∧
      (Packet.unpack t b).1.pack.2 = .ok b := by
  refine ⟨ARINC_bytes p, by rw [ARINC_pack_eq p h], ARINC_unpack_bytes p t h, ?_⟩
  rw [ARINC_unpack_bytes p t h]
  have h' : ARINC_WF { msgcount := p.arincwords.length, arincwords := p.arincwords } := h
  rw [ARINC_pack_eq _ h']
  rfl

/-- a payload assembled through `append()` (which leaves `msgcount` alone) is accepted by the decoder -/
theorem ARINC_append_accepted (ws : List Word) (t : Packet) (hw : ∀ w ∈ ws, Word_WF w ∧ w.payload.length = 4)
    (hl : ws.length < 2 ^ 16) :
    ∃ b, (ws.foldl Packet.append Packet.fresh).pack.2 = .ok b ∧
      Packet.unpack t b = ({ msgcount := ws.length, arincwords := ws }, .ok ()) := by
  have hfold := Lemmas.foldl_eq_of_step Packet.append (fun q ws => { q with arincwords := q.arincwords ++ ws })
    (fun q => by simp) (fun q w ws => by simp [Packet.append]) ws Packet.fresh
  have hp : ARINC_WF (ws.foldl Packet.append Packet.fresh) := by
    rw [hfold]; simpa [ARINC_WF, Packet.fresh] using ⟨hw, hl⟩
  obtain ⟨b, h1, h2, _⟩ := ARINC_roundtrip _ t hp
  refine ⟨b, h1, ?_⟩
  rw [h2, hfold]
  simp [Packet.fresh]

/-- the packet layout with every word in its declarative form (`ARINC_pack_layout` without the helper `wordBytes`) -/
theorem ARINC_pack_layout_spec (p : Packet) (h : ARINC_WF p) :
    p.pack.2 = .ok (Spec.Ch11.arincPacket (p.arincwords.map fun w =>
      Spec.Ch11.arincWord w.bus w.format_error w.parity_error w.bus_speed w.gaptime w.payload)) := by
  rw [← List.map_congr_left fun w hw =>
    Except.ok.inj ((Word_pack_eq w (h.1 w hw).1).symm.trans (ARINCWord_pack_layout w (h.1 w hw).1))]
  exact (ARINC_pack_layout p h).1

/-- the empty packet is inside `ARINC_WF` (DESIGN §5 C04 quantifies over counts from 1; count 0 is legal for this format
    and is accepted too): four bytes, count 0 -/
example : ARINC_WF Packet.fresh ∧ Packet.fresh.pack.2 = .ok [0, 0, 0, 0] ∧
    Packet.unpack ⟨7, [Word.fresh]⟩ [0, 0, 0, 0] = (Packet.fresh, .ok ()) := by
  refine ⟨⟨by simp [Packet.fresh], by simp [Packet.fresh]⟩, rfl, rfl⟩

/-- example for `ARINCWord_roundtrip` / `ARINCWord_pack_layout`: all three header fields at their maxima -/
example : Word_WF ⟨0xFFFFF, true, true, 1, 255, [0xDE, 0xAD, 0xBE, 0xEF]⟩ := by simp [Word_WF]

/-- outside `Word_WF`: `pack` does not mask the gap time — 2^20 lands in the reserved bit 20 and is lost
    on decode (gap 0), 2^21 is ADDED into the bus-speed bit and encodes exactly like speed 1, gap 0;
    this is why the hypothesis `gaptime < 2^20` is needed -/
example : ∃ b, (⟨0x100000, false, false, 0, 0, [1, 2, 3, 4]⟩ : Word).pack = .ok b ∧
    (Word.unpack Word.fresh b).1 = ⟨0, false, false, 0, 0, [1, 2, 3, 4]⟩ ∧
    (⟨0x200000, false, false, 0, 0, [1, 2, 3, 4]⟩ : Word).pack = (⟨0, false, false, 1, 0, [1, 2, 3, 4]⟩ : Word).pack := by
  refine ⟨_, rfl, by decide, rfl⟩

/-! `ARINC_WF` is decidable, so that the concrete witnesses below are checked by evaluation -/

instance (p : Packet) : Decidable (ARINC_WF p) := by unfold ARINC_WF; infer_instance

example : ARINC_WF ⟨0, [⟨4110, true, false, 1, 200, [1, 2, 3, 4]⟩, ⟨0, false, true, 0, 0, [0, 0, 0, 0]⟩]⟩ := by decide

/-- example for the hypotheses of `ARINC_append_accepted` (`hw` and `hl` together), with every
    status bit, the widest gap time and bus number: the theorem instantiated -/
example : ∃ b, (([⟨4110, true, false, 1, 200, [1, 2, 3, 4]⟩, ⟨0xFFFFF, false, true, 0, 255, [9, 8, 7, 6]⟩] : List Word).foldl
      Packet.append Packet.fresh).pack.2 = .ok b ∧
    Packet.unpack ⟨5, [Word.fresh]⟩ b =
      ({ msgcount := 2, arincwords := [⟨4110, true, false, 1, 200, [1, 2, 3, 4]⟩, ⟨0xFFFFF, false, true, 0, 255, [9, 8, 7, 6]⟩] },
       .ok ()) :=
  ARINC_append_accepted _ _ (by decide) (by decide)

end Acra.Props.C04
