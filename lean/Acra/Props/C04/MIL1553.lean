/-
  C04, MIL-STD-1553 payload (format 1): message and packet layout against the Spec, round trips.  `MIL_WF` (below) rests on
  `Msg_WF` of Lemmas/Ch11MIL1553.lean; the time stamps of the messages must be of the class the packet's `ipts_source` option
  selects (`protoIpts`), and the decoding object must have the same option (`ho`).
-/
import Acra.Lemmas.Ch11MIL1553
import Acra.Spec.Ch11
namespace Acra.Props.C04
open Acra.Py Acra.Model.Ch11Pay Acra.Model.Ch11Pay.MIL1553 Acra.Gen.Ch11MIL1553 Acra.Gen.Ch11PayTs
open Acra.Lemmas.Ch11MIL1553 Acra.Lemmas.Ch11Pay

/-- one 1553 message: time stamp, block status word, gap times word, length word, data -/
theorem MILMsg_pack_layout (m : Msg) (h : Msg_WF m) :
    m.pack.2 = .ok (Spec.Ch11.milMessage (toSpec m.ipts) m.blockstatus m.gaptimes m.message) ∧
    m.pack.1.length = m.message.length := by
  rw [Msg_pack_eq m h]
  simp [msgBytes, msgHdr, Spec.Ch11.milMessage, iptsBytes_spec _ h.1, encInt, norm]

/-- message round trip into an object of the same time-stamp kind, in any prior state -/
theorem MILMsg_roundtrip (m t : Msg) (h : Msg_WF m) (hk : sameKind t.ipts m.ipts) :
    ∃ b, m.pack.2 = .ok b ∧ Msg.unpack t b = (norm m, .ok b.length) ∧ (Msg.unpack t b).1.pack.2 = .ok b := by
  have hu := Msg_unpack_bytes m t [] h hk
  simp only [List.append_nil] at hu
  refine ⟨msgBytes m, by rw [Msg_pack_eq m h], hu, ?_⟩
  rw [hu, Msg_pack_eq _ (norm_WF m h)]
  rfl

/-- the time-stamp object the packet decoder creates for its `ipts_source` option -/
def protoIpts (p : Packet) : Ipts :=
  match p.ipts_source with
  | some s => (iptsOfSource s).getD .none
  | Option.none => .none

/-- every message fits its fields and carries the kind of time stamp the packet is configured for;
    at least one message (the encoder refuses an empty packet); the count fits 24 bits, the time-tag
    bits 2; the last message has data (the decoder's loop test `offset + 14 < len` cannot see a
    trailing header-only message) -/
def MIL_WF (p : Packet) : Prop :=
  (∀ m ∈ p.messages, Msg_WF m ∧ sameKind (protoIpts p) m.ipts) ∧ p.messages ≠ [] ∧
  p.messages.length < 2 ^ 24 ∧ p.ttb < 4 ∧ (∀ m, p.messages.getLast? = some m → 1 ≤ m.message.length)

def MIL_bytes (p : Packet) : Bytes :=
  encInt false 4 (1073741824 * p.ttb + p.messages.length) ++ p.messages.flatMap msgBytes

theorem MIL_pack_eq (p : Packet) (h : MIL_WF p) :
    p.pack = ({ p with messages := p.messages.map norm }, .ok (MIL_bytes p)) := by
  obtain ⟨hm, hne, hl, ht, _⟩ := h
  have hlen : p.messages.length ≠ 0 := by
    intro h0; exact hne (List.length_eq_zero_iff.mp h0)
  have hc : 1073741824 * p.ttb + p.messages.length < 2 ^ 32 := by omega
  simp only [Packet_pack_closed, hlen, if_false, packMsgs_eq _ (fun m hx => (hm m hx).1), PKT_pack_fmt0,
    pack_word, hc, if_true]
  rfl

/-- `pack()`: CSW = ttb<<30 | message count, then the messages in order -/
theorem MIL_pack_layout (p : Packet) (h : MIL_WF p) :
    p.pack.2 = .ok (Spec.Ch11.milPacket p.ttb (p.messages.map msgBytes)) := by
  rw [MIL_pack_eq p h]
  simp [MIL_bytes, Spec.Ch11.milPacket, encInt, List.flatMap_def, Nat.mul_comm]

theorem MIL_proto (p : Packet) (h : MIL_WF p) : ∃ m0, p.proto = .ok m0 ∧ m0.ipts = protoIpts p := by
  obtain ⟨hm, hne, _⟩ := h
  obtain ⟨m, ms, hms⟩ := List.exists_cons_of_ne_nil hne
  -- the first message carries a time stamp of the packet's kind, so the packet has a kind
  have hn : protoIpts p ≠ .none := mt (sameKind_none (hm m (by simp [hms])).2).1 (hm m (by simp [hms])).1.2.1
  unfold protoIpts at hn ⊢
  unfold Packet.proto
  cases hs : p.ipts_source with
  | none => rw [hs] at hn; exact absurd rfl hn
  | some s =>
    simp only [hs] at hn ⊢
    cases hi : iptsOfSource s with
    | none => rw [hi] at hn; exact absurd rfl hn
    | some i => exact ⟨Msg.fresh i, rfl, rfl⟩

theorem MIL_unpack_bytes (p t : Packet) (h : MIL_WF p) (ho : t.ipts_source = p.ipts_source) :
    Packet.unpack t (MIL_bytes p) =
      ({ t with messages := p.messages.map norm, msgcount := p.messages.length, ttb := p.ttb }, .ok ()) := by
  obtain ⟨m0, hproto, hm0⟩ := MIL_proto p h
  obtain ⟨hm, hne, hl, ht, hlast⟩ := h
  have hproto' : t.proto = .ok m0 := by simpa [Packet.proto, ho] using hproto
  have hlen (m : Msg) (hmm : m ∈ p.messages) := msgBytes_length m (hm m hmm).1.2.1
  have hdec := decOff_encAll_last (decMsg (.ok m0)) more1553 msgBytes norm (fun x => 1 ≤ x.message.length)
    p.messages (encInt false 4 (1073741824 * p.ttb + p.messages.length)) ((MIL_bytes p).length + 1)
    (by simp only [MIL_bytes, List.length_append]; omega)
    (fun m hmm rest => by rw [decMsg, Msg_unpack_bytes m m0 rest (hm m hmm).1 (hm0 ▸ (hm m hmm).2)])
    (fun m hmm hnil => by have := hlen m hmm; rw [hnil, List.length_nil] at this; omega)
    (fun m hmm a q hq => by
      rw [List.length_append, List.length_append, hlen m hmm]
      exact more1553_msg _ _ _ (hq.imp List.length_pos_iff.2 id))
    hlast (fun n => by simp [more1553])
  have h4 : ¬ (MIL_bytes p).length < 4 := by simp [MIL_bytes]
  rw [encInt_length] at hdec
  refine Acra.Lemmas.Decodes.of_run Packet_decodes ?_
  rw [packetRun, if_neg h4, show (Packet.fresh t.ipts_source).proto = t.proto from rfl, hproto']
  simp only [MIL_bytes] at hdec ⊢
  rw [hdec, take_encInt_append, decInt_encInt4 _ _ (by omega)]
  simp only [Except.map, csw_fields p.ttb p.messages.length ht hl]

/-- packet round trip: the same messages in the same order with the same time stamps, status words
    and data (each `length` field equal to its data size), the count and the time-tag bits; decoding
    does not depend on what the receiving object held; re-encoding gives the same bytes -/
theorem MIL_roundtrip (p t : Packet) (h : MIL_WF p) (ho : t.ipts_source = p.ipts_source) :
    ∃ b, p.pack.2 = .ok b ∧
      Packet.unpack t b =
        ({ t with messages := p.messages.map norm, msgcount := p.messages.length, ttb := p.ttb }, .ok ()) ∧
      (Packet.unpack t b).1.pack.2 = .ok b := by
  refine ⟨MIL_bytes p, by rw [MIL_pack_eq p h], MIL_unpack_bytes p t h ho, ?_⟩
  rw [MIL_unpack_bytes p t h ho]
  have h' : MIL_WF { t with messages := p.messages.map norm, msgcount := p.messages.length, ttb := p.ttb } := by
    obtain ⟨hm, hne, hl, ht, hlast⟩ := h
    refine ⟨?_, by simpa using hne, by simpa using hl, ht, ?_⟩
    · intro x hx
      obtain ⟨m, hmm, rfl⟩ := List.mem_map.mp hx
      have := hm m hmm
      exact ⟨norm_WF m this.1, by simpa [protoIpts, ho, norm] using this.2⟩
    · intro x hx
      obtain ⟨m, hg, rfl⟩ := Lemmas.getLast?_map_some hx
      exact hlast m hg
  rw [MIL_pack_eq _ h']
  simp [MIL_bytes, List.flatMap_map, msgBytes_norm]

/-- a payload assembled through `append()` (which counts the messages) is accepted by the decoder and
    returned unchanged, with the count the object already showed -/
theorem MIL_append_accepted (src : Option Nat) (ms : List Msg) (t : Packet)
    (h : MIL_WF { Packet.fresh src with messages := ms, msgcount := ms.length }) (ho : t.ipts_source = src) :
    ∃ b, (ms.foldl Packet.append (Packet.fresh src)).pack.2 = .ok b ∧
      (Packet.unpack t b).2 = .ok () ∧ (Packet.unpack t b).1.messages = ms.map norm ∧
      (Packet.unpack t b).1.msgcount = (ms.foldl Packet.append (Packet.fresh src)).msgcount := by
  have e : ms.foldl Packet.append (Packet.fresh src) = { Packet.fresh src with messages := ms, msgcount := ms.length } := by
    rw [Lemmas.foldl_eq_of_step Packet.append
      (fun q ms => { q with messages := q.messages ++ ms, msgcount := q.msgcount + ms.length }) (fun q => by simp)
      (fun q m ms => by simp [Packet.append, Nat.add_assoc, Nat.add_comm 1])]
    simp [Packet.fresh]
  rw [e]
  obtain ⟨b, h1, h2, _⟩ := MIL_roundtrip _ t h (by simpa [Packet.fresh] using ho)
  exact ⟨b, h1, by rw [h2], by rw [h2], by rw [h2]⟩

/-- the decoder's loop test cannot see a trailing message without data: what `pack` emits for
    [one data word; no data] decodes to a single message -/
example : let p : Packet := { messages := [⟨.rtc 1, 0, 0, 0, [1, 2]⟩, ⟨.rtc 2, 0, 0, 0, []⟩], msgcount := 2, ttb := 0,
                              ipts_source := some 0 }
    ∃ b, p.pack.2 = .ok b ∧ (Packet.unpack (Packet.fresh (some 0)) b).1.messages.length = 1 := by
  refine ⟨_, rfl, ?_⟩
  decide +kernel

/-- `MILMsg_roundtrip` with the helper `norm` unfolded: the time stamp, both status words and the data
    bytes come back; the `length` attribute comes back as the size of the data (NOT as the value the
    caller may have assigned — `pack` overwrites it) -/
theorem MILMsg_roundtrip_fields (m t : Msg) (h : Msg_WF m) (hk : sameKind t.ipts m.ipts) :
    ∃ b, m.pack.2 = .ok b ∧ (Msg.unpack t b).2 = .ok b.length ∧
      (Msg.unpack t b).1.ipts = m.ipts ∧ (Msg.unpack t b).1.blockstatus = m.blockstatus ∧
      (Msg.unpack t b).1.gaptimes = m.gaptimes ∧ (Msg.unpack t b).1.message = m.message ∧
      (Msg.unpack t b).1.length = m.message.length := by
  obtain ⟨b, h1, h2, _⟩ := MILMsg_roundtrip m t h hk
  exact ⟨b, h1, by rw [h2], by rw [h2]; rfl, by rw [h2]; rfl, by rw [h2]; rfl, by rw [h2]; rfl, by rw [h2]; rfl⟩

/-- the packet layout with every message in its declarative form (`MIL_pack_layout` without the helper `msgBytes`) -/
theorem MIL_pack_layout_spec (p : Packet) (h : MIL_WF p) :
    p.pack.2 = .ok (Spec.Ch11.milPacket p.ttb (p.messages.map fun m =>
      Spec.Ch11.milMessage (toSpec m.ipts) m.blockstatus m.gaptimes m.message)) := by
  rw [← List.map_congr_left fun m hm => Except.ok.inj
    ((congrArg Prod.snd (Msg_pack_eq m (h.1 m hm).1)).symm.trans (MILMsg_pack_layout m (h.1 m hm).1).1)]
  exact MIL_pack_layout p h

/-- `MIL_roundtrip` with `norm` unfolded: the decoded list carries, message by message and in order,
    the same time stamps, block status words, gap-time words and data bytes; every decoded `length`
    is the size of its data; count and time-tag bits are the encoder's; the codec option is kept -/
theorem MIL_roundtrip_fields (p t : Packet) (h : MIL_WF p) (ho : t.ipts_source = p.ipts_source) :
    ∃ b, p.pack.2 = .ok b ∧ (Packet.unpack t b).2 = .ok () ∧
      (Packet.unpack t b).1.messages.map (fun m => (m.ipts, m.blockstatus, m.gaptimes, m.message)) =
        p.messages.map (fun m => (m.ipts, m.blockstatus, m.gaptimes, m.message)) ∧
      (∀ m ∈ (Packet.unpack t b).1.messages, m.length = m.message.length) ∧
      (Packet.unpack t b).1.msgcount = p.messages.length ∧ (Packet.unpack t b).1.ttb = p.ttb ∧
      (Packet.unpack t b).1.ipts_source = t.ipts_source := by
  obtain ⟨b, h1, h2, _⟩ := MIL_roundtrip p t h ho
  refine ⟨b, h1, by rw [h2], ?_, ?_, by rw [h2], by rw [h2], by rw [h2]⟩
  · rw [h2]
    simp [List.map_map, Function.comp_def, norm]
  · rw [h2]
    intro m hm
    obtain ⟨x, _, rfl⟩ := List.mem_map.mp hm
    rfl

/-- example for `MILMsg_roundtrip` (`h` and `hk` together): a PTP-stamped message decoded into
    an object that held another PTP time and other data -/
example : Msg_WF ⟨.ptp 0xFFFFFFFF 999999999, 0xFFFF, 0xFFFF, 7, [1, 2, 3]⟩ ∧
    sameKind (⟨.ptp 1 2, 5, 6, 7, [9]⟩ : Msg).ipts (⟨.ptp 0xFFFFFFFF 999999999, 0xFFFF, 0xFFFF, 7, [1, 2, 3]⟩ : Msg).ipts := by
  simp [Msg_WF, Ipts_WF, sameKind]

/-- why `MIL_WF` excludes the empty list (DESIGN §5 C04 quantifies over counts from 1): the encoder refuses it -/
example : (Packet.fresh (some 0)).pack.2 = .error .generic := rfl

/-! `MIL_WF` is decidable, so that the concrete witnesses below are checked by evaluation -/

instance (p : Packet) : Decidable (MIL_WF p) := by unfold MIL_WF; infer_instance

example : MIL_WF { messages := [⟨.rtc 1, 0, 0, 0, []⟩, ⟨.rtc 77, 0xFFFF, 3, 0, [1, 2, 3]⟩], msgcount := 2, ttb := 3,
                   ipts_source := some 0 } := by decide

/-- example for `MIL_roundtrip` (`h` and `ho` together), decoder in a non-trivial prior state:
    the theorem instantiated on the packet of the `MIL_WF` example above -/
example : ∃ b, (⟨[⟨.rtc 1, 0, 0, 0, []⟩, ⟨.rtc 77, 0xFFFF, 3, 0, [1, 2, 3]⟩], 2, 3, some 0⟩ : Packet).pack.2 = .ok b ∧
    Packet.unpack ⟨[⟨.rtc 5, 1, 1, 1, [4]⟩], 99, 1, some 0⟩ b =
      (⟨[⟨.rtc 1, 0, 0, 0, []⟩, ⟨.rtc 77, 0xFFFF, 3, 3, [1, 2, 3]⟩], 2, 3, some 0⟩, .ok ()) := by
  obtain ⟨b, h1, h2, _⟩ := MIL_roundtrip
    (⟨[⟨.rtc 1, 0, 0, 0, []⟩, ⟨.rtc 77, 0xFFFF, 3, 0, [1, 2, 3]⟩], 2, 3, some 0⟩ : Packet)
    ⟨[⟨.rtc 5, 1, 1, 1, [4]⟩], 99, 1, some 0⟩
    (by decide)
    rfl
  exact ⟨b, h1, by rw [h2]; rfl⟩

/-- example for `MIL_append_accepted` (`h` on the `fresh`-shaped packet and `ho` together): two
    PTP-stamped messages, odd and even data sizes -/
example : ∃ b, (([⟨.ptp 1 2, 0x8000, 1, 0, [1, 2, 3]⟩, ⟨.ptp 1 500, 0, 0xFFFF, 0, [4, 5]⟩] : List Msg).foldl Packet.append
      (Packet.fresh (some 1))).pack.2 = .ok b ∧
    (Packet.unpack ⟨[], 9, 2, some 1⟩ b).2 = .ok () ∧
    (Packet.unpack ⟨[], 9, 2, some 1⟩ b).1.messages =
      [⟨.ptp 1 2, 0x8000, 1, 3, [1, 2, 3]⟩, ⟨.ptp 1 500, 0, 0xFFFF, 2, [4, 5]⟩] := by
  obtain ⟨b, h1, h2, h3, _⟩ := MIL_append_accepted (some 1)
    [⟨.ptp 1 2, 0x8000, 1, 0, [1, 2, 3]⟩, ⟨.ptp 1 500, 0, 0xFFFF, 0, [4, 5]⟩] ⟨[], 9, 2, some 1⟩
    (by decide)
    rfl
  exact ⟨b, h1, h2, by rw [h3]; rfl⟩

end Acra.Props.C04
