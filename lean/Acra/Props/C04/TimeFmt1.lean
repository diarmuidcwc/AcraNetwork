/-
  C04, time data format 1 (BCD calendar time): layout of both variants against the Spec, round trips for every second of
  1970-01-01 … 2099-12-31 (`TDF1_WF`).  The day-of-year variant carries no year: the decoded second is relative to the start of
  the year (`TDF1_roundtrip_doy`, `TDF1_startOfYear`).  `civil n` / `startOfYear n` are `Lemmas.Datetime.dateOfSeconds` /
  `Lemmas.PTPToRtc.yearStart` in this file's spelling (equal by unfolding); lemmas in Lemmas/Ch11TimeFmt.lean, Lemmas/Datetime.lean.
-/
import Acra.Lemmas.Ch11TimeFmt
import Acra.Spec.Ch11
namespace Acra.Props.C04
open Acra.Py Acra.Model.Ch11Pay.TimeFmt Acra.Gen.Ch11TimeFmt Acra.Lemmas.Ch11Calendar Acra.Lemmas.Datetime
open Acra.Lemmas.Ch11TimeFmt

/-- the civil date of second `n` of the Unix era, as the model computes it -/
def civil (n : Nat) : Nat × Nat × Nat := civilFromDays (n / 86400 + EPOCH)

/-- the first second of the year that contains second `n` -/
def startOfYear (n : Nat) : Nat := 86400 * (daysFromCivil (civil n).1 1 1 - EPOCH)

/-- the object holds second `n` of 1970-01-01 00:00:00 … 2099-12-31 23:59:59, nanoseconds below 10^9 and
    a 32-bit channel-specific word -/
def TDF1_WF (st : State1) (n : Nat) : Prop :=
  st.seconds = (n : Int) ∧ st.channel_specific_data < 2 ^ 32 ∧ n < 86400 * DAYS ∧ st.nanoseconds < 10 ^ 9

theorem spec_byte (v : Nat) : UInt8.ofNat (Spec.Ch11.bcdByte v) = UInt8.ofNat (bcd2 v % 256) := by
  have := bcd2_lt v
  rw [Nat.mod_eq_of_lt this]
  simp [Spec.Ch11.bcdByte, bcd2, Nat.add_comm]

/-- what `pack()` emits, day-month-year variant -/
def dmyBytes (st : State1) (n : Nat) : Bytes :=
  encInt false 4 st.channel_specific_data ++ bytes8 (bcd2 (st.nanoseconds / 10000000)) (bcd2 (n % 86400 % 60))
    (bcd2 (n % 86400 / 60 % 60)) (bcd2 (n % 86400 / 3600)) (bcd2 (civil n).2.2) (bcd2 (civil n).2.1)
    (bcd2 ((civil n).1 % 100)) (bcd2 ((civil n).1 / 100))

/-- what `pack()` emits, day-of-year variant -/
def doyBytes (st : State1) (n : Nat) : Bytes :=
  encInt false 4 st.channel_specific_data ++ bytes6 (bcd2 (st.nanoseconds / 10000000)) (bcd2 (n % 86400 % 60))
    (bcd2 (n % 86400 / 60 % 60)) (bcd2 (n % 86400 / 3600))
    (bcd2 (dayOfYear (civil n).1 (civil n).2.1 (civil n).2.2 % 100)) (bcd2 (dayOfYear (civil n).1 (civil n).2.1 (civil n).2.2 / 100))

theorem TDF1_fromTimestamp (st : State1) (n : Nat) (h : TDF1_WF st n) :
    fromTimestamp st.seconds =
      .ok ((civil n).1, (civil n).2.1, (civil n).2.2, n % 86400 / 3600, n % 86400 / 60 % 60, n % 86400 % 60) := by
  obtain ⟨hs, _, h2, _⟩ := h
  have := fromTimestamp_eq n h2
  rw [hs]
  exact this

theorem TDF1_pack_eq (st : State1) (n : Nat) (h : TDF1_WF st n) :
    st.pack = .ok (if yearAvail st.channel_specific_data then dmyBytes st n else doyBytes st n) := by
  have hft := TDF1_fromTimestamp st n h
  cases hy : yearAvail st.channel_specific_data <;>
    simp only [State1.pack, timeBytes, hft, hy, Bool.false_eq_true, if_true, if_false, List.cons_append, List.nil_append] <;>
    rw [packBytes_eq _ _ h.2.1 (by simp [bcd2_lt])] <;> rfl

theorem TDF1_pack_dmy (st : State1) (n : Nat) (h : TDF1_WF st n) (hy : yearAvail st.channel_specific_data = true) :
    st.pack = .ok (dmyBytes st n) := by
  rw [TDF1_pack_eq st n h, if_pos hy]

theorem TDF1_pack_doy (st : State1) (n : Nat) (h : TDF1_WF st n) (hy : yearAvail st.channel_specific_data = false) :
    st.pack = .ok (doyBytes st n) := by
  rw [TDF1_pack_eq st n h, hy]; rfl

/-- day-month-year variant (bit 9 of the channel-specific word set): `pack()` emits the CSW and the
    eight BCD bytes hundredths, seconds, minutes, hours, day, month, year (low pair, high pair) of the
    civil time of `seconds` -/
theorem TDF1_pack_layout_dmy (st : State1) (n : Nat) (h : TDF1_WF st n) (hy : yearAvail st.channel_specific_data = true) :
    st.pack = .ok (Spec.Ch11.time1DMY st.channel_specific_data (st.nanoseconds / 10000000) (n % 86400 % 60)
      (n % 86400 / 60 % 60) (n % 86400 / 3600) (civil n).2.2 (civil n).2.1 (civil n).1) := by
  rw [TDF1_pack_dmy st n h hy]
  simp [dmyBytes, Spec.Ch11.time1DMY, bytes8, encInt, leBytes, spec_byte]

/-- day-of-year variant (bit 9 clear): CSW and six BCD bytes, the last two carrying the day of the year -/
theorem TDF1_pack_layout_doy (st : State1) (n : Nat) (h : TDF1_WF st n) (hy : yearAvail st.channel_specific_data = false) :
    st.pack = .ok (Spec.Ch11.time1DOY st.channel_specific_data (st.nanoseconds / 10000000) (n % 86400 % 60)
      (n % 86400 / 60 % 60) (n % 86400 / 3600) (dayOfYear (civil n).1 (civil n).2.1 (civil n).2.2)) := by
  rw [TDF1_pack_doy st n h hy]
  simp [doyBytes, Spec.Ch11.time1DOY, bytes6, encInt, leBytes, spec_byte]

/-- time format 1 round trip, day-month-year variant: for every second of 1970-01-01 … 2099-12-31 and
    every nanosecond count, decoding what `pack()` emits — into an object in any prior state — gives
    the same channel-specific word, the same second, and the nanoseconds rounded down to 10 ms -/
theorem TDF1_roundtrip_dmy (st t : State1) (n : Nat) (h : TDF1_WF st n) (hy : yearAvail st.channel_specific_data = true) :
    ∃ b, st.pack = .ok b ∧
      State1.unpack t b = ({ st with nanoseconds := st.nanoseconds - st.nanoseconds % 10000000 }, .ok ()) := by
  refine ⟨dmyBytes st n, TDF1_pack_dmy st n h hy, ?_⟩
  obtain ⟨hs, h1, h2, h3⟩ := h
  have hf := day_facts n h2
  have hv := validDate_dateOfSeconds n h2
  have ht := toTimestamp_dateOfSeconds n
  simp only [dateOfSeconds] at hf hv ht
  rw [dmyBytes, civil, unpack_dmy t _ _ _ _ _ _ _ _ h1 hy (by omega) hf.2.1 hf.2.2.1 hv, ht, ← hs]
  cases st
  simp only [Prod.mk.injEq, State1.mk.injEq, true_and, and_true]
  omega

/-- day-of-year variant: the format carries no year, so the decoded second is relative to the start
    of the year that contains the encoded second (the decoder's base year is 1970) -/
theorem TDF1_roundtrip_doy (st t : State1) (n : Nat) (h : TDF1_WF st n) (hy : yearAvail st.channel_specific_data = false) :
    ∃ b, st.pack = .ok b ∧
      State1.unpack t b = ({ st with seconds := ((n - startOfYear n : Nat) : Int),
                                     nanoseconds := st.nanoseconds - st.nanoseconds % 10000000 }, .ok ()) ∧
      startOfYear n ≤ n := by
  refine ⟨doyBytes st n, TDF1_pack_doy st n h hy, ?_⟩
  obtain ⟨hs, h1, h2, h3⟩ := h
  have hf := day_facts n h2
  simp only [dateOfSeconds] at hf
  unfold doyBytes startOfYear civil dayOfYear
  generalize civilFromDays (n / 86400 + EPOCH) = c at hf ⊢
  obtain ⟨f1, _, _, _, _, _, _, f8, f9, f10⟩ := hf
  rw [f1]
  generalize daysFromCivil c.1 1 1 = J at *
  -- the decoded second is `doy_seconds`' left side, spelt as the decoder computes it
  obtain ⟨e, hle⟩ := doy_seconds n J EPOCH f8 f9
  rw [unpack_doy t _ _ _ _ _ _ h1 hy (by omega) (by omega) (by omega) (by omega) (by omega) (by omega)]
  cases st
  simp only [Prod.mk.injEq, State1.mk.injEq, true_and, and_true]
  omega

/-- the hypotheses are satisfiable: 2024-02-29 12:00:00 UTC, 123 456 789 ns, both variants -/
example : TDF1_WF ⟨0x251, 1709208000, 123456789⟩ 1709208000 ∧ yearAvail 0x251 = true ∧ yearAvail 0x51 = false ∧
    civil 1709208000 = (2024, 2, 29) := by
  refine ⟨⟨rfl, by simp, by simp [DAYS], by simp⟩, by decide, by decide, by decide⟩

/-- outside the statement: second 4102444800 is 2100-01-01 (still encodable — the model and the code
    agree on it — but beyond the years 1970…2099 that `TDF1_WF` admits and `bcd_year` covers) -/
example : civil 4102444800 = (2100, 1, 1) := by decide

open Acra.Lemmas.ReviewC04Calendar

/-- example for the day-of-year theorems (`h` and `hy` on the SAME object, whose word is 0x51):
    2024-02-29 12:00:00, day 60 of a leap year -/
example : TDF1_WF ⟨0x51, 1709208000, 999999999⟩ 1709208000 ∧ yearAvail (⟨0x51, 1709208000, 999999999⟩ : State1).channel_specific_data = false ∧
    dayOfYear 2024 2 29 = 60 := by
  refine ⟨⟨rfl, by simp, by simp [DAYS], by simp⟩, by decide, by decide⟩

/-- anchors of `civil` at both ends of the range and on the leap days the Gregorian exceptions decide -/
example : civil 0 = (1970, 1, 1) ∧ civil 86399 = (1970, 1, 1) ∧ civil 86400 = (1970, 1, 2) ∧
    civil 951782400 = (2000, 2, 29) ∧ civil 4102444799 = (2099, 12, 31) ∧ civil 68169600 = (1972, 2, 29) ∧
    civil 68256000 = (1972, 3, 1) := by decide

/-- the layout and round-trip theorems above speak of `civil n`, the MODEL's date of second `n`.  This
    ties it to the calendar itself: the date is valid under the Gregorian leap rule and its textbook day
    count is `n / 86400`.  (The textbook count is strictly increasing on valid dates, so this determines
    `civil n`.) -/
theorem TDF1_civil_gregorian (n : Nat) (h : n < 86400 * DAYS) :
    1970 ≤ (civil n).1 ∧ (civil n).1 ≤ 2099 ∧ 1 ≤ (civil n).2.1 ∧ (civil n).2.1 ≤ 12 ∧ 1 ≤ (civil n).2.2 ∧
    (civil n).2.2 ≤ daysInMonth (civil n).1 (civil n).2.1 ∧
    n / 86400 = 365 * ((civil n).1 - 1970) + leapsBefore ((civil n).1 - 1970) +
      cumDays (isLeap (civil n).1) (civil n).2.1 + ((civil n).2.2 - 1) := by
  obtain ⟨_, f2, f3, f4, f5, f6, f7, _⟩ := day_facts n h
  exact ⟨f2, f3, f4, f5, f6, f7, (civil_gregorian n).1⟩

/-- what `TDF1_roundtrip_doy` subtracts is second 0 of 1 January of the year that contains `n` (textbook
    count): the decoded value is the time elapsed since the start of the year, below 366 days -/
theorem TDF1_startOfYear (n : Nat) (h : n < 86400 * DAYS) :
    startOfYear n = 86400 * (365 * ((civil n).1 - 1970) + leapsBefore ((civil n).1 - 1970)) ∧
    startOfYear n ≤ n ∧ n < startOfYear n + 366 * 86400 := by
  exact yearStart_facts n

/-- day-of-year variant, year 1970 (the decoder's base year): a true round trip — the same second
    comes back, nanoseconds to 10 ms.  For later years the format has lost the year
    (`TDF1_roundtrip_doy`, `TDF1_startOfYear`). -/
theorem TDF1_roundtrip_doy_1970 (st t : State1) (n : Nat) (h : TDF1_WF st n)
    (hy : yearAvail st.channel_specific_data = false) (h70 : n < 365 * 86400) :
    ∃ b, st.pack = .ok b ∧
      State1.unpack t b = ({ st with nanoseconds := st.nanoseconds - st.nanoseconds % 10000000 }, .ok ()) := by
  obtain ⟨b, h1, h2, _⟩ := TDF1_roundtrip_doy st t n h hy
  refine ⟨b, h1, ?_⟩
  rw [h2]
  rw [show startOfYear n = 0 from (yearStart_zero_iff n).2 h70, Nat.sub_zero, ← h.1]

/-- example for `TDF1_roundtrip_doy_1970`: 1970-12-31 23:59:59.99 -/
example : TDF1_WF ⟨0x51, 31535999, 999999999⟩ 31535999 ∧ yearAvail (⟨0x51, 31535999, 999999999⟩ : State1).channel_specific_data = false ∧
    31535999 < 365 * 86400 := by
  refine ⟨⟨rfl, by simp, by simp [DAYS], by simp⟩, by decide, by decide⟩

/-- the year IS lost after 1970: second 31536000 (1971-01-01 00:00:00) is in range and its start of year is itself -/
example : startOfYear 31536000 = 31536000 := by decide

end Acra.Props.C04
