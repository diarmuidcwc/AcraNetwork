/-
  C04, PCM payload (format 1): minor-frame and packet layout against the Spec, round trips in packed mode (`PCM_WF p n`, all
  frames of one size `n`) and throughput mode (`PCMT_WF`).  The packed-mode decoder is given the frame size (`hs : t.assigned = some n`); what the
  default decoder (no size, no sync word) recovers is `PCM_roundtrip_single_nohint` and the examples before it.  Lemmas:
  Lemmas/Ch11PCM.lean.
-/
import Acra.Lemmas.Ch11PCM
import Acra.Spec.Ch11
namespace Acra.Props.C04
open Acra.Py Acra.Model.Ch11Pay Acra.Model.Ch11Pay.PCM Acra.Gen.Ch11PCM Acra.Gen.Ch11PayTs
open Acra.Lemmas.Ch11PCM Acra.Lemmas.Ch11Pay

/-- a packed-mode minor frame with its fill byte is the Chapter 11 layout: time stamp, 16- or 32-bit
    intra-packet data header, data, one zero byte when the total is odd -/
theorem PCMFrame_pack_layout (f : Frame) (h : Frame_WF f) :
    packFrame f = .ok (Spec.Ch11.pcmFrame (toSpec f.ipts) (decide (f.alignment = 1)) (f.hdr.getD 0) f.data) := by
  rw [packFrame_eq f h]
  obtain ⟨_, _, h3, h4, _⟩ := h
  have : f.alignment = 0 ∨ f.alignment = 1 := by omega
  rcases this with ha | ha <;>
    simp [slotBytes, frameBytes, fill, Spec.Ch11.pcmFrame, iptsBytes_spec _ h3, encInt, hdrLen, ha]

/-- fill rule, every residue: a frame slot occupies an even number of bytes -/
theorem PCMFrame_slot_even (f : Frame) : (slotBytes f).length % 2 = 0 := by
  rw [slotBytes_length]; omega

/-- frame round trip into a packed-mode object of the same time-stamp kind and alignment, whatever
    its time stamp, data header, data and sync-word / sub-frame attributes were (the latter are cleared) -/
theorem PCMFrame_roundtrip (f t : Frame) (h : Frame_WF f) (ht : t.throughput = false)
    (hk : sameKind t.ipts f.ipts) (ha : t.alignment = f.alignment) :
    ∃ b, f.pack = .ok b ∧
      Frame.unpack t b false =
        ({ t with ipts := f.ipts, hdr := f.hdr, data := f.data, syncword := Option.none, sfid := Option.none }, .ok ()) :=
  ⟨frameBytes f, Frame_pack_eq f h, Frame_unpack_bytes f t h ht hk ha⟩

/-- the frame object the packet decoder creates in packed mode for its `ipts_source` option -/
def pcmProto (src : Option Nat) (align : Nat) : Frame := Frame.fresh src false align

/-- packed mode with a given minor-frame size `n`: the throughput bit of the channel-specific word is
    clear, its alignment bit selects the data-header width, every frame is well formed, of that
    alignment, of the decoder's time-stamp kind, and holds exactly `n` data bytes -/
def PCM_WF (p : Packet) (n : Nat) : Prop :=
  p.channel_specific_word < 2 ^ 32 ∧ (p.channel_specific_word / MODE_THROUGHPUT) % 2 = 0 ∧
  ∀ f ∈ p.minor_frames, Frame_WF f ∧ f.alignment = (p.channel_specific_word / MODE_ALIGNMENT) % 2 ∧ f.data.length = n ∧
    sameKind (pcmProto p.ipts_source f.alignment).ipts f.ipts

instance (p : Packet) (n : Nat) : Decidable (PCM_WF p n) := by unfold PCM_WF; infer_instance

def PCM_bytes (p : Packet) : Bytes := encInt false 4 p.channel_specific_word ++ p.minor_frames.flatMap slotBytes

/-- the state of a decoder `t` after decoding `p`'s bytes: `p`'s channel-specific word and frames, no detected size -/
def PCM_decoded (t p : Packet) : Packet :=
  { t with channel_specific_word := p.channel_specific_word, minor_frames := p.minor_frames, detected := Option.none }

theorem PCM_pack_eq (p : Packet) (n : Nat) (h : PCM_WF p n) : p.pack = .ok (PCM_bytes p) := by
  obtain ⟨h1, _, hf⟩ := h
  simp only [Packet.pack, PCM_pack_fmt0, pack_word, if_pos h1,
    packList_eq packFrame slotBytes p.minor_frames (fun f hx => packFrame_eq f (hf f hx).1), PCM_bytes]

/-- `pack()`: the channel-specific word, then every frame with its fill byte, in order -/
theorem PCM_pack_layout (p : Packet) (n : Nat) (h : PCM_WF p n) :
    p.pack = .ok (Spec.Ch11.pcmPacket p.channel_specific_word (p.minor_frames.map slotBytes)) := by
  rw [PCM_pack_eq p n h]
  simp [PCM_bytes, Spec.Ch11.pcmPacket, encInt, List.flatMap_def]

theorem PCM_unpack_bytes (p t : Packet) (n : Nat) (h : PCM_WF p n) (ho : t.ipts_source = p.ipts_source)
    (hs : t.assigned = some n) :
    Packet.unpack t (PCM_bytes p) false =
      (PCM_decoded t p, .ok ()) := by
  obtain ⟨h1, h2, hf⟩ := h
  rw [PCM_bytes, Packet_unpack_frames t _ n _ h1 h2 (ho ▸ hf) (by rw [frameSize, hs])]
  simp only [PCM_decoded, hs, reduceCtorEq, if_false]

/-- packed-mode round trip: the same minor frames in the same order with the same time stamps, data
    headers and data bytes, for both alignments and every frame size (the fill byte after odd
    frames is skipped); the decoder's prior contents do not matter; re-encoding gives the same bytes -/
theorem PCM_roundtrip (p t : Packet) (n : Nat) (h : PCM_WF p n) (ho : t.ipts_source = p.ipts_source)
    (hs : t.assigned = some n) :
    ∃ b, p.pack = .ok b ∧
      Packet.unpack t b false = (PCM_decoded t p, .ok ()) ∧
      (Packet.unpack t b false).1.pack = .ok b := by
  refine ⟨PCM_bytes p, PCM_pack_eq p n h, PCM_unpack_bytes p t n h ho hs, ?_⟩
  rw [PCM_unpack_bytes p t n h ho hs]
  have h' : PCM_WF (PCM_decoded t p) n := by
    obtain ⟨h1, h2, hf⟩ := h
    exact ⟨h1, h2, fun f hx => by simpa [PCM_decoded, ho] using hf f hx⟩
  rw [PCM_pack_eq _ n h']
  rfl

/-- a payload assembled through `append()` is accepted by a decoder that knows the frame size, whatever sync-word /
    size options the builder was created with (the encoder never looks at them) -/
theorem PCM_append_accepted_anyopts (src : Option Nat) (sw sz : Option Nat) (n csw : Nat) (fs : List Frame) (t : Packet)
    (h : PCM_WF { Packet.fresh src sw sz with channel_specific_word := csw, minor_frames := fs } n)
    (ho : t.ipts_source = src) (hs : t.assigned = some n) :
    ∃ b, (fs.foldl Packet.append { Packet.fresh src sw sz with channel_specific_word := csw }).pack = .ok b ∧
      (Packet.unpack t b false).2 = .ok () ∧ (Packet.unpack t b false).1.minor_frames = fs := by
  rw [foldl_append]
  obtain ⟨b, h1, h2, _⟩ := PCM_roundtrip _ t n h ho hs
  exact ⟨b, h1, by rw [h2], by rw [h2]; rfl⟩

/-- the builder as `PCMDataPacket(minor_frame_size_bytes=n)` creates it -/
theorem PCM_append_accepted (src : Option Nat) (n csw : Nat) (fs : List Frame) (t : Packet)
    (h : PCM_WF { Packet.fresh src Option.none (some n) with channel_specific_word := csw, minor_frames := fs } n)
    (ho : t.ipts_source = src) (hs : t.assigned = some n) :
    ∃ b, (fs.foldl Packet.append { Packet.fresh src Option.none (some n) with channel_specific_word := csw }).pack = .ok b ∧
      (Packet.unpack t b false).2 = .ok () ∧ (Packet.unpack t b false).1.minor_frames = fs :=
  PCM_append_accepted_anyopts src Option.none (some n) n csw fs t h ho hs

/-- throughput mode: bit 20 of the channel-specific word set, one frame object holding the raw data
    (an even number of bytes: the stream is 16-bit aligned and an odd frame would get a fill byte).  `some 0` is
    `DEFAULT_IPTS_SOURCE`: in this mode `unpack` builds the frame with the default, whatever the packet's `ipts_source` -/
def PCMT_WF (p : Packet) : Prop :=
  p.channel_specific_word < 2 ^ 32 ∧ (p.channel_specific_word / MODE_THROUGHPUT) % 2 = 1 ∧
  ∃ f, p.minor_frames = [f] ∧ f = { Frame.fresh (some 0) true ((p.channel_specific_word / MODE_ALIGNMENT) % 2) with data := f.data } ∧
    f.data.length % 2 = 0

/-- throughput round trip: channel-specific word then the data; decoded as one throughput frame with
    exactly the data -/
theorem PCMT_roundtrip (p t : Packet) (h : PCMT_WF p) :
    ∃ b d, p.minor_frames.map (·.data) = [d] ∧ p.pack = .ok b ∧
      b = Spec.Ch11.pcmPacket p.channel_specific_word [d] ∧
      Packet.unpack t b false = (PCM_decoded t p, .ok ()) := by
  obtain ⟨h1, h2, f, hfs, hf, hev⟩ := h
  have hfp : packFrame f = .ok f.data := by
    rw [hf]
    simp [packFrame, Frame.pack, Frame.fresh, hev]
  have hp : p.pack = .ok (encInt false 4 p.channel_specific_word ++ f.data) := by
    simp only [Packet.pack, PCM_pack_fmt0, pack_word, if_pos h1, hfs, packList, hfp, List.append_nil]
  refine ⟨_, f.data, by simp [hfs], hp, by simp [Spec.Ch11.pcmPacket, encInt], ?_⟩
  have hl4 : ¬ (encInt false 4 p.channel_specific_word ++ f.data).length < 4 := by simp
  refine Acra.Lemmas.Decodes.of_run Packet_decodes (buf := (_, false)) ?_
  simp only [packetRun, pcfg, hl4, if_false, take_encInt_append, decInt_encInt4 _ _ h1, h2, if_true,
    drop_encInt_append, PCM_decoded, hfs]
  rw [hf]
  rfl

example : PCM_WF ⟨0x200000, some 1, some 3, Option.none, Option.none,
    [⟨.ptp 7 8, false, some 0xFFFFFFFF, [1, 2, 3], 1, Option.none, Option.none⟩]⟩ 3 := by
  decide +kernel

example : PCMT_WF ⟨0x100000, some 0, Option.none, Option.none, Option.none,
    [⟨.none, true, Option.none, [0x6B, 0xFE, 0x40, 0x28], 0, Option.none, Option.none⟩]⟩ := by
  refine ⟨by simp, by simp [MODE_THROUGHPUT], _, rfl, ?_, by simp⟩
  simp [Frame.fresh, MODE_ALIGNMENT]

/-- the packet layout with every frame in its declarative form (`PCM_pack_layout` without the helper `slotBytes`); the
    data-header width is the one selected by bit 21 of the channel-specific word.
    (`f.hdr.getD 0`: `PCM_WF` demands `f.hdr = some _`, the default is never used.) -/
theorem PCM_pack_layout_spec (p : Packet) (n : Nat) (h : PCM_WF p n) :
    p.pack = .ok (Spec.Ch11.pcmPacket p.channel_specific_word (p.minor_frames.map fun f =>
      Spec.Ch11.pcmFrame (toSpec f.ipts) (decide ((p.channel_specific_word / MODE_ALIGNMENT) % 2 = 1))
        (f.hdr.getD 0) f.data)) := by
  rw [← List.map_congr_left fun f hf => Except.ok.inj
    ((packFrame_eq f (h.2.2 f hf).1).symm.trans ((h.2.2 f hf).2.1 ▸ PCMFrame_pack_layout f (h.2.2 f hf).1))]
  exact PCM_pack_layout p n h

/-- `PCM_roundtrip` with the helper `PCM_decoded` unfolded: accepted; the decoded frame list IS the
    encoder's (same frames, same order: time stamps, data headers, data bytes, no sync word / SFID);
    the channel-specific word is the encoder's; the three codec options of the decoder are untouched
    and the detected size is reset -/
theorem PCM_roundtrip_fields (p t : Packet) (n : Nat) (h : PCM_WF p n) (ho : t.ipts_source = p.ipts_source)
    (hs : t.assigned = some n) :
    ∃ b, p.pack = .ok b ∧ (Packet.unpack t b false).2 = .ok () ∧
      (Packet.unpack t b false).1.minor_frames = p.minor_frames ∧
      (Packet.unpack t b false).1.channel_specific_word = p.channel_specific_word ∧
      (Packet.unpack t b false).1.ipts_source = t.ipts_source ∧ (Packet.unpack t b false).1.assigned = t.assigned ∧
      (Packet.unpack t b false).1.syncword = t.syncword ∧ (Packet.unpack t b false).1.detected = Option.none := by
  obtain ⟨b, h1, h2, _⟩ := PCM_roundtrip p t n h ho hs
  exact ⟨b, h1, by rw [h2], by rw [h2]; rfl, by rw [h2]; rfl, by rw [h2]; rfl, by rw [h2]; rfl, by rw [h2]; rfl,
    by rw [h2]; rfl⟩

/-- example for `PCMFrame_roundtrip` (`h`, `ht`, `hk`, `ha` together): 32-bit alignment, widest
    data header, odd data, decoded into an object that held a sync word and other data -/
example : let f : Frame := ⟨.ptp 7 8, false, some 0xFFFFFFFF, [1, 2, 3], 1, Option.none, Option.none⟩
    let t : Frame := ⟨.ptp 0 1, false, some 5, [9], 1, some 0xFE6B2840, some 2⟩
    Frame_WF f ∧ t.throughput = false ∧ sameKind t.ipts f.ipts ∧ t.alignment = f.alignment := by
  decide +kernel

/-- example for `PCM_roundtrip` (`h`, `ho`, `hs` together): two RTC-stamped 16-bit-aligned frames
    of 3 data bytes (odd: each is followed by a fill byte), decoder in a non-trivial prior state;
    the theorem instantiated -/
example : ∃ b, (⟨0x7, some 0, Option.none, Option.none, Option.none,
      [⟨.rtc 1, false, some 0xFFFF, [1, 2, 3], 0, Option.none, Option.none⟩,
       ⟨.rtc 0xFFFFFFFFFFFF, false, some 0, [4, 5, 6], 0, Option.none, Option.none⟩]⟩ : Packet).pack = .ok b ∧
    (Packet.unpack ⟨0x300000, some 0, some 3, some 44, some 5, [Frame.fresh Option.none true 1]⟩ b false).2 = .ok () ∧
    (Packet.unpack ⟨0x300000, some 0, some 3, some 44, some 5, [Frame.fresh Option.none true 1]⟩ b false).1.minor_frames =
      [⟨.rtc 1, false, some 0xFFFF, [1, 2, 3], 0, Option.none, Option.none⟩,
       ⟨.rtc 0xFFFFFFFFFFFF, false, some 0, [4, 5, 6], 0, Option.none, Option.none⟩] := by
  obtain ⟨b, h1, h2, h3, _⟩ := PCM_roundtrip_fields
    (⟨0x7, some 0, Option.none, Option.none, Option.none,
      [⟨.rtc 1, false, some 0xFFFF, [1, 2, 3], 0, Option.none, Option.none⟩,
       ⟨.rtc 0xFFFFFFFFFFFF, false, some 0, [4, 5, 6], 0, Option.none, Option.none⟩]⟩ : Packet)
    ⟨0x300000, some 0, some 3, some 44, some 5, [Frame.fresh Option.none true 1]⟩ 3
    (by decide +kernel) rfl rfl
  exact ⟨b, h1, h2, h3⟩

/-- example for `PCM_append_accepted` (`h` on the `fresh`-shaped packet, `ho`, `hs` together): the
    theorem instantiated -/
example : ∃ b, (([⟨.ptp 7 8, false, some 0xFFFFFFFF, [1, 2, 3], 1, Option.none, Option.none⟩,
                  ⟨.ptp 7 9, false, some 1, [4, 5, 6], 1, Option.none, Option.none⟩] : List Frame).foldl Packet.append
      { Packet.fresh (some 1) Option.none (some 3) with channel_specific_word := 0x200000 }).pack = .ok b ∧
    (Packet.unpack (Packet.fresh (some 1) Option.none (some 3)) b false).2 = .ok () ∧
    (Packet.unpack (Packet.fresh (some 1) Option.none (some 3)) b false).1.minor_frames =
      [⟨.ptp 7 8, false, some 0xFFFFFFFF, [1, 2, 3], 1, Option.none, Option.none⟩,
       ⟨.ptp 7 9, false, some 1, [4, 5, 6], 1, Option.none, Option.none⟩] :=
  PCM_append_accepted (some 1) 3 0x200000 _ (Packet.fresh (some 1) Option.none (some 3))
    (by decide +kernel) rfl rfl

/-- outside `PCMT_WF` (why it demands an even number of data bytes): throughput mode has no length
    field, so the fill byte `pack` appends after an odd frame comes back as data -/
example : ∃ b, (⟨0x100000, some 0, Option.none, Option.none, Option.none,
      [⟨.none, true, Option.none, [1, 2, 3], 0, Option.none, Option.none⟩]⟩ : Packet).pack = .ok b ∧
    (Packet.unpack (Packet.fresh (some 0) Option.none Option.none) b false).1.minor_frames.map (·.data) = [[1, 2, 3, 0]] := by
  refine ⟨_, rfl, ?_⟩
  decide +kernel

/-- outside `PCM_roundtrip` (why the decoder must be told the frame size, hypothesis `hs`): without a
    size and without a sync word the decoder takes the whole payload as ONE frame — two frames of
    2 data bytes come back as one frame of 14 -/
example : ∃ b, (⟨0, some 0, Option.none, Option.none, Option.none,
      [⟨.rtc 1, false, some 0, [1, 2], 0, Option.none, Option.none⟩,
       ⟨.rtc 2, false, some 0, [3, 4], 0, Option.none, Option.none⟩]⟩ : Packet).pack = .ok b ∧
    (Packet.unpack (Packet.fresh (some 0) Option.none Option.none) b false).1.minor_frames.map (·.data.length) = [14] := by
  refine ⟨_, rfl, ?_⟩
  decide +kernel

/-- `PCMFrame_slot_even` is a statement about the helper `slotBytes`; this is the same fact about the
    code's own `packFrame` (frame + fill byte), for EVERY frame it manages to encode — no `Frame_WF`,
    sync word / SFID attributes and throughput frames included -/
theorem PCMFrame_slot_even_model (f : Frame) (b : Bytes) (h : packFrame f = .ok b) : b.length % 2 = 0 := by
  have hz : structPack PCM_pack_fmt1 [PCM_DATA_FRAME_FILL] = .ok [0] := rfl
  unfold packFrame at h
  cases hp : f.pack with
  | error e => simp [hp] at h
  | ok x =>
    simp only [hp, hz] at h
    by_cases hodd : x.length % 2 = 1
    · simp [hodd] at h
      subst h; simp; omega
    · simp [hodd] at h
      subst h; omega

/-- the decoder as the class constructs it by default (NO frame size, no sync word): a packed-mode
    packet holding ONE minor frame whose size needs no fill byte is decoded to exactly that frame, and
    `minor_frame_size_bytes` reports its data size.  (`PCM_roundtrip` needs the size hint `hs`; with
    several frames, or an odd frame, the hint-less decoder returns something else — examples above
    and in notes/ch11.md.) -/
theorem PCM_roundtrip_single_nohint (p t : Packet) (f : Frame) (n : Nat) (h : PCM_WF p n) (hone : p.minor_frames = [f])
    (heven : (n + hdrLen ((p.channel_specific_word / MODE_ALIGNMENT) % 2)) % 2 = 0)
    (ho : t.ipts_source = p.ipts_source) (hs : t.assigned = Option.none) (hsync : t.syncword = Option.none) :
    ∃ b, p.pack = .ok b ∧ (Packet.unpack t b false).2 = .ok () ∧
      (Packet.unpack t b false).1.minor_frames = [f] ∧
      (Packet.unpack t b false).1.channel_specific_word = p.channel_specific_word ∧
      (Packet.unpack t b false).1.mfsb = some (n : Int) := by
  refine ⟨PCM_bytes p, PCM_pack_eq p n h, ?_⟩
  obtain ⟨h1, h2, hf⟩ := h
  have hfw := hf f (by simp [hone])
  -- no size, no sync word: the detected size is what the buffer leaves for ONE frame, and that is `n`
  have hsz : frameSize t (PCM_bytes p) (hdrLen (p.channel_specific_word / MODE_ALIGNMENT % 2)) = .ok (n : Int) := by
    have hlen : (PCM_bytes p).length = 4 + (n + 8 + hdrLen (p.channel_specific_word / MODE_ALIGNMENT % 2)) := by
      simp only [PCM_bytes, hone, List.flatMap_cons, List.flatMap_nil, List.append_nil, List.length_append, encInt_length,
        slotBytes_length, frameBytes_length f hfw.1.2.1, hfw.2.1, hfw.2.2.1]
      omega
    simp only [frameSize, hs, detect, hsync, hlen, TS_LEN]
    congr 1
    omega
  rw [PCM_bytes] at hsz ⊢
  rw [Packet_unpack_frames t _ n _ h1 h2 (ho ▸ hf) hsz]
  simp [Packet.mfsb, hs, hone]

/-- example for `PCM_roundtrip_single_nohint`, decoder = `PCMDataPacket()` as constructed -/
example : ∃ b, (⟨0, some 0, Option.none, Option.none, Option.none,
      [⟨.rtc 1, false, some 7, [1, 2, 3, 4], 0, Option.none, Option.none⟩]⟩ : Packet).pack = .ok b ∧
    (Packet.unpack (Packet.fresh (some 0) Option.none Option.none) b false).2 = .ok () ∧
    (Packet.unpack (Packet.fresh (some 0) Option.none Option.none) b false).1.minor_frames =
      [⟨.rtc 1, false, some 7, [1, 2, 3, 4], 0, Option.none, Option.none⟩] := by
  obtain ⟨b, h1, h2, h3, _⟩ := PCM_roundtrip_single_nohint
    (⟨0, some 0, Option.none, Option.none, Option.none,
      [⟨.rtc 1, false, some 7, [1, 2, 3, 4], 0, Option.none, Option.none⟩]⟩ : Packet)
    (Packet.fresh (some 0) Option.none Option.none) _ 4
    (by decide +kernel) rfl (by decide) rfl rfl rfl
  exact ⟨b, h1, h2, h3⟩

end Acra.Props.C04
