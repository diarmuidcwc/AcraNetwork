/-
  C04, the payloads that are a channel-specific word and data: Analog, Computer-generated format 0 and format 1 (setup record).
  One `…_WF` per class, stated here; lemmas in Lemmas/Ch11Misc.lean.  Format 1 decodes an RCC version outside 7 … 14 as 7
  (the enum's `_missing_`, `rccverOf_missing`), so `CG1_WF` asks for a known version.
-/
import Acra.Lemmas.Ch11Misc
import Acra.Spec.Ch11
namespace Acra.Props.C04
open Acra.Py Acra.Model.Ch11Pay Acra.Gen.Ch11Analog Acra.Gen.Ch11Computer Acra.Lemmas.Ch11Misc

def Analog_WF (s : Analog.State) : Prop := s.channel_specific_word < 2 ^ 32

/-- `Analog.pack()` emits the channel-specific word (little-endian 32 bits) followed by the data -/
theorem Analog_pack_layout (s : Analog.State) (h : Analog_WF s) :
    Analog.pack s = .ok (Spec.Ch11.cswData s.channel_specific_word s.data) := by
  rw [Analog_pack_eq s h]
  simp [Spec.Ch11.cswData, encInt]

/-- decoding the packed bytes into an object in any prior state returns exactly the fields, and
    re-encoding reproduces the bytes -/
theorem Analog_roundtrip (s t : Analog.State) (h : Analog_WF s) :
    ∃ b, Analog.pack s = .ok b ∧ Analog.unpack t b = (s, .ok ()) ∧ Analog.pack (Analog.unpack t b).1 = .ok b := by
  have hu := Analog_unpack_enc t s.channel_specific_word s.data h
  exact ⟨_, Analog_pack_eq s h, hu, by rw [hu]; exact Analog_pack_eq s h⟩

example : Analog_WF { channel_specific_word := 0xDEADBEEF, data := [1, 2, 3] } := by simp [Analog_WF]

def CG0_WF (s : Computer.State0) : Prop := s.csdw < 2 ^ 32

theorem CG0_pack_layout (s : Computer.State0) (h : CG0_WF s) :
    s.pack = .ok (Spec.Ch11.cswData s.csdw s.payload) := by
  rw [CG0_pack_eq s h]
  simp [Spec.Ch11.cswData, encInt]

theorem CG0_unpack_bytes (t : Computer.State0) (v : Nat) (p : Bytes) (h : v < 2 ^ 32) :
    Computer.State0.unpack t (encInt false 4 v ++ p) = ({ csdw := v, payload := p }, .ok ()) := by
  rw [CG0_decodes.len_of_le t _ (by simp), take_encInt_append, decInt_encInt4 _ _ h, drop_encInt_append]

theorem CG0_roundtrip (s t : Computer.State0) (h : CG0_WF s) :
    ∃ b, s.pack = .ok b ∧ Computer.State0.unpack t b = (s, .ok ()) ∧ (Computer.State0.unpack t b).1.pack = .ok b := by
  have hu := CG0_unpack_bytes t s.csdw s.payload h
  exact ⟨_, CG0_pack_eq s h, hu, by rw [hu]; exact CG0_pack_eq s h⟩

example : CG0_WF { csdw := 7, payload := [0x41] } := by simp [CG0_WF]

/-- one-bit format and change flags, an RCC version the enum knows (other values decode as IRIG 106-07) -/
def CG1_WF (s : Computer.State1) : Prop := s.frmt < 2 ∧ s.srcc < 2 ∧ 7 ≤ s.rccver ∧ s.rccver ≤ 14

/-- `pack()` emits CSW = frmt<<9 | srcc<<8 | rccver, then the setup record -/
theorem CG1_pack_layout (s : Computer.State1) (h : CG1_WF s) :
    s.pack.2 = .ok (Spec.Ch11.setupRecord s.frmt s.srcc s.rccver s.base.payload) := by
  obtain ⟨h1, h2, h3, h4⟩ := h
  rw [CG1_pack_eq s (by omega)]
  simp [Spec.Ch11.setupRecord, encInt, Nat.mul_comm]

theorem rccverOf_known (v : Nat) (h1 : 7 ≤ v) (h2 : v ≤ 14) : Computer.rccverOf v = v := by
  rw [rccverOf_eq, if_pos ⟨h1, h2⟩]

/-- the enum's `_missing_`: every value that is not a member decodes as IRIG_106_07 -/
theorem rccverOf_missing (v : Nat) (h : v < 7 ∨ 14 < v) : Computer.rccverOf v = 7 := by
  rw [rccverOf_eq, if_neg (by omega)]

/-- round trip: same three fields and payload back; the decoded `_csdw` is the packed word -/
theorem CG1_roundtrip (s t : Computer.State1) (h : CG1_WF s) :
    ∃ b, s.pack.2 = .ok b ∧
      Computer.State1.unpack t b =
        ({ s with base := { s.base with csdw := 512 * s.frmt + 256 * s.srcc + s.rccver } }, .ok ()) ∧
      (Computer.State1.unpack t b).1.pack.2 = .ok b := by
  obtain ⟨h1, h2, h3, h4⟩ := h
  have hlt : 512 * s.frmt + 256 * s.srcc + s.rccver < 2 ^ 32 := by omega
  have hu : Computer.State1.unpack t (encInt false 4 (512 * s.frmt + 256 * s.srcc + s.rccver) ++ s.base.payload) =
      ({ s with base := { s.base with csdw := 512 * s.frmt + 256 * s.srcc + s.rccver } }, .ok ()) := by
    obtain ⟨e1, e2, e3⟩ := csdw_fields s.frmt s.srcc s.rccver h1 h2 (by omega)
    rw [CG1_decodes.len_of_le t _ (by simp), take_encInt_append, decInt_encInt4 _ _ hlt, drop_encInt_append, e1, e2, e3,
      rccverOf_known _ h3 h4]
  refine ⟨_, by rw [CG1_pack_eq s hlt], hu, ?_⟩
  rw [hu, CG1_pack_eq { s with base := { s.base with csdw := 512 * s.frmt + 256 * s.srcc + s.rccver } } hlt]

example : CG1_WF { base := { csdw := 0, payload := [1, 2] }, frmt := 1, srcc := 0, rccver := 0xE } := by
  simp [CG1_WF]

/-- outside `CG1_WF` (why it demands `7 ≤ rccver ≤ 14`): `pack` writes any 8-bit version, the decoder's
    enum turns a value it does not know into IRIG 106-07 (7) — version 3 comes back as 7; and a `frmt`
    of 2 is ADDED into bit 10, outside the field, and comes back as 0 -/
example : ∃ b, (⟨⟨0, [1]⟩, 1, 1, 3⟩ : Computer.State1).pack.2 = .ok b ∧
    (Computer.State1.unpack Computer.State1.fresh b).1.rccver = 7 ∧
    (Computer.State1.unpack Computer.State1.fresh b).1.frmt = 1 := by
  refine ⟨_, rfl, by decide, by decide⟩

example : ∃ b, (⟨⟨0, [1]⟩, 2, 0, 7⟩ : Computer.State1).pack.2 = .ok b ∧
    (Computer.State1.unpack Computer.State1.fresh b).1.frmt = 0 := by
  refine ⟨_, rfl, by decide⟩

end Acra.Props.C04
