/-
  C04, time data format 2 (seconds and a 32-bit fraction): layout, exact round trip with an IEEE-1588 time code, and with the
  NTP code the nanoseconds back to within 1 ns (`ntp_within_1ns`: `ns * c` and `fs / c` in binary64, `c = 2**32/1e9`).  Stated for every
  rounding function with the two facts of `Lemmas.Float.FloatSem`; the `_exec` forms are the executable model (`rne`).
-/
import Acra.Lemmas.Float
import Acra.Lemmas.Ch11TimeFmt
namespace Acra.Props.C04
open Acra.Py Acra.Model.Ch11Pay.TimeFmt Acra.Gen.Ch11TimeFmt Acra.Lemmas.Float Acra.Lemmas.Ch11TimeFmt

def TDF2_WF (s : State2) : Prop := s.channel_specific_data < 2 ^ 32 ∧ s.seconds < 2 ^ 32 ∧ s.nanoseconds < 10 ^ 9

/-- the NTP fraction, for every rounding function with the two binary64 facts: for every nanosecond
    count below 10^9, `int(ns * (2**32/1e9))` fits the 32-bit field, and converting it back with
    `int(fs / (2**32/1e9))` returns `ns` or `ns − 1` — never more, never 2 less -/
theorem ntp_within_1ns (fl : ℚ → ℚ) (F : FloatSem fl) (ns : ℕ) (hns : ns < 1000000000) :
    fracToNs fl (nsToFrac fl ns) ≤ ns ∧ ns ≤ fracToNs fl (nsToFrac fl ns) + 1 ∧ nsToFrac fl ns < 2 ^ 32 := by
  unfold nsToFrac fracToNs ntpScale
  rw [F.exact ns (by omega)]
  -- the scale constant `c`, within 5·2^-53 of 4.294967296
  have hc := F.near (x := (4294967296 : ℚ) / 1000000000) (B := 5) (by norm_num) (by norm_num)
  generalize fl ((4294967296 : ℚ) / 1000000000) = c at hc ⊢
  have hc4 : (4 : ℚ) ≤ c := by linarith only [hc.1]
  have hc0 : 0 < c := by linarith only [hc4]
  have hn : (ns : ℚ) ≤ 999999999 := by exact_mod_cast Nat.le_of_lt_succ hns
  -- the product `ns·c < 2^33` is rounded by at most 2^-20, then truncated to `frac`
  have hx0 : 0 ≤ (ns : ℚ) * c := mul_nonneg ns.cast_nonneg hc0.le
  have hx : (ns : ℚ) * c ≤ 999999999 * c := mul_le_mul_of_nonneg_right hn hc0.le
  have hy := F.near hx0 (B := 2 ^ 33) (by linarith only [hx, hc.2])
  have hf1 := floorNat_le _ (F.nonneg hx0)
  have hf2 := lt_floorNat_add_one (fl ((ns : ℚ) * c))
  generalize fl ((ns : ℚ) * c) = y at hy hf1 hf2 ⊢
  generalize Float.floorNat y = frac at hf1 hf2 ⊢
  have hfrac : frac < 2 ^ 32 := by
    have : (frac : ℚ) < (4294967296 : ℕ) := by push_cast; linarith only [hf1, hx, hc.2, hy.2]
    exact_mod_cast this
  rw [F.exact frac (by omega)]
  -- so `frac/c` lies between `ns - (1 + 2^-20)/4` and `ns + 2^-20/4`, and is rounded by at most 2^-23
  have hx2 : (frac : ℚ) / c * c = frac := div_mul_cancel₀ _ hc0.ne'
  have hx20 : 0 ≤ (frac : ℚ) / c := div_nonneg frac.cast_nonneg hc0.le
  have hhi : (frac : ℚ) / c ≤ ns + 1 / 2 ^ 20 / 4 :=
    le_add_div_of_mul_le (by norm_num) hc4 (by norm_num) (by linarith only [hx2, hf1, hy.2])
  have hlo : (ns : ℚ) ≤ frac / c + (1 + 1 / 2 ^ 20) / 4 :=
    le_add_div_of_mul_le (by norm_num) hc4 (by norm_num) (by linarith only [hx2, hf2, hy.1])
  have hz := F.near hx20 (B := 2 ^ 30) (by linarith only [hhi, hn])
  have hg := lt_floorNat_add_one (fl ((frac : ℚ) / c))
  refine ⟨?_, ?_, hfrac⟩
  · exact Nat.lt_succ_iff.mp ((floorNat_lt_iff _ _ (F.nonneg hx20)).mpr (by push_cast; linarith only [hhi, hz.2]))
  · have : (ns : ℚ) < (Float.floorNat (fl ((frac : ℚ) / c)) + 2 : ℕ) := by push_cast; linarith only [hlo, hg, hz.1]
    exact Nat.lt_succ_iff.mp (by exact_mod_cast this)

/-- the same for the executable model (binary64 round to nearest even), which the correspondence check
    compares with CPython on every run -/
theorem ntp_within_1ns_exec (ns : ℕ) (hns : ns < 1000000000) :
    fracToNs Float.rne (nsToFrac Float.rne ns) ≤ ns ∧ ns ≤ fracToNs Float.rne (nsToFrac Float.rne ns) + 1 :=
  let h := ntp_within_1ns Float.rne rne_floatSem ns hns
  ⟨h.1, h.2.1⟩

/-- the truncation is real: 123456789 ns comes back as 123456788 ns -/
example : fracToNs Float.rne (nsToFrac Float.rne 123456789) = 123456788 := by decide +kernel

/-- `pack()`: channel-specific word, seconds, fraction — three little-endian 32-bit words; the fraction
    is the nanosecond count for the IEEE-1588 codes and the NTP fraction otherwise -/
theorem TDF2_pack_layout (fl : ℚ → ℚ) (F : FloatSem fl) (s : State2) (h : TDF2_WF s) :
    State2.packWith fl s = .ok (Spec.Ch11.time2 s.channel_specific_data s.seconds
      (if isPTP s.channel_specific_data then s.nanoseconds else nsToFrac fl s.nanoseconds)) := by
  obtain ⟨h1, h2, h3⟩ := h
  have hfr : (if isPTP s.channel_specific_data then s.nanoseconds else nsToFrac fl s.nanoseconds) < 2 ^ 32 := by
    split
    · omega
    · exact (ntp_within_1ns fl F s.nanoseconds (by omega)).2.2
  have hf : Fits TDF2_pack_fmt0.codes [s.channel_specific_data, s.seconds,
      if isPTP s.channel_specific_data then s.nanoseconds else nsToFrac fl s.nanoseconds] := by
    simp only [Fits, TDF2_pack_fmt0, Code.bound, and_true]
    exact ⟨by omega, by omega, by omega⟩
  simp only [State2.packWith, structPack_eq _ _ hf]
  simp [TDF2_pack_fmt0, encCodes, Code.size, Spec.Ch11.time2, encInt]

/-- `pack`, then `unpack` into an object in any prior state: the channel-specific word and the seconds come back, the
    nanoseconds as they are (IEEE-1588 codes) or through the NTP fraction and back -/
theorem TDF2_unpack_packed (fl : ℚ → ℚ) (F : FloatSem fl) (s t : State2) (h : TDF2_WF s) :
    ∃ b, State2.packWith fl s = .ok b ∧ State2.unpackWith fl t b =
      ({ s with nanoseconds := if isPTP s.channel_specific_data then s.nanoseconds
                               else fracToNs fl (nsToFrac fl s.nanoseconds) }, .ok ()) := by
  refine ⟨_, TDF2_pack_layout fl F s h, ?_⟩
  obtain ⟨h1, h2, h3⟩ := h
  rw [TDF2_unpack_bytes fl t _ _ _ h1 h2 (by split; omega; exact (ntp_within_1ns fl F _ (by omega)).2.2)]
  cases isPTP s.channel_specific_data <;> rfl

/-- round trip with an IEEE-1588 time code (2002 or 2008 — any non-zero code): exact, all three fields,
    into an object in any prior state -/
theorem TDF2_roundtrip_ptp (fl : ℚ → ℚ) (F : FloatSem fl) (s t : State2) (h : TDF2_WF s)
    (hp : isPTP s.channel_specific_data = true) :
    ∃ b, State2.packWith fl s = .ok b ∧ State2.unpackWith fl t b = (s, .ok ()) := by
  obtain ⟨b, hb, hu⟩ := TDF2_unpack_packed fl F s t h
  exact ⟨b, hb, by rw [hu, hp]; rfl⟩

/-- round trip with the NTP code (time-code bits 0): seconds and channel-specific word exact, the
    nanoseconds come back as `ns` or `ns − 1` -/
theorem TDF2_roundtrip_ntp (fl : ℚ → ℚ) (F : FloatSem fl) (s t : State2) (h : TDF2_WF s)
    (hp : isPTP s.channel_specific_data = false) :
    ∃ b, State2.packWith fl s = .ok b ∧ (State2.unpackWith fl t b).2 = .ok () ∧
      (State2.unpackWith fl t b).1.channel_specific_data = s.channel_specific_data ∧
      (State2.unpackWith fl t b).1.seconds = s.seconds ∧
      (State2.unpackWith fl t b).1.nanoseconds ≤ s.nanoseconds ∧
      s.nanoseconds ≤ (State2.unpackWith fl t b).1.nanoseconds + 1 := by
  obtain ⟨b, hb, hu⟩ := TDF2_unpack_packed fl F s t h
  have hn := ntp_within_1ns fl F s.nanoseconds (by have := h.2.2; omega)
  rw [hp] at hu
  exact ⟨b, hb, by rw [hu], by rw [hu], by rw [hu], by rw [hu]; exact hn.1, by rw [hu]; exact hn.2.1⟩

/-- the executable model (what the driver runs) is the instance `fl = rne` -/
theorem TDF2_roundtrip_ptp_exec (s t : State2) (h : TDF2_WF s) (hp : isPTP s.channel_specific_data = true) :
    ∃ b, s.pack = .ok b ∧ State2.unpack t b = (s, .ok ()) :=
  TDF2_roundtrip_ptp Float.rne rne_floatSem s t h hp

example : TDF2_WF { channel_specific_data := 0x21, seconds := 1709208000, nanoseconds := 999999999 } ∧
    isPTP 0x21 = true ∧ isPTP 0x11 = true ∧ isPTP 0x01 = false := by
  refine ⟨by simp [TDF2_WF], by decide, by decide, by decide⟩

/-- the NTP round trip for the executable model (`fl = rne`, what the driver runs and the
    correspondence check compares with CPython) -/
theorem TDF2_roundtrip_ntp_exec (s t : State2) (h : TDF2_WF s) (hp : isPTP s.channel_specific_data = false) :
    ∃ b, s.pack = .ok b ∧ (State2.unpack t b).2 = .ok () ∧
      (State2.unpack t b).1.channel_specific_data = s.channel_specific_data ∧
      (State2.unpack t b).1.seconds = s.seconds ∧
      (State2.unpack t b).1.nanoseconds ≤ s.nanoseconds ∧
      s.nanoseconds ≤ (State2.unpack t b).1.nanoseconds + 1 :=
  TDF2_roundtrip_ntp Float.rne rne_floatSem s t h hp

/-- the hypothesis `FloatSem fl` of the `fl`-generic theorems is satisfiable: binary64
    round-to-nearest-even is an instance (so none of them is vacuous) -/
example : ∃ fl : ℚ → ℚ, FloatSem fl := ⟨Float.rne, rne_floatSem⟩

/-- example for `TDF2_roundtrip_ntp` / `_ntp_exec` (`h` and `hp` on the SAME object): NTP code
    (time-code bits 0, other CSW bits set), largest seconds and nanoseconds -/
example : TDF2_WF { channel_specific_data := 0xFFFFFF0F, seconds := 0xFFFFFFFF, nanoseconds := 999999999 } ∧
    isPTP 0xFFFFFF0F = false := by
  refine ⟨by simp [TDF2_WF], by decide⟩

/-- example for `TDF2_roundtrip_ptp` with the IEEE-1588-2008 code (time-code bits = 2) -/
example : TDF2_WF { channel_specific_data := 0x20, seconds := 1, nanoseconds := 123456789 } ∧ isPTP 0x20 = true := by
  refine ⟨by simp [TDF2_WF], by decide⟩

/-- the two IEEE-1588 time codes on the executable decoder, concretely: 2002 (0x10) and 2008 (0x20) both
    read the fraction field as nanoseconds (for NTP see the `123456789 → 123456788` example above) -/
example : (State2.unpack State2.fresh (encInt false 4 0x10 ++ encInt false 4 5 ++ encInt false 4 123456789)).1.nanoseconds = 123456789 ∧
    (State2.unpack State2.fresh (encInt false 4 0x20 ++ encInt false 4 5 ++ encInt false 4 123456789)).1.nanoseconds = 123456789 := by
  refine ⟨by decide +kernel, by decide +kernel⟩

end Acra.Props.C04
