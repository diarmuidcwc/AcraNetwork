import Acra.Model.Container
import Acra.Lemmas.Bits
import Acra.Props.C04.ARINC
import Acra.Props.C04.MIL1553
import Acra.Props.C04.UART
import Acra.Props.C04.PCM
import Acra.Props.C04.TimeFmt1
import Acra.Props.C04.TimeFmt2
/-!
  C04 for the container protocol of the Chapter 11 payload classes ("decodes back to the same messages in the same
  order" as seen through `len` / `[i]`): `unpack (pack p)` then `[i]` is the i-th message of `p`, `IndexError` exactly
  outside `-n ≤ i < n`, `len` is the number of messages.  `PCMDataPacket` has `[i]` but no `len`.
  The two time formats define `__len__` by constants: for format 2 it is the length of the encoding, for format 1 it is
  NOT (`TDF1_len_is_not_pack_length`, an observation outside the property: C04 does not speak of `len`).
-/
namespace Acra.Props.C04
open Acra.Py

open Acra.Model.Ch11Pay.ARINC Acra.Lemmas.Ch11ARINC in
theorem ARINC_getitem_roundtrip (p t : Packet) (h : ARINC_WF p) :
    ∃ b, p.pack.2 = .ok b ∧ (Packet.unpack t b).2 = .ok () ∧
      (Packet.unpack t b).1.len = p.arincwords.length ∧
      (∀ i, (Packet.unpack t b).1.getitem i = listGet p.arincwords i) ∧
      (∀ k (hk : k < p.arincwords.length), (Packet.unpack t b).1.getitem k = .ok p.arincwords[k]) ∧
      (∀ i : Int, (Packet.unpack t b).1.getitem i = .error .index ↔
        ¬ (-(p.arincwords.length : Int) ≤ i ∧ i < p.arincwords.length)) := by
  obtain ⟨b, h1, h2, _⟩ := ARINC_roundtrip p t h
  refine ⟨b, h1, by rw [h2], by rw [h2]; rfl, fun i => by rw [h2]; rfl, ?_, ?_⟩
  · intro k hk; rw [h2]; exact listGet_nonneg _ k hk
  · intro i; rw [h2]; exact listGet_error_iff _ i

open Acra.Model.Ch11Pay.MIL1553 Acra.Lemmas.Ch11MIL1553 in
/-- 1553: `[i]` of the decoded packet is message `i` of `p` with its computed length field (`norm`) -/
theorem MIL_getitem_roundtrip (p t : Packet) (h : MIL_WF p) (ho : t.ipts_source = p.ipts_source) :
    ∃ b, p.pack.2 = .ok b ∧ (Packet.unpack t b).2 = .ok () ∧
      (Packet.unpack t b).1.len = p.messages.length ∧
      (∀ i, (Packet.unpack t b).1.getitem i = (listGet p.messages i).map norm) ∧
      (∀ i : Int, (Packet.unpack t b).1.getitem i = .error .index ↔
        ¬ (-(p.messages.length : Int) ≤ i ∧ i < p.messages.length)) := by
  obtain ⟨b, h1, h2, _⟩ := MIL_roundtrip p t h ho
  refine ⟨b, h1, by rw [h2], by rw [h2]; simp [Packet.len], fun i => by rw [h2]; exact listGet_map _ _ i, ?_⟩
  intro i; rw [h2]
  exact listGet_map_error_iff norm _ i

open Acra.Model.Ch11Pay.UART Acra.Lemmas.Ch11UART in
theorem UART_getitem_roundtrip (p t : Packet) (h : UART_WF p) (ho : t.ipts_source = p.ipts_source)
    (he : t.data_endianness = p.data_endianness) :
    ∃ b, p.pack = .ok b ∧ (Packet.unpack t b).2 = .ok () ∧
      (Packet.unpack t b).1.len = p.uartwords.length ∧
      (∀ i, (Packet.unpack t b).1.getitem i = (listGet p.uartwords i).map norm) ∧
      (∀ i : Int, (Packet.unpack t b).1.getitem i = .error .index ↔
        ¬ (-(p.uartwords.length : Int) ≤ i ∧ i < p.uartwords.length)) := by
  obtain ⟨b, h1, h2, _⟩ := UART_roundtrip p t h ho he
  refine ⟨b, h1, by rw [h2], by rw [h2]; simp [Packet.len], fun i => by rw [h2]; exact listGet_map _ _ i, ?_⟩
  intro i; rw [h2]
  exact listGet_map_error_iff norm _ i

open Acra.Model.Ch11Pay.PCM Acra.Lemmas.Ch11PCM in
theorem PCM_getitem_roundtrip (p t : Packet) (n : Nat) (h : PCM_WF p n) (ho : t.ipts_source = p.ipts_source)
    (hs : t.assigned = some n) :
    ∃ b, p.pack = .ok b ∧ (Packet.unpack t b false).2 = .ok () ∧
      (∀ i, (Packet.unpack t b false).1.getitem i = listGet p.minor_frames i) ∧
      (∀ i : Int, (Packet.unpack t b false).1.getitem i = .error .index ↔
        ¬ (-(p.minor_frames.length : Int) ≤ i ∧ i < p.minor_frames.length)) ∧
      (Packet.unpack t b false).1.len = .error .type := by
  obtain ⟨b, h1, h2, h3, _⟩ := PCM_roundtrip_fields p t n h ho hs
  refine ⟨b, h1, h2, fun i => by simp only [Packet.getitem, h3], ?_, rfl⟩
  intro i; simp only [Packet.getitem, h3]; exact listGet_error_iff _ i

section time
open Acra.Model.Ch11Pay.TimeFmt Acra.Gen.Ch11TimeFmt Acra.Lemmas.Ch11TimeFmt Acra.Lemmas.Ch11Calendar

/-- the test `(csd & DATE_FMT_YEAR_AVAIL) >> 9 == 1` of `__len__` is the test `pack` makes -/
theorem TDF1_len_test (csd : Nat) : ((csd &&& DATE_FMT_YEAR_AVAIL) >>> 9 == 1) = yearAvail csd := by
  have h : (csd &&& 512) >>> 9 = csd / 512 % 2 := by
    rw [Acra.Lemmas.Bits.and_field csd 1 1 9 512 rfl rfl, Acra.Lemmas.Bits.shr]
    omega
  simp only [DATE_FMT_YEAR_AVAIL, yearAvail, h]

theorem TDF1_len_values (s : State1) :
    s.len = if yearAvail s.channel_specific_data then 20 else 16 := by
  simp only [State1.len, TDF1_len_test]

/-- OBSERVATION (outside C04, which does not mention `len`): `len(TimeDataFormat1)` is 4·(words+1) = 20 / 16, while
    `pack()` emits 12 / 10 bytes — for every encodable time.  `__len__` is not the length of the encoding. -/
theorem TDF1_len_is_not_pack_length (st : State1) (n : Nat) (h : TDF1_WF st n) :
    ∃ b, st.pack = .ok b ∧ b.length = (if yearAvail st.channel_specific_data then 12 else 10) ∧
      st.len = b.length + (if yearAvail st.channel_specific_data then 8 else 6) := by
  cases hy : yearAvail st.channel_specific_data
  · refine ⟨doyBytes st n, TDF1_pack_doy st n h hy, ?_, ?_⟩
    · simp [doyBytes, bytes6]
    · rw [TDF1_len_values, hy]; simp [doyBytes, bytes6]
  · refine ⟨dmyBytes st n, TDF1_pack_dmy st n h hy, ?_, ?_⟩
    · simp [dmyBytes, bytes8]
    · rw [TDF1_len_values, hy]; simp [dmyBytes, bytes8]

example : TDF1_WF ⟨0x251, 1709208000, 123456789⟩ 1709208000 ∧ (⟨0x251, 1709208000, 123456789⟩ : State1).len = 20 ∧
    TDF1_WF ⟨0x51, 1709208000, 999999999⟩ 1709208000 ∧ (⟨0x51, 1709208000, 999999999⟩ : State1).len = 16 := by
  refine ⟨⟨rfl, by simp, by simp [DAYS], by simp⟩, by decide, ⟨rfl, by simp, by simp [DAYS], by simp⟩, by decide⟩

open Acra.Lemmas.Float in
/-- time format 2: `len` (the constant 12) IS the length of the encoding, for every rounding function -/
theorem TDF2_len_eq_pack_length (fl : ℚ → ℚ) (F : FloatSem fl) (s : State2) (h : TDF2_WF s) :
    ∃ b, State2.packWith fl s = .ok b ∧ s.len = b.length := by
  refine ⟨_, TDF2_pack_layout fl F s h, ?_⟩
  simp [State2.len, Spec.Ch11.time2]

example : TDF2_WF ⟨0x11, 1700000000, 999999999⟩ := by simp [TDF2_WF]

end time

section witnesses
open Acra.Model.Ch11Pay

example : ARINC.Packet.getitem { msgcount := 2, arincwords := [ARINC.Word.fresh, { ARINC.Word.fresh with bus := 7 }] } (-1)
    = .ok { ARINC.Word.fresh with bus := 7 } := rfl

open Acra.Model.Ch11Pay.ARINC Acra.Lemmas.Ch11ARINC in
example := ARINC_getitem_roundtrip ⟨0, [⟨4110, true, false, 1, 200, [1, 2, 3, 4]⟩, ⟨0, false, true, 0, 0, [0, 0, 0, 0]⟩]⟩
  ⟨7, [Word.fresh]⟩ (by decide)

open Acra.Model.Ch11Pay Acra.Model.Ch11Pay.MIL1553 Acra.Lemmas.Ch11MIL1553 Acra.Lemmas.Ch11Pay Acra.Gen.Ch11PayTs in
example := MIL_getitem_roundtrip
  { messages := [⟨.rtc 1, 0, 0, 0, []⟩, ⟨.rtc 77, 0xFFFF, 3, 0, [1, 2, 3]⟩], msgcount := 2, ttb := 3, ipts_source := some 0 }
  { messages := [⟨.rtc 9, 0, 0, 0, []⟩], msgcount := 5, ttb := 1, ipts_source := some 0 } (by decide) rfl

open Acra.Model.Ch11Pay Acra.Model.Ch11Pay.UART Acra.Lemmas.Ch11UART Acra.Lemmas.Ch11Pay Acra.Gen.Ch11PayTs in
example := UART_getitem_roundtrip
  { uartwords := [Word.setPayload (Word.fresh (.ptp 5 999999999) 1) [1, 2, 3],
                  { Word.fresh (.ptp 6 0) 1 with parity_error := true, subchannel := 0x1FFF }],
    ipts_source := some 1, data_endianness := 1 }
  { uartwords := [Word.fresh (.ptp 1 1) 1], ipts_source := some 1, data_endianness := 1 } (by decide)
  rfl rfl

open Acra.Model.Ch11Pay Acra.Model.Ch11Pay.PCM Acra.Lemmas.Ch11PCM Acra.Lemmas.Ch11Pay Acra.Gen.Ch11PayTs Acra.Gen.Ch11PCM in
example := PCM_getitem_roundtrip
  ⟨0x200000, some 1, some 3, Option.none, Option.none, [⟨.ptp 7 8, false, some 0xFFFFFFFF, [1, 2, 3], 1, Option.none, Option.none⟩]⟩
  ⟨0, some 1, some 3, Option.none, Option.none, []⟩ 3 (by decide +kernel) rfl rfl

end witnesses

end Acra.Props.C04
