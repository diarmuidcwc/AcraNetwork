import Acra.Lemmas.Ch11UART
import Acra.Props.C04.UART
namespace Acra.Props.C14
open Acra.Py Acra.Model.Ch11Pay Acra.Model.Ch11Pay.UART Acra.Gen.Ch11UART Acra.Lemmas.Ch11UART Acra.Lemmas.Ch11Pay

/-- word equality compares time stamp, parity bit, sub-channel, data length and data; words of the
    same byte order (a codec option) that compare equal encode identically -/
theorem UARTWord_eq_sound (a b : Word) (he : a.data_endianness = b.data_endianness) (h : Word.eq a b = true) :
    a.pack = b.pack := by
  obtain ⟨h1, h2, h3, _, h5⟩ := (Word_eq_iff a b).1 h
  simp only [Word.pack, h1, h2, h3, h5, he]

/-- the hypothesis `he` cannot be dropped: `UARTDataWord.__eq__` does not look at `data_endianness` (a constructor
    option), and two words that differ only there compare equal and encode differently (bytes swapped in pairs) -/
example :
    let w0 : Word := Word.setPayload (Word.fresh (.rtc 1) 0) [1, 2, 3, 4]
    let w1 : Word := Word.setPayload (Word.fresh (.rtc 1) 1) [1, 2, 3, 4]
    Word.eq w0 w1 = true ∧
    (match w0.pack, w1.pack with | .ok x, .ok y => x != y | _, _ => false) = true := ⟨by decide, rfl⟩

example :
    let w : Word := Word.setPayload (Word.fresh (.ptp 5 999999999) 1) [1, 2, 3]
    w.data_endianness = w.data_endianness ∧ Word.eq w w = true := ⟨rfl, by decide⟩

theorem wordsEq_pack (as bs : List Word) (h : wordsEq as bs = true)
    (he : ∀ a ∈ as, ∀ b ∈ bs, a.data_endianness = b.data_endianness) :
    packList Word.pack as = packList Word.pack bs :=
  packList_listEq _ Word.eq as bs (fun a ha b hb e => UARTWord_eq_sound a b (he a ha b hb) e) (wordsEq_eq ▸ h)

/-- packet equality compares the word lists; packets with the same options whose words all have
    the packet's byte order and that compare equal encode identically -/
theorem UART_eq_sound (a b : Packet) (ho : a.ipts_source = b.ipts_source)
    (he : ∀ x ∈ a.uartwords, ∀ y ∈ b.uartwords, x.data_endianness = y.data_endianness)
    (h : Packet.eq a b = true) : a.pack = b.pack := by
  simp only [Packet.eq] at h
  have hl : a.uartwords.length = b.uartwords.length := by
    simpa using congrArg List.length ((wordsEq_iff_key _ _).1 h)
  simp only [Packet.pack, hl, ho, wordsEq_pack _ _ h he]

example :
    let a : Packet := { uartwords := [Word.setPayload (Word.fresh (.ptp 5 999999999) 1) [1, 2, 3]], ipts_source := some 1,
                        data_endianness := 1 }
    a.ipts_source = a.ipts_source ∧ (∀ x ∈ a.uartwords, ∀ y ∈ a.uartwords, x.data_endianness = y.data_endianness) ∧
    Packet.eq a a = true := ⟨rfl, by decide, by decide⟩

/-- the object decoded from `a`'s encoding compares equal to `a`, provided each word's `datalength`
    is its data size (what the `payload` setter maintains) -/
theorem UART_eq_decode (a t : Packet) (h : C04.UART_WF a) (ho : t.ipts_source = a.ipts_source)
    (he : t.data_endianness = a.data_endianness) (hd : ∀ w ∈ a.uartwords, w.datalength = some w.payload.length) :
    ∃ b, a.pack = .ok b ∧ (Packet.unpack t b).2 = .ok () ∧ Packet.eq a (Packet.unpack t b).1 = true := by
  obtain ⟨b, hp, hu, _⟩ := C04.UART_roundtrip a t h ho he
  refine ⟨b, hp, by rw [hu], ?_⟩
  rw [hu, Packet.eq, wordsEq_iff_key, List.map_map]
  exact List.map_congr_left fun w hw => by simp [eqKey, norm, hd w hw]

/-- non-vacuity of `UART_eq_decode`: two words with PTP stamps, the second with parity flag and the largest sub-channel.
    (`UART_WF` demands a non-empty word list: `pack` of an empty packet raises.) -/
example :
    let a : Packet := { uartwords := [Word.setPayload (Word.fresh (.ptp 5 999999999) 1) [1, 2, 3],
                                      Word.setPayload { Word.fresh (.ptp 6 0) 1 with parity_error := true, subchannel := 0x1FFF } [7]],
                        ipts_source := some 1, data_endianness := 1 }
    let t : Packet := Packet.fresh (some 1) 1
    C04.UART_WF a ∧ t.ipts_source = a.ipts_source ∧ t.data_endianness = a.data_endianness ∧
    (∀ w ∈ a.uartwords, w.datalength = some w.payload.length) := by
  decide

end Acra.Props.C14
