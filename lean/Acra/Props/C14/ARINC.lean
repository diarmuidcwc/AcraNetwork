import Acra.Lemmas.Ch11ARINC
import Acra.Props.C04.ARINC
namespace Acra.Props.C14
open Acra.Py Acra.Model.Ch11Pay Acra.Model.Ch11Pay.ARINC Acra.Gen.Ch11ARINC Acra.Lemmas.Ch11ARINC

/-- word equality compares all six public fields: equal words encode identically -/
theorem ARINCWord_eq_sound (a b : Word) (h : Word.eq a b = true) : a.pack = b.pack := by
  rw [(Word_eq_iff a b).1 h]

example : Word.eq ⟨4110, true, false, 1, 200, [1, 2, 3, 4]⟩ ⟨4110, true, false, 1, 200, [1, 2, 3, 4]⟩ = true := by decide +kernel

theorem ARINC_eq_sound (a b : Packet) (h : Packet.eq a b = true) : a.pack.2 = b.pack.2 := by
  simp only [Packet.eq, Bool.and_eq_true, beq_iff_eq, wordsEq_iff] at h
  rw [Packet_pack_closed, Packet_pack_closed, h.2]

example : Packet.eq ⟨2, [⟨4110, true, false, 1, 200, [1, 2, 3, 4]⟩, ⟨0, false, true, 0, 0, [0, 0, 0, 0]⟩]⟩
    ⟨2, [⟨4110, true, false, 1, 200, [1, 2, 3, 4]⟩, ⟨0, false, true, 0, 0, [0, 0, 0, 0]⟩]⟩ = true := by decide +kernel

/-- the object decoded from `a`'s encoding compares equal to `a` (after `pack` has set its count) -/
theorem ARINC_eq_decode (a t : Packet) (h : C04.ARINC_WF a) :
    ∃ b, a.pack.2 = .ok b ∧ (Packet.unpack t b).2 = .ok () ∧ Packet.eq a.pack.1 (Packet.unpack t b).1 = true := by
  obtain ⟨b, hp, hu, _⟩ := C04.ARINC_roundtrip a t h
  refine ⟨b, hp, by rw [hu], ?_⟩
  rw [hu, C04.ARINC_pack_eq a h]
  simp [Packet.eq, wordsEq_iff]

/-- non-vacuity of `ARINC_eq_decode`: a two-word packet with a stale count is well formed -/
example : C04.ARINC_WF ⟨0, [⟨4110, true, false, 1, 200, [1, 2, 3, 4]⟩, ⟨0, false, true, 0, 0, [0, 0, 0, 0]⟩]⟩ := by decide

end Acra.Props.C14
