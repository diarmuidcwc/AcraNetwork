import Acra.Lemmas.MpegCanon
import Acra.Props.C06.MPEGTS
import Acra.Props.C06.PES
import Acra.Props.C06.STANAG
import Acra.Props.C06.PMT
import Acra.Props.C14.Mpeg
namespace Acra.Props.C14
open Acra.Py Acra.Model.MPEGTS Acra.Model.PMT Acra.Model.PES Acra.Lemmas.MPEGTS Acra.Lemmas.PES Acra.Lemmas.PMT Acra.Lemmas.PMTSection
open Acra.Lemmas.MpegCanon

/-! C14 `eq_decode` for the composite MPEG classes: *an object decoded from another's
    encoding compares equal to it* — under the class's own `__eq__`, with the encoder as `pack` left it, the decoder
    starting from an ARBITRARY prior state `t`.  The quantifier is "objects the class can encode exactly", stated as the
    decidable canonical-form predicates of `Lemmas/MpegCanon.lean` (`Pkt_canon`, `PMT_canon`, `PES_canon`,
    `STANAG_canon`); each theorem is followed by witnesses, and by counter-examples showing which clause of the
    canonical form each excluded object violates. -/

/-- exact fill is asked only of packets that carry a payload (controls 0 and 2 may be followed by any amount of
    stuffing); `Pkt_eq_decode` (Props/C14/Mpeg.lean) is the case `Pkt_used p = 188` -/
theorem Pkt_eq_decode_canon (p t : Pkt) (h : Pkt_canon p) :
    ∃ b, (Pkt.pack p).2 = .ok b ∧ (Pkt.unpack t b).2 = .ok () ∧ Pkt.eq (Pkt.pack p).1 (Pkt.unpack t b).1 = true := by
  have e := Pkt_canon_packed_eq_decoded p h
  obtain ⟨hw, hs, _, h2af, _, _⟩ := h
  refine ⟨Pkt_bytes p, by rw [Pkt_pack_eq p false hw]; rfl, by rw [Pkt_unpack_bytes p t hw hs h2af], ?_⟩
  rw [Pkt_pack_eq p false hw, Pkt_unpack_bytes p t hw hs h2af, Pkt_eq_iff]
  exact e

/-- witnesses: adaptation only (control 2) with stuffing after the adaptation field; adaptation + payload filling the
    packet; payload only -/
example : Pkt_canon { Pkt.fresh with pid := 0x1FFF, adaption_ctrl := 2,
                                     adaption_field := some { AF.fresh with pcr := [1, 2, 3, 4, 5, 6] } } ∧
    Pkt_canon { Pkt.fresh with pid := 5, adaption_ctrl := 3, payload := List.replicate 100 7,
                               adaption_field := some { AF.fresh with length := 83, splice_countdown := 3 } } ∧
    Pkt_canon { Pkt.fresh with adaption_ctrl := 1, payload := List.replicate 184 0xAB } := by decide +kernel

/-- a transport stream the class encodes exactly: every block canonical and not over-full (an over-full block is
    emitted longer than 188 bytes and shifts the framing of everything after it) -/
def TS_canon (s : TS) : Prop := ∀ p ∈ s.blocks, Pkt_canon p ∧ Pkt_used p ≤ 188

instance (s : TS) : Decidable (TS_canon s) := by unfold TS_canon; infer_instance

theorem MPEGTS_eq_decode (s t : TS) (h : TS_canon s) :
    ∃ b, (TS.pack s).2 = .ok b ∧ b.length = 188 * s.blocks.length ∧ (TS.unpack t b).2 = .ok true ∧
      TS.eq (TS.pack s).1 (TS.unpack t b).1 = true := by
  have hw : ∀ p ∈ s.blocks, Pkt_WF p := fun p hp => (h p hp).1.1
  obtain ⟨hu, hl⟩ := C06.MPEGTS_roundtrip t s.blocks
    (fun p hp => ⟨(h p hp).1.1, (h p hp).1.2.1, (h p hp).2, (h p hp).1.2.2.2.1⟩)
  have hp : TS.pack s = ({ blocks := s.blocks.map Pkt_packed }, .ok (s.blocks.flatMap Pkt_bytes)) := by
    simp only [TS.pack, packBlocks_eq s.blocks hw]
  have hm : s.blocks.map Pkt_packed = s.blocks.map Pkt_decoded :=
    List.map_congr_left (fun p hp => Pkt_canon_packed_eq_decoded p (h p hp).1)
  refine ⟨s.blocks.flatMap Pkt_bytes, by rw [hp], hl, by rw [hu], ?_⟩
  rw [hp, hu, hm]
  exact TS_eq_self _

/-- witness: a stream of three packets, one per payload-carrying / adaptation-only mode -/
example : TS_canon { blocks :=
    [ { Pkt.fresh with pid := 0x1FFF, adaption_ctrl := 2,
                       adaption_field := some { AF.fresh with pcr := [1, 2, 3, 4, 5, 6] } },
      { Pkt.fresh with pid := 5, adaption_ctrl := 3, payload := List.replicate 100 7,
                       adaption_field := some { AF.fresh with length := 83, splice_countdown := 3 } },
      { Pkt.fresh with adaption_ctrl := 1, payload := List.replicate 184 0xAB } ] } := by decide +kernel

/-- what the canonical form excludes, each a well-formed object whose own encoding decodes to an UNEQUAL object:
    (a) payload-only packet that does not fill 188 bytes (stuffing comes back as payload); (b) control 2 with a
    payload (dropped); (c) control 1 holding an adaptation-field object (never emitted) -/
example :
    let a : Pkt := { Pkt.fresh with adaption_ctrl := 1, payload := [1, 2, 3] }
    let b : Pkt := { Pkt.fresh with adaption_ctrl := 2, payload := [1], adaption_field := some AF.fresh }
    let c : Pkt := { Pkt.fresh with adaption_ctrl := 1, payload := List.replicate 184 0, adaption_field := some AF.fresh }
    (¬ Pkt_canon a ∧ Pkt.eq (Pkt.pack a).1 (Pkt.unpack Pkt.fresh (Pkt_bytes a)).1 = false) ∧
    (¬ Pkt_canon b ∧ Pkt.eq (Pkt.pack b).1 (Pkt.unpack Pkt.fresh (Pkt_bytes b)).1 = false) ∧
    (¬ Pkt_canon c ∧ Pkt.eq (Pkt.pack c).1 (Pkt.unpack Pkt.fresh (Pkt_bytes c)).1 = false) := by decide +kernel

/-- `MPEGPacketPMT.__eq__` does not look at `payload` and `_crc`, so no filling condition is needed -/
theorem PMT_eq_decode (s t : PMT) (h : PMT_canon s) :
    ∃ b, (PMT.pack s).2 = .ok b ∧ (PMT.unpack t b).2 = .ok true ∧ PMT.eq (PMT.pack s).1 (PMT.unpack t b).1 = true := by
  obtain ⟨hw, hs, hafc, hnoaf⟩ := h
  have hu := PMT_unpack_bytes s t hw hs hafc
  refine ⟨Pkt_bytes (PMT_pkt s), by rw [PMT_pack_eq s hw], by rw [hu], ?_⟩
  rw [PMT_pack_eq s hw, hu]
  have haf : (Pkt_packed (PMT_pkt s)).adaption_field = (Pkt_decoded (PMT_pkt s)).adaption_field := by
    by_cases hh : hasAF (PMT_pkt s)
    · simp only [Pkt_packed, Pkt_decoded, if_pos hh]
    · have hc : ¬ (s.pkt.adaption_ctrl = 2 ∨ s.pkt.adaption_ctrl = 3) := hh
      have : (PMT_pkt s).adaption_field = none := hnoaf (by omega)
      simp only [Pkt_packed, Pkt_decoded, if_neg hh, this]
  have hf : ∀ q : Pkt, (Pkt_packed q).sync = q.sync ∧ (Pkt_packed q).pid = q.pid ∧
      (Pkt_packed q).transport_priority = q.transport_priority ∧ (Pkt_packed q).tei = q.tei ∧
      (Pkt_packed q).pusi = q.pusi ∧ (Pkt_packed q).continuitycounter = q.continuitycounter ∧
      (Pkt_packed q).tsc = q.tsc ∧ (Pkt_packed q).adaption_ctrl = q.adaption_ctrl := by
    intro q; unfold Pkt_packed; split <;> exact ⟨rfl, rfl, rfl, rfl, rfl, rfl, rfl, rfl⟩
  obtain ⟨f1, f2, f3, f4, f5, f6, f7, f8⟩ := hf (PMT_pkt s)
  simp only [PMT.eq, PMT_decoded, f1, f2, f3, f4, f5, f6, f7, f8, haf]
  simp [Pkt_decoded]

/-- witnesses: the C06 example (one descriptor, two streams, payload only), and an empty section behind an adaptation
    field; neither fills the packet -/
example : PMT_canon C06.pmtExample ∧
    PMT_canon { PMT.fresh with
      pkt := { Pkt.fresh with adaption_ctrl := 3, adaption_field := some { AF.fresh with length := 20 } } } := by
  decide +kernel

/-- excluded: a FRESH `MPEGPacketPMT()` (adaptation control 0, notes/mpeg.md E6) cannot decode its own encoding at all -/
example : ¬ PMT_canon PMT.fresh := by decide +kernel

theorem PES_eq_decode (s t : PES) (h : PES_canon s) :
    ∃ b, (PES.pack s).2 = .ok b ∧ (PES.unpack t b).2 = .ok () ∧ PES.eq (PES.pack s).1 (PES.unpack t b).1 = true := by
  have hu := PES_canon_unpack s t h
  have hw := h.1
  refine ⟨Pkt_bytes (PES_pkt s), by rw [PES_pack_eq s hw], by rw [hu], ?_⟩
  rw [PES_pack_eq s hw, hu, PES_eq_iff]

/-- witnesses: with the optional header (payload only, and through adaptation stuffing), header-less through
    adaptation stuffing, and a header-less packet with only two data bytes -/
example : PES_canon C06.headerExample ∧ PES_canon C06.headerFill ∧ PES_canon C06.pesFill ∧
    PES_canon { PES.fresh with
      pkt := { Pkt.fresh with adaption_ctrl := 3, adaption_field := some { AF.fresh with length := 175 } },
      streamid := 224, pesdata := [1, 2] } := by decide +kernel

/-- what the canonical form excludes: (a) known finding K2 (/verif/known_findings.json) — header-less, exactly filled, first data byte 0x8_: decodes to an
    object with an optional header; (b) data followed by stuffing (`pesPlain` of C06): the stuffing comes back as data;
    (c) only one of the three optional-header attributes set: it is not emitted and comes back `None` -/
example :
    let c : PES := { C06.pesFill with extension_w1 := some 0x80 }
    (¬ PES_canon C06.k2Witness ∧ PES.eq (PES.pack C06.k2Witness).1 (PES.unpack PES.fresh (Pkt_bytes (PES_pkt C06.k2Witness))).1 = false) ∧
    (¬ PES_canon C06.pesPlain ∧ PES.eq (PES.pack C06.pesPlain).1 (PES.unpack PES.fresh (Pkt_bytes (PES_pkt C06.pesPlain))).1 = false) ∧
    (¬ PES_canon c ∧ PES.eq (PES.pack c).1 (PES.unpack PES.fresh (Pkt_bytes (PES_pkt c))).1 = false) := by decide +kernel

theorem STANAG_eq_decode (s t : STANAG) (h : STANAG_canon s) :
    ∃ b, (STANAG.pack s).2 = .ok b ∧ (STANAG.unpack t b).2 = .ok () ∧
      STANAG.eq (STANAG.pack s).1 (STANAG.unpack t b).1 = true := by
  obtain ⟨hwf, hc⟩ := h
  have hw := hc.1
  have hp := PES_canon_unpack (STANAG_pes s) t.pes hc
  have hu := STANAG_tail t (Pkt_bytes (PES_pkt (STANAG_pes s))) _ s.stanag_counter s.unknown s.unknown2 s.time_us
    hwf.1 hwf.2.1 hwf.2.2.1 hwf.2.2.2 hp
    (by show (Pkt_packed (PES_pkt (STANAG_pes s))).pid = 260; unfold Pkt_packed; split <;> rfl) rfl
  refine ⟨Pkt_bytes (PES_pkt (STANAG_pes s)), by rw [STANAG_pack_eq s hwf, PES_pack_eq _ hw], by rw [hu], ?_⟩
  rw [STANAG_pack_eq s hwf, PES_pack_eq _ hw, hu]
  simp [STANAG.eq, (PES_eq_iff _ _).mpr rfl]

/-- witnesses: the packet of the library's test `test_stanag_create` (optional PES header, adaptation stuffing) and the
    header-less packet with the largest 64-bit time -/
example : STANAG_canon C06.stanagExample ∧ STANAG_canon C06.stanagPlain := by decide +kernel

/-- excluded: (a) E3 — payload-only control, stuffing after the metadata: the decoder rejects the library's own
    encoding; (b) K2 through the subclass — header-less with `stanag_counter = 0x8000` -/
example :
    ¬ STANAG_canon { STANAG.fresh with pes := { PES.fresh with pkt := { Pkt.fresh with adaption_ctrl := 1 } } } ∧
    ¬ STANAG_canon { C06.stanagPlain with stanag_counter := 0x8000 } := by decide +kernel

end Acra.Props.C14
