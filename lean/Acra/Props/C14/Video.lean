/-
  C14 — VideoFormat2 equality.  `__eq__` compares the channel-specific word and the nested transport streams
  (`MPEGTS.__eq__`: same number of blocks, pairwise `MPEGPacket.__eq__` — header fields, payload AND adaptation field).
  The blocks are the MPEG family's packet model, so the theorems cover packets with adaptation fields.
-/
import Acra.Model.Ch11Video
import Acra.Lemmas.Ch11Video
import Acra.Props.C04.Video
import Acra.Props.C14.Mpeg
import Acra.Props.C14.MpegDecode
namespace Acra.Props.C14
open Acra.Py Acra.Model.Ch11Pay.Video Acra.Model.MPEGTS Acra.Gen.Ch11Video Acra.Lemmas.MPEGTS Acra.Lemmas.Ch11Video

/-- two VideoFormat2 objects that compare equal encode to the same bytes (`datastream` is neither compared nor
    encoded; it is recomputed from the channel-specific word on decode) -/
theorem Video_eq_sound (a b : State) (h : eq a b = true) : (pack a).2 = (pack b).2 := by
  simp only [eq] at h
  split at h
  · simp at h
  · rename_i hc
    simp only [bne_iff_ne, ne_eq, Decidable.not_not] at hc
    have := MPEGTS_eq_sound a.mpegts b.mpegts h
    simp only [pack, hc, this]
    cases structPack VID_pack_fmt0 [b.channel_specific_word] with
    | error e => rfl
    | ok hb =>
      simp only
      cases TS.pack b.mpegts with
      | mk ts r => cases r <;> rfl

/-- non-vacuity: two objects that differ in the (unencoded, uncompared) `datastream` attribute compare equal -/
example : eq C04.videoExample { C04.videoExample with datastream := 0 } = true := by decide +kernel

/-- a video payload the class encodes exactly: 32-bit channel-specific word without the intra-packet-header bit, and
    a canonical transport stream (`TS_canon`, Props/C14/MpegDecode.lean) -/
def Video_canon (s : State) : Prop :=
  s.channel_specific_word < 2 ^ 32 ∧ (s.channel_specific_word / 2 ^ IPH_OFFSET) % 2 = 0 ∧ TS_canon s.mpegts

instance (s : State) : Decidable (Video_canon s) := by unfold Video_canon; infer_instance

theorem Video_eq_decode (a t : State) (h : Video_canon a) :
    ∃ b, (pack a).2 = .ok b ∧ (unpack t b).2 = .ok () ∧ eq (pack a).1 (unpack t b).1 = true := by
  obtain ⟨h1, h2, h3⟩ := h
  have hwf : C04.Video_WF a :=
    ⟨h1, h2, fun p hp => ⟨(h3 p hp).1.1, (h3 p hp).1.2.1, (h3 p hp).2, (h3 p hp).1.2.2.2.1⟩⟩
  obtain ⟨b, hp, hu⟩ := C04.Video_roundtrip_exact a t hwf (fun p hp => (h3 p hp).1)
  refine ⟨b, hp, by rw [hu], ?_⟩
  rw [hu]
  simp only [eq, bne_self_eq_false, Bool.false_eq_true, if_false]
  exact TS_eq_self _

/-- witness: the C04 example stream (adaptation only / adaptation + payload / payload only) -/
example : Video_canon C04.videoExample := by decide +kernel

/-- excluded: a payload-carrying packet that does not fill its 188 bytes (the stuffing comes back as payload) -/
example :
    let s : State := { C04.videoExample with mpegts := { blocks :=
      [ { Pkt.fresh with adaption_ctrl := 3, payload := [1, 2, 3], adaption_field := some { AF.fresh with pcr := [1, 2, 3, 4, 5, 6] } } ] } }
    ¬ Video_canon s ∧
    ((pack s).2.toOption.map fun b => eq (pack s).1 (unpack fresh b).1) = some false := by
  decide +kernel

end Acra.Props.C14
