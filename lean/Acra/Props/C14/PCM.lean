import Acra.Lemmas.Ch11PCM
import Acra.Props.C04.PCM
namespace Acra.Props.C14
open Acra.Py Acra.Model.Ch11Pay Acra.Model.Ch11Pay.PCM Acra.Gen.Ch11PCM Acra.Lemmas.Ch11PCM Acra.Lemmas.Ch11Pay

/-- frame equality compares time stamp, data header, data, sync word, sub-frame id and the throughput
    flag; frames of the same alignment (a codec option) that compare equal encode identically -/
theorem PCMFrame_eq_sound (a b : Frame) (hal : a.alignment = b.alignment) (h : Frame.eq a b = true) : a.pack = b.pack := by
  obtain ⟨h1, h2, h3, h4, h5, h6⟩ := (Frame_eq_iff a b).1 h
  simp only [Frame.pack, h1, h2, h3, h4, h5, h6, hal]

/-- the hypothesis `hal` cannot be dropped: `PCMMinorFrame.__eq__` does not look at `alignment` (a constructor option),
    and two frames that differ only there compare equal and encode differently (2- vs 4-byte data header) -/
example :
    let f0 : Frame := ⟨.rtc 1, false, some 7, [1, 2, 3, 4], 0, Option.none, Option.none⟩
    let f1 : Frame := ⟨.rtc 1, false, some 7, [1, 2, 3, 4], 1, Option.none, Option.none⟩
    Frame.eq f0 f1 = true ∧
    (match f0.pack, f1.pack with | .ok x, .ok y => x != y | _, _ => false) = true := ⟨by decide, rfl⟩

example :
    let f : Frame := ⟨.ptp 7 8, false, some 0xFFFFFFFF, [1, 2, 3], 1, Option.none, Option.none⟩
    f.alignment = f.alignment ∧ Frame.eq f f = true := ⟨rfl, by decide⟩

theorem framesEq_pack (as bs : List Frame) (h : framesEq as bs = true)
    (hal : ∀ a ∈ as, ∀ b ∈ bs, a.alignment = b.alignment) : packList packFrame as = packList packFrame bs :=
  packList_listEq _ Frame.eq as bs
    (fun a ha b hb e => by simp only [packFrame, PCMFrame_eq_sound a b (hal a ha b hb) e]) (framesEq_eq ▸ h)

/-- packets whose frames all have one alignment and that compare equal encode identically -/
theorem PCM_eq_sound (a b : Packet) (hal : ∀ x ∈ a.minor_frames, ∀ y ∈ b.minor_frames, x.alignment = y.alignment)
    (h : Packet.eq a b = true) : a.pack = b.pack := by
  simp only [Packet.eq, Bool.and_eq_true, beq_iff_eq] at h
  simp only [Packet.pack, h.1, framesEq_pack _ _ h.2 hal]

/-- non-vacuity: two packets that differ in the decoder options (source, assigned / detected size) compare equal -/
example :
    let f : Frame := ⟨.ptp 7 8, false, some 0xFFFFFFFF, [1, 2, 3], 1, Option.none, Option.none⟩
    let a : Packet := ⟨0x200000, some 1, some 3, Option.none, Option.none, [f]⟩
    let b : Packet := ⟨0x200000, some 0, Option.none, some 9, Option.none, [f]⟩
    (∀ x ∈ a.minor_frames, ∀ y ∈ b.minor_frames, x.alignment = y.alignment) ∧ Packet.eq a b = true :=
  ⟨by decide, by decide⟩

theorem framesEq_refl (fs : List Frame) : framesEq fs fs = true :=
  framesEq_eq ▸ Lemmas.listEq_refl _ (fun f => (Frame_eq_iff f f).2 ⟨rfl, rfl, rfl, rfl, rfl, rfl⟩) fs

/-- the object decoded from `a`'s encoding (by a decoder that knows the frame size) compares equal to `a` -/
theorem PCM_eq_decode (a t : Packet) (n : Nat) (h : C04.PCM_WF a n) (ho : t.ipts_source = a.ipts_source)
    (hs : t.assigned = some n) :
    ∃ b, a.pack = .ok b ∧ (Packet.unpack t b false).2 = .ok () ∧ Packet.eq a (Packet.unpack t b false).1 = true := by
  obtain ⟨b, hp, hu, _⟩ := C04.PCM_roundtrip a t n h ho hs
  refine ⟨b, hp, by rw [hu], ?_⟩
  rw [hu]
  simp [Packet.eq, C04.PCM_decoded, framesEq_refl]

example :
    let a : Packet := ⟨0x200000, some 1, some 3, Option.none, Option.none,
      [⟨.ptp 7 8, false, some 0xFFFFFFFF, [1, 2, 3], 1, Option.none, Option.none⟩]⟩
    let t : Packet := Packet.fresh (some 1) Option.none (some 3)
    C04.PCM_WF a 3 ∧ t.ipts_source = a.ipts_source ∧ t.assigned = some 3 := by
  decide +kernel

end Acra.Props.C14
