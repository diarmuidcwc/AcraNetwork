import Acra.Lemmas.AFDX
import Acra.Props.C02.AFDX
namespace Acra.Props.C14
open Acra.Py Acra.Model.AFDX Acra.Gen.AFDX Acra.Lemmas.AFDX

/-! `AFDX.__eq__`: `isinstance` guard, then the seven attributes in the order found in the source
    (`Gen.AFDX.AFDX_EQ_ATTRS`); a missing attribute on either side raises AttributeError.  The foreign-operand clause
    is `AFDX_eq_foreign` in `Props/C14/Foreign.lean`. -/

theorem AFDX_getattr_full (ty net equip iface vlink : Nat) (payload : Bytes) (sq : Nat) :
    AFDX_EQ_ATTRS.map (AFDX.getattr (full ty net equip iface vlink payload sq)) =
      [.ok (.nat ty), .ok (.nat net), .ok (.nat iface), .ok (.nat equip), .ok (.nat vlink), .ok (.nat sq),
       .ok (.bytes payload)] := getattr_full ..

theorem AFDX_eq_true_iff (a b : AFDX) :
    AFDX.eq a b = .ok true ↔
      a = b ∧ ∃ ty net equip iface vlink payload sq, a = full ty net equip iface vlink payload sq := by
  constructor
  · exact eq_true_fields a b
  · rintro ⟨rfl, ty, net, equip, iface, vlink, payload, sq, rfl⟩
    rw [eq_full]; simp

/-- equality soundness: objects that compare equal encode to the same bytes (AFDX has no codec options) -/
theorem AFDX_eq_sound (a b : AFDX) (h : AFDX.eq a b = .ok true) : (AFDX.pack a).2 = (AFDX.pack b).2 := by
  rw [((AFDX_eq_true_iff a b).1 h).1]

/-- non-vacuity: two objects built alike compare equal -/
example : AFDX.eq (full 0x0800 1 2 3 0x1234 (List.replicate 42 0x22) 9)
    (full 0x0800 1 2 3 0x1234 (List.replicate 42 0x22) 9) = .ok true := by rw [eq_full]; simp

theorem AFDX_eq_full (ty net equip iface vlink : Nat) (payload : Bytes) (sq : Nat)
    (ty' net' equip' iface' vlink' : Nat) (payload' : Bytes) (sq' : Nat) :
    AFDX.eq (full ty net equip iface vlink payload sq) (full ty' net' equip' iface' vlink' payload' sq') =
      .ok (decide (full ty net equip iface vlink payload sq = full ty' net' equip' iface' vlink' payload' sq')) :=
  eq_full ..

/-- one differing field is seen, whichever it is (here: the sequence number, the last byte of the frame) -/
example : AFDX.eq (full 0x0800 1 2 3 0x1234 (List.replicate 42 0x22) 9)
    (full 0x0800 1 2 3 0x1234 (List.replicate 42 0x22) 8) = .ok false := by rw [eq_full]; simp [full]

/-- OBSERVATION: two instances as `AFDX.__new__` leaves them (no attributes) cannot be compared — AttributeError.
    No such instance comes out of the constructor (which raises) — nothing does. -/
theorem AFDX_eq_bare_raises : AFDX.eq AFDX.bare AFDX.bare = .error .attribute := by
  simp [AFDX.eq, AFDX_EQ_ATTRS, AFDX.eqLoop, AFDX.getattr, AFDX.bare, Option.map, AVal.lift]

/-
  FULL STATEMENT of the decode clause ("an object decoded from another's encoding compares equal to it"), which fails
  of the code as it stands because nothing can be decoded:
      ∀ a WF, ∀ t, ∃ b, (AFDX.pack a).2 = .ok b ∧ (AFDX.unpack t b).2 = .ok () ∧ AFDX.eq a (AFDX.unpack t b).1 = .ok true
  Proved instead: the decode of a's encoding raises TypeError (so there is no decoded object to compare), and what it
  leaves in a NEW object cannot even be compared with `a` (network ID missing: AttributeError).
-/
theorem AFDX_eq_decode_partial (a : AFDX) (ty net equip iface vlink : Nat) (payload : Bytes) (sq : Nat)
    (h : WF a ty net equip iface vlink payload sq) :
    ∃ b, (AFDX.pack a).2 = .ok b ∧ (AFDX.unpack AFDX.bare b).2 = .error .type ∧
      AFDX.eq a (AFDX.unpack AFDX.bare b).1 = .error .attribute := by
  obtain ⟨b, hp, hu⟩ := C02.AFDX_roundtrip_partial a AFDX.bare ty net equip iface vlink payload sq h
  refine ⟨b, hp, by rw [hu], ?_⟩
  rw [hu, h.eq_full]
  simp [AFDX.eq, AFDX_EQ_ATTRS, AFDX.eqLoop, AFDX.getattr, full, AFDX.bare, Option.map, AVal.lift]

example : WF (full 0x0800 1 2 3 0x1234 (List.replicate 42 0x22) 9) 0x0800 1 2 3 0x1234 (List.replicate 42 0x22) 9 := by
  constructor <;> first | rfl | decide

end Acra.Props.C14
