import Acra.Model.Foreign
import Acra.Model.AFDX
namespace Acra.Props.C14
open Acra.Py Acra.Model

/-! C14, third clause: "Comparing a packet with an object of an unrelated type gives False instead of raising."

    For every class of the library that defines `__eq__`, `eqOp a x` models `a == x` for ANY right-hand operand
    (`Py.Operand`): the class's comparison of two instances behind the opening statement of `__eq__` as found in the
    source (`Gen.EqGuard.guarded_<Class>`, regenerated from the AST on every run).  `<Class>_eq_foreign` says: for
    every object `a` (any field values, no well-formedness needed) and every kind of unrelated operand — `None`, an
    `int`, a `str`, a `bytes` object, a `list`, a plain `object()`, an instance of an unrelated class of the library —
    the answer is `False`, not an exception.  `<Class>_eqOp_same` ties `eqOp` to the comparison the other C14
    theorems (`…_eq_sound`, `…_eq_decode`) are about.  A guard removed from the source flips the regenerated constant
    and these proofs stop being `rfl`.  The correspondence compares `eqOp` with the real `==`, `!=` and the operands
    swapped (`E Class :: ops ## @kind`). -/

/-- every class whose body defines `__eq__` (found by walking the package) — each has its theorem below; a class added
    to the library makes this list, and so this proof, stale -/
theorem eq_foreign_covers_every_class :
    Acra.Gen.EqGuard.classesWithEq =
      ["AFDX", "ARINC429DataPacket", "ARINC429DataWord", "ARP", "Analog", "Chapter10UDP", "Chapter11", "DescriptorTag",
       "Ethernet", "IENA", "MILSTD1553DataPacket", "MILSTD1553Message", "MPEGAdaption", "MPEGAdaptionExtension",
       "MPEGPacket", "MPEGPacketPMT", "MPEGTS", "NPD", "NPDSegment", "PCMDataPacket", "PCMMinorFrame", "PES",
       "PMTStream", "PTDP", "PTFR", "PTPTime", "ParserAlignedBlock", "ParserAlignedPacket", "RS232Segment", "RTCTime",
       "STANAG4609", "TimeDataFormat1", "TimeDataFormat2", "UARTDataPacket", "UARTDataWord", "VideoFormat2", "iNET",
       "iNetX"] := rfl

/-- the operand kinds are exactly the seven the correspondence exercises -/
theorem foreign_kinds_complete (k : ForeignKind) : k ∈ ForeignKind.all := ForeignKind.mem_all k

theorem AFDX_eq_foreign (a : AFDX.AFDX) (k : ForeignKind) : AFDX.AFDX.eqOp a (.foreign k) = .ok false := rfl
theorem AFDX_eqOp_same (a b : AFDX.AFDX) : AFDX.AFDX.eqOp a (.same b) = AFDX.AFDX.eq a b := rfl

theorem iNetX_eq_foreign (a : iNetX.State) (k : ForeignKind) : iNetX.eqOp a (.foreign k) = .ok false := rfl
theorem iNetX_eqOp_same (a b : iNetX.State) : iNetX.eqOp a (.same b) = .ok (iNetX.eq a b) := rfl

theorem IENA_eq_foreign (a : IENA.Base) (k : ForeignKind) : IENA.Base.eqOp a (.foreign k) = .ok false := rfl
theorem IENA_eqOp_same (a b : IENA.Base) : IENA.Base.eqOp a (.same b) = .ok (IENA.Base.eq a b) := rfl

theorem IENAM_eq_foreign (a : IENA.MState) (k : ForeignKind) : IENA.MState.eqOp a (.foreign k) = .ok false := rfl
theorem IENAM_eqOp_same (a b : IENA.MState) : IENA.MState.eqOp a (.same b) = .ok (IENA.MState.eq a b) := rfl

theorem IENAQ_eq_foreign (a : IENA.QState) (k : ForeignKind) : IENA.QState.eqOp a (.foreign k) = .ok false := rfl
theorem IENAQ_eqOp_same (a b : IENA.QState) : IENA.QState.eqOp a (.same b) = .ok (IENA.QState.eq a b) := rfl

theorem IENAD_eq_foreign (a : IENA.DState) (k : ForeignKind) : IENA.DState.eqOp a (.foreign k) = .ok false := rfl
theorem IENAD_eqOp_same (a b : IENA.DState) : IENA.DState.eqOp a (.same b) = .ok (IENA.DState.eq a b) := rfl

theorem IENAN_eq_foreign (a : IENA.NState) (k : ForeignKind) : IENA.NState.eqOp a (.foreign k) = .ok false := rfl
theorem IENAN_eqOp_same (a b : IENA.NState) : IENA.NState.eqOp a (.same b) = .ok (IENA.NState.eq a b) := rfl

theorem iNET_eq_foreign (a : iNET.State) (k : ForeignKind) : iNET.eqOp a (.foreign k) = .ok false := rfl
theorem iNET_eqOp_same (a b : iNET.State) : iNET.eqOp a (.same b) = iNET.eq a b := rfl

theorem NPD_eq_foreign (a : NPD.State) (k : ForeignKind) : NPD.eqOp a (.foreign k) = .ok false := rfl
theorem NPD_eqOp_same (a b : NPD.State) : NPD.eqOp a (.same b) = .ok (NPD.eq a b) := rfl

theorem ParserAlignedBlock_eq_foreign (a : ParserAligned.Block) (k : ForeignKind) : ParserAligned.Block.eqOp a (.foreign k) = .ok false := rfl
theorem ParserAlignedBlock_eqOp_same (a b : ParserAligned.Block) : ParserAligned.Block.eqOp a (.same b) = .ok (ParserAligned.Block.eq a b) := rfl

theorem ParserAlignedPacket_eq_foreign (a : ParserAligned.Packet) (k : ForeignKind) : ParserAligned.Packet.eqOp a (.foreign k) = .ok false := rfl
theorem ParserAlignedPacket_eqOp_same (a b : ParserAligned.Packet) : ParserAligned.Packet.eqOp a (.same b) = .ok (ParserAligned.Packet.eq a b) := rfl

theorem PTDP_eq_foreign (a : Chapter7.PTDP.State) (k : ForeignKind) : Chapter7.PTDP.eqOp a (.foreign k) = .ok false := rfl
theorem PTDP_eqOp_same (a b : Chapter7.PTDP.State) : Chapter7.PTDP.eqOp a (.same b) = .ok (Chapter7.PTDP.eq a b) := rfl

theorem PTFR_eq_foreign (a : Chapter7.PTFR.State) (k : ForeignKind) : Chapter7.PTFR.eqOp a (.foreign k) = .ok false := rfl
theorem PTFR_eqOp_same (a b : Chapter7.PTFR.State) : Chapter7.PTFR.eqOp a (.same b) = .ok (Chapter7.PTFR.eq a b) := rfl

theorem MPEGAdaptionExtension_eq_foreign (a : MPEGTS.Ext) (k : ForeignKind) : MPEGTS.Ext.eqOp a (.foreign k) = .ok false := rfl
theorem MPEGAdaptionExtension_eqOp_same (a b : MPEGTS.Ext) : MPEGTS.Ext.eqOp a (.same b) = .ok (MPEGTS.Ext.eq a b) := rfl

theorem MPEGAdaption_eq_foreign (a : MPEGTS.AF) (k : ForeignKind) : MPEGTS.AF.eqOp a (.foreign k) = .ok false := rfl
theorem MPEGAdaption_eqOp_same (a b : MPEGTS.AF) : MPEGTS.AF.eqOp a (.same b) = .ok (MPEGTS.AF.eq a b) := rfl

theorem MPEGPacket_eq_foreign (a : MPEGTS.Pkt) (k : ForeignKind) : MPEGTS.Pkt.eqOp a (.foreign k) = .ok false := rfl
theorem MPEGPacket_eqOp_same (a b : MPEGTS.Pkt) : MPEGTS.Pkt.eqOp a (.same b) = .ok (MPEGTS.Pkt.eq a b) := rfl

theorem MPEGTS_eq_foreign (a : MPEGTS.TS) (k : ForeignKind) : MPEGTS.TS.eqOp a (.foreign k) = .ok false := rfl
theorem MPEGTS_eqOp_same (a b : MPEGTS.TS) : MPEGTS.TS.eqOp a (.same b) = .ok (MPEGTS.TS.eq a b) := rfl

theorem DescriptorTag_eq_foreign (a : PMT.Desc) (k : ForeignKind) : PMT.Desc.eqOp a (.foreign k) = .ok false := rfl
theorem DescriptorTag_eqOp_same (a b : PMT.Desc) : PMT.Desc.eqOp a (.same b) = .ok (a == b) := rfl

theorem PMTStream_eq_foreign (a : PMT.Stream) (k : ForeignKind) : PMT.Stream.eqOp a (.foreign k) = .ok false := rfl
theorem PMTStream_eqOp_same (a b : PMT.Stream) : PMT.Stream.eqOp a (.same b) = .ok (a == b) := rfl

theorem MPEGPacketPMT_eq_foreign (a : PMT.PMT) (k : ForeignKind) : PMT.PMT.eqOp a (.foreign k) = .ok false := rfl
theorem MPEGPacketPMT_eqOp_same (a b : PMT.PMT) : PMT.PMT.eqOp a (.same b) = .ok (PMT.PMT.eq a b) := rfl

theorem PES_eq_foreign (a : PES.PES) (k : ForeignKind) : PES.PES.eqOp a (.foreign k) = .ok false := rfl
theorem PES_eqOp_same (a b : PES.PES) : PES.PES.eqOp a (.same b) = .ok (PES.PES.eq a b) := rfl

theorem STANAG4609_eq_foreign (a : PES.STANAG) (k : ForeignKind) : PES.STANAG.eqOp a (.foreign k) = .ok false := rfl
theorem STANAG4609_eqOp_same (a b : PES.STANAG) : PES.STANAG.eqOp a (.same b) = .ok (PES.STANAG.eq a b) := rfl

theorem Ethernet_eq_foreign (a : Net.Eth) (k : ForeignKind) : Net.Eth.eqOp a (.foreign k) = .ok false := rfl
theorem Ethernet_eqOp_same (a b : Net.Eth) : Net.Eth.eqOp a (.same b) = .ok (Net.Eth.eq a b) := rfl

theorem ARP_eq_foreign (a : Net.ARP) (k : ForeignKind) : Net.ARP.eqOp a (.foreign k) = .ok false := rfl
theorem ARP_eqOp_same (a b : Net.ARP) : Net.ARP.eqOp a (.same b) = .ok (Net.ARP.eq a b) := rfl

theorem Chapter10UDP_eq_foreign (a : Ch10UDP.State) (k : ForeignKind) : Ch10UDP.eqOp a (.foreign k) = .ok false := rfl
theorem Chapter10UDP_eqOp_same (a b : Ch10UDP.State) : Ch10UDP.eqOp a (.same b) = .ok (Ch10UDP.eq a b) := rfl

theorem PTPTime_eq_foreign (a : Ch11.PTP) (k : ForeignKind) : Ch11.PTP.eqOp a (.foreign k) = .ok false := rfl
theorem PTPTime_eqOp_same (a b : Ch11.PTP) : Ch11.PTP.eqOp a (.same b) = .ok (Ch11.ptpEq (a.seconds, a.nanoseconds) (b.seconds, b.nanoseconds)) := rfl

theorem RTCTime_eq_foreign (a : Nat) (k : ForeignKind) : Ch11.RTC.eqOp a (.foreign k) = .ok false := rfl
theorem RTCTime_eqOp_same (a b : Nat) : Ch11.RTC.eqOp a (.same b) = .ok (a == b) := rfl

theorem Chapter11_eq_foreign (a : Ch11.State) (k : ForeignKind) : Ch11.eqOp a (.foreign k) = .ok false := rfl
theorem Chapter11_eqOp_same (a b : Ch11.State) : Ch11.eqOp a (.same b) = .ok (Ch11.eq a b) := rfl

theorem UARTDataWord_eq_foreign (a : Ch11Pay.UART.Word) (k : ForeignKind) : Ch11Pay.UART.Word.eqOp a (.foreign k) = .ok false := rfl
theorem UARTDataWord_eqOp_same (a b : Ch11Pay.UART.Word) : Ch11Pay.UART.Word.eqOp a (.same b) = .ok (Ch11Pay.UART.Word.eq a b) := rfl

theorem UARTDataPacket_eq_foreign (a : Ch11Pay.UART.Packet) (k : ForeignKind) : Ch11Pay.UART.Packet.eqOp a (.foreign k) = .ok false := rfl
theorem UARTDataPacket_eqOp_same (a b : Ch11Pay.UART.Packet) : Ch11Pay.UART.Packet.eqOp a (.same b) = .ok (Ch11Pay.UART.Packet.eq a b) := rfl

theorem MILSTD1553Message_eq_foreign (a : Ch11Pay.MIL1553.Msg) (k : ForeignKind) : Ch11Pay.MIL1553.Msg.eqOp a (.foreign k) = .ok false := rfl
theorem MILSTD1553Message_eqOp_same (a b : Ch11Pay.MIL1553.Msg) : Ch11Pay.MIL1553.Msg.eqOp a (.same b) = .ok (Ch11Pay.MIL1553.Msg.eq a b) := rfl

theorem MILSTD1553DataPacket_eq_foreign (a : Ch11Pay.MIL1553.Packet) (k : ForeignKind) : Ch11Pay.MIL1553.Packet.eqOp a (.foreign k) = .ok false := rfl
theorem MILSTD1553DataPacket_eqOp_same (a b : Ch11Pay.MIL1553.Packet) : Ch11Pay.MIL1553.Packet.eqOp a (.same b) = .ok (Ch11Pay.MIL1553.Packet.eq a b) := rfl

theorem ARINC429DataWord_eq_foreign (a : Ch11Pay.ARINC.Word) (k : ForeignKind) : Ch11Pay.ARINC.Word.eqOp a (.foreign k) = .ok false := rfl
theorem ARINC429DataWord_eqOp_same (a b : Ch11Pay.ARINC.Word) : Ch11Pay.ARINC.Word.eqOp a (.same b) = .ok (Ch11Pay.ARINC.Word.eq a b) := rfl

theorem ARINC429DataPacket_eq_foreign (a : Ch11Pay.ARINC.Packet) (k : ForeignKind) : Ch11Pay.ARINC.Packet.eqOp a (.foreign k) = .ok false := rfl
theorem ARINC429DataPacket_eqOp_same (a b : Ch11Pay.ARINC.Packet) : Ch11Pay.ARINC.Packet.eqOp a (.same b) = .ok (Ch11Pay.ARINC.Packet.eq a b) := rfl

theorem Analog_eq_foreign (a : Ch11Pay.Analog.State) (k : ForeignKind) : Ch11Pay.Analog.eqOp a (.foreign k) = .ok false := rfl
theorem Analog_eqOp_same (a b : Ch11Pay.Analog.State) : Ch11Pay.Analog.eqOp a (.same b) = .ok (Ch11Pay.Analog.eq a b) := rfl

theorem PCMMinorFrame_eq_foreign (a : Ch11Pay.PCM.Frame) (k : ForeignKind) : Ch11Pay.PCM.Frame.eqOp a (.foreign k) = .ok false := rfl
theorem PCMMinorFrame_eqOp_same (a b : Ch11Pay.PCM.Frame) : Ch11Pay.PCM.Frame.eqOp a (.same b) = .ok (Ch11Pay.PCM.Frame.eq a b) := rfl

theorem PCMDataPacket_eq_foreign (a : Ch11Pay.PCM.Packet) (k : ForeignKind) : Ch11Pay.PCM.Packet.eqOp a (.foreign k) = .ok false := rfl
theorem PCMDataPacket_eqOp_same (a b : Ch11Pay.PCM.Packet) : Ch11Pay.PCM.Packet.eqOp a (.same b) = .ok (Ch11Pay.PCM.Packet.eq a b) := rfl

theorem TimeDataFormat1_eq_foreign (a : Ch11Pay.TimeFmt.State1) (k : ForeignKind) : Ch11Pay.TimeFmt.State1.eqOp a (.foreign k) = .ok false := rfl
theorem TimeDataFormat1_eqOp_same (a b : Ch11Pay.TimeFmt.State1) : Ch11Pay.TimeFmt.State1.eqOp a (.same b) = .ok (Ch11Pay.TimeFmt.State1.eq a b) := rfl

theorem TimeDataFormat2_eq_foreign (a : Ch11Pay.TimeFmt.State2) (k : ForeignKind) : Ch11Pay.TimeFmt.State2.eqOp a (.foreign k) = .ok false := rfl
theorem TimeDataFormat2_eqOp_same (a b : Ch11Pay.TimeFmt.State2) : Ch11Pay.TimeFmt.State2.eqOp a (.same b) = .ok (Ch11Pay.TimeFmt.State2.eq a b) := rfl

theorem VideoFormat2_eq_foreign (a : Ch11Pay.Video.State) (k : ForeignKind) : Ch11Pay.Video.eqOp a (.foreign k) = .ok false := rfl
theorem VideoFormat2_eqOp_same (a b : Ch11Pay.Video.State) : Ch11Pay.Video.eqOp a (.same b) = .ok (Ch11Pay.Video.eq a b) := rfl

/-- the six NPD segment classes (one model type, the class is the `kind`): RS232Segment's own guard for an RS-232
    segment, NPDSegment's for the other five -/
theorem NPDSegment_eq_foreign (a : NPD.Seg) (k : ForeignKind) : NPD.Seg.eqOp a (.foreign k) = .ok false := by
  simp only [NPD.Seg.eqOp, Operand.opening]
  split <;> rfl
theorem RS232Segment_eq_foreign (a : NPD.Seg) (_h : a.kind = .rs232) (k : ForeignKind) :
    NPD.Seg.eqOp a (.foreign k) = .ok false := NPDSegment_eq_foreign a k
example : (NPD.Seg.fresh .rs232).kind = .rs232 := rfl
theorem NPDSegment_eqOp_same (a b : NPD.Seg) : NPD.Seg.eqOp a (.same b) = .ok (NPD.Seg.eq a b) := rfl

/-! ### Operands that are instances of a library subclass / base class of the class

    These are NOT unrelated types (they pass an `isinstance` guard somewhere in the family), so C14's clause does not
    speak of them; the model states what the code does, and the correspondence compares it (`E … ## @sub:Cls | ops`,
    `@base:Cls | ops`). -/

/-- MPEGPacket vs PES / STANAG4609 / MPEGPacketPMT, PES vs STANAG4609, and each the other way round: every class of
    the family has its own guarded `__eq__`, so the answer is `False` whatever the field values -/
theorem MPEGPacket_eq_subclass (a b : MPEGTS.Pkt) : MPEGTS.Pkt.eqSubclass a b = .ok false := rfl
theorem MPEGPacketPMT_eq_baseclass (a b : PMT.PMT) : PMT.PMT.eqBaseclass a b = .ok false := rfl
theorem PES_eq_subclass (a b : PES.PES) : PES.PES.eqSubclass a b = .ok false := rfl
theorem PES_eq_baseclass (a b : PES.PES) : PES.PES.eqBaseclass a b = .ok false := rfl
theorem STANAG4609_eq_baseclass (a b : PES.STANAG) : PES.STANAG.eqBaseclass a b = .ok false := rfl

/-- NPDSegment vs its five subclasses and back: `type(other) is not type(self)` (resp. RS232Segment's guard) -/
theorem NPDSegment_eq_subclass (a b : NPD.Seg) : NPD.Seg.eqSubclass a b = .ok false := rfl
theorem NPDSegment_eq_baseclass (a b : NPD.Seg) : NPD.Seg.eqBaseclass a b = .ok false := by
  simp only [NPD.Seg.eqBaseclass]; split <;> rfl

/-- Chapter11 vs the deprecated subclass Chapter10 (which adds nothing): the ordinary comparison, operands swapped -/
theorem Chapter11_eq_subclass (a b : Ch11.State) : Ch11.eqSubclass a b = .ok (Ch11.eq b a) := rfl
theorem Chapter10_eq_baseclass (a b : Ch11.State) : Ch11.eqBaseclass a b = .ok (Ch11.eq a b) := rfl

/-- OBSERVATION (recorded in notes/foreign.md; outside C14's "unrelated type" clause: a subclass is a related type):
    IENA vs IENAM / IENAQ / IENAD / IENAN.  The one inherited `__eq__` walks `self._req_attr`; the subclasses' list
    ends with "parameters", which a plain IENA object lacks.  The comparison answers `False` when one of the seven
    base attributes differs and raises AttributeError when all seven agree — in both operand orders. -/
theorem IENA_eq_subclass (a b : IENA.Base) :
    IENA.Base.eqSubclass a b = if IENA.Base.eq b a then .error .attribute else .ok false := rfl

theorem IENA_eq_subclass_differ (a b : IENA.Base) (h : IENA.Base.eq b a = false) :
    IENA.Base.eqSubclass a b = .ok false := by simp [IENA.Base.eqSubclass, h]

example : IENA.Base.eq { IENA.Base.fresh with key := 1 } IENA.Base.fresh = false := by decide

/-- witness: `IENA() == IENAM()` with the same (here: default) field values raises AttributeError -/
theorem IENA_eq_related_raises_witness :
    IENA.Base.eqSubclass IENA.Base.fresh IENA.Base.fresh = .error .attribute ∧
    IENA.MState.eqBaseclass IENA.MState.fresh IENA.MState.fresh = .error .attribute ∧
    IENA.QState.eqBaseclass IENA.QState.fresh IENA.QState.fresh = .error .attribute ∧
    IENA.DState.eqBaseclass IENA.DState.fresh IENA.DState.fresh = .error .attribute ∧
    IENA.NState.eqBaseclass IENA.NState.fresh IENA.NState.fresh = .error .attribute := by
  refine ⟨?_, ?_, ?_, ?_, ?_⟩ <;> rfl

theorem IENAM_eq_baseclass (a b : IENA.MState) :
    IENA.MState.eqBaseclass a b = if IENA.Base.eq a.base b.base then .error .attribute else .ok false := rfl
theorem IENAQ_eq_baseclass (a b : IENA.QState) :
    IENA.QState.eqBaseclass a b = if IENA.Base.eq a.base b.base then .error .attribute else .ok false := rfl
theorem IENAD_eq_baseclass (a b : IENA.DState) :
    IENA.DState.eqBaseclass a b = if IENA.Base.eq a.base b.base then .error .attribute else .ok false := rfl
theorem IENAN_eq_baseclass (a b : IENA.NState) :
    IENA.NState.eqBaseclass a b = if IENA.Base.eq a.base b.base then .error .attribute else .ok false := rfl

/-
  FULL STATEMENT one might want of the related operands (not demanded by C14, false of the code as it stands):
      ∀ a b : IENA.Base, ∃ r, IENA.Base.eqSubclass a b = .ok r
  refuted by `IENA_eq_related_raises_witness`.  A guard `type(other) is not type(self)` (as NPDSegment has) or
  `getattr(other, attr, <sentinel>)` in IENA.__eq__ would make it true.
-/

end Acra.Props.C14
