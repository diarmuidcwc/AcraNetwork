import Acra.Gen.Src.Cls.iNetX
import Acra.Gen.Src.Cls.IENA
import Acra.Model.iNetX
import Acra.Model.IENA
import Acra.Lemmas.SrcTieCls
namespace Acra.Props.C14
open Acra Acra.Py Acra.Lemmas.SrcTieCls

/-! Method source ties (C14): `iNetX.__eq__` (regenerated from the Python source on every run by
    `harness/translate_methods.py`; the loop over `REQ_ATTR` unrolled from the class constant) = the model's `eq`. -/

/-- `iNetX.__eq__` on any two objects, without the domain restriction: `True` exactly when the seven `REQ_ATTR`
    attributes agree (`packetlen` is not compared); it never raises and never changes `self` -/
theorem src_iNetX_eq_iff (o p : Gen.Src.Cls.iNetX.Obj) :
    Gen.Src.Cls.iNetX.__eq__ o p = (o, .ok (decide (o.inetxcontrol = p.inetxcontrol ∧ o.streamid = p.streamid ∧
      o.sequence = p.sequence ∧ o.ptptimeseconds = p.ptptimeseconds ∧ o.ptptimenanoseconds = p.ptptimenanoseconds ∧
      o.pif = p.pif ∧ o.payload = p.payload))) := by
  unfold Gen.Src.Cls.iNetX.__eq__
  simp only [eq_step, Bool.decide_and, Bool.and_true]

/-- `iNetX.__eq__` on two iNetX operands that are images of model states: the model's verdict, and `self` untouched -/
theorem src_iNetX_eq_of (a b : Model.iNetX.State) :
    Gen.Src.Cls.iNetX.__eq__ (iNetX.ofModel a) (iNetX.ofModel b) = (iNetX.ofModel a, .ok (Model.iNetX.eq a b)) := by
  rw [src_iNetX_eq_iff]
  congr 2
  -- the `decide` goes first: its instance still speaks of `ofModel a`, and would no longer fit once that is unfolded
  rw [Bool.eq_iff_iff, decide_eq_true_eq]
  simp [iNetX.ofModel, Model.iNetX.eq, Int.natCast_inj, and_assoc]

/-- `iNetX.__eq__`, for every pair of objects in the model's domain (int attributes `≥ 0`) -/
theorem src_iNetX_eq (o p : Gen.Src.Cls.iNetX.Obj) (ho : iNetX.Dom o) (hp : iNetX.Dom p) :
    Gen.Src.Cls.iNetX.__eq__ o p = (o, .ok (Model.iNetX.eq (iNetX.toModel o) (iNetX.toModel p))) := by
  have := src_iNetX_eq_of (iNetX.toModel o) (iNetX.toModel p)
  rwa [iNetX.ofModel_toModel o ho, iNetX.ofModel_toModel p hp] at this

example : iNetX.Dom (iNetX.ofModel { Model.iNetX.fresh with streamid := 0xDC, payload := [5, 0] }) :=
  iNetX.dom_ofModel _

/-! `IENA.__eq__` (base class): the loop over `self._req_attr` unrolled from `IENA.REQ_ATTR`; `key` through its property -/

theorem src_IENA_eq_of (a b : Model.IENA.Base) :
    Gen.Src.Cls.IENA.__eq__ (IENA.ofModel a) (IENA.ofModel b) = (IENA.ofModel a, .ok (Model.IENA.Base.eq a b)) := by
  rw [IENA.src_eq_iff]
  congr 2
  rw [Bool.eq_iff_iff, decide_eq_true_eq]
  simp [IENA.ofModel, Model.IENA.Base.eq, Int.natCast_inj, and_assoc]

/-- `IENA.__eq__`, for every pair of IENA objects in the model's domain (int attributes `≥ 0`): the model's verdict
    (`size` and `lengthError` are not compared), `self` untouched, never an exception -/
theorem src_IENA_eq (o p : Gen.Src.Cls.IENA.Obj) (ho : IENA.Dom o) (hp : IENA.Dom p) :
    Gen.Src.Cls.IENA.__eq__ o p = (o, .ok (Model.IENA.Base.eq (IENA.toModel o) (IENA.toModel p))) := by
  have := src_IENA_eq_of (IENA.toModel o) (IENA.toModel p)
  rwa [IENA.ofModel_toModel o ho, IENA.ofModel_toModel p hp] at this

example : IENA.Dom (IENA.ofModel { Model.IENA.Base.fresh with key := 0xDC, payload := [5, 0] }) := IENA.dom_ofModel _

end Acra.Props.C14
