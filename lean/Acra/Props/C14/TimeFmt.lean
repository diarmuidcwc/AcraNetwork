import Acra.Props.C04.TimeFmt1
import Acra.Props.C04.TimeFmt2
namespace Acra.Props.C14
open Acra.Py Acra.Model.Ch11Pay Acra.Model.Ch11Pay.TimeFmt Acra.Lemmas.Ch11Calendar Acra.Lemmas.Datetime Acra.Lemmas.Float
open Acra.Lemmas.Ch11TimeFmt (State1_eq_iff State2_eq_iff)

/-! C14 `eq_decode` for `TimeDataFormat1` and `TimeDataFormat2`.  Both `__eq__` compare the
    channel-specific word and the `PTPTime` (seconds, nanoseconds) — structural equality of the model state — and `pack`
    does not modify the object, so "the decoded object compares equal to the encoder" holds exactly for the objects the
    format can carry without loss.  Every theorem below is an EQUIVALENCE: it says for which objects the comparison
    gives True, not only that it does for some.

    * format 1, day-month-year: nanoseconds a multiple of 10 ms (the format has two BCD digits of 10 ms);
    * format 1, day-of-year: additionally the second lies in 1970 (the format carries no year, the decoder's base
      year is 1970);
    * format 2, IEEE-1588 codes: every well-formed object;
    * format 2, NTP code: the nanosecond counts that survive `int(ns·2³²/10⁹)` followed by `int(fs/(2³²/10⁹))`
      (the conversion truncates twice: `ns` or `ns − 1` comes back, C04 `ntp_within_1ns`; almost always `ns − 1`). -/

/-- day-month-year variant, every second of 1970-01-01 … 2099-12-31, any prior state of the decoder -/
theorem TDF1_eq_decode_dmy (st t : State1) (n : Nat) (h : C04.TDF1_WF st n)
    (hy : yearAvail st.channel_specific_data = true) :
    ∃ b, st.pack = .ok b ∧ (State1.unpack t b).2 = .ok () ∧
      (State1.eq st (State1.unpack t b).1 = true ↔ st.nanoseconds % 10000000 = 0) := by
  obtain ⟨b, hp, hu⟩ := C04.TDF1_roundtrip_dmy st t n h hy
  refine ⟨b, hp, by rw [hu], ?_⟩
  rw [hu, State1_eq_iff]
  constructor
  · intro e
    have := congrArg State1.nanoseconds e
    simp only at this
    omega
  · intro e
    cases st
    simp only at e ⊢
    rw [e, Nat.sub_zero]

/-- the year in which second `n` lies is 1970 exactly for the first 365 days -/
theorem startOfYear_zero_iff (n : Nat) : C04.startOfYear n = 0 ↔ n < 365 * 86400 :=
  yearStart_zero_iff n

theorem TDF1_eq_decode_doy (st t : State1) (n : Nat) (h : C04.TDF1_WF st n)
    (hy : yearAvail st.channel_specific_data = false) :
    ∃ b, st.pack = .ok b ∧ (State1.unpack t b).2 = .ok () ∧
      (State1.eq st (State1.unpack t b).1 = true ↔ st.nanoseconds % 10000000 = 0 ∧ n < 365 * 86400) := by
  obtain ⟨b, hp, hu, hle⟩ := C04.TDF1_roundtrip_doy st t n h hy
  refine ⟨b, hp, by rw [hu], ?_⟩
  rw [hu, State1_eq_iff, ← startOfYear_zero_iff n]
  have hs := h.1
  constructor
  · intro e
    have e1 := congrArg State1.nanoseconds e
    have e2 := congrArg State1.seconds e
    simp only at e1 e2
    rw [hs] at e2
    constructor
    · omega
    · omega
  · rintro ⟨e1, e2⟩
    cases st
    simp only at e1 hs ⊢
    rw [e1, e2, Nat.sub_zero, Nat.sub_zero, hs]

/-- witnesses: 2024-02-29 12:00:00.12 in the day-month-year variant and 1970-12-31 23:59:59.99 in the day-of-year
    variant compare equal after the round trip; … -/
example : C04.TDF1_WF ⟨0x251, 1709208000, 120000000⟩ 1709208000 ∧ yearAvail 0x251 = true ∧ 120000000 % 10000000 = 0 ∧
    C04.TDF1_WF ⟨0x51, 31535999, 990000000⟩ 31535999 ∧ yearAvail 0x51 = false ∧ 990000000 % 10000000 = 0 ∧
    31535999 < 365 * 86400 :=
  ⟨⟨rfl, by simp, by simp [DAYS], by simp⟩, by decide, by decide, ⟨rfl, by simp, by simp [DAYS], by simp⟩, by decide,
   by decide, by decide⟩

/-- … and the model evaluated on them and on the two kinds of excluded object (1 ns more; day-of-year in 1971) -/
example :
    (∀ b, (⟨0x251, 1709208000, 120000000⟩ : State1).pack = .ok b →
      State1.eq ⟨0x251, 1709208000, 120000000⟩ (State1.unpack ⟨0x51, 5, 6⟩ b).1 = true) ∧
    (∀ b, (⟨0x251, 1709208000, 120000001⟩ : State1).pack = .ok b →
      State1.eq ⟨0x251, 1709208000, 120000001⟩ (State1.unpack ⟨0x51, 5, 6⟩ b).1 = false) ∧
    (∀ b, (⟨0x51, 31535999, 990000000⟩ : State1).pack = .ok b →
      State1.eq ⟨0x51, 31535999, 990000000⟩ (State1.unpack State1.fresh b).1 = true) ∧
    (∀ b, (⟨0x51, 31536000, 0⟩ : State1).pack = .ok b →
      State1.eq ⟨0x51, 31536000, 0⟩ (State1.unpack State1.fresh b).1 = false) := by
  refine ⟨?_, ?_, ?_, ?_⟩ <;> intro b hb <;> injection hb with hb <;> subst hb <;> rfl

/-- IEEE-1588 time codes (2002, 2008 — any non-zero code): every well-formed object, any rounding function with the
    binary64 facts (the float path is not taken at all) -/
theorem TDF2_eq_decode_ptp (fl : ℚ → ℚ) (F : FloatSem fl) (s t : State2) (h : C04.TDF2_WF s)
    (hp : isPTP s.channel_specific_data = true) :
    ∃ b, State2.packWith fl s = .ok b ∧ (State2.unpackWith fl t b).2 = .ok () ∧
      State2.eq s (State2.unpackWith fl t b).1 = true := by
  obtain ⟨b, hb, hu⟩ := C04.TDF2_roundtrip_ptp fl F s t h hp
  exact ⟨b, hb, by rw [hu], by rw [hu, State2_eq_iff]⟩

/-- NTP code: the comparison gives True exactly for the nanosecond counts that survive the two truncating float
    conversions -/
theorem TDF2_eq_decode_ntp (fl : ℚ → ℚ) (F : FloatSem fl) (s t : State2) (h : C04.TDF2_WF s)
    (hp : isPTP s.channel_specific_data = false) :
    ∃ b, State2.packWith fl s = .ok b ∧ (State2.unpackWith fl t b).2 = .ok () ∧
      (State2.eq s (State2.unpackWith fl t b).1 = true ↔ fracToNs fl (nsToFrac fl s.nanoseconds) = s.nanoseconds) := by
  obtain ⟨b, hb, hu⟩ := C04.TDF2_unpack_packed fl F s t h
  rw [hp] at hu
  refine ⟨b, hb, by rw [hu], ?_⟩
  rw [hu, State2_eq_iff]
  cases s
  simp only [State2.mk.injEq, true_and, Bool.false_eq_true, if_false]
  exact eq_comm

/-- the executable model (binary64 round to nearest even — what the driver runs and the correspondence check compares
    with CPython) -/
theorem TDF2_eq_decode_ptp_exec (s t : State2) (h : C04.TDF2_WF s) (hp : isPTP s.channel_specific_data = true) :
    ∃ b, s.pack = .ok b ∧ (State2.unpack t b).2 = .ok () ∧ State2.eq s (State2.unpack t b).1 = true :=
  TDF2_eq_decode_ptp Float.rne rne_floatSem s t h hp

theorem TDF2_eq_decode_ntp_exec (s t : State2) (h : C04.TDF2_WF s) (hp : isPTP s.channel_specific_data = false) :
    ∃ b, s.pack = .ok b ∧ (State2.unpack t b).2 = .ok () ∧
      (State2.eq s (State2.unpack t b).1 = true ↔
        fracToNs Float.rne (nsToFrac Float.rne s.nanoseconds) = s.nanoseconds) :=
  TDF2_eq_decode_ntp Float.rne rne_floatSem s t h hp

/-- witnesses: the three network time codes (NTP, IEEE-1588-2002, IEEE-1588-2008) on well-formed objects -/
example : C04.TDF2_WF { channel_specific_data := 0x21, seconds := 1709208000, nanoseconds := 999999999 } ∧ isPTP 0x21 = true ∧
    C04.TDF2_WF { channel_specific_data := 0x11, seconds := 0xFFFFFFFF, nanoseconds := 1 } ∧ isPTP 0x11 = true ∧
    C04.TDF2_WF { channel_specific_data := 0xFFFFFF0F, seconds := 0xFFFFFFFF, nanoseconds := 585937500 } ∧
    isPTP 0xFFFFFF0F = false :=
  ⟨by simp [C04.TDF2_WF], by decide, by simp [C04.TDF2_WF], by decide, by simp [C04.TDF2_WF], by decide⟩

/-- the NTP condition on the executable model is decidable and has members on both sides.  `frac = int(ns·2³²/10⁹)`
    truncates, so only nanosecond counts for which `ns·2²³/5⁹` is an integer (multiples of 5⁹ = 1 953 125 ns) can come
    back unchanged — and of those 512 values 428 do, the rest fall to the float rounding of the constant
    (`#eval` over all 512; sampled non-multiples never survive).  Survivors: 0, 3·5⁹, 300·5⁹; one short: 1·5⁹, 0.5 s
    = 256·5⁹, 1 ns, 123 456 789 ns, 999 999 999 ns.  (`harness/families/ch11.py` `tdf2_fields` draws NTP objects with
    0 ns for the generic C14 check for this reason.) -/
example : fracToNs Float.rne (nsToFrac Float.rne 0) = 0 ∧
    fracToNs Float.rne (nsToFrac Float.rne 5859375) = 5859375 ∧
    fracToNs Float.rne (nsToFrac Float.rne 585937500) = 585937500 ∧
    fracToNs Float.rne (nsToFrac Float.rne 1953125) = 1953124 ∧
    fracToNs Float.rne (nsToFrac Float.rne 500000000) = 499999999 ∧
    fracToNs Float.rne (nsToFrac Float.rne 1) = 0 ∧
    fracToNs Float.rne (nsToFrac Float.rne 123456789) = 123456788 ∧
    fracToNs Float.rne (nsToFrac Float.rne 999999999) = 999999998 := by decide +kernel

end Acra.Props.C14
