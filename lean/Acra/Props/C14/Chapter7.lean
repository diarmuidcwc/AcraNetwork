/-
  C14 — PTDP / PTFR equality.  PTDP compares payload, length, fragment, content; PTFR compares
  version, streamid, llp, ptdp_offset, payload (same `length` option assumed, as the property says).
  Foreign operands: the `isinstance` guard returns False (exercised by the harness oracles, no theorem here).
-/
import Acra.Lemmas.Chapter7
import Acra.Props.C10.Codecs
namespace Acra.Props.C14
open Acra.Py Acra.Model.Chapter7 Acra.Lemmas.Chapter7

theorem PTDP_eq_sound (a b : PTDP.State) (h : PTDP.eq a b = true) : (PTDP.pack a).2 = (PTDP.pack b).2 := by
  obtain ⟨h1, _, h3, h4⟩ := (PTDP_eq_iff a b).1 h
  -- `pack` reads payload, fragment and content only
  rw [ptdp_pack_any, ptdp_pack_any, h1, h3, h4]

/-- non-vacuity: equal although the low-latency marking (which is not encoded) differs -/
example : PTDP.eq { PTDP.fresh with payload := [1, 2, 3], length := 3, fragment := 3, content := 4 }
    { PTDP.fresh with payload := [1, 2, 3], length := 3, fragment := 3, content := 4, low_latency := true } = true := by decide

/-- the object decoded (into any prior state) from a's encoding compares equal to a as pack left it -/
theorem PTDP_eq_decode (a t : PTDP.State) (h : PTDP_WF a) :
    ∃ b, (PTDP.pack a).2 = .ok b ∧ (PTDP.unpack t b).2 = .ok [] ∧
      PTDP.eq (PTDP.pack a).1 (PTDP.unpack t b).1 = true := by
  obtain ⟨b, hp, _, hu⟩ := C10.PTDP_roundtrip a t h []
  rw [List.append_nil] at hu
  refine ⟨b, hp, by rw [hu], ?_⟩
  rw [hu, ptdp_pack_eq a h]
  exact (PTDP_eq_iff _ _).2 ⟨rfl, rfl, rfl, rfl⟩

example : PTDP_WF { PTDP.fresh with payload := [1, 2, 3], fragment := 3, content := 4 } :=
  ⟨by decide, by decide, by decide⟩

/-- with the same `length` option, `PTFR.eq a b` says `a = b` (`PTFR_eq_iff`: every other attribute is compared), so equal
    encodings are the least that follows -/
theorem PTFR_eq_sound (a b : PTFR.State) (h : PTFR.eq a b = true) (ho : a.length = b.length) :
    (PTFR.pack a).2 = (PTFR.pack b).2 := by
  obtain ⟨h1, h2, h3, h4, h5⟩ := (PTFR_eq_iff a b).1 h
  rw [ptfr_ext a b h1 h2 h3 h4 ho h5]

example :
    let a : PTFR.State := { PTFR.fresh with streamid := 1, llp := true, ptdp_offset := 0x7FF, length := 2, payload := [9, 9] }
    PTFR.eq a a = true ∧ a.length = a.length := ⟨by decide, rfl⟩

theorem PTFR_eq_decode (a t : PTFR.State) (h : PTFR_WF a) (hL : a.payload.length ≤ t.length) :
    ∃ b, (PTFR.pack a).2 = .ok b ∧ (PTFR.unpack t b).2 = .ok () ∧ PTFR.eq a (PTFR.unpack t b).1 = true := by
  obtain ⟨b, hp, hu⟩ := C10.PTFR_roundtrip a t h hL
  exact ⟨b, hp, by rw [hu], by rw [hu]; exact (PTFR_eq_iff _ _).2 ⟨rfl, rfl, rfl, rfl, rfl⟩⟩

example :
    let a : PTFR.State := { PTFR.fresh with streamid := 1, llp := true, ptdp_offset := 0x7FF, length := 2, payload := [9, 9] }
    let t : PTFR.State := { PTFR.fresh with length := 2, payload := [1, 2, 3], version := 3 }
    PTFR_WF a ∧ a.payload.length ≤ t.length :=
  ⟨⟨by decide, by decide, by decide, rfl⟩, by decide⟩

end Acra.Props.C14
