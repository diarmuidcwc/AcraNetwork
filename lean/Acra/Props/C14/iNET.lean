import Acra.Model.iNET
import Acra.Props.C01.iNET
namespace Acra.Props.C14
open Acra.Py Acra.Model.iNET Acra.Gen.iNET Acra.Lemmas.iNET

/-- two iNET objects that compare equal encode to the same bytes: `__eq__` compares every header
    field, the application fields, and what the packages encode to -/
theorem iNET_eq_sound (a b : State) (h : eq a b = .ok true) : (pack a).2 = (pack b).2 := by
  obtain ⟨h1, h2, h3, h4, h5, h6, h7, h8, p, ha, hb⟩ := (eq_ok_true_iff a b).1 h
  rw [pack_snd, pack_snd, ha, hb]
  exact frame_congr a b p h1 h2 h3 h4 h5 h6 h7 h8

/-- non-vacuity: equal although the packages' private length fields differ -/
example : eq { fresh with type := 3, app_fields := [1, 2], packages := [{ Pkg.fresh with definitionID := 7, payload := [1, 2, 3, 4, 5] }] }
    { fresh with type := 3, app_fields := [1, 2],
                 packages := [{ Pkg.fresh with definitionID := 7, payload := [1, 2, 3, 4, 5], length := 99 }] } = .ok true := rfl

/-- the object decoded from a's encoding compares equal to a -/
theorem iNET_eq_decode (a t : State) (h : iNET_WF a) :
    ∃ b, (pack a).2 = .ok b ∧ (unpack t b).2 = .ok () ∧ eq a (unpack t b).1 = .ok true := by
  obtain ⟨b, hp, hu, _⟩ := C01.iNET_roundtrip a t h
  refine ⟨b, hp, by rw [hu], ?_⟩
  rw [hu, eq_ok_true_iff]
  refine ⟨rfl, rfl, rfl, rfl, rfl, rfl, rfl, rfl, a.packages.flatMap pkgBytes, ?_, ?_⟩
  · rw [packPkgs_eq _ h.2.2.2.2.2.2.2.2.2.1]
  · rw [packPkgs_eq _ (iNET_WF_decoded a h).2.2.2.2.2.2.2.2.2.1]
    exact congrArg Except.ok (flatMap_pkgBytes_norm a.packages)

example : iNET_WF { fresh with type := 3, app_fields := [1, 2],
                               packages := [{ Pkg.fresh with definitionID := 7, payload := [1, 2, 3, 4, 5] }, Pkg.fresh] } :=
  wf_witness

/- `iNETPackage` defines no `__eq__` (equality is object identity), so there is nothing to state for it. -/

end Acra.Props.C14
