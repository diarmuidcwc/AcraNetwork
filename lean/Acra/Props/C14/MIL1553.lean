import Acra.Lemmas.Ch11MIL1553
import Acra.Props.C04.MIL1553
namespace Acra.Props.C14
open Acra.Py Acra.Model.Ch11Pay Acra.Model.Ch11Pay.MIL1553 Acra.Gen.Ch11MIL1553 Acra.Lemmas.Ch11MIL1553

theorem MILMsg_eq_sound (a b : Msg) (h : Msg.eq a b = true) : a.pack = b.pack := by
  rw [(Msg_eq_iff a b).1 h]

example : Msg.eq ⟨.rtc 77, 0xFFFF, 3, 3, [1, 2, 3]⟩ ⟨.rtc 77, 0xFFFF, 3, 3, [1, 2, 3]⟩ = true := by decide

/-- packet equality compares the messages, the count and the time-tag bits; equal packets encode identically -/
theorem MIL_eq_sound (a b : Packet) (h : Packet.eq a b = true) : a.pack.2 = b.pack.2 := by
  simp only [Packet.eq, Bool.and_eq_true, beq_iff_eq, msgsEq_iff] at h
  obtain ⟨⟨h1, h2⟩, h3⟩ := h
  rw [Packet_pack_closed, Packet_pack_closed, h1, h3]
  by_cases hl : b.messages.length = 0
  · rw [if_pos hl, if_pos hl]
  · rw [if_neg hl, if_neg hl]

/-- non-vacuity: equal although the time-stamp source option differs -/
example : Packet.eq { messages := [⟨.rtc 77, 0xFFFF, 3, 3, [1, 2, 3]⟩], msgcount := 1, ttb := 3, ipts_source := some 0 }
    { messages := [⟨.rtc 77, 0xFFFF, 3, 3, [1, 2, 3]⟩], msgcount := 1, ttb := 3, ipts_source := some 1 } = true := by decide

/-- the object decoded from `a`'s encoding compares equal to `a` as `pack` left it, provided `a`'s count
    is the number of its messages (what `append()` maintains) -/
theorem MIL_eq_decode (a t : Packet) (h : C04.MIL_WF a) (ho : t.ipts_source = a.ipts_source)
    (hc : a.msgcount = a.messages.length) :
    ∃ b, a.pack.2 = .ok b ∧ (Packet.unpack t b).2 = .ok () ∧ Packet.eq a.pack.1 (Packet.unpack t b).1 = true := by
  obtain ⟨b, hp, hu, _⟩ := C04.MIL_roundtrip a t h ho
  refine ⟨b, hp, by rw [hu], ?_⟩
  rw [hu, C04.MIL_pack_eq a h]
  simp [Packet.eq, msgsEq_iff, hc]

/-- non-vacuity of `MIL_eq_decode`: two messages (the first without data), count in step, decoder with the same source -/
example :
    let a : Packet := { messages := [⟨.rtc 1, 0, 0, 0, []⟩, ⟨.rtc 77, 0xFFFF, 3, 0, [1, 2, 3]⟩], msgcount := 2, ttb := 3,
                        ipts_source := some 0 }
    C04.MIL_WF a ∧ (Packet.fresh (some 0)).ipts_source = a.ipts_source ∧ a.msgcount = a.messages.length := by
  decide

end Acra.Props.C14
