/-
  C14 for the ch10 family: equality never equates objects that encode differently; an object decoded from
  another's encoding compares equal to it (where the format can express the object); the `isinstance`
  guard is the subject of Props/C14/Foreign.lean (`Chapter10UDP_eq_foreign`, `Chapter11_eq_foreign`, `PTPTime_eq_foreign`)
  — the model's `eq` is `__eq__` restricted to operands of the class.

  Chapter11.eq_decode is FALSE in general (known finding K5, /verif/known_findings.json): `unpack` leaves the filler inside `payload` and an empty
  `filler`, so for |payload| % 4 ≠ 0 the decoded object differs from the packed one in `payload` and
  `filler`.  Proved: the aligned case, and the negation witness.
-/
import Acra.Lemmas.Ch11
import Acra.Lemmas.Ch10UDP
namespace Acra.Props.C14
open Acra.Py Acra.Lemmas.Ch10 Acra

/-- two Chapter10UDP objects that compare equal encode to the same bytes (or raise the same exception):
    whatever the format of `a`, every field `pack` reads in that format is in the compared list -/
theorem udp_eq_sound (a b : Model.Ch10UDP.State) (h : Model.Ch10UDP.eq a b = true) :
    (Model.Ch10UDP.pack a).2 = (Model.Ch10UDP.pack b).2 := by
  rw [Lemmas.Ch10UDP.pack_eq, Lemmas.Ch10UDP.pack_eq]
  suffices hs : Lemmas.Ch10UDP.hdrR a = Lemmas.Ch10UDP.hdrR b ∧ Lemmas.Ch10UDP.extR a = Lemmas.Ch10UDP.extR b ∧
      a.payload = b.payload by
    dsimp only; rw [hs.1, hs.2.1, hs.2.2]
  simp only [Model.Ch10UDP.eq] at h
  by_cases h1 : a.type = Gen.Ch10UDP.TYPE_SEG ∧ a.version = 1
  · simp only [h1, and_self, if_true, Bool.and_eq_true, beq_iff_eq] at h
    obtain ⟨⟨⟨⟨⟨⟨e1, e2⟩, e3⟩, e4⟩, e5⟩, e6⟩, e7⟩ := h
    simp only [Lemmas.Ch10UDP.hdrR, Lemmas.Ch10UDP.extR, h1.1, h1.2, ← e1, ← e2, ← e3, ← e4, ← e5, ← e6, ← e7,
      Nat.reduceEqDiff, if_true, if_false, and_self]
  · simp only [h1, if_false] at h
    by_cases h2 : a.version = 2
    · simp only [h2, if_true, Bool.and_eq_true, beq_iff_eq] at h
      obtain ⟨⟨⟨⟨⟨⟨⟨e1, e2⟩, e3⟩, e4⟩, e5⟩, e6⟩, e7⟩, e8⟩ := h
      simp only [Lemmas.Ch10UDP.hdrR, Lemmas.Ch10UDP.extR, h2, ← e1, ← e2, ← e3, ← e4, ← e6, ← e8, Nat.reduceEqDiff,
        and_false, if_true, if_false, and_self]
    · simp only [h2, if_false] at h
      by_cases h3 : a.version = 3
      · simp only [h3, if_true, Bool.and_eq_true, beq_iff_eq] at h
        obtain ⟨⟨⟨⟨⟨e1, e2⟩, e3⟩, e4⟩, e5⟩, e6⟩ := h
        simp only [Lemmas.Ch10UDP.hdrR, Lemmas.Ch10UDP.extR, Model.Ch10UDP.srcField, h3, ← e1, ← e2, ← e3, ← e4, ← e5,
          ← e6, Nat.reduceEqDiff, and_false, if_true, if_false, and_self]
      · simp only [h3, if_false, Bool.and_eq_true, beq_iff_eq] at h
        obtain ⟨⟨⟨e1, e2⟩, e3⟩, e4⟩ := h
        simp only [Lemmas.Ch10UDP.hdrR, Lemmas.Ch10UDP.extR, ← e1, ← e2, ← e3, ← e4, h1, h2, h3, if_false, and_self]

/-- non-vacuity: two format-1 objects that differ only in stale format-3 attributes compare equal -/
example : Model.Ch10UDP.eq { Model.Ch10UDP.fresh with sequence := 0xABCDEF, payload := [1, 2, 3] }
    { Model.Ch10UDP.fresh with sequence := 0xABCDEF, payload := [1, 2, 3], sourceid := 5, offset_pkt_start := some 3 } = true := by
  decide

/-- decode(encode(a)) == a, format 1 (format 3: `udp_eq_decode_fmt3`): for every well-formed header, whatever state
    the decoding object was in -/
theorem udp_eq_decode_fmt1 (a t : Model.Ch10UDP.State) (h : Lemmas.Ch10UDP.WF1 a) :
    ∃ b, (Model.Ch10UDP.pack a).2 = .ok b ∧ (Model.Ch10UDP.unpack t b).2 = .ok () ∧
      Model.Ch10UDP.eq (Model.Ch10UDP.pack a).1 (Model.Ch10UDP.unpack t b).1 = true := by
  have hp := Lemmas.Ch10UDP.pack_fmt1 a h
  have hu := Lemmas.Ch10UDP.unpack_spec_fmt1 t a.type a.sequence a.payload h.2.1 h.2.2.1 h.2.2.2
  obtain ⟨hv, ht, ht1, hs⟩ := h
  refine ⟨_, by rw [hp], by rw [hu], ?_⟩
  rw [hp, hu]
  simp [Model.Ch10UDP.eq, Lemmas.Ch10UDP.dec1, hv, Gen.Ch10UDP.TYPE_SEG, ht1]

example : Lemmas.Ch10UDP.WF1 { Model.Ch10UDP.fresh with sequence := 0xABCDEF, payload := [1, 2, 3] } := by
  simp [Lemmas.Ch10UDP.WF1, Model.Ch10UDP.fresh, Gen.Ch10UDP.DEFAULT_VERSION, Gen.Ch10UDP.TYPE_FULL]

theorem udp_eq_decode_fmt3 (a t : Model.Ch10UDP.State) (o : Nat) (h : Lemmas.Ch10UDP.WF3 a o) :
    ∃ b, (Model.Ch10UDP.pack a).2 = .ok b ∧ (Model.Ch10UDP.unpack t b).2 = .ok () ∧
      Model.Ch10UDP.eq (Model.Ch10UDP.pack a).1 (Model.Ch10UDP.unpack t b).1 = true := by
  have hp := Lemmas.Ch10UDP.pack_fmt3 a o h
  obtain ⟨hv, hl, hsid, hseq, ho, ho2⟩ := h
  have hu := Lemmas.Ch10UDP.unpack_spec_fmt3 t a.sourceid_len a.sourceid a.sequence o a.payload hl hsid hseq ho2
  refine ⟨_, by rw [hp], by rw [hu], ?_⟩
  rw [hp, hu]
  simp [Model.Ch10UDP.eq, Lemmas.Ch10UDP.dec3, hv, ho]

example : Lemmas.Ch10UDP.WF3 { Model.Ch10UDP.fresh with version := 3, sourceid_len := 3, sourceid := 0x5A5, sequence := 0xFFFFF,
                                                        offset_pkt_start := some 12 } 12 := by
  simp [Lemmas.Ch10UDP.WF3]

/-- format 2: under the K1 exclusion, and with `channelsequence` — which format 2 does not carry but
    `__eq__` compares — at its default 0 -/
theorem udp_eq_decode_fmt2_partial (a t : Model.Ch10UDP.State) (h : Lemmas.Ch10UDP.WF2 a)
    (hk : a.sequence / 65536 % 16 ≠ 1 ∧ a.sequence / 65536 % 16 ≠ 3) (hc : a.channelsequence = 0) :
    ∃ b, (Model.Ch10UDP.pack a).2 = .ok b ∧ (Model.Ch10UDP.unpack t b).2 = .ok () ∧
      Model.Ch10UDP.eq (Model.Ch10UDP.pack a).1 (Model.Ch10UDP.unpack t b).1 = true := by
  have hp := Lemmas.Ch10UDP.pack_fmt2 a h
  obtain ⟨hv, ht, hs, hso, hch, hpl⟩ := h
  have hu := Lemmas.Ch10UDP.unpack_spec_fmt2 t a.type a.sequence a.segmentoffset a.channelID a.payload ht hs hso hch hpl hk
  refine ⟨_, by rw [hp], by rw [hu], ?_⟩
  rw [hp, hu]
  simp [Model.Ch10UDP.eq, Lemmas.Ch10UDP.dec2, hv, hc, Gen.Ch10UDP.TYPE_SEG]

example : Lemmas.Ch10UDP.WF2 { Model.Ch10UDP.fresh with version := 2, type := 3, sequence := 0xA2CDEF, segmentoffset := 0x123456,
                                                        channelID := 7, payload := [1, 2, 3, 4, 5] } ∧
    (0xA2CDEF / 65536 % 16 ≠ 1 ∧ 0xA2CDEF / 65536 % 16 ≠ 3) ∧
    ({ Model.Ch10UDP.fresh with version := 2, type := 3, sequence := 0xA2CDEF, segmentoffset := 0x123456,
                                channelID := 7, payload := [1, 2, 3, 4, 5] } : Model.Ch10UDP.State).channelsequence = 0 := by
  simp [Lemmas.Ch10UDP.WF2, Model.Ch10UDP.fresh]

/-- `__eq__` compares every attribute, so equal objects are the same object state and encode identically -/
theorem ch11_eq_sound (a b : Model.Ch11.State) (h : Model.Ch11.eq a b = true) : a = b := by
  simp only [Model.Ch11.eq, Bool.and_eq_true, beq_iff_eq] at h
  obtain ⟨⟨⟨⟨⟨⟨⟨⟨⟨⟨⟨⟨⟨⟨e1, e2⟩, e3⟩, e4⟩, e5⟩, e6⟩, e7⟩, e8⟩, e9⟩, ⟨e10, e11⟩⟩, e12⟩, e13⟩, e14⟩, e15⟩, e16⟩ := h
  cases a with
  | mk s1 c1 pl1 dl1 dv1 sq1 pf1 dt1 rt1 pt1 ts1 py1 dc1 fl1 hs1 =>
    cases b with
    | mk s2 c2 pl2 dl2 dv2 sq2 pf2 dt2 rt2 pt2 ts2 py2 dc2 fl2 hs2 =>
      cases pt1; cases pt2
      simp_all

theorem ch11_eq_sound_pack (a b : Model.Ch11.State) (h : Model.Ch11.eq a b = true) :
    Model.Ch11.pack a = Model.Ch11.pack b := by rw [ch11_eq_sound a b h]

example : Model.Ch11.eq { Model.Ch11.fresh with channelID := 0x1234, sequence := 3, payload := [1, 2, 3, 4] }
    { Model.Ch11.fresh with channelID := 0x1234, sequence := 3, payload := [1, 2, 3, 4] } = true := by decide

/-
  Full statement (FALSE, K5):
    theorem ch11_eq_decode (a t) (h : WFn a) : ∃ b, (pack a).2 = .ok b ∧ (unpack t b).2 = .ok () ∧ eq (pack a).1 (unpack t b).1 = true
  Proved: the case in which header + payload is already a multiple of four (no filler), the object's PTP time
  attribute is the default (there is no secondary header to carry it) and both objects have
  `data_checksum_size = 0`.
-/
theorem ch11_eq_decode_partial (a t : Model.Ch11.State) (h : Lemmas.Ch11.WFn a) (ha : a.payload.length % 4 = 0)
    (hp : a.ptptime = ⟨0, 0⟩) (ht : t.data_checksum_size = 0) :
    ∃ b, (Model.Ch11.pack a).2 = .ok b ∧ (Model.Ch11.unpack t b).2 = .ok () ∧
      Model.Ch11.eq (Model.Ch11.pack a).1 (Model.Ch11.unpack t b).1 = true := by
  obtain ⟨b, hpk, hu⟩ := Lemmas.Ch11.roundtrip_nosec a t h
  refine ⟨b, by rw [hpk], by rw [hu], ?_⟩
  rw [hpk, hu]
  obtain ⟨_, _, _, _, _, _, _, h8, _⟩ := h
  have hf : Spec.Ch11.fillLen (24 + 0 + a.payload.length) = 0 := by unfold Spec.Ch11.fillLen; omega
  simp [Model.Ch11.eq, Lemmas.Ch11.decoded, Lemmas.Ch11.packed, hf, hp, h8, ht]

/-- non-vacuity: an aligned 8-byte payload, every header field at its maximum -/
example :
    let a : Model.Ch11.State := { Model.Ch11.fresh with
      channelID := 0xFFFF, sequence := 0xFF, packetflag := 0x35, datatype := 0x50, relativetimecounter := 0xFFFFFFFFFFFF,
      payload := [1, 2, 3, 4, 5, 6, 7, 8] }
    Lemmas.Ch11.WFn a ∧ a.payload.length % 4 = 0 ∧ a.ptptime = ⟨0, 0⟩ ∧ Model.Ch11.fresh.data_checksum_size = 0 := by
  simp [Lemmas.Ch11.WFn, Model.Ch11.fresh, Gen.Ch11.DEFAULT_SYNCPATTERN, Gen.Ch11.DEFAULT_DATATYPEVERSION, Gen.Ch11.TS_RTC]

/-- K5, negation witness: a one-byte payload.  The packed object has `filler = FF FF FF`, `payload = 01`; the
    decoded one has `filler = ""`, `payload = 01 FF FF FF`: they do not compare equal. -/
theorem ch11_eq_decode_fails_unaligned :
    let a : Model.Ch11.State := { Model.Ch11.fresh with payload := [1] }
    Lemmas.Ch11.WFn a ∧ ∃ b, (Model.Ch11.pack a).2 = .ok b ∧ (Model.Ch11.unpack Model.Ch11.fresh b).2 = .ok () ∧
      (Model.Ch11.unpack Model.Ch11.fresh b).1.payload = [1, 0xFF, 0xFF, 0xFF] ∧
      Model.Ch11.eq (Model.Ch11.pack a).1 (Model.Ch11.unpack Model.Ch11.fresh b).1 = false := by
  refine ⟨by simp [Lemmas.Ch11.WFn, Model.Ch11.fresh, Gen.Ch11.DEFAULT_SYNCPATTERN, Gen.Ch11.DEFAULT_DATATYPEVERSION,
      Gen.Ch11.TS_RTC],
    [0x25, 0xEB, 0, 0, 28, 0, 0, 0, 1, 0, 0, 0, 5, 0, 0, 0, 0, 0, 0, 0, 0, 0, 0x47, 0xEB, 1, 0xFF, 0xFF, 0xFF],
    ?_, ?_, ?_, ?_⟩ <;> decide

theorem ptp_eq_sound (a b : Model.Ch11.PTP)
    (h : Model.Ch11.ptpEq (a.seconds, a.nanoseconds) (b.seconds, b.nanoseconds) = true) : a.pack = b.pack := by
  simp [Model.Ch11.ptpEq] at h
  obtain ⟨h1, h2⟩ := h
  cases a; cases b
  simp only at h1 h2
  have e1 : _ = _ := Int.ofNat.inj h1
  have e2 : _ = _ := Int.ofNat.inj h2
  subst e1; subst e2; rfl

example : Model.Ch11.ptpEq (1700000000, 999999999) (1700000000, 999999999) = true := by decide

theorem ptp_eq_decode (a : Model.Ch11.PTP) (hs : a.seconds < 2 ^ 32) (hn : a.nanoseconds < 2 ^ 32) :
    ∃ b, a.pack = .ok b ∧ Model.Ch11.PTP.unpack b = .ok a :=
  ⟨_, (Lemmas.Ch11.PTP_roundtrip a hs hn).1, (Lemmas.Ch11.PTP_roundtrip a hs hn).2⟩

example : (⟨1700000000, 999999999⟩ : Model.Ch11.PTP).seconds < 2 ^ 32 ∧ (⟨1700000000, 999999999⟩ : Model.Ch11.PTP).nanoseconds < 2 ^ 32 := by
  decide

end Acra.Props.C14
