/-
  C18, SAM/DEC pcap decommutation: reading a capture of iNET-X packets on the SAM/DEC stream, each
  carrying the 10-byte SAM/DEC header followed by a whole number of equal-length PCM frames that start
  with the sync word, yields exactly those frames, byte-identical and in order, and ignores packets
  that are not UDP, too short, not iNET-X or on another stream.

  Model: Acra.Model.SamDec.decom (= `list(SamDecPcap(file).frames())` with the exception, if any).
  Spec:  Acra.Spec.SamDec (capture / record / packet layouts), Acra.Spec.occ.
  The capture is read through the `Pcap` class (`pcap.Pcap(fname, mode="r")`, `for rec in self._pcap`).  The model
  writes that iteration out once more (`Model.SamDec.pcapRec` iterated by `Py.decOff`); it is `Model.Pcap.nextRec` seen
  through `rec.payload` (`Lemmas.SamDec.pcapRec_eq_recStep`), so the reading part of C18 rests on the reader lemmas of C05.
  Items and their well-formedness are defined in Acra.Lemmas.SamDec, with four conditions on the first SAM/DEC
  packet.  `FirstLen` (the inferred frame length is `L`) is the exact one: `frames_exact_iff`.  `FirstClean` (no
  sync word begins inside the 10-byte header or the first frame's data) is the sufficient condition to read;
  `FirstSync'` (the first two occurrences are the first two frame starts) says the same with the occurrence
  list and is the hypothesis of `frames_exact`; `FirstSync` (occurrences at the frame starts only) is stronger
  than needed.  The sync pattern may occur as data in any frame but the first of the first SAM/DEC packet.

  Outside the statement (DESIGN §8), shown by the examples at the end: a first SAM/DEC packet without a
  sync word raises `Exception`; a frame that does not start with the sync word raises `TypeError`
  (`frame_length = None`, then `int + None`) after the frames before it have been yielded.
-/
import Acra.Lemmas.SamDecTotal
import Acra.Props.C08.Search
namespace Acra.Props.C18
open Acra.Py Acra.Model.SamDec Acra.Model.Search Acra.Gen.SamDec Acra.Spec Acra.Spec.SamDec Acra.Lemmas.SamDec

/-- the exact form: all that is asked of the first SAM/DEC packet is that the code infers the frame length `L` from it
    (`FirstLen`); nothing is asked of the data of any frame -/
theorem frames_exact_of_inferred (ghdr : Bytes) (L : Nat) (recs : List (Nat × Nat × Item))
    (hg : ghdr.length = 24)
    (hwf : ∀ r ∈ recs, r.2.2.WF L)
    (hfirst : FirstLen L (recs.map (·.2.2))) :
    decom (capture ghdr (recs.map fun r => record r.1 r.2.1 r.2.2.bytes)) =
      ((recs.map (·.2.2)).flatMap Item.frames, none) := by
  rw [decom_items ghdr hg recs hwf]
  exact framesLoop_items_len L _ (items_WF_of_recs hwf) none (.inr ⟨rfl, hfirst⟩)

/-- the hypothesis of `frames_exact_of_inferred` is not only sufficient but NECESSARY.  (Otherwise every frame the
    decommutator yields has the inferred length, or it raises.) -/
theorem frames_exact_iff (ghdr : Bytes) (L : Nat) (recs : List (Nat × Nat × Item))
    (hg : ghdr.length = 24)
    (hwf : ∀ r ∈ recs, r.2.2.WF L) :
    decom (capture ghdr (recs.map fun r => record r.1 r.2.1 r.2.2.bytes)) =
      ((recs.map (·.2.2)).flatMap Item.frames, none) ↔ FirstLen L (recs.map (·.2.2)) := by
  refine ⟨fun h => ?_, frames_exact_of_inferred ghdr L recs hg hwf⟩
  rw [decom_items ghdr hg recs hwf] at h
  exact Classical.byContradiction fun hbad => framesLoop_items_conv L _ (items_WF_of_recs hwf) hbad h

/-- `frames_exact`: for a capture built from records (time stamp, item), every item well formed for the
    common frame length `L`, the decommutator returns the concatenation of all frames in order and ends
    without an exception.  `FirstSync'` asks only what the code needs of the first SAM/DEC packet: its first
    two occurrences of the sync word are the first two frame starts (or its single frame's start is the only
    occurrence).  The sync pattern may occur as data from the second frame of that packet on, and anywhere
    in the later packets, as C18 allows. -/
theorem frames_exact (ghdr : Bytes) (L : Nat) (recs : List (Nat × Nat × Item))
    (hg : ghdr.length = 24)
    (hwf : ∀ r ∈ recs, r.2.2.WF L)
    (hfirst : FirstSync' L (recs.map (·.2.2))) :
    decom (capture ghdr (recs.map fun r => record r.1 r.2.1 r.2.2.bytes)) =
      ((recs.map (·.2.2)).flatMap Item.frames, none) :=
  frames_exact_of_inferred ghdr L recs hg hwf (hfirst.firstLen (items_WF_of_recs hwf))

theorem FirstSync'_iff_FirstClean (L : Nat) (items : List Item) (hwf : ∀ it ∈ items, it.WF L) :
    FirstSync' L items ↔ FirstClean L items :=
  first_samdec_cases (P := fun items => FirstSync' L items ↔ FirstClean L items) Iff.rfl (fun _ _ _ ih => ih)
    (fun _ _ _ _ _ _ _ _ _ hw => hw.framed.firstTwo_iff_clean) items hwf

/-- the same theorem with the hypothesis said without lists: in the first SAM/DEC packet no occurrence of the
    sync word begins inside the 10-byte header or inside the first frame's data -/
theorem frames_exact_clean (ghdr : Bytes) (L : Nat) (recs : List (Nat × Nat × Item))
    (hg : ghdr.length = 24)
    (hwf : ∀ r ∈ recs, r.2.2.WF L)
    (hfirst : FirstClean L (recs.map (·.2.2))) :
    decom (capture ghdr (recs.map fun r => record r.1 r.2.1 r.2.2.bytes)) =
      ((recs.map (·.2.2)).flatMap Item.frames, none) :=
  frames_exact ghdr L recs hg hwf ((FirstSync'_iff_FirstClean L _ (items_WF_of_recs hwf)).mpr hfirst)

theorem frames_exact_sync_only_at_starts (ghdr : Bytes) (L : Nat) (recs : List (Nat × Nat × Item))
    (hg : ghdr.length = 24)
    (hwf : ∀ r ∈ recs, r.2.2.WF L)
    (hfirst : FirstSync L (recs.map (·.2.2))) :
    decom (capture ghdr (recs.map fun r => record r.1 r.2.1 r.2.2.bytes)) =
      ((recs.map (·.2.2)).flatMap Item.frames, none) :=
  frames_exact ghdr L recs hg hwf (hfirst.firstSync' (items_WF_of_recs hwf))

/-- frame-length inference: one sync word (`k = 1`) gives `len(payload) − 10`, several give
    `offset[1] − offset[0]`; both are the frame length when the sync words are the `k` frame starts -/
theorem inferLength_exact (L k : Nat) (hk : 1 ≤ k) (payload : Bytes) (hlen : payload.length = 10 + k * L)
    (hocc : occ payload syncWord = (List.range k).map (fun j => 10 + L * j)) :
    inferLength syncWord payload = .ok (L : Int) :=
  inferLength_firstTwo hlen (firstTwo_of_starts hk hocc)

/-- foreign traffic is ignored whatever the state: a packet that is too short, not UDP, not iNET-X or on
    another stream contributes no datagram, or a datagram that yields nothing and leaves `frame_length` alone -/
theorem foreign_ignored (pkt : Bytes) (h : Foreign pkt) (fl : Option Int) :
    udpData pkt = none ∨ ∃ d, udpData pkt = some d ∧ onPacket syncWord d fl = ([], fl, none) :=
  onPacket_foreign pkt h fl

/-- the fixed-offset UDP filter, exactly (C09-style) -/
theorem udp_filter_iff (pkt : Bytes) :
    udpData pkt = if 0x46 < pkt.length ∧ pkt[0x17]? = some 17 then some (pkt.drop 0x2A) else none :=
  udpData_eq pkt

/-- reading the records of any file terminates (C08): the fuel `len(file) + 1` never runs out -/
theorem pcapRecords_fuel_sufficient (file : Bytes) : pcapRecords file ≠ .error .fuel :=
  (Acra.Props.C08.pcapRecords_total file).1

/-! Non-vacuity: a capture with a foreign (TCP) packet and two SAM/DEC packets of two and one 6-byte frames. -/

def exL234 : Bytes := List.replicate 23 0 ++ [17] ++ List.replicate 18 0
def exF (a b : UInt8) : Bytes := syncWord ++ [a, b]
def exItems : List (Nat × Nat × Item) :=
  [(1, 2, .foreign (List.replicate 23 0 ++ [6] ++ List.replicate 60 0)),
   (3, 4, .samdec exL234 0x11000000 7 8 9 0 (List.replicate 10 0) [exF 1 2, exF 3 4]),
   (5, 6, .samdec exL234 0x11000000 8 8 9 0 (List.replicate 10 1) [exF 5 6])]

example : ∀ r ∈ exItems, r.2.2.WF 6 := by
  simp only [exItems, List.forall_mem_cons, List.not_mem_nil, false_imp_iff, implies_true, and_true, Item.WF, Foreign]
  decide +kernel

example : FirstSync 6 (exItems.map (·.2.2)) := by
  simp only [exItems, List.map_cons, FirstSync]
  decide +kernel

example : FirstSync' 6 (exItems.map (·.2.2)) := by
  simp only [exItems, List.map_cons, FirstSync']
  exact Or.inl ⟨[], by decide +kernel⟩

example : decom (capture (List.replicate 24 0) (exItems.map fun r => record r.1 r.2.1 r.2.2.bytes)) =
    ([exF 1 2, exF 3 4, exF 5 6], none) := by decide +kernel

/-! The sync pattern as DATA: 10-byte frames; the second frame of the first SAM/DEC packet and the frame of the
    second packet carry the sync word again in their data (`occ = [10, 20, 25]` in the first packet).  The
    stronger hypothesis `FirstSync` fails, `FirstSync'` / `FirstClean` hold, and the frames come back intact. -/

def exG (a : UInt8) (d : Bytes) : Bytes := syncWord ++ [a] ++ d
def exPlanted : List (Nat × Nat × Item) :=
  [(1, 2, .foreign (List.replicate 23 0 ++ [6] ++ List.replicate 60 0)),
   (3, 4, .samdec exL234 0x11000000 7 8 9 0 (List.replicate 10 0)
      [exG 1 [2, 3, 4, 5, 6], exG 9 (syncWord ++ [9])]),
   (5, 6, .samdec exL234 0x11000000 8 8 9 0 (List.replicate 10 1) [exG 7 (syncWord ++ [8])])]

example : ∀ r ∈ exPlanted, r.2.2.WF 10 := by
  simp only [exPlanted, List.forall_mem_cons, List.not_mem_nil, false_imp_iff, implies_true, and_true, Item.WF, Foreign]
  decide +kernel

example : occ (List.replicate 10 0 ++ [exG 1 [2, 3, 4, 5, 6], exG 9 (syncWord ++ [9])].flatten) syncWord = [10, 20, 25] := by
  decide +kernel

example : FirstSync' 10 (exPlanted.map (·.2.2)) := by
  simp only [exPlanted, List.map_cons, FirstSync']
  exact Or.inl ⟨[25], by decide +kernel⟩

example : FirstClean 10 (exPlanted.map (·.2.2)) := by
  simp only [exPlanted, List.map_cons, FirstClean]
  decide +kernel

example : ¬ FirstSync 10 (exPlanted.map (·.2.2)) := by
  simp only [exPlanted, List.map_cons, FirstSync]
  decide +kernel

example : decom (capture (List.replicate 24 0) (exPlanted.map fun r => record r.1 r.2.1 r.2.2.bytes)) =
    ([exG 1 [2, 3, 4, 5, 6], exG 9 (syncWord ++ [9]), exG 7 (syncWord ++ [8])], none) := by decide +kernel

/-! `FirstLen` is strictly weaker than `FirstSync'`: with 8-byte frames and the sync word at offset 2 of the
    SAM/DEC header the occurrences are `[2, 10, 18]`, the code infers 10 − 2 = 8, and the frames come back. -/
def exHdrSync : List (Nat × Nat × Item) :=
  [(3, 4, .samdec exL234 0x11000000 7 8 9 0 ([0, 0] ++ syncWord ++ [0, 0, 0, 0])
      [syncWord ++ [1, 2, 3, 4], syncWord ++ [5, 6, 7, 8]])]
example : FirstLen 8 (exHdrSync.map (·.2.2)) := by
  have : occ ([0, 0] ++ syncWord ++ [0, 0, 0, 0] ++ [syncWord ++ [1, 2, 3, 4], syncWord ++ [5, 6, 7, 8]].flatten) syncWord =
      [2, 10, 18] := by decide +kernel
  simp only [exHdrSync, List.map_cons, FirstLen, inferLength_eq _ _ (show syncWord ≠ [] by decide), this]
  rfl
example : ¬ FirstSync' 8 (exHdrSync.map (·.2.2)) := by
  simp only [exHdrSync, List.map_cons, FirstSync']
  have : occ ([0, 0] ++ syncWord ++ [0, 0, 0, 0] ++ [syncWord ++ [1, 2, 3, 4], syncWord ++ [5, 6, 7, 8]].flatten) syncWord =
      [2, 10, 18] := by decide +kernel
  simp only [this]
  simp

example : decom (capture (List.replicate 24 0) (exHdrSync.map fun r => record r.1 r.2.1 r.2.2.bytes)) =
    ([syncWord ++ [1, 2, 3, 4], syncWord ++ [5, 6, 7, 8]], none) := by decide +kernel

/-! `FirstSync'` is what the code needs of the frame STARTS; the sync pattern inside the first frame's data
    (here at offset 15 of the payload) makes the code infer the frame length 5 instead of 10: three 5-byte
    "frames", then `TypeError`. -/
example : decom (capture (List.replicate 24 0)
    [record 0 0 (packet exL234 0 0 0 0 0 (List.replicate 10 0) [exG 1 (syncWord ++ [2]), exG 3 [4, 5, 6, 7, 8]])]) =
    ([syncWord ++ [1], syncWord ++ [2], syncWord ++ [3]], some .type) := by decide +kernel

/-- non-vacuity of `inferLength_exact`: a 10-byte header and two 6-byte frames, sync words at 10 and 16 -/
example : (1 : Nat) ≤ 2 ∧ (List.replicate 10 0 ++ exF 1 2 ++ exF 3 4 : Bytes).length = 10 + 2 * 6 ∧
    occ (List.replicate 10 0 ++ exF 1 2 ++ exF 3 4) syncWord = (List.range 2).map (fun j => 10 + 6 * j) := by decide +kernel

/-- non-vacuity of `foreign_ignored`, one witness per kind of foreign traffic the property names: too short; not UDP
    (protocol byte 6); UDP but not iNET-X (the length field does not match); well-formed iNET-X on another stream
    (stream id 1; the last one is longer than 0x46 bytes and says UDP, so only the stream clause applies) -/
example : Foreign (List.replicate 10 0) ∧
    Foreign (List.replicate 23 0 ++ [6] ++ List.replicate 60 0) ∧
    Foreign (exL234 ++ List.replicate 30 0) ∧
    Foreign (exL234 ++ [0, 0, 0, 0, 0, 0, 0, 1, 0, 0, 0, 0, 0, 0, 0, 32] ++ List.replicate 16 0) ∧
    ¬ ((exL234 ++ [0, 0, 0, 0, 0, 0, 0, 1, 0, 0, 0, 0, 0, 0, 0, 32] ++ List.replicate 16 0 : Bytes).length ≤ 0x46) ∧
    (exL234 ++ [0, 0, 0, 0, 0, 0, 0, 1, 0, 0, 0, 0, 0, 0, 0, 32] ++ List.replicate 16 0 : Bytes)[0x17]? = some 17 := by
  refine ⟨Or.inl (by decide), Or.inr (Or.inl (by decide)), Or.inr (Or.inr (Or.inl (by decide))),
    Or.inr (Or.inr (Or.inr (by decide))), by decide, by decide⟩

/-! Outside the hypotheses: no sync word in the first SAM/DEC packet → `Exception`;
    a later frame without sync → the frames before it, then `TypeError`. -/
example : decom (capture (List.replicate 24 0)
    [record 0 0 (packet exL234 0 0 0 0 0 (List.replicate 10 0) [[1, 2, 3, 4, 5, 6]])]) = ([], some .generic) := by decide +kernel
example : decom (capture (List.replicate 24 0)
    [record 0 0 (packet exL234 0 0 0 0 0 (List.replicate 10 0) [exF 1 2, exF 3 4]),
     record 0 0 (packet exL234 0 0 0 0 0 (List.replicate 10 0) [exF 5 6, [9, 9, 9, 9, 9, 9]])]) =
    ([exF 1 2, exF 3 4, exF 5 6], some .type) := by decide +kernel

end Acra.Props.C18
