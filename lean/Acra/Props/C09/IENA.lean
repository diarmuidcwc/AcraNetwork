import Acra.Lemmas.IENA
namespace Acra.Props.C09
open Acra.Py Acra.Model.IENA Acra.Gen.IENA Acra.Lemmas.RecordsErr Acra.Lemmas.IENA

/-- both values of the `lengthError` option in one statement (the two theorems below fix it by hypothesis) -/
theorem IENA_accepts_iff_all (t : Base) (buf : Bytes) :
    (Base.unpack t buf).2 = .ok () ↔
      14 ≤ buf.length ∧ (t.lengthError = true → beNat (slice buf 2 4) * 2 = buf.length) := by
  simp only [IENA_decodes.ok_iff, baseRun_ok_iff]
  exact ⟨fun ⟨_, h⟩ => h.1, fun h => ⟨_, h, rfl⟩⟩

/-- IENA (length check on, the default) accepts a buffer exactly when it holds a whole header and
    the size field (bytes 2..3, big-endian, in 16-bit words) equals the real length -/
theorem IENA_accepts_iff (t : Base) (buf : Bytes) (hle : t.lengthError = true) :
    (Base.unpack t buf).2 = .ok () ↔ 14 ≤ buf.length ∧ beNat (slice buf 2 4) * 2 = buf.length := by
  rw [IENA_accepts_iff_all, hle]
  simp

/-- with the check switched off every buffer of at least 14 bytes is accepted -/
theorem IENA_accepts_iff_nocheck (t : Base) (buf : Bytes) (hle : t.lengthError = false) :
    (Base.unpack t buf).2 = .ok () ↔ 14 ≤ buf.length := by
  rw [IENA_accepts_iff_all, hle]
  simp

theorem IENA_accepted_payload_exact (t : Base) (buf : Bytes) (h : (Base.unpack t buf).2 = .ok ()) :
    (Base.unpack t buf).1.payload = slice buf 14 (buf.length - 2) ∧
    (Base.unpack t buf).1.payload.length = buf.length - 16 ∧
    (Base.unpack t buf).1.size = beNat (slice buf 2 4) ∧
    (Base.unpack t buf).1.lengthError = t.lengthError := by
  obtain ⟨⟨h14, _⟩, hu⟩ := (baseRun_ok_iff ..).1 (IENA_decodes.of_ok h)
  rw [hu]
  exact ⟨rfl, by simp only [IENA_ofBytes, slice_length]; omega, rfl, rfl⟩

/-- witnesses (non-trivial header, 2-byte payload, trailer DE AD): size = 9 words = 18 bytes accepted; size 18 ≠ 9
    rejected with the bare `Exception`; the same buffer accepted with the check switched off; 13 bytes rejected -/
example : (Base.unpack Base.fresh ([0,1, 0,9, 0,0, 0,0,0,5, 0,0, 0,9] ++ [1,2] ++ [0xDE,0xAD])).2 = .ok () := by rfl
example : (Base.unpack Base.fresh ([0,1, 0,9, 0,0, 0,0,0,5, 0,0, 0,9] ++ [1,2] ++ [0xDE,0xAD])).1.payload = [1,2] := by rfl
example : (Base.unpack Base.fresh ([0,1, 0,18, 0,0, 0,0,0,5, 0,0, 0,9] ++ [1,2] ++ [0xDE,0xAD])).2 = .error .generic := by rfl
example : (Base.unpack Base.fresh ([0,1, 0,10, 0,0, 0,0,0,5, 0,0, 0,9] ++ [1,2] ++ [0xDE,0xAD])).2 = .error .generic := by rfl
example : (Base.unpack { Base.fresh with lengthError := false }
    ([0,1, 0,18, 0,0, 0,0,0,5, 0,0, 0,9] ++ [1,2] ++ [0xDE,0xAD])).2 = .ok () := by rfl
example : (Base.unpack Base.fresh [0,1, 0,9, 0,0, 0,0,0,5, 0,0, 0]).2 = .error .value := by rfl
/-- observation (inside the property as stated: declared = real): the 2-byte trailer is not part of the 14-byte
    minimum, so a 14-byte buffer declaring 7 words is accepted; its payload is empty and `endfield` is read from
    bytes 12..13, which are also the sequence field -/
example : (Base.unpack Base.fresh [0,1, 0,7, 0,0, 0,0,0,5, 0,0, 0,9]).2 = .ok () ∧
    (Base.unpack Base.fresh [0,1, 0,7, 0,0, 0,0,0,5, 0,0, 0,9]).1.endfield = 9 ∧
    (Base.unpack Base.fresh [0,1, 0,7, 0,0, 0,0,0,5, 0,0, 0,9]).1.sequence = 9 := ⟨rfl, rfl, rfl⟩

/-- the dataset length a parameter header declares: big-endian 16 bits at bytes 4..5 (`drop 4 (take 6 rem)` unfolds to
    the `slice rem 4 6` that `mRec` reads, which is what lets `mRec.run_accepts` close `IENAM_param_ok_iff`) -/
def declaredM (rem : Bytes) : Nat := beNat (List.drop 4 (List.take 6 rem))

/-- an IENA-M parameter is accepted exactly when its 6-byte header is present and the declared
    dataset length lies inside the bytes that remain — at every position of a multi-parameter
    packet, because the loop applies this step to the remaining bytes -/
theorem IENAM_param_ok_iff (rem : Bytes) :
    (∃ p n, decM rem = .ok (p, n)) ↔ 6 ≤ rem.length ∧ declaredM rem ≤ rem.length - 6 := by
  exact decM_eq ▸ mRec.run_accepts rem

/-- an accepted parameter's dataset has exactly the declared length: never truncated or padded -/
theorem IENAM_param_exact (rem : Bytes) (p : MParam) (n : Nat) (h : decM rem = .ok (p, n)) :
    p.dataset.length = declaredM rem ∧ n = 6 + declaredM rem + declaredM rem % 2 := by
  rw [decM_eq] at h
  obtain ⟨rfl, rfl, hle⟩ := lpRec_ok h
  exact ⟨mkM_dataset_length rem hle, rfl⟩

/-- witnesses for the per-parameter step: accepted with exactly the declared 2 bytes (and the rest left alone);
    declared 10 with 2 present rejected; declared 3 = present (odd, pad byte missing) accepted -/
example : decM [0,3,0,4,0,2,101,102,7,7] = .ok ({ paramid := 3, delay := 4, dataset := [101,102] }, 8) := by rfl
example : decM [0,3,0,4,0,10,101,102] = .error .generic := by rfl
example : decM [0,3,0,4,0,3,101,102,103] = .ok ({ paramid := 3, delay := 4, dataset := [101,102,103] }, 10) := by rfl
example : decM [0,3,0,4,0] = .error .struct := by rfl

/-- the IENA-M parameter area, read declaratively -/
inductive FitsM : Bytes → Prop
  | done : FitsM []
  | param (rem : Bytes) : 6 ≤ rem.length → declaredM rem ≤ rem.length - 6 →
      FitsM (rem.drop (6 + declaredM rem + declaredM rem % 2)) → FitsM rem

theorem decM_pos (b : Bytes) (x : MParam) (n : Nat) (h : decM b = .ok (x, n)) : 0 < n ∧ 0 < b.length :=
  have hp : Progress decM := decM_eq ▸ mRec.progress
  ⟨hp.pos b x n h, hp.lt_length (o := 0) h⟩

/-- one step of the declarative walk, in the shape the loop theorems ask for -/
theorem fitsM_unfold (rem : Bytes) : FitsM rem ↔ rem = [] ∨
    ((6 ≤ rem.length ∧ declaredM rem ≤ rem.length - 6) ∧ FitsM (rem.drop (6 + declaredM rem + declaredM rem % 2))) := by
  refine ⟨fun h => ?_, fun h => ?_⟩
  · cases h with
    | done => exact .inl rfl
    | param _ h1 h2 h3 => exact .inr ⟨⟨h1, h2⟩, h3⟩
  · rcases h with rfl | ⟨⟨h1, h2⟩, h3⟩
    · exact .done
    · exact .param rem h1 h2 h3

/-- IENA-M, whole packet: accepted exactly when the IENA frame is and the parameter area is a chain of
    parameters each of whose declared dataset lies inside the bytes that remain AT ITS POSITION -/
theorem IENAM_accepts_iff (t : MState) (buf : Bytes) :
    (MState.unpack t buf).2 = .ok () ↔
      (Base.unpack t.base buf).2 = .ok () ∧ FitsM (Base.unpack t.base buf).1.payload := by
  rw [typed_ok_iff IENAM_decodes]
  exact and_congr_right fun _ =>
    mRec.loop_ok_iff (Lemmas.Walk.more_iff fun _ _ => rfl) _ _ 0 (Nat.le_refl _) FitsM fitsM_unfold

/-- every parameter an accepted packet returns, at whatever position, has exactly the dataset length its header
    declares, lying wholly inside the payload: nothing truncated, padded or partially returned -/
theorem IENAM_accepted_every_param_exact (t : MState) (buf : Bytes) (h : (MState.unpack t buf).2 = .ok ()) :
    ∀ p ∈ (MState.unpack t buf).1.parameters, ∃ o,
      o + 6 + p.dataset.length ≤ (MState.unpack t buf).1.base.payload.length ∧
      p.dataset.length = declaredM ((MState.unpack t buf).1.base.payload.drop o) := by
  obtain ⟨ps, he, _, _, _, hmem⟩ := loopLP_ok IENAM_decodes h
  rw [he]
  intro p hp
  obtain ⟨o, hle, rfl⟩ := hmem p hp
  have hd := mkM_dataset_length ((Base.unpack t.base buf).1.payload.drop o) (by rw [List.length_drop]; omega)
  exact ⟨o, by rw [hd]; exact hle, hd⟩

/-- witnesses, whole packet (header declares 17 words = 34 bytes): two parameters `abcd`, `ef` accepted and
    returned whole; the SECOND length forced to 10 (only 2 bytes remain; the whole payload holds 18, so a comparison
    with the whole payload would accept it) rejected; the first forced to 13 (12 remain) rejected -/
example : (MState.unpack MState.fresh ([0,1, 0,17, 0,0, 0,0,0,5, 0,0, 0,9] ++ [0,1,0,2,0,4,97,98,99,100] ++
    [0,3,0,4,0,2,101,102] ++ [0xDE,0xAD])).2 = .ok () := by rfl
example : (MState.unpack MState.fresh ([0,1, 0,17, 0,0, 0,0,0,5, 0,0, 0,9] ++ [0,1,0,2,0,4,97,98,99,100] ++
    [0,3,0,4,0,2,101,102] ++ [0xDE,0xAD])).1.parameters.map (·.dataset) = [[97,98,99,100],[101,102]] := by rfl
example : (MState.unpack MState.fresh ([0,1, 0,17, 0,0, 0,0,0,5, 0,0, 0,9] ++ [0,1,0,2,0,4,97,98,99,100] ++
    [0,3,0,4,0,10,101,102] ++ [0xDE,0xAD])).2 = .error .generic := by rfl
example : (MState.unpack MState.fresh ([0,1, 0,17, 0,0, 0,0,0,5, 0,0, 0,9] ++ [0,1,0,2,0,13,97,98,99,100] ++
    [0,3,0,4,0,2,101,102] ++ [0xDE,0xAD])).2 = .error .generic := by rfl

end Acra.Props.C09
