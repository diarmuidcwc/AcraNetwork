import Acra.Lemmas.iNetX
namespace Acra.Props.C09
open Acra.Py Acra.Model.iNetX Acra.Gen.iNetX

/-- iNetX accepts a buffer exactly when it holds a whole header and the big-endian length word at
    bytes 12..15 equals the real buffer length; and then nothing is truncated or padded. -/
theorem iNetX_accepts_iff (t : State) (buf : Bytes) :
    (unpack t buf).2 = .ok () ↔ 28 ≤ buf.length ∧ beNat (slice buf 12 16) = buf.length := by
  simp only [Lemmas.iNetX.decodes.ok_iff, Lemmas.iNetX.run_ok_iff]
  exact ⟨fun ⟨_, h⟩ => h.1, fun h => ⟨_, h, rfl⟩⟩

theorem iNetX_accepted_payload_exact (t : State) (buf : Bytes) (h : (unpack t buf).2 = .ok ()) :
    (unpack t buf).1.payload = buf.drop 28 ∧ (unpack t buf).1.packetlen = buf.length := by
  obtain ⟨hok, hs⟩ := (Lemmas.iNetX.run_ok_iff ..).1 (Lemmas.iNetX.decodes.of_ok h)
  rw [hs]
  exact ⟨rfl, hok.2⟩

/-- witnesses (control 0x11000000, stream 0xDC, sequence 1, PTP 5 s / 6 ns, 2 payload bytes): length word 30 on a
    30-byte buffer accepted and the payload returned whole; length word 31 / 29 on the same bytes rejected; the
    same 30-declaring packet with a byte appended or removed rejected; a 27-byte buffer rejected -/
example : (unpack fresh ([0x11,0,0,0, 0,0,0,0xDC, 0,0,0,1, 0,0,0,30, 0,0,0,5, 0,0,0,6, 0,0,0,0] ++ [7,8])).2 = .ok () := by rfl
example : (unpack fresh ([0x11,0,0,0, 0,0,0,0xDC, 0,0,0,1, 0,0,0,30, 0,0,0,5, 0,0,0,6, 0,0,0,0] ++ [7,8])).1.payload = [7,8] := by rfl
example : (unpack fresh ([0x11,0,0,0, 0,0,0,0xDC, 0,0,0,1, 0,0,0,31, 0,0,0,5, 0,0,0,6, 0,0,0,0] ++ [7,8])).2 = .error .value := by rfl
example : (unpack fresh ([0x11,0,0,0, 0,0,0,0xDC, 0,0,0,1, 0,0,0,29, 0,0,0,5, 0,0,0,6, 0,0,0,0] ++ [7,8])).2 = .error .value := by rfl
example : (unpack fresh ([0x11,0,0,0, 0,0,0,0xDC, 0,0,0,1, 0,0,0,30, 0,0,0,5, 0,0,0,6, 0,0,0,0] ++ [7,8,9])).2 = .error .value := by rfl
example : (unpack fresh ([0x11,0,0,0, 0,0,0,0xDC, 0,0,0,1, 0,0,0,30, 0,0,0,5, 0,0,0,6, 0,0,0,0] ++ [7])).2 = .error .value := by rfl
example : (unpack fresh [0x11,0,0,0, 0,0,0,0xDC, 0,0,0,1, 0,0,0,27, 0,0,0,5, 0,0,0,6, 0,0,0]).2 = .error .value := by rfl

end Acra.Props.C09
