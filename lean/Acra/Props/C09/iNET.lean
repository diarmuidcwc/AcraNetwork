/-
  C09 for iNET and iNETPackage.  `iNET.unpack` checks "short buffer" (C09's list); `iNETPackage.unpack` checks
  that the declared package length is not below the 12-byte header but NOT that it lies inside the buffer
  (outside C09's list, DESIGN §12.4, notes/fti.md §4 F2).  What is proved about a package is therefore the exact
  closed form of what the code does with any declared length (`iNETPackage_unpack_payload`), the corollary
  "declared length within the buffer ⇒ payload of exactly the declared length" (`iNETPackage_exact`), and the
  exact acceptance condition of the whole message as a walk over the bytes (`iNET_accepts_iff`).
  `pkgDeclared`, `pkgAdvance`, `PkgOk`, `PkgWalk` are defined in Acra.Lemmas.iNETWalk.
-/
import Acra.Model.iNET
import Acra.Lemmas.Bits
import Acra.Lemmas.iNET
import Acra.Lemmas.iNETWalk
namespace Acra.Props.C09
open Acra.Py Acra.Model.iNET Acra.Gen.iNET Acra.Lemmas.Bits Acra.Lemmas.iNET Acra.Lemmas.Walk Acra.Lemmas.RecordsErr

/-- short buffer: anything shorter than the 24-byte header is rejected with ValueError and the object is untouched -/
theorem iNET_short_rejected (t : State) (buf : Bytes) (h : buf.length < 24) :
    unpack t buf = (t, .error .value) :=
  unpack_short t buf h

/-- the option word count the first byte declares (`Lemmas.iNET.optWc` under the name the statements use: the two
    unfold to the same term and the proofs pass one for the other) -/
def declaredWc (buf : Bytes) : Nat := beNat (buf.take 1) % 16

/-- short buffer, the other direction: an accepted buffer holds the header and all the option words its
    first byte declares -/
theorem iNET_accepted_not_short (t : State) (buf : Bytes) (h : (unpack t buf).2 = .ok ()) :
    24 + 4 * declaredWc buf ≤ buf.length :=
  have ⟨_, hs⟩ := (iNET_decodes.ok_iff t buf ()).1 h
  ((inetRun_ok_iff ..).1 hs).1

/-- the length a package header declares: big-endian 16 bits at bytes 4..5 (`Lemmas.iNET.pkgDeclared` under the name
    the statements use, `declaredPkgLen_eq`) -/
def declaredPkgLen (buf : Bytes) : Nat := beNat ((buf.drop 4).take 2)

theorem PKG_hdr (buf : Bytes) (h : 12 ≤ buf.length) :
    ∃ d r f t, structUnpackFrom PKG_FORMAT buf 0 = .ok [d, declaredPkgLen buf, r, f, t] :=
  ⟨_, _, _, _, pkgHdr_unpack buf h⟩

/-- a package is accepted exactly when its 12-byte header is present and the declared length is at
    least the header's -/
theorem iNETPackage_ok_iff (t : Pkg) (buf : Bytes) :
    (∃ r, (Pkg.unpack t buf).2 = .ok r) ↔ 12 ≤ buf.length ∧ 12 ≤ declaredPkgLen buf :=
  (exists_congr fun r => Pkg_decodes.ok_iff t buf r).trans
    ⟨fun ⟨_, _, h⟩ => ((pkgRun_ok_iff ..).1 h).1, fun h => ⟨_, _, (pkgRun_ok_iff ..).2 ⟨h, rfl, rfl⟩⟩⟩

theorem declaredPkgLen_eq (buf : Bytes) : declaredPkgLen buf = pkgDeclared buf := rfl

/-- `iNETPackage.unpack`, exactly, for every buffer that holds the 12-byte header and EVERY declared length
    `d ≥ 12`: `_length` is `d` as declared (not rewritten); the payload is `buffer[12:d]`, i.e.
    `buffer[12 : min d len(buffer)]`, so it has `min d len(buffer) − 12` bytes; the rest returned is
    `buffer[roundUp4 d:]` (empty when `d` points past the end); the other fields are what the layout says. -/
theorem iNETPackage_unpack_payload (t : Pkg) (buf : Bytes) (h12 : 12 ≤ buf.length) (hl : 12 ≤ declaredPkgLen buf) :
    (Pkg.unpack t buf).1.length = declaredPkgLen buf ∧
    (Pkg.unpack t buf).1.payload = slice buf 12 (declaredPkgLen buf) ∧
    (Pkg.unpack t buf).1.payload = slice buf 12 (min (declaredPkgLen buf) buf.length) ∧
    (Pkg.unpack t buf).1.payload.length = min (declaredPkgLen buf) buf.length - 12 ∧
    (Pkg.unpack t buf).2 = .ok (buf.drop (roundUp4 (declaredPkgLen buf))) ∧
    (Pkg.unpack t buf).1.definitionID = beNat (buf.take 4) ∧
    (Pkg.unpack t buf).1.flags = beNat ((buf.drop 7).take 1) ∧
    (Pkg.unpack t buf).1.timedelta = beNat ((buf.drop 8).take 4) := by
  rw [Pkg_decodes.of_run ((pkgRun_ok_iff ..).2 ⟨⟨h12, hl⟩, rfl, rfl⟩)]
  refine ⟨rfl, rfl, ?_, ?_, rfl, rfl, rfl, rfl⟩
  · exact (slice_min buf 12 (pkgDeclared buf)).symm
  · exact slice_length buf 12 (pkgDeclared buf)

theorem iNETPackage_unpack_closed (t : Pkg) (buf : Bytes) (h12 : 12 ≤ buf.length) (hl : 12 ≤ declaredPkgLen buf) :
    Pkg.unpack t buf = (pkgDecoded t buf, .ok (buf.drop (pkgAdvance buf))) :=
  Pkg_decodes.of_run ((pkgRun_ok_iff ..).2 ⟨⟨h12, hl⟩, rfl, rfl⟩)

/-- corollary: a declared length within the buffer (and not below the header's) gives a payload of exactly the
    declared length minus the header -/
theorem iNETPackage_exact (t : Pkg) (buf : Bytes) (hl : 12 ≤ declaredPkgLen buf) (hle : declaredPkgLen buf ≤ buf.length) :
    (Pkg.unpack t buf).1.payload = slice buf 12 (declaredPkgLen buf) ∧
    (Pkg.unpack t buf).1.payload.length = declaredPkgLen buf - 12 ∧
    (Pkg.unpack t buf).1.length = declaredPkgLen buf := by
  obtain ⟨h1, h2, _, h4, _⟩ := iNETPackage_unpack_payload t buf (Nat.le_trans hl hle) hl
  exact ⟨h2, by rw [h4, Nat.min_eq_left hle], h1⟩

/-- and only then: the payload of an accepted package has the declared length exactly when the declared
    length lies inside the buffer -/
theorem iNETPackage_exact_iff (t : Pkg) (buf : Bytes) (h12 : 12 ≤ buf.length) (hl : 12 ≤ declaredPkgLen buf) :
    (Pkg.unpack t buf).1.payload.length = declaredPkgLen buf - 12 ↔ declaredPkgLen buf ≤ buf.length := by
  rw [(iNETPackage_unpack_payload t buf h12 hl).2.2.2.1]
  omega

/-- the gap between `iNETPackage_unpack_payload` and "payload = declared − 12": a package declaring 100 bytes
    with none present is accepted -/
example : (Pkg.unpack Pkg.fresh [0, 0, 0, 1, 0, 100, 0, 0, 0, 0, 0, 0]).2 = .ok [] ∧
    (Pkg.unpack Pkg.fresh [0, 0, 0, 1, 0, 100, 0, 0, 0, 0, 0, 0]).1.payload = [] := ⟨rfl, rfl⟩

/-- non-vacuity of `iNETPackage_exact`: 14 declared, 16 present -/
example : 12 ≤ declaredPkgLen [0, 0, 0, 1, 0, 14, 0, 0, 0, 0, 0, 0, 7, 8, 0, 0] ∧
    declaredPkgLen [0, 0, 0, 1, 0, 14, 0, 0, 0, 0, 0, 0, 7, 8, 0, 0] ≤
      ([0, 0, 0, 1, 0, 14, 0, 0, 0, 0, 0, 0, 7, 8, 0, 0] : Bytes).length := by decide

/-- the package loop is the walk: `PkgWalk rem` holds when `rem` is empty, or the package at its front has a
    complete 12-byte header and declares at least 12 bytes, and the walk continues after the DECLARED length
    rounded up to four -/
theorem PkgWalk_iff (rem : Bytes) :
    PkgWalk rem ↔ rem = [] ∨ (PkgOk rem ∧ PkgWalk (rem.drop (pkgAdvance rem))) :=
  walk_iff PkgOk pkgAdvance rem

/-- iNET accepts a buffer exactly when it holds the 24-byte header, all the option words its first byte
    declares, and every package met while walking the rest by the declared lengths has a complete header and
    declares at least 12 bytes.  (The message length field is never looked at: notes/fti.md §4 F2.) -/
theorem iNET_accepts_iff (t : State) (buf : Bytes) :
    (unpack t buf).2 = .ok () ↔
      24 + 4 * declaredWc buf ≤ buf.length ∧ PkgWalk (buf.drop (24 + 4 * declaredWc buf)) := by
  simp only [iNET_decodes.ok_iff, inetRun_ok_iff]
  exact ⟨fun ⟨_, hle, pk, hd, _⟩ => ⟨hle, (decPkg_walk _).1 ⟨pk, hd⟩⟩,
    fun ⟨hle, hw⟩ => have ⟨pk, hd⟩ := (decPkg_walk _).2 hw; ⟨_, hle, pk, hd, rfl⟩⟩

/-- the F2 witness as a walk: one package declaring 100 bytes, 12 present — accepted, the walk jumps past the end -/
example : PkgWalk [0, 0, 0, 1, 0, 100, 0, 0, 0, 0, 0, 0] :=
  .step (by decide) (by decide) .done

/-- a package declaring fewer than 12 bytes, or a trailing incomplete header, is refused -/
example : ¬ PkgWalk [0, 0, 0, 1, 0, 11, 0, 0, 0, 0, 0, 0] :=
  fun h => absurd ((walk_cons_iff _ _ _ (List.cons_ne_nil _ _)).1 h).1 (by decide)
example : ¬ PkgWalk [0, 0, 0, 1, 0, 12, 0, 0, 0, 0, 0, 0, 1, 2, 3, 4] := fun h =>
  absurd ((walk_cons_iff _ _ _ (by decide)).1 ((walk_cons_iff _ _ _ (List.cons_ne_nil _ _)).1 h).2).1 (by decide)

/-- witnesses.  Header: version 1 / option word count in byte 0, type 1, definition 7, sequence 1, length word
    40, PTP 5 s / 6 ns; one package (definition 1, declared length 16, time delta 2) with 4 payload bytes. -/
private def inetHdr (wv : UInt8) : Bytes := [wv, 1, 0,0, 0,0,0,7, 0,0,0,1, 0,0,0,40, 0,0,0,5, 0,0,0,6]
/-- accepted (no option words; one option word), the package payload returned whole -/
example : (unpack fresh (inetHdr 0x10 ++ [0,0,0,1, 0,16, 0,0, 0,0,0,2, 1,2,3,4])).2 = .ok () := by rfl
example : (unpack fresh (inetHdr 0x10 ++ [0,0,0,1, 0,16, 0,0, 0,0,0,2, 1,2,3,4])).1.packages.map (·.payload) =
    [[1,2,3,4]] := by rfl
example : (unpack fresh (inetHdr 0x11 ++ [9,9,9,9] ++ [0,0,0,1, 0,16, 0,0, 0,0,0,2, 1,2,3,4])).2 = .ok () := by rfl
/-- rejected: 23-byte header (ValueError); two option words declared, one present; package header cut after 11 bytes;
    package declaring length 11 < 12 (ValueError) -/
example : (unpack fresh ((inetHdr 0x10).take 23)).2 = .error .value := by rfl
example : (unpack fresh (inetHdr 0x12 ++ [9,9,9,9])).2 = .error .struct := by rfl
example : (unpack fresh (inetHdr 0x10 ++ [0,0,0,1, 0,16, 0,0, 0,0,0])).2 = .error .struct := by rfl
example : (Pkg.unpack Pkg.fresh [0,0,0,1, 0,11, 0,0, 0,0,0,2, 1,2,3,4]).2 = .error .value := by rfl
/-- example for `iNETPackage_exact` (declared 16 ≤ 18 present): the payload is
    exactly the declared 4 bytes, the 2 bytes after it are left alone -/
example : (Pkg.unpack Pkg.fresh [0,0,0,1, 0,16, 0,0, 0,0,0,2, 1,2,3,4, 7,7]).2 = .ok [7,7] ∧
    (Pkg.unpack Pkg.fresh [0,0,0,1, 0,16, 0,0, 0,0,0,2, 1,2,3,4, 7,7]).1.payload = [1,2,3,4] := ⟨rfl, rfl⟩
/-- observation: the header's own length word (40 above, 44 bytes present) is not compared with anything -/
example : (unpack fresh (inetHdr 0x10 ++ [0,0,0,1, 0,16, 0,0, 0,0,0,2, 1,2,3,4] ++ [0,0,0,1, 0,12, 0,0, 0,0,0,3])).2 =
    .ok () := by rfl

theorem FitsPkgs_iff (rem : Bytes) :
    FitsPkgs rem ↔ rem = [] ∨ (12 ≤ rem.length ∧ 12 ≤ declaredPkgLen rem ∧
      FitsPkgs (rem.drop (roundUp4 (declaredPkgLen rem)))) :=
  (fitsPkgs_unfold rem).trans (or_congr_right and_assoc)

/-- iNET accepts a buffer exactly when it holds the 24-byte header, all the option words its first byte declares,
    and the rest FITS: a chain of complete package headers, each declaring at least 12 bytes, walked by the declared
    lengths.  Stated on the bytes only (`FitsPkgs` does not mention the decoder). -/
theorem iNET_accepts_iff_fits (t : State) (buf : Bytes) :
    (unpack t buf).2 = .ok () ↔
      24 + 4 * declaredWc buf ≤ buf.length ∧ FitsPkgs (buf.drop (24 + 4 * declaredWc buf)) := by
  rw [iNET_accepts_iff, fitsPkgs_iff_walk]

/-- the short-buffer check of `iNET.unpack` as an iff: a buffer is shorter than the 24-byte header exactly when `unpack`
    answers `ValueError` and leaves the object untouched WHATEVER the object's prior state.  (For one particular
    prior state the right-hand side can also hold on a long buffer — a package declaring fewer than 12 bytes also
    raises `ValueError`, and the state it leaves may coincide with the prior one — hence the quantifier.) -/
theorem iNET_short_iff (buf : Bytes) :
    buf.length < 24 ↔ ∀ t : State, unpack t buf = (t, .error .value) := by
  constructor
  · intro h t; exact iNET_short_rejected t buf h
  · intro h
    false_or_by_contra
    rename_i h24
    -- past the length check the object is changed: on `struct.error` or success the answer differs, and when the
    -- package loop raises the package list has been reset
    have h1 := h { fresh with packages := [Pkg.fresh] }
    rw [unpack_closed, if_neg h24] at h1
    split at h1
    · cases (Prod.mk.inj h1).2
    · split at h1
      · cases (Prod.mk.inj h1).2
      · cases congrArg State.packages (Prod.mk.inj h1).1

/-- the rejections, exactly and per exception kind.  `ValueError`: the buffer is shorter than 24 bytes, or — past the
    option words — the package walk reaches a complete package header declaring fewer than 12 bytes.  `struct.error`:
    the 24 bytes are there but not all declared option words, or the package walk reaches (with bytes left) an
    incomplete package header.  Nothing else is possible. -/
theorem iNET_rejects_iff (t : State) (buf : Bytes) :
    ((unpack t buf).2 = .error .value ↔ buf.length < 24 ∨
      (24 + 4 * declaredWc buf ≤ buf.length ∧ PkgsReject .value (buf.drop (24 + 4 * declaredWc buf)))) ∧
    ((unpack t buf).2 = .error .struct ↔ 24 ≤ buf.length ∧ (buf.length < 24 + 4 * declaredWc buf ∨
      PkgsReject .struct (buf.drop (24 + 4 * declaredWc buf)))) ∧
    ((unpack t buf).2 = .ok () ∨ (unpack t buf).2 = .error .value ∨ (unpack t buf).2 = .error .struct) := by
  have hloop : ∀ e, pkgLoop buf = .error e ↔ PkgsReject e (buf.drop (24 + 4 * declaredWc buf)) :=
    fun e => decPkg_loop_error_iff _ e
  have hwc : optWc buf = declaredWc buf := rfl
  refine ⟨?_, ?_, ?_⟩
  · rw [iNET_decodes.error_iff, inetRun_error_iff, hloop, hwc]
    simp only [reduceCtorEq, and_false, and_true, false_or]
  · rw [iNET_decodes.error_iff, inetRun_error_iff, hloop, hwc]
    simp only [reduceCtorEq, and_false, and_true, false_or]
    constructor
    · rintro (⟨h24, hlt⟩ | ⟨hle, hr⟩)
      · exact ⟨h24, Or.inl hlt⟩
      · exact ⟨by omega, Or.inr hr⟩
    · rintro ⟨h24, hlt | hr⟩
      · exact Or.inl ⟨h24, hlt⟩
      · by_cases hlt : buf.length < 24 + 4 * declaredWc buf
        · exact Or.inl ⟨h24, hlt⟩
        · exact Or.inr ⟨by omega, hr⟩
  · exact (R.ok_or_error fun e hr => by
      rcases (inetRun_error_iff buf e).1 ((iNET_decodes.error_iff t buf e).1 hr) with ⟨_, rfl⟩ | ⟨_, _, rfl⟩ | ⟨_, hl⟩
      · exact .inl rfl
      · exact .inr rfl
      · exact (pkgRec.loop_error _ _ 0 (Nat.le_refl _) (pkgLoop_eq buf ▸ hl)).symm).imp_left fun ⟨_, h⟩ => h

/-- witnesses for `iNET_accepts_iff_fits`: two packages, the first declaring 17 bytes (5 data + 3 pad), the second 12 -/
example : FitsPkgs [0,0,0,1, 0,17, 0,0, 0,0,0,2, 1,2,3,4,5, 0,0,0,   0,0,0,2, 0,12, 0,0, 0,0,0,3] :=
  .pkg _ (by decide) (by decide) (.pkg _ (by decide) (by decide) .done)
example : 24 + 4 * declaredWc (inetHdr 0x11 ++ [9,9,9,9] ++ [0,0,0,1, 0,16, 0,0, 0,0,0,2, 1,2,3,4]) ≤
      (inetHdr 0x11 ++ [9,9,9,9] ++ [0,0,0,1, 0,16, 0,0, 0,0,0,2, 1,2,3,4]).length ∧
    (inetHdr 0x11 ++ [9,9,9,9] ++ [0,0,0,1, 0,16, 0,0, 0,0,0,2, 1,2,3,4]).drop
      (24 + 4 * declaredWc (inetHdr 0x11 ++ [9,9,9,9] ++ [0,0,0,1, 0,16, 0,0, 0,0,0,2, 1,2,3,4])) =
      [0,0,0,1, 0,16, 0,0, 0,0,0,2, 1,2,3,4] := by decide
example : FitsPkgs [0,0,0,1, 0,16, 0,0, 0,0,0,2, 1,2,3,4] := .pkg _ (by decide) (by decide) .done
/-- one witness per constructor of `PkgsReject`: a package declaring 11 bytes (`ValueError`); 4 stray bytes after a
    complete package (`struct.error`, reached through `later`) -/
example : PkgsReject .value [0,0,0,1, 0,11, 0,0, 0,0,0,0] := .small _ (by decide) (by decide) rfl
example : PkgsReject .struct [0,0,0,1, 0,12, 0,0, 0,0,0,0, 1,2,3,4] :=
  .later _ (by decide) (by decide) (.short _ (by decide) (by decide) rfl)
/-- the decoder's verdicts on whole messages agree: every outcome of `iNET_rejects_iff` is reachable -/
example : (unpack fresh (inetHdr 0x10 ++ [0,0,0,1, 0,11, 0,0, 0,0,0,0])).2 = .error .value := by rfl
example : (unpack fresh (inetHdr 0x10 ++ [0,0,0,1, 0,12, 0,0, 0,0,0,0, 1,2,3,4])).2 = .error .struct := by rfl
/-- `iNET_short_iff`, right to left is not idle: on a 36-byte buffer whose package declares 11 bytes the answer is
    `ValueError` too, but the object is changed (the sequence number 1 of the header has been stored) -/
example : (unpack fresh (inetHdr 0x10 ++ [0,0,0,1, 0,11, 0,0, 0,0,0,0])).1.sequence = 1 := by rfl

/-- what an accepted iNET message returns, package by package (`area` = the bytes after the 24-byte header and the option
    words): every package object was decoded at some offset `o` of the package area where a complete 12-byte header
    declaring `d ≥ 12` stands; its `_length` is `d` and its payload exactly `area[o+12 : o+d]` — clamped at the end of the
    area: nothing that is not in the buffer is returned, but a declared length pointing past the end IS accepted with a
    shorter payload (observation F2, notes/fti.md) -/
theorem iNET_accepted_every_package (t : State) (buf : Bytes) (h : (unpack t buf).2 = .ok ()) :
    ∀ p ∈ (unpack t buf).1.packages, ∃ o,
      o + 12 ≤ (buf.drop (24 + 4 * declaredWc buf)).length ∧
      12 ≤ declaredPkgLen ((buf.drop (24 + 4 * declaredWc buf)).drop o) ∧
      p.length = declaredPkgLen ((buf.drop (24 + 4 * declaredWc buf)).drop o) ∧
      p.payload = slice ((buf.drop (24 + 4 * declaredWc buf)).drop o) 12
        (declaredPkgLen ((buf.drop (24 + 4 * declaredWc buf)).drop o)) := by
  obtain ⟨hle, pk, hd, hs⟩ := (inetRun_ok_iff ..).1 (iNET_decodes.of_ok h)
  rw [hs]
  intro p hp
  obtain ⟨o, _, hok, rfl⟩ := pkgRec.loop_mem (pkgLoop_eq buf ▸ hd) p hp
  have : 12 ≤ _ := hok.1
  rw [List.length_drop] at this
  exact ⟨o, by show o + 12 ≤ (area buf).length; omega, hok.2, rfl, rfl⟩

/-- witness: the accepted message with one option word returns one package: `_length` 16, payload the 4 bytes after its header -/
example : (unpack fresh (inetHdr 0x11 ++ [9,9,9,9] ++ [0,0,0,1, 0,16, 0,0, 0,0,0,2, 1,2,3,4])).1.packages.map
    (fun p => (p.length, p.payload)) = [(16, [1,2,3,4])] := by rfl

end Acra.Props.C09
