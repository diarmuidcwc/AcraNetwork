import Acra.Gen.Src.Cls.iNetX
import Acra.Model.iNetX
import Acra.Lemmas.SrcTieCls
import Acra.Props.C09.iNetX
import Acra.Props.C01.SrcTieCls
namespace Acra.Props.C09
open Acra Acra.Py Acra.Lemmas.SrcTieCls

/-! Method source ties (C09): the acceptance check of `iNetX.unpack` (regenerated from the Python
    source by `harness/translate_methods.py` on every run) is exact. -/

/-- the result of `iNetX.unpack` (accepted / which exception) does not depend on the object it is called on, and is
    the model's for every buffer -/
theorem src_iNetX_unpack_result (o : Gen.Src.Cls.iNetX.Obj) (t : Model.iNetX.State) (buf : Bytes) :
    (Gen.Src.Cls.iNetX.unpack o buf).2 = (Model.iNetX.unpack t buf).2.map (fun _ => true) := by
  rw [(iNetX.src_unpack_indep o (iNetX.ofModel t) buf).1, C01.src_iNetX_unpack_of]

/-- the source accepts a buffer exactly when it holds a whole header and the big-endian length word at bytes 12..15
    equals the real buffer length (every object, every buffer) -/
theorem src_iNetX_accepts_iff (o : Gen.Src.Cls.iNetX.Obj) (buf : Bytes) :
    (Gen.Src.Cls.iNetX.unpack o buf).2 = .ok true ↔ 28 ≤ buf.length ∧ beNat (slice buf 12 16) = buf.length := by
  rw [src_iNetX_unpack_result o Model.iNetX.fresh buf, ← iNetX_accepts_iff Model.iNetX.fresh buf]
  cases (Model.iNetX.unpack Model.iNetX.fresh buf).2 <;> simp [Except.map]

/-- and a buffer it does not accept is rejected with an exception (never `False`, never a silent truncation) -/
theorem src_iNetX_rejects (o : Gen.Src.Cls.iNetX.Obj) (buf : Bytes)
    (h : ¬ (28 ≤ buf.length ∧ beNat (slice buf 12 16) = buf.length)) :
    ∃ e, (Gen.Src.Cls.iNetX.unpack o buf).2 = .error e := by
  have h2 := mt (src_iNetX_accepts_iff o buf).1 h
  rw [src_iNetX_unpack_result o Model.iNetX.fresh buf] at h2 ⊢
  cases hr : (Model.iNetX.unpack Model.iNetX.fresh buf).2 with
  | error e => exact ⟨e, rfl⟩
  | ok u => rw [hr] at h2; simp [Except.map] at h2

example : ¬ (28 ≤ ([1, 2, 3] : Bytes).length ∧ beNat (slice ([1, 2, 3] : Bytes) 12 16) = ([1, 2, 3] : Bytes).length) := by
  decide

end Acra.Props.C09
