import Acra.Lemmas.IENAQDN
namespace Acra.Props.C09
open Acra.Py Acra.Model.IENA Acra.Gen.IENA Acra.Lemmas.RecordsErr Acra.Lemmas.IENA

/-- the dataset length an IENA-Q parameter header declares: big-endian 16 bits at bytes 2..3 -/
def declaredQ (rem : Bytes) : Nat := beNat (List.drop 2 (List.take 4 rem))

/-- an IENA-Q parameter is accepted exactly when its 4-byte header is present and the declared
    dataset length lies inside the bytes that remain — at every position of a multi-parameter
    packet, because the loop applies this step to the remaining bytes -/
theorem IENAQ_param_ok_iff (rem : Bytes) :
    (∃ p n, decQ rem = .ok (p, n)) ↔ 4 ≤ rem.length ∧ declaredQ rem ≤ rem.length - 4 := by
  exact decQ_eq ▸ qRec.run_accepts rem

/-- an accepted parameter's dataset has exactly the declared length: never truncated or padded -/
theorem IENAQ_param_exact (rem : Bytes) (p : QParam) (n : Nat) (h : decQ rem = .ok (p, n)) :
    p.dataset.length = declaredQ rem ∧ n = 4 + declaredQ rem + declaredQ rem % 2 := by
  rw [decQ_eq] at h
  obtain ⟨rfl, rfl, hle⟩ := lpRec_ok h
  exact ⟨mkQ_dataset_length rem hle, rfl⟩

/-- witnesses for the per-parameter step -/
example : decQ [0,3,0,2,101,102,7,7] = .ok ({ paramid := 3, dataset := [101,102] }, 6) := by rfl
example : decQ [0,3,0,10,101,102] = .error .generic := by rfl
example : decQ [0,3,0] = .error .struct := by rfl

/-- the IENA-Q parameter area, read declaratively -/
inductive FitsQ : Bytes → Prop
  | done : FitsQ []
  | param (rem : Bytes) : 4 ≤ rem.length → declaredQ rem ≤ rem.length - 4 →
      FitsQ (rem.drop (4 + declaredQ rem + declaredQ rem % 2)) → FitsQ rem

theorem decQ_pos (b : Bytes) (x : QParam) (n : Nat) (h : decQ b = .ok (x, n)) : 0 < n ∧ 0 < b.length :=
  have hp : Progress decQ := decQ_eq ▸ qRec.progress
  ⟨hp.pos b x n h, hp.lt_length (o := 0) h⟩

theorem fitsQ_unfold (rem : Bytes) : FitsQ rem ↔ rem = [] ∨
    ((4 ≤ rem.length ∧ declaredQ rem ≤ rem.length - 4) ∧ FitsQ (rem.drop (4 + declaredQ rem + declaredQ rem % 2))) := by
  refine ⟨fun h => ?_, fun h => ?_⟩
  · cases h with
    | done => exact .inl rfl
    | param _ h1 h2 h3 => exact .inr ⟨⟨h1, h2⟩, h3⟩
  · rcases h with rfl | ⟨⟨h1, h2⟩, h3⟩
    · exact .done
    · exact .param rem h1 h2 h3

/-- IENA-Q, whole packet: accepted exactly when the IENA frame is and the parameter area is a chain of
    parameters each of whose declared dataset lies inside the bytes that remain AT ITS POSITION -/
theorem IENAQ_accepts_iff (t : QState) (buf : Bytes) :
    (QState.unpack t buf).2 = .ok () ↔
      (Base.unpack t.base buf).2 = .ok () ∧ FitsQ (Base.unpack t.base buf).1.payload := by
  rw [typed_ok_iff IENAQ_decodes]
  exact and_congr_right fun _ =>
    qRec.loop_ok_iff (Lemmas.Walk.more_iff fun _ _ => rfl) _ _ 0 (Nat.le_refl _) FitsQ fitsQ_unfold

/-- every parameter an accepted packet returns, at whatever position, has exactly the dataset length its header
    declares, lying wholly inside the payload: nothing truncated, padded or partially returned -/
theorem IENAQ_accepted_every_param_exact (t : QState) (buf : Bytes) (h : (QState.unpack t buf).2 = .ok ()) :
    ∀ p ∈ (QState.unpack t buf).1.parameters, ∃ o,
      o + 4 + p.dataset.length ≤ (QState.unpack t buf).1.base.payload.length ∧
      p.dataset.length = declaredQ ((QState.unpack t buf).1.base.payload.drop o) := by
  obtain ⟨ps, he, _, _, _, hmem⟩ := loopLP_ok IENAQ_decodes h
  rw [he]
  intro p hp
  obtain ⟨o, hle, rfl⟩ := hmem p hp
  have hd := mkQ_dataset_length ((Base.unpack t.base buf).1.payload.drop o) (by rw [List.length_drop]; omega)
  exact ⟨o, by rw [hd]; exact hle, hd⟩

/-- witnesses, whole packet (header declares 15 words = 30 bytes): `abcd`, `ef` accepted and returned whole; the
    SECOND length forced to 10 (2 bytes remain, the whole payload holds 14) rejected; the first forced to 11 rejected -/
example : (QState.unpack QState.fresh ([0,1, 0,15, 0,0, 0,0,0,5, 0,0, 0,9] ++ [0,1,0,4,97,98,99,100] ++
    [0,3,0,2,101,102] ++ [0xDE,0xAD])).2 = .ok () := by rfl
example : (QState.unpack QState.fresh ([0,1, 0,15, 0,0, 0,0,0,5, 0,0, 0,9] ++ [0,1,0,4,97,98,99,100] ++
    [0,3,0,2,101,102] ++ [0xDE,0xAD])).1.parameters.map (·.dataset) = [[97,98,99,100],[101,102]] := by rfl
example : (QState.unpack QState.fresh ([0,1, 0,15, 0,0, 0,0,0,5, 0,0, 0,9] ++ [0,1,0,4,97,98,99,100] ++
    [0,3,0,10,101,102] ++ [0xDE,0xAD])).2 = .error .generic := by rfl
example : (QState.unpack QState.fresh ([0,1, 0,15, 0,0, 0,0,0,5, 0,0, 0,9] ++ [0,1,0,11,97,98,99,100] ++
    [0,3,0,2,101,102] ++ [0xDE,0xAD])).2 = .error .generic := by rfl

theorem decD1_ok (dwc : Nat) (payload : Bytes) (off : Nat) (h : off + (dwc * 2 + 4) ≤ payload.length) :
    ∃ p, decD1 dwc payload off = .ok p ∧ p.dwords.length = dwc :=
  ⟨dAt dwc payload off, by rw [decD1_closed, if_pos h], dAt_dwords_length dwc payload off⟩

theorem decDAll_ok (dwc : Nat) (payload : Bytes) (l : List Nat)
    (h : ∀ i ∈ l, i * (dwc * 2 + 4) + (dwc * 2 + 4) ≤ payload.length) :
    ∃ ps, decDAll dwc payload l = .ok ps ∧ ∀ p ∈ ps, p.dwords.length = dwc := by
  refine ⟨l.map fun i => dAt dwc payload (i * (dwc * 2 + 4)), ?_, fun p hp => ?_⟩
  · rw [decDAll_eq]
    exact Lemmas.mapR_eq_ok _ _ _ fun i hi => by rw [decD1_closed, if_pos (h i hi)]
  · obtain ⟨i, _, rfl⟩ := List.mem_map.1 hp
    exact dAt_dwords_length dwc payload _

/-- IENA-D accepts exactly the buffers IENA accepts whose payload is a whole number of
    `2·(keystatus & 7) + 4`-byte parameters -/
theorem IENAD_accepts_iff (t : DState) (buf : Bytes) :
    (DState.unpack t buf).2 = .ok () ↔
      (Base.unpack t.base buf).2 = .ok () ∧
      (Base.unpack t.base buf).1.payload.length % (2 * ((Base.unpack t.base buf).1.keystatus % 8) + 4) = 0 := by
  exact loopFix_ok_iff IENAD_decodes

theorem decN1_ok (dwc : Nat) (payload : Bytes) (off : Nat) (h : off + (dwc * 2 + 2) ≤ payload.length) :
    ∃ p, decN1 dwc payload off = .ok p ∧ p.dwords.length = dwc :=
  ⟨nAt dwc payload off, by rw [decN1_closed, if_pos h], nAt_dwords_length dwc payload off⟩

theorem decNAll_ok (dwc : Nat) (payload : Bytes) (l : List Nat)
    (h : ∀ i ∈ l, i * (dwc * 2 + 2) + (dwc * 2 + 2) ≤ payload.length) :
    ∃ ps, decNAll dwc payload l = .ok ps ∧ ∀ p ∈ ps, p.dwords.length = dwc := by
  refine ⟨l.map fun i => nAt dwc payload (i * (dwc * 2 + 2)), ?_, fun p hp => ?_⟩
  · rw [decNAll_eq]
    exact Lemmas.mapR_eq_ok _ _ _ fun i hi => by rw [decN1_closed, if_pos (h i hi)]
  · obtain ⟨i, _, rfl⟩ := List.mem_map.1 hp
    exact nAt_dwords_length dwc payload _

/-- IENA-N: a whole number of `2·(keystatus & 7) + 2`-byte parameters -/
theorem IENAN_accepts_iff (t : NState) (buf : Bytes) :
    (NState.unpack t buf).2 = .ok () ↔
      (Base.unpack t.base buf).2 = .ok () ∧
      (Base.unpack t.base buf).1.payload.length % (2 * ((Base.unpack t.base buf).1.keystatus % 8) + 2) = 0 := by
  exact loopFix_ok_iff IENAN_decodes

theorem decDAll_length (dwc : Nat) (payload : Bytes) (l : List Nat) (ps : List DParam)
    (h : decDAll dwc payload l = .ok ps) : ps.length = l.length := by
  rw [decDAll_eq] at h
  exact Lemmas.mapR_length _ _ _ h

/-- IENA-D, accepted ⇒ nothing truncated, padded or partially returned: as many parameters as whole
    `2n+4`-byte groups, covering the payload exactly, each with its full `n` data words -/
theorem IENAD_accepted_exact (t : DState) (buf : Bytes) (h : (DState.unpack t buf).2 = .ok ()) :
    (DState.unpack t buf).1.parameters.length * (2 * ((DState.unpack t buf).1.base.keystatus % 8) + 4) =
      (DState.unpack t buf).1.base.payload.length ∧
    ∀ p ∈ (DState.unpack t buf).1.parameters, p.dwords.length = (DState.unpack t buf).1.base.keystatus % 8 := by
  obtain ⟨ps, he, _, hm, hmem⟩ := loopFix_ok IENAD_decodes h
  rw [he]
  refine ⟨hm, fun p hp => ?_⟩
  obtain ⟨i, _, rfl⟩ := List.mem_map.1 (hmem ▸ hp)
  exact dAt_dwords_length _ _ _

/-- witnesses (keystatus 2 → two data words, 8 bytes per parameter): 16 payload bytes = two parameters accepted,
    each with 2 words; 14 payload bytes (one parameter and 6 stray bytes) rejected with ValueError -/
example : (DState.unpack DState.fresh ([0,1, 0,16, 0,0, 0,0,0,5, 2,0, 0,9] ++ [0,1,0,2,0,3,0,4, 0,5,0,6,0,7,0,8] ++
    [0xDE,0xAD])).2 = .ok () := by rfl
example : (DState.unpack DState.fresh ([0,1, 0,16, 0,0, 0,0,0,5, 2,0, 0,9] ++ [0,1,0,2,0,3,0,4, 0,5,0,6,0,7,0,8] ++
    [0xDE,0xAD])).1.parameters.map (·.dwords) = [[3,4],[7,8]] := by rfl
example : (DState.unpack DState.fresh ([0,1, 0,15, 0,0, 0,0,0,5, 2,0, 0,9] ++ [0,1,0,2,0,3,0,4, 0,5,0,6,0,7] ++
    [0xDE,0xAD])).2 = .error .value := by rfl
example : 8 + (2 * 2 + 4) ≤ ([0,1,0,2,0,3,0,4, 0,5,0,6,0,7,0,8] : Bytes).length := by decide

theorem decNAll_length (dwc : Nat) (payload : Bytes) (l : List Nat) (ps : List NParam)
    (h : decNAll dwc payload l = .ok ps) : ps.length = l.length := by
  rw [decNAll_eq] at h
  exact Lemmas.mapR_length _ _ _ h

/-- IENA-N, accepted ⇒ nothing truncated, padded or partially returned: as many parameters as whole
    `2n+2`-byte groups, covering the payload exactly, each with its full `n` data words -/
theorem IENAN_accepted_exact (t : NState) (buf : Bytes) (h : (NState.unpack t buf).2 = .ok ()) :
    (NState.unpack t buf).1.parameters.length * (2 * ((NState.unpack t buf).1.base.keystatus % 8) + 2) =
      (NState.unpack t buf).1.base.payload.length ∧
    ∀ p ∈ (NState.unpack t buf).1.parameters, p.dwords.length = (NState.unpack t buf).1.base.keystatus % 8 := by
  obtain ⟨ps, he, _, hm, hmem⟩ := loopFix_ok IENAN_decodes h
  rw [he]
  refine ⟨hm, fun p hp => ?_⟩
  obtain ⟨i, _, rfl⟩ := List.mem_map.1 (hmem ▸ hp)
  exact nAt_dwords_length _ _ _

/-- witnesses (keystatus 2 → 6 bytes per parameter): 12 payload bytes accepted as two parameters of 2 words;
    14 payload bytes rejected with ValueError -/
example : (NState.unpack NState.fresh ([0,1, 0,14, 0,0, 0,0,0,5, 2,0, 0,9] ++ [0,1,0,3,0,4, 0,5,0,7,0,8] ++
    [0xDE,0xAD])).2 = .ok () := by rfl
example : (NState.unpack NState.fresh ([0,1, 0,14, 0,0, 0,0,0,5, 2,0, 0,9] ++ [0,1,0,3,0,4, 0,5,0,7,0,8] ++
    [0xDE,0xAD])).1.parameters.map (·.dwords) = [[3,4],[7,8]] := by rfl
example : (NState.unpack NState.fresh ([0,1, 0,15, 0,0, 0,0,0,5, 2,0, 0,9] ++ [0,1,0,3,0,4, 0,5,0,7,0,8, 0,9] ++
    [0xDE,0xAD])).2 = .error .value := by rfl
example : 6 + (2 * 2 + 2) ≤ ([0,1,0,3,0,4, 0,5,0,7,0,8] : Bytes).length := by decide

end Acra.Props.C09
