import Acra.Model.ParserAligned
import Acra.Lemmas.ParserAligned
namespace Acra.Props.C09
open Acra.Py Acra.Model.ParserAligned Acra.Gen.ParserAligned Acra.Lemmas Acra.Lemmas.ParserAligned Acra.Lemmas.RecordsErr

/-- the quad-byte count a block header declares: the low nine bits of its first (big-endian) word
    (`Lemmas.ParserAligned.quads` under the name the statements use: the proofs pass one for the other by `show`) -/
def declaredQuads (buf : Bytes) : Nat := beNat (buf.take 2) % 512

theorem PAB_hdr (buf : Bytes) (h : 8 ≤ buf.length) :
    ∃ mc bi et, structUnpackFrom PAB_FORMAT buf 0 = .ok [beNat (buf.take 2), mc, bi, et] :=
  ⟨_, _, _, blockHdr_unpack buf h⟩

/-- parser-aligned block check, exact over all buffers: a block is accepted exactly when its 8-byte
    header is present, `quadbytes ≥ 2`, and `4·quadbytes` bytes are there -/
theorem ParserAlignedBlock_ok_iff (t : Block) (buf : Bytes) :
    (∃ n, (Block.unpack t buf).2 = .ok n) ↔
      8 ≤ buf.length ∧ 2 ≤ declaredQuads buf ∧ 4 * declaredQuads buf ≤ buf.length :=
  (exists_congr fun n => Block_decodes.ok_iff t buf n).trans
    ⟨fun ⟨_, _, h⟩ => ((blockRec.run_ok_iff ..).1 h).1, fun h => ⟨_, _, (blockRec.run_ok_iff ..).2 ⟨h, rfl, rfl⟩⟩⟩

/-- an accepted block is never truncated or padded: the length returned is `4·quadbytes` and the payload
    is exactly the `4·quadbytes − 8` bytes that follow the header -/
theorem ParserAlignedBlock_exact (t : Block) (buf : Bytes) (n : Nat) (h : (Block.unpack t buf).2 = .ok n) :
    n = 4 * declaredQuads buf ∧ (Block.unpack t buf).1.quadbytes = declaredQuads buf ∧
    (Block.unpack t buf).1.payload = slice buf 8 n ∧ (Block.unpack t buf).1.payload.length = n - 8 := by
  obtain ⟨hok, hb, rfl⟩ := (blockRec.run_ok_iff ..).1 (Block_decodes.of_ok h)
  rw [hb]
  refine ⟨rfl, rfl, rfl, ?_⟩
  show (slice buf 8 (4 * quads buf)).length = 4 * quads buf - 8
  rw [slice_length, Nat.min_eq_left hok.2.2]

/-- the two rejections past a complete header are `ValueError`s -/
theorem ParserAlignedBlock_reject_kinds (t : Block) (buf : Bytes) (h8 : 8 ≤ buf.length)
    (hbad : declaredQuads buf < 2 ∨ buf.length < 4 * declaredQuads buf) :
    (Block.unpack t buf).2 = .error .value :=
  (Block_decodes.error_iff t buf _).2 ((blockRec.run_error_iff buf .value).2 (Or.inr ⟨h8, fun h => by
    have : 2 ≤ declaredQuads buf ∧ 4 * declaredQuads buf ≤ buf.length := h
    omega, rfl⟩))

/-- witnesses for the block check: quadbytes 3 with its 12 bytes (and trailing bytes left alone) accepted,
    payload exactly 4 bytes; quadbytes 3 with 11 bytes, quadbytes 1, a 7-byte header: rejected -/
example : (Block.unpack Block.fresh [0,3, 1, 2, 0,0,0,9, 1,2,3,4, 7,7]).2 = .ok 12 ∧
    (Block.unpack Block.fresh [0,3, 1, 2, 0,0,0,9, 1,2,3,4, 7,7]).1.payload = [1,2,3,4] := ⟨rfl, rfl⟩
example : (Block.unpack Block.fresh [0,3, 1, 2, 0,0,0,9, 1,2,3]).2 = .error .value := by rfl
example : (Block.unpack Block.fresh [0,1, 1, 2, 0,0,0,9, 1,2,3,4]).2 = .error .value := by rfl
example : (Block.unpack Block.fresh [0,3, 1, 2, 0,0,0]).2 = .error .struct := by rfl
/-- example for `ParserAlignedBlock_reject_kinds`: 8 ≤ length and the declared 16 bytes exceed the 12 present -/
example : 8 ≤ ([0,4, 1, 2, 0,0,0,9, 1,2,3,4] : Bytes).length ∧
    (declaredQuads [0,4, 1, 2, 0,0,0,9, 1,2,3,4] < 2 ∨
      ([0,4, 1, 2, 0,0,0,9, 1,2,3,4] : Bytes).length < 4 * declaredQuads [0,4, 1, 2, 0,0,0,9, 1,2,3,4]) := by decide

/-- in a packet the check is applied to every block in turn: a packet is accepted only if the loop's
    first block is, and then continues after exactly `4·quadbytes` bytes -/
theorem ParserAlignedPacket_first_block (t : Packet) (buf : Bytes) (hne : buf ≠ [])
    (h : (Packet.unpack t buf).2 = .ok ()) :
    8 ≤ buf.length ∧ 2 ≤ declaredQuads buf ∧ 4 * declaredQuads buf ≤ buf.length := by
  have hw := (decBlock_loop_iff _ (Walk.walk_iff BlockOk _) buf 0).1 (have ⟨bs, hd, _⟩ := (packetRun_ok_iff ..).1 (Packet_decodes.of_ok h); ⟨bs, hd⟩)
  exact ((Walk.walk_cons_iff _ _ buf hne).1 hw).1

/-- example for `ParserAlignedPacket_first_block` (non-empty, accepted) -/
example : ([0,3, 1, 2, 0,0,0,9, 1,2,3,4] ++ [0,2, 5, 6, 0,0,0,10] : Bytes) ≠ [] ∧
    (Packet.unpack Packet.fresh ([0,3, 1, 2, 0,0,0,9, 1,2,3,4] ++ [0,2, 5, 6, 0,0,0,10])).2 = .ok () := ⟨by decide, rfl⟩

/-- a buffer that is a chain of parser-aligned blocks, read declaratively: at each position the 8-byte header is
    there, `quadbytes ≥ 2`, the `4·quadbytes` bytes are there, and the next block starts right after them -/
inductive FitsBlocks : Bytes → Prop
  | done : FitsBlocks []
  | block (rem : Bytes) : 8 ≤ rem.length → 2 ≤ declaredQuads rem → 4 * declaredQuads rem ≤ rem.length →
      FitsBlocks (rem.drop (4 * declaredQuads rem)) → FitsBlocks rem

theorem decBlock_ok_iff (rem : Bytes) (b : Block) (n : Nat) :
    decBlock rem = .ok (b, n) ↔ Block.unpack Block.fresh rem = (b, .ok n) := by
  simp only [decBlock]
  cases h : Block.unpack Block.fresh rem with
  | mk b' r => cases r <;> simp

theorem decBlock_pos (rem : Bytes) (b : Block) (n : Nat) (h : decBlock rem = .ok (b, n)) : 0 < n ∧ 0 < rem.length :=
  have hp : Progress decBlock := decBlock_eq ▸ blockRec.progress
  ⟨hp.pos rem b n h, hp.lt_length (o := 0) h⟩

/-- one step of the declarative walk, in the shape the loop theorems ask for -/
theorem fitsBlocks_unfold (rem : Bytes) :
    FitsBlocks rem ↔ rem = [] ∨ (BlockOk rem ∧ FitsBlocks (rem.drop (4 * quads rem))) := by
  constructor
  · intro h
    cases h with
    | done => exact Or.inl rfl
    | block _ h8 h2 h4 hn => exact Or.inr ⟨⟨h8, h2, h4⟩, hn⟩
  · rintro (rfl | ⟨⟨h8, h2, h4⟩, hn⟩)
    · exact .done
    · exact .block rem h8 h2 h4 hn

/-- parser-aligned PACKET, whole buffer and every prior state: accepted exactly when the buffer is a chain of blocks
    each passing the block check AT ITS POSITION -/
theorem ParserAlignedPacket_accepts_iff (t : Packet) (buf : Bytes) :
    (Packet.unpack t buf).2 = .ok () ↔ FitsBlocks buf := by
  simp only [Packet_decodes.ok_iff, packetRun_ok_iff, exists_comm (α := Packet), exists_and_left, exists_eq, and_true]
  exact decBlock_loop_iff FitsBlocks fitsBlocks_unfold buf 0

/-- every block an accepted packet returns, at whatever position, lies wholly inside the buffer and carries exactly the
    `4·quadbytes − 8` payload bytes its header declares -/
theorem ParserAlignedPacket_every_block_exact (t : Packet) (buf : Bytes) (h : (Packet.unpack t buf).2 = .ok ()) :
    (Packet.unpack t buf).1.numberofblocks = (Packet.unpack t buf).1.parserblocks.length ∧
    ∀ b ∈ (Packet.unpack t buf).1.parserblocks, ∃ o,
      o + 4 * b.quadbytes ≤ buf.length ∧ 2 ≤ b.quadbytes ∧ b.quadbytes = declaredQuads (buf.drop o) ∧
      b.payload = slice (buf.drop o) 8 (4 * b.quadbytes) ∧ b.payload.length = 4 * b.quadbytes - 8 := by
  obtain ⟨bs, hd, hs⟩ := (packetRun_ok_iff ..).1 (Packet_decodes.of_ok h)
  rw [hs]
  refine ⟨rfl, fun b hb => ?_⟩
  obtain ⟨o, _, ⟨h8, h2, h4⟩, rfl⟩ := blockRec.loop_mem (decBlock_eq ▸ hd) b hb
  rw [List.length_drop] at h4
  refine ⟨o, ?_, h2, rfl, rfl, ?_⟩
  · show o + 4 * quads (buf.drop o) ≤ buf.length
    omega
  · show (slice (buf.drop o) 8 (4 * quads (buf.drop o))).length = 4 * quads (buf.drop o) - 8
    rw [slice_length, List.length_drop, Nat.min_eq_left h4]

/-- witnesses, whole packet: a 12-byte block followed by an 8-byte block accepted, both returned with their exact
    payloads; the SECOND block declaring 4 quadbytes (16 bytes, 8 remain) rejected; the second declaring 1 rejected;
    3 stray bytes after the last block rejected (struct.error); the first declaring 6 (24 > 20) rejected -/
example : (Packet.unpack Packet.fresh ([0,3, 1, 2, 0,0,0,9, 1,2,3,4] ++ [0,2, 5, 6, 0,0,0,10])).1.parserblocks.map (·.payload) =
    [[1,2,3,4], []] := by rfl
example : (Packet.unpack Packet.fresh ([0,3, 1, 2, 0,0,0,9, 1,2,3,4] ++ [0,4, 5, 6, 0,0,0,10])).2 = .error .value := by rfl
example : (Packet.unpack Packet.fresh ([0,3, 1, 2, 0,0,0,9, 1,2,3,4] ++ [0,1, 5, 6, 0,0,0,10])).2 = .error .value := by rfl
example : (Packet.unpack Packet.fresh ([0,3, 1, 2, 0,0,0,9, 1,2,3,4] ++ [0,2, 5])).2 = .error .struct := by rfl
example : (Packet.unpack Packet.fresh ([0,6, 1, 2, 0,0,0,9, 1,2,3,4] ++ [0,2, 5, 6, 0,0,0,10])).2 = .error .value := by rfl

end Acra.Props.C09
