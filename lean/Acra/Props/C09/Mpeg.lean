import Acra.Model.PES
import Acra.Lemmas.CRCMpeg
import Acra.Lemmas.MpegParse
namespace Acra.Props.C09
open Acra.Py Acra.Model.MPEGTS Acra.Model.PES Acra.Gen.PES

theorem u8_eq (a : UInt8) (n : Nat) (h : n < 256) : a.toNat = n ↔ a = UInt8.ofNat n := by
  rw [← UInt8.toNat_inj, UInt8.toNat_ofNat', Nat.mod_eq_of_lt h]

/-- `MPEGPacket.unpack` accepts a buffer of at least four bytes exactly when its first byte is the
    sync byte 0x47 and — with adaptation-field control 3 (bits 5..4 of byte 3) — a fifth byte (the
    adaptation-field length) is present.  Whatever the object held before. -/
theorem MPEG_sync_iff (t : Pkt) (b0 b1 b2 b3 : UInt8) (rest : Bytes) :
    (Pkt.unpack t (b0 :: b1 :: b2 :: b3 :: rest)).2 = .ok () ↔
      b0 = 0x47 ∧ (b3.toNat / 16 % 4 = 3 → rest ≠ []) := by
  have e0 : decInt true (slice (b0 :: b1 :: b2 :: b3 :: rest) 0 1) = b0.toNat := Py.decInt_singleton b0
  have e3 : decInt true (slice (b0 :: b1 :: b2 :: b3 :: rest) 3 4) = b3.toNat := Py.decInt_singleton b3
  have hs : b0.toNat = 71 ↔ b0 = 71 := u8_eq b0 71 (by omega)
  have hr : (b0 :: b1 :: b2 :: b3 :: rest).length < 5 ↔ rest = [] := by cases rest <;> simp
  rw [Lemmas.MpegParse.Pkt_decodes.snd_eq, Lemmas.MpegParse.pktRun, e0, e3, ← hs,
    if_neg (by simp only [List.length_cons]; omega)]
  simp only [hr]
  by_cases h0 : b0.toNat = 71
  · rw [if_neg (fun c => c h0)]
    by_cases hc : b3.toNat / 16 % 4 = 3 ∧ rest = []
    · rw [if_pos hc]
      exact ⟨(fun c => nomatch c), fun c => absurd hc.2 (c.2 hc.1)⟩
    · rw [if_neg hc]
      exact ⟨fun _ => ⟨h0, fun h3 hn => hc ⟨h3, hn⟩⟩, fun _ => rfl⟩
  · rw [if_pos h0]
    exact ⟨(fun c => nomatch c), fun c => absurd c.1 h0⟩

/-- fewer than four bytes: `struct.error`, never a partial success -/
theorem MPEG_short_rejected (t : Pkt) (buf : Bytes) (h : buf.length < 4) :
    (Pkt.unpack t buf).2 = .error .struct := by
  rw [Lemmas.MpegParse.Pkt_decodes.snd_eq, Lemmas.MpegParse.pktRun, if_pos h]; rfl

/-- a wrong sync byte is a bare `Exception` -/
theorem MPEG_bad_sync_rejected (t : Pkt) (b0 b1 b2 b3 : UInt8) (rest : Bytes) (h : b0 ≠ 0x47) :
    (Pkt.unpack t (b0 :: b1 :: b2 :: b3 :: rest)).2 = .error .generic := by
  have e0 : decInt true (slice (b0 :: b1 :: b2 :: b3 :: rest) 0 1) = b0.toNat := Py.decInt_singleton b0
  have h0 : b0.toNat ≠ 71 := fun c => h ((u8_eq b0 71 (by omega)).mp c)
  rw [Lemmas.MpegParse.Pkt_decodes.snd_eq, Lemmas.MpegParse.pktRun, e0,
    if_neg (by simp only [List.length_cons]; omega), if_pos h0]; rfl

/-- an accepted packet is never truncated or padded: the payload is exactly the bytes after the
    header (AFC 1), after the adaptation field whose length byte 4 declares (AFC 3), or empty -/
theorem MPEG_payload_exact (t : Pkt) (b0 b1 b2 b3 : UInt8) (rest : Bytes)
    (h : (Pkt.unpack t (b0 :: b1 :: b2 :: b3 :: rest)).2 = .ok ()) :
    let p := (Pkt.unpack t (b0 :: b1 :: b2 :: b3 :: rest)).1
    (p.adaption_ctrl = 1 → p.payload = rest) ∧
    (p.adaption_ctrl = 3 → ∃ l tl, rest = l :: tl ∧ p.payload = tl.drop l.toNat) ∧
    (p.adaption_ctrl ≠ 1 → p.adaption_ctrl ≠ 3 → p.payload = []) := by
  have hok := (MPEG_sync_iff t b0 b1 b2 b3 rest).mp h
  obtain ⟨hc, h1, h3, h0⟩ := Lemmas.MpegParse.pktObj_payload (b0 :: b1 :: b2 :: b3 :: rest)
  have e3 : decInt true (slice (b0 :: b1 :: b2 :: b3 :: rest) 3 4) = b3.toNat := Py.decInt_singleton b3
  rw [e3] at hc
  rw [Lemmas.MpegParse.pktRun_ok (Lemmas.MpegParse.Pkt_decodes.of_ok h)]
  refine ⟨h1, fun c => ?_, h0⟩
  cases rest with
  | nil => exact absurd rfl (hok.2 (by rw [← hc]; exact c))
  | cons r rs =>
    refine ⟨r, rs, rfl, ?_⟩
    have e4 : decInt true (slice (b0 :: b1 :: b2 :: b3 :: r :: rs) 4 5) = r.toNat := Py.decInt_singleton r
    rw [h3 c (by simp only [List.length_cons]; omega), e4, Nat.add_comm 5 r.toNat]
    rfl

theorem exists6 (l : List α) (h : 6 ≤ l.length) : ∃ a b c d e f r, l = a :: b :: c :: d :: e :: f :: r := by
  match l, h with
  | a :: b :: c :: d :: e :: f :: r, _ => exact ⟨a, b, c, d, e, f, r, rfl⟩

/-- `PES.unpack` accepts (given that the packet decoder accepted the buffer and produced payload `pl`)
    exactly when the payload holds the 6-byte PES prefix and starts with the start-code prefix 00 00 01
    (fewer than 3 bytes after the prefix are decoded as header-less data) -/
theorem PES_prefix_iff (t : PES) (buf : Bytes) (p : Pkt) (hp : Pkt.unpack t.pkt buf = (p, .ok ())) :
    (PES.unpack t buf).2 = .ok () ↔ 6 ≤ p.payload.length ∧ p.payload.take 3 = [0, 0, 1] := by
  rw [(Lemmas.MpegParse.PES_after t buf p hp).ok_iff, Lemmas.MpegParse.pesParse_ok_iff]
  refine and_congr_right fun h6 => ?_
  obtain ⟨a, b, c, d, e, f, r, hpl⟩ := exists6 p.payload h6
  have ha := a.toNat_lt
  have hb := b.toNat_lt
  have hc := c.toNat_lt
  have e1 : decInt true (slice (a :: b :: c :: d :: e :: f :: r) 0 1) = a.toNat := Py.decInt_singleton a
  have e2 : decInt true (slice (a :: b :: c :: d :: e :: f :: r) 1 3) = c.toNat + 256 * b.toNat := by
    simp [slice, decInt, beNat, leNat]
  have ea : a = 0 ↔ a.toNat = 0 := (u8_eq a 0 (by omega)).symm
  have eb : b = 0 ↔ b.toNat = 0 := (u8_eq b 0 (by omega)).symm
  have ec : c = 1 ↔ c.toNat = 1 := (u8_eq c 1 (by omega)).symm
  rw [hpl, e1, e2]
  show _ ↔ [a, b, c] = [0, 0, 1]
  simp only [List.cons.injEq, and_true, ea, eb, ec]
  omega

/-- `STANAG4609.unpack` accepts (given that `PES.unpack` accepted and produced PES data `d`) exactly
    when: PID 0x104, at least 36 bytes of data, the 16-byte universal key at offset 5, data tag 2 at
    offset 22, tag length 8 at offset 23, and the MISB checksum of `d[5:-2]` equal to the big-endian
    16-bit value at offset 34 -/
theorem STANAG_accepts_iff (t : STANAG) (buf : Bytes) (p : PES) (hp : PES.unpack t.pes buf = (p, .ok ())) :
    (STANAG.unpack t buf).2 = .ok () ↔
      p.pkt.pid = 0x104 ∧ 36 ≤ p.pesdata.length ∧ slice p.pesdata 5 21 = STANAG4609_UNIVERSAL_KEY ∧
      decInt true (slice p.pesdata 22 23) = 2 ∧ decInt true (slice p.pesdata 23 24) = 8 ∧
      checksum_stanag (slice p.pesdata 5 (p.pesdata.length - 2)) = decInt true (slice p.pesdata 34 36) :=
  ((Lemmas.MpegParse.STANAG_after t buf p hp).ok_iff ()).trans (Lemmas.MpegParse.stanagParse_ok_iff p)

/-- `PES.unpack`, every buffer and prior state: accepted exactly when the transport packet is accepted and its
    payload holds at least the 6-byte prefix, starting with 00 00 01 -/
theorem PES_accepts_iff (t : PES) (buf : Bytes) :
    (PES.unpack t buf).2 = .ok () ↔
      (Pkt.unpack t.pkt buf).2 = .ok () ∧ 6 ≤ (Pkt.unpack t.pkt buf).1.payload.length ∧
      (Pkt.unpack t.pkt buf).1.payload.take 3 = [0, 0, 1] := by
  cases hu : Pkt.unpack t.pkt buf with
  | mk p r =>
    cases r with
    | error e => simp [PES.unpack, hu]
    | ok u => simpa using PES_prefix_iff t buf p hu

/-- `STANAG4609.unpack`, every buffer and prior state, with the checksum as the MISB 0601 word sum of the Spec -/
theorem STANAG_accepts_iff_all (t : STANAG) (buf : Bytes) :
    (STANAG.unpack t buf).2 = .ok () ↔
      (PES.unpack t.pes buf).2 = .ok () ∧
      (let d := (PES.unpack t.pes buf).1.pesdata
       (PES.unpack t.pes buf).1.pkt.pid = 0x104 ∧ 36 ≤ d.length ∧ slice d 5 21 = STANAG4609_UNIVERSAL_KEY ∧
       decInt true (slice d 22 23) = 2 ∧ decInt true (slice d 23 24) = 8 ∧
       Spec.MPEG.misbChecksum (slice d 5 (d.length - 2)) = decInt true (slice d 34 36)) := by
  cases hu : PES.unpack t.pes buf with
  | mk p r =>
    cases r with
    | error e => simp [STANAG.unpack, hu]
    | ok u =>
      have := STANAG_accepts_iff t buf p hu
      simpa [Lemmas.CRCMpeg.checksum_eq_spec] using this

/-- witnesses: transport header sync 0x47, PID 0x104, AFC 1 (payload only) -/
private def tsHdr : Bytes := [0x47, 0x41, 0x04, 0x10]
/-- 36 bytes of STANAG 4609 PES data as `STANAG4609.pack` lays them out: counter 3, universal key at 5..20, data tag 2,
    tag length 8, time 0x0102030405060708, MISB checksum 0x7263 over bytes 5..33 -/
private def stanagData : Bytes :=
  [0, 3, 223, 0, 31, 6, 14, 43, 52, 2, 11, 1, 1, 14, 1, 3, 1, 1, 0, 0, 0, 14, 2, 8, 1, 2, 3, 4, 5, 6, 7, 8, 1, 2, 114, 99]
/-- sync: accepted / wrong sync byte / 3 bytes / AFC 3 without and with the adaptation-field length byte -/
example : (Pkt.unpack Pkt.fresh (tsHdr ++ [1,2,3])).2 = .ok () ∧ (Pkt.unpack Pkt.fresh (tsHdr ++ [1,2,3])).1.payload = [1,2,3] := ⟨rfl, rfl⟩
example : (Pkt.unpack Pkt.fresh ([0x46, 0x41, 0x04, 0x10] ++ [1,2,3])).2 = .error .generic := by rfl
example : (Pkt.unpack Pkt.fresh [0x47, 0x41, 0x04]).2 = .error .struct := by rfl
example : (Pkt.unpack Pkt.fresh [0x47, 0x41, 0x04, 0x30]).2 ≠ .ok () := by intro h; cases h
example : (Pkt.unpack Pkt.fresh [0x47, 0x41, 0x04, 0x30, 1, 0, 9, 9]).2 = .ok () ∧ (Pkt.unpack Pkt.fresh [0x47, 0x41, 0x04, 0x30, 1, 0, 9, 9]).1.payload = [9, 9] := ⟨rfl, rfl⟩
/-- PES prefix: 00 00 01 and 9 bytes accepted, PES data returned whole; 00 00 02 rejected; 8 bytes accepted as
    header-less data (2 bytes); 5 bytes (prefix incomplete) rejected -/
example : (PES.unpack PES.fresh (tsHdr ++ [0,0,1,0xE0,0,0, 1,2,3])).2 = .ok () ∧ (PES.unpack PES.fresh (tsHdr ++ [0,0,1,0xE0,0,0, 1,2,3])).1.pesdata = [1,2,3] := ⟨rfl, rfl⟩
example : (PES.unpack PES.fresh (tsHdr ++ [0,0,2,0xE0,0,0, 1,2,3])).2 = .error .generic := by rfl
example : (PES.unpack PES.fresh (tsHdr ++ [0,0,1,0xE0,0,0, 1,2])).2 = .ok () ∧ (PES.unpack PES.fresh (tsHdr ++ [0,0,1,0xE0,0,0, 1,2])).1.pesdata = [1,2] := ⟨rfl, rfl⟩
example : (PES.unpack PES.fresh (tsHdr ++ [0,0,1,0xE0,0])).2 ≠ .ok () := by intro h; cases h
/-- STANAG: accepted; then one clause broken at a time — PID 0x105, key byte, data tag 3, tag length 7, checksum byte,
    a protected data byte (checksum no longer matches), 35 bytes of data: each rejected -/
example : (STANAG.unpack STANAG.fresh (tsHdr ++ [0,0,1,0xFC,0,0] ++ stanagData)).2 = .ok () := by rfl
example : (STANAG.unpack STANAG.fresh ([0x47, 0x41, 0x05, 0x10] ++ [0,0,1,0xFC,0,0] ++ stanagData)).2 = .error .generic := by rfl
example : (STANAG.unpack STANAG.fresh (tsHdr ++ [0,0,1,0xFC,0,0] ++ stanagData.set 5 7)).2 = .error .generic := by rfl
example : (STANAG.unpack STANAG.fresh (tsHdr ++ [0,0,1,0xFC,0,0] ++ stanagData.set 22 3)).2 = .error .generic := by rfl
example : (STANAG.unpack STANAG.fresh (tsHdr ++ [0,0,1,0xFC,0,0] ++ stanagData.set 23 7)).2 = .error .generic := by rfl
example : (STANAG.unpack STANAG.fresh (tsHdr ++ [0,0,1,0xFC,0,0] ++ stanagData.set 35 98)).2 = .error .generic := by rfl
example : (STANAG.unpack STANAG.fresh (tsHdr ++ [0,0,1,0xFC,0,0] ++ stanagData.set 30 0)).2 = .error .generic := by rfl
example : (STANAG.unpack STANAG.fresh (tsHdr ++ [0,0,1,0xFC,0,0] ++ stanagData.take 35)).2 ≠ .ok () := by intro h; cases h

end Acra.Props.C09
