/-
  C09 for the ch10 family: the accept / reject boundaries of `Chapter11.unpack` and `Chapter10UDP.unpack` as *iff*
  statements over ALL buffers and ALL prior states, and for `Chapter11.unpack` "accepted ⇒ nothing truncated or
  padded" (the payload is exactly the bytes after the header(s); that includes the filler, `datalen` is not
  consulted: known finding K5, /verif/known_findings.json).
-/
import Acra.Lemmas.Ch11
import Acra.Lemmas.Ch10UDP
namespace Acra.Props.C09
open Acra.Py Acra

/-- Chapter 11: accepted ⇔ at least 24 bytes, and either bit 7 of the flag byte (byte 14) is clear, or the
    time-format bits are 01 and the 12-byte secondary header is present too -/
theorem ch11_accepts_iff (t : Model.Ch11.State) (buf : Bytes) :
    (Model.Ch11.unpack t buf).2 = .ok () ↔
      24 ≤ buf.length ∧ (Lemmas.Ch11.flagByte buf < 128 ∨
        (Lemmas.Ch11.flagByte buf / 4 % 4 = 1 ∧ 36 ≤ buf.length)) := by
  rw [Lemmas.Ch11.unpack_snd]
  exact Lemmas.Ch11.verdict_ok_iff buf

/-- … and then the payload is everything after the header(s) and the filler attribute is empty -/
theorem ch11_accepted_payload_exact (t : Model.Ch11.State) (buf : Bytes)
    (h : (Model.Ch11.unpack t buf).2 = .ok ()) :
    (Model.Ch11.unpack t buf).1.payload = buf.drop (if Lemmas.Ch11.flagByte buf < 128 then 24 else 36) ∧
    (Model.Ch11.unpack t buf).1.filler = [] := by
  rw [Lemmas.Ch11.unpack_snd] at h
  rw [Lemmas.Ch11.unpack_ok t buf h]
  exact ⟨rfl, rfl⟩

example : (Model.Ch11.unpack Model.Ch11.fresh (List.replicate 23 0)).2 = .error .struct := by decide +kernel
example : (Model.Ch11.unpack Model.Ch11.fresh (List.replicate 24 0)).2 = .ok () := by decide +kernel

/-- witnesses with a non-zero header: secondary-header flag set (byte 14 = 0x84: bit 7, time format 01) and the 12
    secondary bytes present → accepted, payload = the 4 bytes after byte 36; only 11 of them → rejected; bit 7 with time
    format 00 (0x80) → rejected -/
example : (Model.Ch11.unpack Model.Ch11.fresh ([0x25,0xEB, 1,0, 40,0,0,0, 4,0,0,0, 6, 7, 0x84, 0x19, 1,2,3,4,5,6, 0,0] ++ List.replicate 12 5 ++ [1,2,3,4])).2 = .ok () := by decide +kernel
example : (Model.Ch11.unpack Model.Ch11.fresh ([0x25,0xEB, 1,0, 40,0,0,0, 4,0,0,0, 6, 7, 0x84, 0x19, 1,2,3,4,5,6, 0,0] ++ List.replicate 12 5 ++ [1,2,3,4])).1.payload = [1,2,3,4] := by decide +kernel
example : (Model.Ch11.unpack Model.Ch11.fresh ([0x25,0xEB, 1,0, 40,0,0,0, 4,0,0,0, 6, 7, 0x84, 0x19, 1,2,3,4,5,6, 0,0] ++ List.replicate 11 5)).2 ≠ .ok () := by decide +kernel
example : (Model.Ch11.unpack Model.Ch11.fresh ([0x25,0xEB, 1,0, 40,0,0,0, 4,0,0,0, 6, 7, 0x80, 0x19, 1,2,3,4,5,6, 0,0] ++ List.replicate 12 5)).2 ≠ .ok () := by decide +kernel

/-- Chapter 10 UDP: accepted ⇔ at least 4 bytes and, by the low nibble of byte 0:
    1 → the high nibble (type) is not 1 (segmented format 1 is not supported);
    3 → source-id length ≤ 4 and at least 8 bytes;  anything else (format 2) → at least 12 bytes -/
theorem udp_accepts_iff (t : Model.Ch10UDP.State) (buf : Bytes) :
    (Model.Ch10UDP.unpack t buf).2 = .ok () ↔
      4 ≤ buf.length ∧
      ((Lemmas.Ch10UDP.byte0 buf % 16 = 1 ∧ Lemmas.Ch10UDP.byte0 buf / 16 ≠ 1) ∨
       (Lemmas.Ch10UDP.byte0 buf % 16 = 3 ∧ Lemmas.Ch10UDP.byte0 buf / 16 ≤ 4 ∧ 8 ≤ buf.length) ∨
       (Lemmas.Ch10UDP.byte0 buf % 16 ≠ 1 ∧ Lemmas.Ch10UDP.byte0 buf % 16 ≠ 3 ∧ 12 ≤ buf.length)) := by
  rw [Lemmas.Ch10UDP.unpack_snd]
  exact Lemmas.Ch10UDP.verdict_ok_iff buf

/-- witnesses: format 1 type 0 on 6 bytes accepted, type 1 rejected; format 3 with source-id length 2 on 9 bytes
    accepted, on 7 bytes rejected, with source-id length 5 rejected; format 2 on 13 bytes accepted, on 11 rejected;
    3 bytes rejected -/
example : (Model.Ch10UDP.unpack Model.Ch10UDP.fresh [0x01, 7, 0, 0, 9, 9]).2 = .ok () := by decide +kernel
example : (Model.Ch10UDP.unpack Model.Ch10UDP.fresh [0x11, 7, 0, 0, 9, 9]).2 ≠ .ok () := by decide +kernel
example : (Model.Ch10UDP.unpack Model.Ch10UDP.fresh [0x23, 7, 0, 0, 1, 2, 3, 4, 9]).2 = .ok () := by decide +kernel
example : (Model.Ch10UDP.unpack Model.Ch10UDP.fresh [0x23, 7, 0, 0, 1, 2, 3]).2 ≠ .ok () := by decide +kernel
example : (Model.Ch10UDP.unpack Model.Ch10UDP.fresh [0x53, 7, 0, 0, 1, 2, 3, 4, 9]).2 ≠ .ok () := by decide +kernel
example : (Model.Ch10UDP.unpack Model.Ch10UDP.fresh [0x02, 7, 0, 0, 1, 2, 3, 4, 5, 6, 7, 8, 9]).2 = .ok () := by decide +kernel
example : (Model.Ch10UDP.unpack Model.Ch10UDP.fresh [0x02, 7, 0, 0, 1, 2, 3, 4, 5, 6, 7]).2 ≠ .ok () := by decide +kernel
example : (Model.Ch10UDP.unpack Model.Ch10UDP.fresh [0x01, 7, 0]).2 ≠ .ok () := by decide +kernel

end Acra.Props.C09
