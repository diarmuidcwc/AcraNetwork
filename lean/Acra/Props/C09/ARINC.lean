import Acra.Lemmas.Ch11ARINC
namespace Acra.Props.C09
open Acra.Py Acra.Model.Ch11Pay Acra.Model.Ch11Pay.ARINC Acra.Gen.Ch11ARINC Acra.Lemmas.Ch11ARINC Acra.Lemmas

/-- ARINC-429 format 0: a buffer is accepted exactly when it holds the 4-byte channel-specific word
    and the declared message count (bytes 0..1, little-endian) equals the number of whole 8-byte
    words that follow — for every buffer and every prior state of the receiving object -/
theorem ARINC_accepts_iff (t : Packet) (buf : Bytes) :
    (Packet.unpack t buf).2 = .ok () ↔ 4 ≤ buf.length ∧ leNat (buf.take 2) = (buf.length - 4) / 8 := by
  rw [Packet_decodes.ok_iff]
  exact ⟨fun ⟨_, h⟩ => ⟨((packetRun_ok_iff _ _).1 h).1, ((packetRun_ok_iff _ _).1 h).2.1⟩,
    fun h => ⟨_, (packetRun_ok_iff _ _).2 ⟨h.1, h.2, rfl⟩⟩⟩

/-- accepted ⇒ no word truncated: as many words as declared, each with its full 4 data bytes (fewer than 8 trailing
    bytes are ignored, example below) -/
theorem ARINC_accepted_exact (t : Packet) (buf : Bytes) (h : (Packet.unpack t buf).2 = .ok ()) :
    (Packet.unpack t buf).1.arincwords.length = (Packet.unpack t buf).1.msgcount ∧
    (Packet.unpack t buf).1.msgcount = (buf.length - 4) / 8 ∧
    ∀ w ∈ (Packet.unpack t buf).1.arincwords, w.payload.length = 4 := by
  obtain ⟨h4, hc, e⟩ := (packetRun_ok_iff _ _).1 (Packet_decodes.of_ok h)
  rw [(Prod.mk.inj e).1]
  exact ⟨(wordsAt_length _ _ _).trans hc.symm, hc, wordsAt_payload _ _ _ (by omega)⟩

/-- rejection is an exception (`struct.error` for a missing header, `Exception` for a count mismatch) -/
example : (Packet.unpack Packet.fresh [2, 0, 0, 0, 0, 0, 0, 0, 0, 0, 0, 0]).2 = .error .generic := by decide +kernel

/-- witnesses: one declared word with its 8 bytes present (and two declared, 16 present) accepted with as many
    words returned; one declared with 16 present, one declared with 7 present, a 3-byte buffer: rejected -/
example : (Packet.unpack Packet.fresh [1, 0, 0, 0, 1, 2, 3, 4, 5, 6, 7, 8]).2 = .ok () ∧
    (Packet.unpack Packet.fresh [1, 0, 0, 0, 1, 2, 3, 4, 5, 6, 7, 8]).1.arincwords.length = 1 := ⟨rfl, rfl⟩
example : (Packet.unpack Packet.fresh [2, 0, 0, 0, 1, 2, 3, 4, 5, 6, 7, 8, 9, 10, 11, 12, 13, 14, 15, 16]).2 = .ok () ∧
    (Packet.unpack Packet.fresh [2, 0, 0, 0, 1, 2, 3, 4, 5, 6, 7, 8, 9, 10, 11, 12, 13, 14, 15, 16]).1.arincwords.length = 2 :=
  ⟨rfl, rfl⟩
example : (Packet.unpack Packet.fresh [1, 0, 0, 0, 1, 2, 3, 4, 5, 6, 7, 8, 9, 10, 11, 12, 13, 14, 15, 16]).2 =
    .error .generic := by decide +kernel
example : (Packet.unpack Packet.fresh [1, 0, 0, 0, 1, 2, 3, 4, 5, 6, 7]).2 = .error .generic := by decide +kernel
example : (Packet.unpack Packet.fresh [1, 0, 0]).2 = .error .struct := by decide +kernel
/-- observation: up to 7 stray bytes after the last whole word are accepted and ignored (the count compared is
    `(len − 4) / 8`, rounded down) -/
example : (Packet.unpack Packet.fresh [1, 0, 0, 0, 1, 2, 3, 4, 5, 6, 7, 8, 9, 9, 9]).2 = .ok () := by decide +kernel

end Acra.Props.C09
