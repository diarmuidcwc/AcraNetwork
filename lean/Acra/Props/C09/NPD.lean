/-
  C09 for NPD and its segment classes.  The total-length check of `NPD.unpack` is exact (`NPD_accepts_iff`);
  the segment decoders do NOT check the length a segment header declares (outside C09's list, DESIGN §12.4,
  notes/fti.md §4 F1), so what is proved about a segment is the exact closed form of what the code does with
  ANY declared length (`NPDSegment_unpack_payload`) and, as a corollary, that a declared length lying inside the
  buffer gives a payload of exactly the declared length (`NPDSegment_exact`).
  `segDeclared`, `segLen` (the declared length clamped into [8, len] — the value the `payload` setter leaves in
  `segmentlen`), `segAdvance`, `segPayload`, `TypedHdrOk`, `SegOk` are defined in Acra.Lemmas.NPDSegment, `SegWalk` in
  Acra.Lemmas.NPDWalk.
-/
import Acra.Model.NPD
import Acra.Lemmas.NPDWalk
import Acra.Lemmas.NPDPacket
namespace Acra.Props.C09
open Acra.Py Acra.Model.NPD Acra.Gen.NPD Acra.Lemmas.NPD Acra.Lemmas.Walk Acra.Lemmas.RecordsErr

/-- the packet length the NPD header declares, in 32-bit words: big-endian 16 bits at bytes 2..3 -/
def declaredWords (buf : Bytes) : Nat := beNat ((buf.drop 2).take 2)
/-- the header length nibble and the data type -/
def declaredHdrlen (buf : Bytes) : Nat := beNat (buf.take 1) % 16
def declaredType (buf : Bytes) : Nat := beNat ((buf.drop 1).take 1)

theorem NPD_hdr (buf : Bytes) (h : 20 ≤ buf.length) :
    ∃ cc fl sq ds mc ts, structUnpackFrom NPD_HEADER_FORMAT buf 0 =
      .ok [beNat (buf.take 1), declaredType buf, declaredWords buf, cc, fl, sq, ds, mc, ts] :=
  ⟨_, _, _, _, _, _, npdHdr_unpack buf h⟩

/-- the segment walk `NPD.unpack` performs after the two header checks -/
def segmentsOk (buf : Bytes) : Bool :=
  (decOff (decSeg (kindOf (declaredType buf))) moreNe (buf.drop (declaredHdrlen buf * 4))
    ((buf.drop (declaredHdrlen buf * 4)).length + 1) 0).isOk

/-- NPD accepts a buffer exactly when it holds the 20-byte header, the declared total length (in 32-bit
    words) equals the real length, and the model's own segment loop succeeds (see `NPD_accepts_iff` for the
    closed form of the third conjunct) -/
theorem NPD_accepts_iff_loop (t : State) (buf : Bytes) :
    (unpack t buf).2 = .ok () ↔ 20 ≤ buf.length ∧ declaredWords buf * 4 = buf.length ∧ segmentsOk buf = true := by
  have hs : segmentsOk buf = (segLoop buf).isOk := rfl
  rw [unpack_snd, hs]
  show _ ↔ _ ∧ beNat ((buf.drop 2).take 2) * 4 = _ ∧ _
  repeat' split
  all_goals simp [*]
  all_goals omega

/-- the segment loop is the walk: `SegWalk k rem` holds when `rem` is empty, or the segment at its front is
    acceptable (8-byte header complete, typed header of class `k` complete inside the payload actually taken)
    and the walk continues after `segAdvance rem` bytes — the REWRITTEN length `segLen rem` rounded up to four -/
theorem SegWalk_iff (k : Kind) (rem : Bytes) :
    SegWalk k rem ↔ rem = [] ∨ (SegOk k rem ∧ SegWalk k (rem.drop (segAdvance rem))) :=
  walk_iff (SegOk k) segAdvance rem

theorem segmentsOk_iff_walk (buf : Bytes) :
    segmentsOk buf = true ↔ SegWalk (kindOf (declaredType buf)) (buf.drop (declaredHdrlen buf * 4)) :=
  decSeg_walk _ _

/-- NPD accepts a buffer exactly when it holds the 20-byte header, the declared total length (in 32-bit
    words) equals the real length, and every segment met while walking the segment area with the rewritten
    lengths has a complete header (and typed header).  The walk is a predicate over the bytes (`SegWalk_iff`). -/
theorem NPD_accepts_iff (t : State) (buf : Bytes) :
    (unpack t buf).2 = .ok () ↔ 20 ≤ buf.length ∧ declaredWords buf * 4 = buf.length ∧
      SegWalk (kindOf (declaredType buf)) (buf.drop (declaredHdrlen buf * 4)) := by
  rw [NPD_accepts_iff_loop, segmentsOk_iff_walk]

/-- the declared-total-length check by itself: an accepted buffer's length field (words) times four is its length -/
theorem NPD_accepted_length (t : State) (buf : Bytes) (h : (unpack t buf).2 = .ok ()) :
    20 ≤ buf.length ∧ declaredWords buf * 4 = buf.length :=
  ⟨((NPD_accepts_iff t buf).1 h).1, ((NPD_accepts_iff t buf).1 h).2.1⟩

/-- a wrong declared length is rejected with a bare `Exception`; a short header with `struct.error` -/
theorem NPD_reject_kinds (t : State) (buf : Bytes) :
    (buf.length < 20 → (unpack t buf).2 = .error .struct) ∧
    (20 ≤ buf.length → declaredWords buf * 4 ≠ buf.length → (unpack t buf).2 = .error .generic) := by
  constructor
  · intro h
    rw [unpack_snd, if_pos h]
  · intro h20 hl
    rw [unpack_snd, if_neg (Nat.not_lt.2 h20)]
    exact if_pos hl

/-- witnesses.  Header: version 1, hdrlen 5 words, data type 0xFF (plain segments), length word `w`, cfgcnt 1,
    sequence 2, source 3, multicast 235.0.0.1, timestamp 9; one segment of declared length 12 with 4 payload bytes. -/
private def npdHdrW (w : UInt8) : Bytes := [0x15, 0xFF, 0, w, 1, 0, 0, 2, 0,0,0,3, 235,0,0,1, 0,0,0,9]
/-- 8 words declared, 32 bytes present: accepted, the segment payload returned whole -/
example : (unpack fresh (npdHdrW 8 ++ [0,0,0,1, 0,12, 0,0, 1,2,3,4])).2 = .ok () := by rfl
example : (unpack fresh (npdHdrW 8 ++ [0,0,0,1, 0,12, 0,0, 1,2,3,4])).1.segments.map (·.payload) = [[1,2,3,4]] := by rfl
/-- declared 9 / 7 words on 32 bytes; declared 8 words on 33 bytes; 19-byte header: all rejected -/
example : (unpack fresh (npdHdrW 9 ++ [0,0,0,1, 0,12, 0,0, 1,2,3,4])).2 = .error .generic := by rfl
example : (unpack fresh (npdHdrW 7 ++ [0,0,0,1, 0,12, 0,0, 1,2,3,4])).2 = .error .generic := by rfl
example : (unpack fresh (npdHdrW 8 ++ [0,0,0,1, 0,12, 0,0, 1,2,3,4,5])).2 = .error .generic := by rfl
example : (unpack fresh ((npdHdrW 8).take 19)).2 = .error .struct := by rfl
/-- the third conjunct of `NPD_accepts_iff` is not idle: total length right (9 words, 36 bytes) but the second
    segment header incomplete (4 stray bytes) → rejected -/
example : (unpack fresh (npdHdrW 9 ++ [0,0,0,1, 0,12, 0,0, 1,2,3,4] ++ [0,0,0,1])).2 = .error .generic ∧
    segmentsOk (npdHdrW 9 ++ [0,0,0,1, 0,12, 0,0, 1,2,3,4] ++ [0,0,0,1]) = false := ⟨rfl, rfl⟩

/-- the length a segment header declares: big-endian 16 bits at bytes 4..5 (`Lemmas.NPD.segDeclared` under the name
    the statements use, `declaredSegLen_eq`) -/
def declaredSegLen (buf : Bytes) : Nat := beNat ((buf.drop 4).take 2)

theorem declaredSegLen_eq (buf : Bytes) : declaredSegLen buf = segDeclared buf := rfl

/-- a segment of a plain class (NPDSegment, PCMPacketizer, A429Segment) is accepted exactly when its
    8-byte header is complete -/
theorem NPDSegment_ok_iff (t : Seg) (buf : Bytes) :
    (∃ r, (Seg.unpackBase t buf).2 = .ok r) ↔ 8 ≤ buf.length := by
  by_cases h8 : 8 ≤ buf.length
  · rw [unpackBase_closed, if_pos h8]; simp [h8]
  · rw [unpackBase_closed, if_neg h8]; simp [h8]

/-- a segment of ANY class `k` is accepted exactly when its 8-byte header is complete and the payload taken
    holds the typed header of the class (ACQ and MIL-STD-1553: 4 bytes; RS-232: the status word and the sync
    bytes it counts) -/
theorem Segment_ok_iff (k : Kind) (buf : Bytes) :
    (∃ g r, Seg.unpack (Seg.fresh k) buf = (g, .ok r)) ↔
      8 ≤ buf.length ∧ TypedHdrOk k (slice buf 8 (declaredSegLen buf)) := by
  rw [Seg_unpack_ok_iff, SegOk, segPayload_eq]
  rfl

/-- `NPDSegment.unpack`, exactly, for every buffer that holds the 8-byte header and EVERY declared length `d`:
    with `n = max 8 (min d len(buffer))`,
    the payload is `buffer[8:n]` (= `buffer[8:d]` in Python), so it has `n − 8` bytes;
    `segmentlen` is REWRITTEN to `n` (the declared value is lost unless `8 ≤ d ≤ len(buffer)`);
    the bytes consumed are `n` rounded up to four, i.e. the rest returned is `buffer[roundUp4 n:]`;
    the other header fields are what the layout says. -/
theorem NPDSegment_unpack_payload (t : Seg) (buf : Bytes) (h8 : 8 ≤ buf.length) :
    (Seg.unpackBase t buf).1.payload = slice buf 8 (max 8 (min (declaredSegLen buf) buf.length)) ∧
    (Seg.unpackBase t buf).1.payload = slice buf 8 (declaredSegLen buf) ∧
    (Seg.unpackBase t buf).1.payload.length = max 8 (min (declaredSegLen buf) buf.length) - 8 ∧
    (Seg.unpackBase t buf).1.segmentlen = max 8 (min (declaredSegLen buf) buf.length) ∧
    (Seg.unpackBase t buf).2 = .ok (buf.drop (roundUp4 (max 8 (min (declaredSegLen buf) buf.length)))) ∧
    (Seg.unpackBase t buf).1.timedelta = beNat (buf.take 4) ∧
    (Seg.unpackBase t buf).1.errorcode = beNat ((buf.drop 6).take 1) ∧
    (Seg.unpackBase t buf).1.flags = beNat ((buf.drop 7).take 1) := by
  rw [unpackBase_closed, if_pos h8]
  refine ⟨rfl, segPayload_eq buf, ?_, rfl, rfl, rfl, rfl, rfl⟩
  exact segPayload_length buf

theorem NPDSegment_unpack_closed (t : Seg) (buf : Bytes) (h8 : 8 ≤ buf.length) :
    Seg.unpackBase t buf = (baseDecoded t buf, .ok (buf.drop (segAdvance buf))) :=
  (unpackBase_closed t buf).trans (if_pos h8)

/-- corollary: a declared length within the buffer (and not below the header's) gives a payload of exactly
    the declared length, keeps `segmentlen` as declared, and consumes the declared length rounded up to four -/
theorem NPDSegment_exact (t : Seg) (buf : Bytes) (h1 : 8 ≤ declaredSegLen buf) (h2 : declaredSegLen buf ≤ buf.length) :
    (Seg.unpackBase t buf).1.payload = slice buf 8 (declaredSegLen buf) ∧
    (Seg.unpackBase t buf).1.payload.length = declaredSegLen buf - 8 ∧
    (Seg.unpackBase t buf).1.segmentlen = declaredSegLen buf ∧
    (Seg.unpackBase t buf).2 = .ok (buf.drop (roundUp4 (declaredSegLen buf))) := by
  have h8 : 8 ≤ buf.length := by omega
  obtain ⟨_, hp, hl, hs, hr, _⟩ := NPDSegment_unpack_payload t buf h8
  have : max 8 (min (declaredSegLen buf) buf.length) = declaredSegLen buf := by omega
  rw [this] at hl hs hr
  exact ⟨hp, hl, hs, hr⟩

/-- conversely: after decoding, `segmentlen` still shows the declared length exactly when the declared length
    lies in `[8, len(buffer)]` -/
theorem NPDSegment_exact_iff (t : Seg) (buf : Bytes) (h8 : 8 ≤ buf.length) :
    (Seg.unpackBase t buf).1.segmentlen = declaredSegLen buf ↔
      (8 ≤ declaredSegLen buf ∧ declaredSegLen buf ≤ buf.length) := by
  rw [(NPDSegment_unpack_payload t buf h8).2.2.2.1]
  omega

/-- the gap between `NPDSegment_unpack_payload` and "payload = declared − 8": a segment declaring 100 bytes with
    none present, and one declaring 0 bytes, are accepted; `segmentlen` reads 8 afterwards -/
example : (Seg.unpackBase (Seg.fresh .base) [0, 0, 0, 1, 0, 100, 0, 0]).2 = .ok [] ∧
    (Seg.unpackBase (Seg.fresh .base) [0, 0, 0, 1, 0, 100, 0, 0]).1.segmentlen = 8 := ⟨rfl, rfl⟩
example : (Seg.unpackBase (Seg.fresh .base) [0, 0, 0, 1, 0, 0, 0, 0, 9, 9, 9, 9]).2 = .ok [9, 9, 9, 9] ∧
    (Seg.unpackBase (Seg.fresh .base) [0, 0, 0, 1, 0, 0, 0, 0, 9, 9, 9, 9]).1.segmentlen = 8 := ⟨rfl, rfl⟩

/-- non-vacuity of `NPDSegment_exact`: 11 declared, 12 present (one pad byte) -/
example : 8 ≤ declaredSegLen [0, 0, 0, 1, 0, 11, 0, 0, 7, 8, 9, 255] ∧
    declaredSegLen [0, 0, 0, 1, 0, 11, 0, 0, 7, 8, 9, 255] ≤ ([0, 0, 0, 1, 0, 11, 0, 0, 7, 8, 9, 255] : Bytes).length := by
  decide

/-- the walk on the F1 witness (notes/fti.md): one segment declaring 100 bytes, 8 present — accepted, because the
    walk uses the rewritten length 8 -/
example : SegWalk .base [0, 0, 0, 1, 0, 100, 0, 0] :=
  .step (by decide) (by decide) .done

/-- two segments, the first declaring 0 bytes (taken as 8) -/
example : SegWalk .base [0, 0, 0, 1, 0, 0, 0, 0, 0, 0, 0, 2, 0, 8, 0, 0] :=
  .step (by decide) (by decide) (.step (by decide) (by decide) .done)

/-- a trailing incomplete segment header is refused, and so is an RS-232 segment whose status word counts more
    sync bytes than the payload holds -/
example : ¬ SegWalk .base [0, 0, 0, 1, 0, 8, 0, 0, 1, 2, 3, 4] := fun h =>
  absurd ((walk_cons_iff _ _ _ (by decide)).1 ((walk_cons_iff _ _ _ (List.cons_ne_nil _ _)).1 h).2).1 (by decide)
example : ¬ SegWalk .rs232 [0, 0, 0, 1, 0, 11, 0, 0, 0, 3, 0xAA, 0xFF] :=
  fun h => absurd ((walk_cons_iff _ _ _ (List.cons_ne_nil _ _)).1 h).1 (by decide)

/-- example for `NPDSegment_exact`: declared 12, 12 bytes present -/
example : (Seg.unpackBase (Seg.fresh .base) [0,0,0,1, 0,12, 0,0, 1,2,3,4]).2 = .ok [] ∧
    (Seg.unpackBase (Seg.fresh .base) [0,0,0,1, 0,12, 0,0, 1,2,3,4]).1.payload = [1,2,3,4] ∧
    (Seg.unpackBase (Seg.fresh .base) [0,0,0,1, 0,12, 0,0, 1,2,3,4]).1.segmentlen = 12 := ⟨rfl, rfl, rfl⟩
example : (Seg.unpackBase (Seg.fresh .base) [0,0,0,1, 0,12, 0]).2 = .error .struct := by rfl

/-! ### the acceptance condition with a declarative segment walk (`FitsSegs`, Acra.Lemmas.NPDWalk)

  `NPD_accepts_iff` above speaks of `SegWalk`, an instance of the generic `Walk` over `SegOk` / `segAdvance`, which in turn
  mention `segPayload` (a `slice`) and the typed-header predicate on that slice.  `FitsSegs k rem` says the same on the raw
  bytes, in the style of `FitsM` / `FitsQ` / `FitsBlocks`. -/

theorem FitsSegs_iff (k : Kind) (rem : Bytes) :
    FitsSegs k rem ↔ rem = [] ∨ (8 ≤ rem.length ∧ TypedFits k rem ∧
      FitsSegs k (rem.drop (roundUp4 (max 8 (min (declaredSegLen rem) rem.length))))) := by
  rw [fitsSegs_unfold, segOk_iff_fits, and_assoc]
  rfl

/-- per-kind reading of `TypedFits` (the typed-header demand of each segment class, on the bytes) -/
theorem TypedFits_plain (rem : Bytes) : TypedFits .base rem ∧ TypedFits .pcmpkt rem ∧ TypedFits .a429 rem :=
  ⟨trivial, trivial, trivial⟩
theorem TypedFits_acq (rem : Bytes) : TypedFits .acq rem ↔ 12 ≤ declaredSegLen rem ∧ 12 ≤ rem.length := Iff.rfl
theorem TypedFits_mil1553 (rem : Bytes) : TypedFits .mil1553 rem ↔ 12 ≤ declaredSegLen rem ∧ 12 ≤ rem.length := Iff.rfl
theorem TypedFits_rs232 (rem : Bytes) :
    TypedFits .rs232 rem ↔ 10 + beNat ((rem.drop 8).take 2) % 8 ≤ declaredSegLen rem ∧
      10 + beNat ((rem.drop 8).take 2) % 8 ≤ rem.length := Iff.rfl

/-- each is exactly what the segment class's `unpack` demands: a segment of class `k` at the front of `rem`
    is accepted iff its header is complete and `TypedFits k rem` -/
theorem Segment_ok_iff_fits (k : Kind) (rem : Bytes) :
    (∃ g r, Seg.unpack (Seg.fresh k) rem = (g, .ok r)) ↔ 8 ≤ rem.length ∧ TypedFits k rem := by
  rw [Seg_unpack_ok_iff]
  exact segOk_iff_fits k rem

/-- NPD accepts a buffer exactly when it holds the 20-byte header, the declared total length (in 32-bit words)
    equals the real length, and the segment area after the declared header length FITS: a chain of complete
    segment headers (with complete typed headers) walked by the declared lengths.  Nothing on the right-hand
    side refers to the decoder model. -/
theorem NPD_accepts_iff_fits (t : State) (buf : Bytes) :
    (unpack t buf).2 = .ok () ↔ 20 ≤ buf.length ∧ declaredWords buf * 4 = buf.length ∧
      FitsSegs (kindOf (declaredType buf)) (buf.drop (declaredHdrlen buf * 4)) := by
  rw [NPD_accepts_iff, fitsSegs_iff_walk]

/-- the rejections, exactly: `struct.error` iff the 20-byte header is incomplete; a bare `Exception` iff the header is
    complete and either the declared total length differs from the real one or the segment walk meets (with bytes
    left) an incomplete segment header or a typed header that does not fit (`SegsReject`).  Nothing else is possible. -/
theorem NPD_rejects_iff (t : State) (buf : Bytes) :
    ((unpack t buf).2 = .error .struct ↔ buf.length < 20) ∧
    ((unpack t buf).2 = .error .generic ↔ 20 ≤ buf.length ∧ (declaredWords buf * 4 ≠ buf.length ∨
      SegsReject (kindOf (declaredType buf)) (buf.drop (declaredHdrlen buf * 4)))) ∧
    ((unpack t buf).2 = .ok () ∨ (unpack t buf).2 = .error .struct ∨ (unpack t buf).2 = .error .generic) := by
  have hrej : (segLoop buf).isOk = false ↔
      SegsReject (kindOf (declaredType buf)) (buf.drop (declaredHdrlen buf * 4)) := loop_isOk_false_iff _ _
  refine ⟨?_, ?_, ?_⟩
  · rw [NPD_decodes.error_iff, npdRun_error_iff]
    simp only [reduceCtorEq, and_false, and_true, or_false]
  · rw [NPD_decodes.error_iff, npdRun_error_iff, hrej]
    simp only [reduceCtorEq, and_false, and_true, false_or]
    exact Iff.rfl
  · exact (R.ok_or_error fun e hr => by
      rcases (npdRun_error_iff buf e).1 ((NPD_decodes.error_iff t buf e).1 hr) with ⟨_, rfl⟩ | ⟨_, _, rfl⟩ <;> simp).imp_left
        fun ⟨_, h⟩ => h

/-- acceptance and `SegsReject` exclude each other; together with the length checks they exhaust all buffers -/
theorem FitsSegs_xor_reject (k : Kind) (rem : Bytes) :
    (FitsSegs k rem ∧ ¬ SegsReject k rem) ∨ (SegsReject k rem ∧ ¬ FitsSegs k rem) := fitsSegs_xor_reject k rem

/-- witnesses for `NPD_accepts_iff_fits`: the accepted 32-byte packet of `npdHdrW` (one plain segment, declared 12) -/
example : FitsSegs .base [0,0,0,1, 0,12, 0,0, 1,2,3,4] := .seg _ (by decide) trivial .done
example : 20 ≤ (npdHdrW 8 ++ [0,0,0,1, 0,12, 0,0, 1,2,3,4]).length ∧
    declaredWords (npdHdrW 8 ++ [0,0,0,1, 0,12, 0,0, 1,2,3,4]) * 4 = (npdHdrW 8 ++ [0,0,0,1, 0,12, 0,0, 1,2,3,4]).length ∧
    kindOf (declaredType (npdHdrW 8 ++ [0,0,0,1, 0,12, 0,0, 1,2,3,4])) = .base ∧
    (npdHdrW 8 ++ [0,0,0,1, 0,12, 0,0, 1,2,3,4]).drop (declaredHdrlen (npdHdrW 8 ++ [0,0,0,1, 0,12, 0,0, 1,2,3,4]) * 4) =
      [0,0,0,1, 0,12, 0,0, 1,2,3,4] := by decide
/-- two segments with padding: declared 11 (3 data bytes + 1 pad), then declared 8; an ACQ segment with its 4 typed bytes;
    an RS-232 segment announcing 2 sync bytes that are present (declared 12 = status word + 2 sync bytes) -/
example : FitsSegs .base [0,0,0,1, 0,11, 0,0, 7,8,9,255,  0,0,0,2, 0,8, 0,0] :=
  .seg _ (by decide) trivial (.seg _ (by decide) trivial .done)
example : FitsSegs .acq [0,0,0,1, 0,12, 0,0, 5,0x80,0,0] := .seg _ (by decide) (by decide) .done
example : FitsSegs .rs232 [0,0,0,1, 0,12, 0,0, 0,2,0xAA,0xBB] := .seg _ (by decide) (by decide) .done
/-- rejected walks, one per constructor of `SegsReject`: 4 stray bytes after a complete segment (`later` then `short`);
    an ACQ segment declaring 11 < 12 bytes; an ACQ segment declaring 12 with only 11 present; an RS-232 segment
    announcing 3 sync bytes with 2 present -/
example : SegsReject .base [0,0,0,1, 0,12, 0,0, 1,2,3,4,  0,0,0,1] :=
  .later _ (by decide) trivial (.short _ (by decide) (by decide))
example : SegsReject .acq [0,0,0,1, 0,11, 0,0, 5,0x80,0,0] := .typed _ (by decide) (by decide)
example : SegsReject .acq [0,0,0,1, 0,12, 0,0, 5,0x80,0] := .typed _ (by decide) (by decide)
example : SegsReject .rs232 [0,0,0,1, 0,12, 0,0, 0,3,0xAA,0xBB] := .typed _ (by decide) (by decide)
/-- the decoder's verdicts on whole packets agree (data type 0xFF: plain; 36 bytes, 9 words, 4 stray bytes) -/
example : (unpack fresh (npdHdrW 9 ++ [0,0,0,1, 0,12, 0,0, 1,2,3,4] ++ [0,0,0,1])).2 = .error .generic := by rfl
/-- the F1 observation in this vocabulary: a segment declaring 100 bytes with 8 present FITS (the walk clamps) -/
example : FitsSegs .base [0, 0, 0, 1, 0, 100, 0, 0] := .seg _ (by decide) trivial .done

/-- what an accepted NPD packet returns, segment by segment (the packet-level counterpart of `NPDSegment_unpack_payload`;
    `area` = the bytes after the declared header length): every segment object was decoded at some offset `o` of the
    segment area where a complete 8-byte header stands, and holds exactly the bytes `area[o+8 : o+d]` for the length `d`
    declared there — clamped at the end of the area, empty for `d < 8` — with `segmentlen` rewritten to 8 + that many
    bytes.  So nothing that is not in the buffer is ever returned; but a declared length pointing past the end IS
    accepted with a shorter payload (observation F1, notes/fti.md: the segment length is not among the checks). -/
theorem NPD_accepted_every_segment (t : State) (buf : Bytes) (h : (unpack t buf).2 = .ok ()) :
    ∀ g ∈ (unpack t buf).1.segments, ∃ o,
      o + 8 ≤ (buf.drop (declaredHdrlen buf * 4)).length ∧
      g.payload = slice ((buf.drop (declaredHdrlen buf * 4)).drop o) 8
        (declaredSegLen ((buf.drop (declaredHdrlen buf * 4)).drop o)) ∧
      g.segmentlen = max 8 (min (declaredSegLen ((buf.drop (declaredHdrlen buf * 4)).drop o))
        ((buf.drop (declaredHdrlen buf * 4)).length - o)) ∧
      g.payload.length + 8 = g.segmentlen := by
  intro g hg
  obtain ⟨_, hr, _⟩ := decOff_ok_reach (unpack_segments t buf h)
  obtain ⟨o, n, _, _, hdec⟩ := reach_mem hr g hg
  change decSeg _ ((buf.drop (declaredHdrlen buf * 4)).drop o) = _ at hdec
  generalize buf.drop (declaredHdrlen buf * 4) = area at hdec ⊢
  obtain ⟨hok, _, hsl, hp⟩ := decSeg_ok _ _ g n hdec
  have h8 := hok.1
  have hge := segLen_ge (area.drop o)
  rw [List.length_drop] at h8
  refine ⟨o, by omega, ?_, ?_, ?_⟩
  · rw [hp, segPayload_eq]
    rfl
  · rw [hsl, segLen, List.length_drop]
    rfl
  · rw [hp, hsl, segPayload_length]
    omega

/-- witness: the accepted 32-byte packet returns one segment, payload = the 4 bytes after its header, `segmentlen` 12 -/
example : (unpack fresh (npdHdrW 8 ++ [0,0,0,1, 0,12, 0,0, 1,2,3,4])).2 = .ok () ∧
    (unpack fresh (npdHdrW 8 ++ [0,0,0,1, 0,12, 0,0, 1,2,3,4])).1.segments.map (fun g => (g.payload, g.segmentlen)) =
      [([1,2,3,4], 12)] := ⟨rfl, rfl⟩

end Acra.Props.C09
