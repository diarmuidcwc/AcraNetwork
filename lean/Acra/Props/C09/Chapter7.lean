/-
  C09 — accept / reject boundaries of the golay7 family, exact over ALL buffers:
  Golay.decode(bytes) wants exactly 3 bytes; PTDP.unpack wants 6 header bytes, a declared length
  ≤ 2048 and the declared body present (three distinct rejections, in that order); PTFR.unpack wants
  the 4 header bytes and a payload no longer than the object's `length`.
  `ptdpDeclared b` is the length the (Golay-corrected) header words of `b` declare.
-/
import Acra.Lemmas.Chapter7
namespace Acra.Props.C09
open Acra.Py Acra.Model Acra.Model.Chapter7 Acra.Lemmas.Chapter7 Acra.Lemmas.Golay Acra.Lemmas

theorem Golay_bytes3_iff (b : Bytes) : (Golay.decodeBytes b).isOk = true ↔ b.length = 3 := by
  by_cases h : b.length = 3
  · simp [decodeBytes_gval b h, h, R.isOk]
  · simp [decodeBytes_bad b h, h, R.isOk]

/-- the rejection is the bare `Exception`, never a truncated or padded decode -/
theorem Golay_bytes3_reject (b : Bytes) (h : b.length ≠ 3) : Golay.decodeBytes b = .error .generic :=
  decodeBytes_bad b h

/-- rejection 1: fewer than 6 bytes → PTDPRemainingData -/
theorem PTDP_short_header (t : PTDP.State) (b : Bytes) (h : b.length < 6) :
    (PTDP.unpack t b).2 = .error .ptdpRemaining := by
  rw [ptdp_unpack_short t b h]

/-- rejection 2: declared length above 2048 → PTDPLengthError (whatever follows) -/
theorem PTDP_length_error (t : PTDP.State) (b : Bytes) (h : 6 ≤ b.length) (hd : 2048 < ptdpDeclared b) :
    (PTDP.unpack t b).2 = .error .ptdpLength := by
  rw [PTDP_decodes.snd_eq, ptdpRun, if_neg (Nat.not_lt.2 h), if_pos hd]
  rfl

/-- rejection 3: body shorter than declared → PTDPRemainingData -/
theorem PTDP_short_body (t : PTDP.State) (b : Bytes) (h : 6 ≤ b.length) (hd : ptdpDeclared b ≤ 2048)
    (hb : b.length - 6 < ptdpDeclared b) : (PTDP.unpack t b).2 = .error .ptdpRemaining := by
  rw [PTDP_decodes.snd_eq, ptdpRun, if_neg (Nat.not_lt.2 h), if_neg (Nat.not_lt.2 hd), if_pos hb]
  rfl

theorem PTDP_ok_iff (t : PTDP.State) (b : Bytes) :
    (PTDP.unpack t b).2.isOk = true ↔
      6 ≤ b.length ∧ ptdpDeclared b ≤ 2048 ∧ ptdpDeclared b ≤ b.length - 6 := by
  rw [PTDP_decodes.snd_eq]
  constructor
  · intro h
    cases hd : ptdpRun b with
    | error e => rw [hd] at h; cases h
    | ok pr => exact ⟨(ptdpRun_ok b pr.2 pr.1 hd).1, (ptdpRun_ok b pr.2 pr.1 hd).2.1, (ptdpRun_ok b pr.2 pr.1 hd).2.2.1⟩
  · intro ⟨h6, hd, hb⟩
    rw [ptdpRun, if_neg (Nat.not_lt.2 h6), if_neg (Nat.not_lt.2 hd), if_neg (Nat.not_lt.2 hb)]
    rfl

/-- an accepted PTDP is never truncated or padded: payload and remainder are exactly the declared bytes -/
theorem PTDP_accepted_exact (t : PTDP.State) (b rest : Bytes) (h : (PTDP.unpack t b).2 = .ok rest) :
    (PTDP.unpack t b).1.payload = slice b 6 (6 + ptdpDeclared b) ∧ rest = b.drop (6 + ptdpDeclared b) ∧
    (PTDP.unpack t b).1.length = ptdpDeclared b ∧ (PTDP.unpack t b).1.payload.length = ptdpDeclared b := by
  obtain ⟨_, _, hb, hp, hr⟩ :=
    ptdpRun_ok b rest (PTDP.unpack t b).1 (PTDP_decodes.of_ok h)
  rw [hp]
  exact ⟨ptdpOf_payload b, hr, ptdpOf_length b, ptdpOf_payload_length b hb⟩

theorem PTFR_ok_iff (t : PTFR.State) (b : Bytes) :
    (PTFR.unpack t b).2 = .ok () ↔ 4 ≤ b.length ∧ b.length - 4 ≤ t.length := by
  rw [PTFR_decodes.ok_iff]
  simp only [ptfrRun, R.ite_ok_eq_ok, Prod.mk.injEq, and_true, exists_eq_right']

/-! ### `ptdpDeclared` tied to the wire layout; examples (kernel evaluation of the decode
    tables is too deep, so they are derived from the theorems above and the Golay correction lemma) -/

/-- `ptdpDeclared` (phrased with the model's Golay decoder) is the length field of the Chapter 7 layout: for a header
    whose two words carry `l` and `m` — each with up to three bit errors — it is `m + (l mod 16)·4096` -/
theorem ptdpDeclared_words (l m e1 e2 : Nat) (hl : l < 4096) (hm : m < 4096) (he1 : e1 < 2 ^ 24) (he2 : e2 < 2 ^ 24)
    (hw1 : wt e1 ≤ 3) (hw2 : wt e2 ≤ 3) (body : Bytes) :
    ptdpDeclared (noisyWord l e1 ++ noisyWord m e2 ++ body) = m + (l % 16) * 4096 := by
  rw [ptdpDeclared_append _ _ _ (noisyWord_length _ _) (noisyWord_length _ _),
    gval_of_ok (decode_noisyWord l e1 hl he1 hw1), gval_of_ok (decode_noisyWord m e2 hm he2 hw2), Bits.and_F, Bits.shl]

example : ptdpDeclared (Spec.Golay.word 256 ++ Spec.Golay.word 3 ++ [1, 2, 3, 9]) = 3 := by
  rw [← noisyWord_zero_spec, ← noisyWord_zero_spec]
  exact ptdpDeclared_words 256 3 0 0 (by decide) (by decide) (by decide) (by decide) wt_zero_le wt_zero_le _

/-- a header whose first word is `[16, 7, 180]` (the Spec's Golay word for 256: content 4, fragment 0, length bits
    15..12 = 0) and whose second word carries `m` declares the length `m`; used below with m = 3, 2049, 2048 -/
theorem PTDP_witness_words (m : Nat) (w : Bytes) (hm : m < 4096) (hw : w = Spec.Golay.word m) (body : Bytes) :
    ptdpDeclared ([16, 7, 180] ++ w ++ body) = m := by
  have e : ([16, 7, 180] : Bytes) = noisyWord 256 0 := by rw [noisyWord_zero_spec]; decide
  rw [e, hw, ← noisyWord_zero_spec,
    ptdpDeclared_words 256 m 0 0 (by decide) hm (by decide) (by decide) wt_zero_le wt_zero_le]
  omega

/-- acceptance (header words from the Spec's Golay code): declared 3 with 4 body bytes → accepted, payload = exactly
    the 3 bytes, 1 byte left over -/
theorem PTDP_witness_accept :
    (PTDP.unpack PTDP.fresh [16, 7, 180, 0, 49, 213, 1, 2, 3, 9]).2 = .ok [9] ∧
    (PTDP.unpack PTDP.fresh [16, 7, 180, 0, 49, 213, 1, 2, 3, 9]).1.payload = [1, 2, 3] := by
  have hd : ptdpDeclared [16, 7, 180, 0, 49, 213, 1, 2, 3, 9] = 3 :=
    PTDP_witness_words 3 [0, 49, 213] (by decide) (by decide) [1, 2, 3, 9]
  have hu := (PTDP_decodes.eq_ok_iff PTDP.fresh [16, 7, 180, 0, 49, 213, 1, 2, 3, 9] _ _).2
    (by rw [ptdpRun, if_neg (by decide), hd, if_neg (by decide), if_neg (by decide)])
  simp only [hu, ptdpOf_payload, hd]
  exact ⟨rfl, rfl⟩

/-- the three rejections: declared 3 with 2 body bytes → PTDPRemainingData; declared 2049 → PTDPLengthError; 5 bytes →
    PTDPRemainingData; declared 2048 does not trip the length check -/
theorem PTDP_witness_reject :
    (PTDP.unpack PTDP.fresh [16, 7, 180, 0, 49, 213, 1, 2]).2 = .error .ptdpRemaining ∧
    (PTDP.unpack PTDP.fresh ([16, 7, 180, 128, 20, 158] ++ List.replicate 2049 7)).2 = .error .ptdpLength ∧
    (PTDP.unpack PTDP.fresh [16, 7, 180, 0, 49]).2 = .error .ptdpRemaining ∧
    ptdpDeclared ([16, 7, 180, 128, 12, 117] ++ List.replicate 2048 7) = 2048 := by
  refine ⟨?_, ?_, ?_, ?_⟩
  · have hd : ptdpDeclared [16, 7, 180, 0, 49, 213, 1, 2] = 3 :=
      PTDP_witness_words 3 [0, 49, 213] (by decide) (by decide) [1, 2]
    exact PTDP_short_body _ _ (by decide) (by rw [hd]; decide) (by rw [hd]; decide)
  · have hd : ptdpDeclared ([16, 7, 180, 128, 20, 158] ++ List.replicate 2049 7) = 2049 :=
      PTDP_witness_words 2049 [128, 20, 158] (by decide) (by decide) _
    exact PTDP_length_error _ _ (by rw [List.length_append, List.length_replicate]; decide) (by rw [hd]; decide)
  · exact PTDP_short_header _ _ (by decide)
  · exact PTDP_witness_words 2048 [128, 12, 117] (by decide) (by decide) _

/-- PTFR / Golay-bytes witnesses through the iff theorems: a 4-byte payload into a frame object of length 4 accepted,
    a 5-byte payload rejected, a 3-byte buffer rejected; `Golay.decode` takes 3 bytes, not 2 or 4 -/
example : (PTFR.unpack { PTFR.fresh with length := 4 } [0x10, 0, 49, 213, 1, 2, 3, 4]).2 = .ok () :=
  (PTFR_ok_iff _ _).2 (by decide)
example : (PTFR.unpack { PTFR.fresh with length := 4 } [0x10, 0, 49, 213, 1, 2, 3, 4, 5]).2 ≠ .ok () :=
  fun h => absurd ((PTFR_ok_iff _ _).1 h) (by decide)
example : (PTFR.unpack { PTFR.fresh with length := 4 } [0x10, 0, 49]).2 ≠ .ok () :=
  fun h => absurd ((PTFR_ok_iff _ _).1 h) (by decide)
example : (Golay.decodeBytes [0, 49, 213]).isOk = true := (Golay_bytes3_iff _).2 rfl
example : Golay.decodeBytes [0, 49] = .error .generic ∧ Golay.decodeBytes [0, 49, 213, 0] = .error .generic :=
  ⟨Golay_bytes3_reject _ (by decide), Golay_bytes3_reject _ (by decide)⟩

end Acra.Props.C09
