/-
  C17, Boyer–Moore–Horspool: `string_matching_boyer_moore_horspool(text, pattern)` returns exactly
  the ascending list of all (possibly overlapping) offsets at which the pattern occurs.
  Model: Acra.Model.Search.bmh (fuelled `while k < n`, `Int` indices as in Python).
  Spec:  Acra.Spec.occ.
  The empty pattern is outside the domain (DESIGN §8): the examples at the end show what the code does there.
-/
import Acra.Lemmas.Search
namespace Acra.Props.C17
open Acra.Py Acra.Model.Search Acra.Spec Acra.Lemmas.Search

/-- what the Spec list means -/
theorem occ_mem_iff (t p : Bytes) (i : Nat) :
    i ∈ occ t p ↔ i + p.length ≤ t.length ∧ slice t i (i + p.length) = p := by
  rw [mem_occ, OccAt, slice, List.take_drop, Nat.add_comm]

theorem occ_ascending (t p : Bytes) : (occ t p).Pairwise (· < ·) := occ_pairwise t p

/-- Horspool = all occurrences, ascending, for every text and every non-empty pattern -/
theorem BMH_search_eq_occ (text pat : Bytes) (hp : pat ≠ []) :
    bmh text pat = .ok ((occ text pat).map Int.ofNat) := bmh_eq_occ text pat hp

/-- the docstring example: text `ababbababa`, pattern `aba` (a = 97, b = 98) -/
example : bmh [97, 98, 97, 98, 98, 97, 98, 97, 98, 97] [97, 98, 97] = .ok [0, 5, 7] := by rfl
example : ([97, 98, 97] : Bytes) ≠ [] := by decide

/-- termination (C08): for a non-empty pattern the fuel `len(text) + 1` never runs out -/
theorem BMH_fuel_sufficient (text pat : Bytes) (hp : pat ≠ []) : bmh text pat ≠ .error .fuel := by
  rw [bmh_eq_occ text pat hp]; simp

example : bmh [97, 98, 97, 98, 98, 97, 98, 97, 98, 97] [97, 98, 97] ≠ .error .fuel :=
  BMH_fuel_sufficient _ _ (by decide)

/-- shift safety: `c` is the last byte of the window at `s` -/
theorem BMH_shift_safe (text pat : Bytes) (hp : pat ≠ []) (s : Nat) (c : UInt8)
    (hc : text[s + pat.length - 1]? = some c) :
    ∃ v, (bmhSkip pat)[c.toNat]? = some v ∧ 1 ≤ v ∧
      ∀ x, x ∈ occ text pat → s < x → x < s + v → False := by
  have hm : 1 ≤ pat.length := List.length_pos_iff.2 hp
  obtain ⟨v, h1, h2, h3, h4⟩ := bmhSkip_spec pat hm c
  exact ⟨v, h1, h2, fun x hx => shift_safe text pat s v c hm hc h3 h4 x ((mem_occ _ _ _).1 hx)⟩

/-- non-vacuity: window at s = 2 of the docstring example; its last byte is `b` -/
example : ([97, 98, 97] : Bytes) ≠ [] ∧
    ([97, 98, 97, 98, 98, 97, 98, 97, 98, 97] : Bytes)[2 + ([97, 98, 97] : Bytes).length - 1]? = some 98 := by decide

/-- outside the domain: the empty pattern on the empty text raises IndexError (`text[-1]`), and on a
    non-empty text the loop never advances (`skip[...] = 0`): the model runs out of fuel -/
example : bmh [] [] = .error .index := by rfl
example : bmh [7] [] = .error .fuel := by rfl

end Acra.Props.C17
