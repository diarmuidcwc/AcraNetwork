import Acra.Gen.Src.Init
import Acra.Model.Search
import Acra.Lemmas.SrcTieSwap
import Acra.Gen.Src.SamDec008
import Acra.Gen.Src.H264
import Acra.Lemmas.SrcTieSearch
import Acra.Lemmas.KMP
import Acra.Lemmas.Search
-- some simp arguments serve only one of the forms a tied piece is covered in (raising / total index operations)
set_option linter.unusedSimpArgs false
namespace Acra.Props.C17
open Acra Acra.Py Acra.Model.Search Acra.Lemmas.SrcTieSwap Acra.Lemmas.SrcTieSearch Acra.Lemmas.SrcTieLoop

/-! Source tie (C17): `AcraNetwork.endianness_swap`, regenerated from the current Python source by
    `harness/translate.py` on every run (see `Props/C07/SrcTie.lean`). -/

/-- `endianness_swap` = the model, for every buffer and every int `bytecount`:
    ZeroDivisionError for 0, the two `Exception`s, and the swapped bytes for 2 and 4.  The translated function carries
    the `ValueError` of an extended-slice assignment of the wrong size; the proof shows it cannot occur (the sizes of
    `buffer[i::k]` agree whenever `len(buffer) % k == 0`). -/
theorem src_endianness_swap (b : Bytes) (k : Int) :
    Gen.Src.Init.endianness_swap b k = Model.Search.endiannessSwap b k := by
  unfold Gen.Src.Init.endianness_swap Model.Search.endiannessSwap Py.pymodE
  by_cases hk0 : k = 0
  · simp only [hk0, if_true]; rfl
  · simp only [hk0, if_false, bind, Except.bind, Py.len]
    have hm : (pymod (b.length : Int) k ≠ 0) ↔ ((b.length : Int) % k ≠ 0) := not_congr (pymod_eq_zero_iff _ _)
    by_cases hd : (b.length : Int) % k ≠ 0
    · rw [if_pos (hm.mpr hd), if_pos hd]
    · rw [if_neg (fun h => hd (hm.mp h)), if_neg hd]
      have hd' : (b.length : Int) % k = 0 := by omega
      by_cases h2 : k = 2
      · subst h2
        have hn : b.length % 2 = 0 := by omega
        simp only [if_true]
        rw [strideSetE_class b _ 0 1 2 (by decide) (by decide) rfl hn]
        simp only []
        rw [strideSetE_class b _ 1 0 2 (by decide) (by decide) (by simp only [setStride_length]) hn]
        simp only [Model.Search.swap2, getStride_eq, setStride_eq]
      · rw [if_neg h2, if_neg h2]
        by_cases h4 : k = 4
        · subst h4
          have hn : b.length % 4 = 0 := by omega
          simp only [if_true]
          rw [strideSetE_class b _ 0 3 4 (by decide) (by decide) rfl hn]
          simp only []
          rw [strideSetE_class b _ 1 2 4 (by decide) (by decide) (by simp only [setStride_length]) hn]
          simp only []
          rw [strideSetE_class b _ 2 1 4 (by decide) (by decide) (by simp only [setStride_length]) hn]
          simp only []
          rw [strideSetE_class b _ 3 0 4 (by decide) (by decide) (by simp only [setStride_length]) hn]
          simp only [Model.Search.swap4, getStride_eq, setStride_eq]
        · rw [if_neg h4, if_neg h4]

example : Gen.Src.Init.endianness_swap [1, 2, 3, 4] 2 = .ok [2, 1, 4, 3] := by rfl
example : Gen.Src.Init.endianness_swap [1, 2, 3, 4] 4 = .ok [4, 3, 2, 1] := by rfl
example : Gen.Src.Init.endianness_swap [1, 2, 3] 0 = .error .zeroDiv := by rfl
example : Gen.Src.Init.endianness_swap [1, 2, 3] (-3) = .error .generic := by rfl

/-- `KMP.partial` = the model `kmpPartial`, for EVERY pattern (the empty one too: `[0]`), results as
    Python ints.  The theorem includes termination of the fall-back `while` within the fuel `j + 1` wherever the model
    terminates (everywhere: `KMP_partial_failure_table`). -/
theorem src_KMP_partial (p : Bytes) :
    Gen.Src.Init.KMP_partial p = (Model.Search.kmpPartial p).map (List.map Int.ofNat) := by
  unfold Gen.Src.Init.KMP_partial Model.Search.kmpPartial Py.range2 Py.len
  rw [show ((p.length : Int) - 1).toNat = p.length - 1 by omega]
  refine for_tie (List.map Int.ofNat) (fun ret => ret) _ _ (p.length - 1)
    (fun n ret => (kmpPartialLoop p (p.drop (n + 1)) (n + 1) ret).map (List.map Int.ofNat))
    (fun ret => by rw [List.drop_eq_nil_of_le (by omega)]; rfl) (fun n ret K hn hK => ?_) [0]
  have hi : n + 1 < p.length := by omega
  have h1 : 1 ≤ n + 1 := by omega
  rw [show (1 : Int) + (n : Int) = ((n + 1 : Nat) : Int) by omega]
  generalize n + 1 = i at hi h1 hK ⊢
  have hpi : p[i]? = some p[i] := List.getElem?_eq_getElem hi
  rw [List.drop_eq_getElem_cons hi, kmpPartialLoop]
  generalize p[i] = c at hpi
  have hi1 : (i : Int) - 1 = ((i - 1 : Nat) : Int) := by omega
  simp only [hi1, getItem_nat]
  cases ret[i - 1]? with
  | none => rfl
  | some j =>
    simp only [liftN_some, ok_bind, toNat_succ]
    rw [fall_tie p ret c _ _ (fun x => decide (x ≠ (c.toNat : Int))) (fun x => decide_eq_decide.mpr (u8_ne_iff x c))
      (fun j => by simp only [getByte_nat p i, hpi, liftB_some, ok_bind]) (fun j => rfl)]
    cases Model.Search.kmpFall p ret c (j + 1) j with
    | error e => rfl
    | ok j2 =>
      simp only [Except.map, ok_bind, Int.ofNat_eq_natCast, getByte_nat, hpi, liftB_some]
      cases p[j2]? with
      | none => rfl
      | some x =>
        simp only [liftB_some, ok_bind, u8_eq_iff, beq_iff_eq]
        have := hK (ret ++ [if x = c then j2 + 1 else j2])
        simp only [Except.map] at this
        rw [← this]
        by_cases hx : x = c
        · simp only [hx, if_true, List.map_append, List.map_cons, List.map_nil]; rfl
        · simp only [hx, if_false, List.map_append, List.map_cons, List.map_nil]; rfl

/-- `KMP.search` = the model `kmpSearch`, for EVERY text and pattern (non-empty pattern: the list of
    offsets; empty pattern: IndexError on a non-empty text, `[]` on the empty text), including termination of the
    fall-back loop within its fuel. -/
theorem src_KMP_search (t p : Bytes) :
    Gen.Src.Init.KMP_search t p = Model.Search.kmpSearch t p := by
  unfold Gen.Src.Init.KMP_search Model.Search.kmpSearch
  rw [src_KMP_partial]
  cases Model.Search.kmpPartial p with
  | error e => rfl
  | ok tbl =>
    simp only [Except.map]
    rw [ok_bind, show Py.len t = ((t.length : Nat) : Int) from rfl, Py.range_natCast]
    refine for_tie (fun s : Nat × List Int => ((s.1 : Int), s.2)) (fun st => st.2) _ _ t.length
      (fun n s => kmpSearchLoop p tbl (t.drop n) n s.1 s.2)
      (fun s => by rw [List.drop_eq_nil_of_le (Nat.le_refl _)]; rfl) (fun i s K hi hK => ?_) (0, [])
    obtain ⟨j, ret⟩ := s
    have hti : t[i]? = some t[i] := List.getElem?_eq_getElem hi
    rw [List.drop_eq_getElem_cons hi, kmpSearchLoop]
    generalize t[i] = c at hti
    simp only [toNat_succ, byteAt_nat t i c hti, show Int.ofNat i = (i : Int) from rfl]
    rw [fall_tie p tbl c _ _ (fun x => decide ((c.toNat : Int) ≠ x))
      (fun x => decide_eq_decide.mpr ((u8_ne_iff c x).trans ne_comm)) (fun j => rfl) (fun j => rfl)]
    cases Model.Search.kmpFall p tbl c (j + 1) j with
    | error e => rfl
    | ok j2 =>
      simp only [Except.map, ok_bind, Int.ofNat_eq_natCast, getByte_nat]
      cases hpj : p[j2]? with
      | none => rfl
      | some x =>
        simp only [liftB_some, ok_bind, u8_eq_iff, beq_iff_eq]
        have hlt : j2 < p.length := (List.getElem?_eq_some_iff.mp hpj).1
        have hJ : (if c = x then (j2 : Int) + 1 else (j2 : Int)) = ((if c = x then j2 + 1 else j2 : Nat) : Int) := by
          split <;> simp
        rw [hJ]
        generalize hJdef : (if c = x then j2 + 1 else j2) = J
        have hJ1 : J = p.length → 1 ≤ J := by intro h; split at hJdef <;> omega
        by_cases hJp : J = p.length
        · have h1 : (J : Int) = Py.len p := by unfold Py.len; omega
          have hj1 : (J : Int) - 1 = ((J - 1 : Nat) : Int) := by have := hJ1 hJp; omega
          have hget : getItem (tbl.map Int.ofNat) ((J : Int) - 1) = liftN tbl[J - 1]? := by rw [hj1, getItem_nat]
          rw [if_pos h1, if_pos hJp, hget]
          cases tbl[J - 1]? with
          | none => rfl
          | some j' =>
            simp only [liftN_some, ok_bind]
            refine Eq.trans ?_ (hK (j', ret ++ [(i : Int) - ((J : Int) - 1)]))
            -- the offset `i - (j - 1)`, however it is written (`i - j + 1` …): linear arithmetic
            first
              | rfl
              | (refine congrArg K (Prod.ext rfl (congrArg (fun x => ret ++ [x]) ?_))
                 show _ = _
                 omega)
        · have h1 : ¬ (J : Int) = Py.len p := by unfold Py.len; omega
          rw [if_neg h1, if_neg hJp, ← hK (J, ret)]; rfl

/-- the completeness theorem of the model transfers to the SOURCE: `KMP().search(T, P)` returns
    exactly the ascending list of all (possibly overlapping) occurrences, for every text and non-empty pattern -/
theorem src_KMP_search_all_occurrences (t p : Bytes) (hp : p ≠ []) :
    Gen.Src.Init.KMP_search t p = .ok ((Spec.occ t p).map Int.ofNat) := by
  rw [src_KMP_search]; exact Lemmas.KMP.kmpSearch_eq_occ t p hp

/-- … and `KMP().partial(P)` is the failure table (longest proper borders) -/
theorem src_KMP_partial_failure_table (p : Bytes) (hp : p ≠ []) :
    ∃ tbl : List Nat, Gen.Src.Init.KMP_partial p = .ok (tbl.map Int.ofNat) ∧ tbl.length = p.length ∧
      ∀ k, k < p.length → ∃ b, tbl[k]? = some b ∧ b < k + 1 ∧
        p.take b <:+ p.take (k + 1) ∧
        ∀ b', b' < k + 1 → p.take b' <:+ p.take (k + 1) → b' ≤ b := by
  obtain ⟨tbl, h1, h2, h3⟩ := Lemmas.KMP.kmpPartial_spec p hp
  exact ⟨tbl, by rw [src_KMP_partial, h1]; rfl, h2, h3.borders⟩

example : ([97, 98, 97] : Bytes) ≠ [] := by decide
example : Gen.Src.Init.KMP_search [97, 98, 97, 98, 98, 97, 98, 97, 98, 97] [97, 98, 97] = .ok [0, 5, 7] := by rfl
example : Gen.Src.Init.KMP_partial [97, 98, 97, 98, 97, 99] = .ok [0, 0, 1, 2, 3, 0] := by rfl
/-- outside the domain of the corollaries (empty pattern): IndexError on a non-empty text, `[]` on the empty text -/
example : Gen.Src.Init.KMP_search [7] [] = .error .index := by rfl
example : Gen.Src.Init.KMP_search [] [] = .ok [] := by rfl

/-- `string_matching_boyer_moore_horspool` of SamDec008.py = the model `bmh`, for EVERY text and
    pattern: `[]` when the pattern is longer than the text, the offsets for a non-empty pattern, and outside the domain
    (empty pattern) IndexError on the empty text / `Err.fuel` (the Python loop never ends) on a non-empty one.
    Includes termination of both `while` loops within their fuels wherever the model terminates. -/
theorem src_bmh_samdec (text pat : Bytes) :
    Gen.Src.SamDec008.string_matching_boyer_moore_horspool text pat = Model.Search.bmh text pat :=
  (bmh_copies_tie text pat).1

/-- the same for the second copy, in MPEG/H264.py (its `if PY3:` tests are resolved to the Python-3 branch by the
    translator, see the note in the generated file) -/
theorem src_bmh_h264 (text pat : Bytes) :
    Gen.Src.H264.string_matching_boyer_moore_horspool text pat = Model.Search.bmh text pat :=
  (bmh_copies_tie text pat).2

/-- the completeness theorem of the model transfers to the SOURCE: both copies of Horspool return exactly the ascending
    list of all (possibly overlapping) occurrences, for every text and every non-empty pattern -/
theorem src_bmh_samdec_all_occurrences (text pat : Bytes) (hp : pat ≠ []) :
    Gen.Src.SamDec008.string_matching_boyer_moore_horspool text pat = .ok ((Spec.occ text pat).map Int.ofNat) := by
  rw [src_bmh_samdec]; exact Lemmas.Search.bmh_eq_occ text pat hp

theorem src_bmh_h264_all_occurrences (text pat : Bytes) (hp : pat ≠ []) :
    Gen.Src.H264.string_matching_boyer_moore_horspool text pat = .ok ((Spec.occ text pat).map Int.ofNat) := by
  rw [src_bmh_h264]; exact Lemmas.Search.bmh_eq_occ text pat hp

example : ([97, 98, 97] : Bytes) ≠ [] := by decide
example : Gen.Src.SamDec008.string_matching_boyer_moore_horspool [97, 98, 97, 98, 98, 97, 98, 97, 98, 97] [97, 98, 97]
    = .ok [0, 5, 7] := by rw [src_bmh_samdec]; rfl
example : Gen.Src.H264.string_matching_boyer_moore_horspool [0, 0, 0, 1, 9, 0, 0, 0, 1] [0, 0, 0, 1] = .ok [0, 5] := by
  rw [src_bmh_h264]; rfl
/-- outside the domain (empty pattern): IndexError on the empty text; on a non-empty text the Python loop never ends
    (`skip[...] = 0`), which the translation reports as `Err.fuel` -/
example : Gen.Src.SamDec008.string_matching_boyer_moore_horspool [] [] = .error .index := by rw [src_bmh_samdec]; rfl
example : Gen.Src.H264.string_matching_boyer_moore_horspool [7] [] = .error .fuel := by rw [src_bmh_h264]; rfl

end Acra.Props.C17
