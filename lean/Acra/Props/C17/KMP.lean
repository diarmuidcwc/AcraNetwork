/-
  C17, Knuth–Morris–Pratt: `KMP().search(T, P)` returns exactly the ascending list of all (possibly
  overlapping) offsets at which `P` occurs in `T`, and `KMP().partial(P)` is the failure table.
  Model: Acra.Model.Search.kmpPartial / kmpSearch (the inner `while` loops carry fuel `j + 1`).
  Spec:  Acra.Spec.occ.
  Both halves (soundness and completeness) are proved; the invariants are those of DESIGN Appendix A.2
  (`Acra.Lemmas.KMP`: `Longest`, the longest prefix of `P` below a bound that is a suffix of a text: of
  `P[0..k]` for the table entries, of the text read so far for the scan).  The empty pattern is outside the
  domain (examples at the end).
-/
import Acra.Lemmas.KMP
namespace Acra.Props.C17
open Acra.Py Acra.Model.Search Acra.Spec Acra.Lemmas.KMP

/-- KMP = all occurrences, ascending, for every text and every non-empty pattern -/
theorem KMP_search_eq_occ (t p : Bytes) (hp : p ≠ []) :
    kmpSearch t p = .ok ((occ t p).map Int.ofNat) := kmpSearch_eq_occ t p hp

example : ([97, 98, 97] : Bytes) ≠ [] := by decide

/-- the docstring-style example with overlapping occurrences: `aba` in `ababbababa` -/
example : kmpSearch [97, 98, 97, 98, 98, 97, 98, 97, 98, 97] [97, 98, 97] = .ok [0, 5, 7] := by rfl

/-- `KMP.partial` computes the failure table: entry `k` is the length of the longest proper border of
    `P[0..k]` (a border of `x` = a string that is both a prefix and a suffix of `x`; proper = shorter than `x`) -/
theorem KMP_partial_failure_table (p : Bytes) (hp : p ≠ []) :
    ∃ tbl, kmpPartial p = .ok tbl ∧ tbl.length = p.length ∧
      ∀ k, k < p.length → ∃ b, tbl[k]? = some b ∧ b < k + 1 ∧
        p.take b <:+ p.take (k + 1) ∧
        ∀ b', b' < k + 1 → p.take b' <:+ p.take (k + 1) → b' ≤ b := by
  obtain ⟨tbl, h1, h2, h3⟩ := kmpPartial_spec p hp
  exact ⟨tbl, h1, h2, h3.borders⟩

example : kmpPartial [97, 98, 97, 98, 97, 99] = .ok [0, 0, 1, 2, 3, 0] := by rfl

/-- termination (C08): no loop of `KMP.search` runs out of fuel on a non-empty pattern -/
theorem KMP_fuel_sufficient (t p : Bytes) (hp : p ≠ []) : kmpSearch t p ≠ .error .fuel := by
  rw [kmpSearch_eq_occ t p hp]; simp

/-- outside the domain: the empty pattern raises IndexError (`P[0]`) on a non-empty text -/
example : kmpSearch [7] [] = .error .index := by rfl
example : kmpSearch [] [] = .ok [] := by rfl

end Acra.Props.C17
