/-
  C17, byte swap: `endianness_swap` reverses every 2- or 4-byte group, is its own inverse, and
  refuses lengths that are not a multiple of the group size and every other group size.
  Model: Acra.Model.Search.endiannessSwap (the extended-slice assignments of the source).
  Spec:  Acra.Spec.swapGroups.
-/
import Acra.Lemmas.Swap
namespace Acra.Props.C17
open Acra.Py Acra.Model.Search Acra.Lemmas.Swap

/-- layout: for group sizes 2 and 4 and a buffer that is a whole number of groups, the result is
    the buffer with every group reversed -/
theorem swap_eq_spec (b : Bytes) (n : Nat) (hn : n = 2 ∨ n = 4) (hl : b.length % n = 0) :
    endiannessSwap b n = .ok (Spec.swapGroups n b) := by
  rw [endiannessSwap_eq, if_neg (by omega), if_pos ⟨by omega, by omega⟩, Int.toNat_natCast]

example : endiannessSwap [1, 2, 3, 4, 5, 6, 7, 8] 4 = .ok [4, 3, 2, 1, 8, 7, 6, 5] := by rfl

theorem swap_groups (b r : Bytes) (n : Nat) (hn : n = 2 ∨ n = 4) (hl : b.length % n = 0)
    (h : endiannessSwap b n = .ok r) (k : Nat) (hk : k < b.length) :
    r.length = b.length ∧ r.getD k 0 = b.getD (n * (k / n) + (n - 1 - k % n)) 0 := by
  rw [swap_eq_spec b n hn hl] at h
  cases h
  exact ⟨swapGroups_length n b, by rw [List.getD_eq_getElem?_getD, swapGroups_getElem? n b k hk]; rfl⟩

/-- `swap_groups` without the totalised `getD`: both indices are in range and the two bytes are the same byte -/
theorem swap_groups_get (b r : Bytes) (n : Nat) (hn : n = 2 ∨ n = 4) (hl : b.length % n = 0)
    (h : endiannessSwap b n = .ok r) (k : Nat) (hk : k < b.length) :
    ∃ x, r[k]? = some x ∧ b[n * (k / n) + (n - 1 - k % n)]? = some x := by
  rw [swap_eq_spec b n hn hl] at h
  cases h
  have hidx : n * (k / n) + (n - 1 - k % n) < b.length := by rcases hn with rfl | rfl <;> omega
  exact ⟨_, swapGroups_getElem? n b k hk, by rw [List.getD_eq_getElem?_getD, List.getElem?_eq_getElem hidx]; rfl⟩

example : (4 = 2 ∨ 4 = 4) ∧ ([1, 2, 3, 4, 5, 6, 7, 8] : Bytes).length % 4 = 0 ∧
    endiannessSwap [1, 2, 3, 4, 5, 6, 7, 8] (4 : Nat) = .ok [4, 3, 2, 1, 8, 7, 6, 5] ∧ 6 < ([1, 2, 3, 4, 5, 6, 7, 8] : Bytes).length :=
  ⟨by decide, by decide, rfl, by decide⟩

theorem swap_involutive (b r : Bytes) (n : Int) (h : endiannessSwap b n = .ok r) :
    endiannessSwap r n = .ok b := by
  rw [endiannessSwap_eq] at h ⊢
  split at h
  · cases h
  · rename_i h0
    split at h
    · rename_i hc
      cases h
      have hb : b.length % n.toNat = 0 := by
        rcases hc.1 with rfl | rfl
        · show b.length % 2 = 0; omega
        · show b.length % 4 = 0; omega
      rw [if_neg h0, if_pos ⟨hc.1, by rw [swapGroups_length]; exact hc.2⟩, swapGroups_involutive _ b hb]
    · cases h

example : endiannessSwap [1, 2, 3, 4, 5, 6] 2 = .ok [2, 1, 4, 3, 6, 5] ∧ endiannessSwap [2, 1, 4, 3, 6, 5] 2 = .ok [1, 2, 3, 4, 5, 6] :=
  ⟨rfl, rfl⟩

theorem swap_accepts_iff (b : Bytes) (n : Int) :
    (endiannessSwap b n).isOk = true ↔ (n = 2 ∨ n = 4) ∧ (b.length : Int) % n = 0 := by
  rw [endiannessSwap_eq]
  by_cases h0 : n = 0
  · subst h0; simp [R.isOk]
  · rw [if_neg h0]
    split <;> simp [R.isOk, *]

/-- a length that is not a multiple of the group size is refused with `Exception` -/
theorem swap_refuses_length (b : Bytes) (n : Int) (h0 : n ≠ 0) (hm : (b.length : Int) % n ≠ 0) :
    endiannessSwap b n = .error .generic := by
  rw [endiannessSwap_eq, if_neg h0, if_neg (fun h => hm h.2)]

example : ((2 : Int) ≠ 0) ∧ ((([1, 2, 3] : Bytes).length : Int) % 2 ≠ 0) := by decide

example : endiannessSwap [1, 2, 3] 2 = .error .generic := by rfl

/-- every group size other than 2 and 4 is refused: `ZeroDivisionError` for 0, `Exception` otherwise -/
theorem swap_refuses_group (b : Bytes) (n : Int) (h2 : n ≠ 2) (h4 : n ≠ 4) :
    endiannessSwap b n = .error (if n = 0 then .zeroDiv else .generic) := by
  have hn : ¬ ((n = 2 ∨ n = 4) ∧ (b.length : Int) % n = 0) := fun h => h.1.elim h2 h4
  rw [endiannessSwap_eq, if_neg hn]
  split <;> rfl

example : ((3 : Int) ≠ 2) ∧ ((3 : Int) ≠ 4) := by decide

example : endiannessSwap [1, 2, 3] 3 = .error .generic := by rfl

end Acra.Props.C17
