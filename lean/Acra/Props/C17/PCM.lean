/-
  C17, the PCM size rule: a decoder that knows only the sync word takes the distance of the first two occurrences of the sync word
  (`occ`, the list of all occurrences) as the minor-frame stride.  Model: Acra.Model.Ch11Pay.PCM (`detect`, `frameSize`).
-/
import Acra.Lemmas.Ch11PCM
import Acra.Props.C04.PCM
namespace Acra.Props.C17
open Acra.Py Acra.Model.Ch11Pay Acra.Model.Ch11Pay.PCM Acra.Gen.Ch11PCM Acra.Gen.Ch11PayTs
open Acra.Lemmas.Ch11PCM Acra.Lemmas.Ch11Pay Acra.Props.C04

/-- the size rule as the decoder applies it: with a sync word configured and no size, two or more
    occurrences of the (big-endian) sync word at offsets `o0 < o1 < …` give
    `minor_frame_size_bytes = o1 − o0 − 8 − header`; fewer give the whole buffer as one frame -/
theorem PCM_detect_two (p : Packet) (buf : Bytes) (hl sw o0 o1 : Nat) (rest : List Nat) (hsw : sw < 2 ^ 32)
    (hs : p.syncword = some sw) (ho : occ buf (beBytes 4 sw) = o0 :: o1 :: rest) :
    detect p buf hl = .ok ((o1 : Int) - o0 - 8 - hl) := by
  have hp : structPack PCM_unpack_fmt1 [sw] = .ok (beBytes 4 sw) := by rw [PCM_unpack_fmt1, pack_word, if_pos hsw]; rfl
  simp [detect, hs, hp, ho, TS_LEN]

theorem PCM_detect_few (p : Packet) (buf : Bytes) (hl sw : Nat) (hsw : sw < 2 ^ 32)
    (hs : p.syncword = some sw) (ho : (occ buf (beBytes 4 sw)).length < 2) :
    detect p buf hl = .ok ((buf.length : Int) - 8 - hl - 4) := by
  have hp : structPack PCM_unpack_fmt1 [sw] = .ok (beBytes 4 sw) := by rw [PCM_unpack_fmt1, pack_word, if_pos hsw]; rfl
  simp only [detect, hs, hp, TS_LEN]
  match h : occ buf (beBytes 4 sw) with
  | [] => simp
  | [_] => simp
  | _ :: _ :: _ => rw [h] at ho; simp at ho; omega

/-- fewer than two occurrences: the whole buffer is taken as one frame -/
example : (0xFE6B2840 : Nat) < 2 ^ 32 ∧ (occ ([0, 0, 0, 0, 1, 2, 3, 4, 5, 6, 7, 8, 0, 0, 0xFE, 0x6B, 0x28, 0x40] : Bytes) (beBytes 4 0xFE6B2840)).length < 2 := by
  decide +kernel

/-- PCM decoding without a size hint recovers the minor-frame size from two consecutive sync words:
    for a packed-mode packet of frames of one word-aligned size `n` (`n` + header even, so no fill
    bytes), decoded by an object that knows only the sync word, if the sync word occurs first at the
    first two frames' data starts (offsets 12 + header and one frame stride later) then
    `minor_frame_size_bytes = n` and exactly the frames are returned, in order -/
theorem PCM_size_from_sync (p t : Packet) (n sw : Nat) (rest : List Nat) (h : PCM_WF p n)
    (ho : t.ipts_source = p.ipts_source) (hs : t.assigned = Option.none) (hsync : t.syncword = some sw) (hsw : sw < 2 ^ 32)
    (heven : (n + hdrLen ((p.channel_specific_word / MODE_ALIGNMENT) % 2)) % 2 = 0)
    (hocc : occ (PCM_bytes p) (beBytes 4 sw) =
      (12 + hdrLen ((p.channel_specific_word / MODE_ALIGNMENT) % 2)) ::
      (12 + hdrLen ((p.channel_specific_word / MODE_ALIGNMENT) % 2) + (n + 8 + hdrLen ((p.channel_specific_word / MODE_ALIGNMENT) % 2))) :: rest) :
    (Packet.unpack t (PCM_bytes p) false).2 = .ok () ∧
    (Packet.unpack t (PCM_bytes p) false).1.mfsb = some (n : Int) ∧
    (Packet.unpack t (PCM_bytes p) false).1.minor_frames = p.minor_frames := by
  obtain ⟨h1, h2, hf⟩ := h
  -- the two sync words are one frame stride apart, so the detected size is `n`
  have hsz : frameSize t (PCM_bytes p) (hdrLen (p.channel_specific_word / MODE_ALIGNMENT % 2)) = .ok (n : Int) := by
    rw [frameSize, hs, PCM_detect_two t (PCM_bytes p) _ sw _ _ rest hsw hsync hocc]
    refine congrArg Except.ok ?_
    omega
  rw [PCM_bytes] at hsz ⊢
  rw [Packet_unpack_frames t _ n _ h1 h2 (ho ▸ hf) hsz]
  simp [Packet.mfsb, hs]

/-- the hypotheses are satisfiable: two 4-byte frames (16-bit alignment, RTC time stamps) that start
    with the default sync word 0xFE6B2840 -/
example :
    let f1 : Frame := ⟨.rtc 1, false, some 7, [0xFE, 0x6B, 0x28, 0x40], 0, Option.none, Option.none⟩
    let f2 : Frame := ⟨.rtc 2, false, some 8, [0xFE, 0x6B, 0x28, 0x40], 0, Option.none, Option.none⟩
    let p : Packet := ⟨0, some 0, some 4, Option.none, Option.none, [f1, f2]⟩
    occ (PCM_bytes p) (beBytes 4 DFLT_SYNC_WORD) = [14, 28] ∧
    (Packet.unpack (Packet.fresh (some 0) (some DFLT_SYNC_WORD) Option.none) (PCM_bytes p) false).1.mfsb = some 4 := by
  decide +kernel

/-- ALL hypotheses of `PCM_size_from_sync` / `PCM_detect_two` together, for the packet of the
    example above and a decoder that knows only the sync word -/
example :
    let f1 : Frame := ⟨.rtc 1, false, some 7, [0xFE, 0x6B, 0x28, 0x40], 0, Option.none, Option.none⟩
    let f2 : Frame := ⟨.rtc 2, false, some 8, [0xFE, 0x6B, 0x28, 0x40], 0, Option.none, Option.none⟩
    let p : Packet := ⟨0, some 0, some 4, Option.none, Option.none, [f1, f2]⟩
    let t : Packet := Packet.fresh (some 0) (some DFLT_SYNC_WORD) Option.none
    PCM_WF p 4 ∧ t.ipts_source = p.ipts_source ∧ t.assigned = Option.none ∧ t.syncword = some DFLT_SYNC_WORD ∧
    DFLT_SYNC_WORD < 2 ^ 32 ∧ (4 + hdrLen ((p.channel_specific_word / MODE_ALIGNMENT) % 2)) % 2 = 0 ∧
    occ (PCM_bytes p) (beBytes 4 DFLT_SYNC_WORD) =
      [12 + hdrLen ((p.channel_specific_word / MODE_ALIGNMENT) % 2),
       12 + hdrLen ((p.channel_specific_word / MODE_ALIGNMENT) % 2) + (4 + 8 + hdrLen ((p.channel_specific_word / MODE_ALIGNMENT) % 2))] := by
  decide +kernel

end Acra.Props.C17
