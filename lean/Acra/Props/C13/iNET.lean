import Acra.Model.iNET
import Acra.Lemmas.iNET
namespace Acra.Props.C13
open Acra.Py Acra.Model.iNET Acra.Gen.iNET Acra.Lemmas Acra.Lemmas.iNET

/-- the only field `iNETPackage.pack` writes is the (private) computed length -/
theorem iNETPackage_pack_preserves_fields (p : Pkg) :
    (Pkg.pack p).1 = { p with length := PKG_FORMAT_LEN + p.payload.length } := by
  simp only [Pkg.pack]; split <;> rfl

theorem iNETPackage_pack_idempotent (p : Pkg) : Pkg.pack (Pkg.pack p).1 = Pkg.pack p := by
  rw [iNETPackage_pack_preserves_fields]; rfl

/-- a successful unpack leaves the package in the state a fresh package would be in -/
theorem iNETPackage_unpack_state_independent (t u : Pkg) (buf r : Bytes) (h : (Pkg.unpack t buf).2 = .ok r) :
    Pkg.unpack t buf = Pkg.unpack u buf :=
  Pkg_decodes.state_independent rfl h

/-- non-vacuity: a package object holding other values decodes a 5-byte-payload package (padded) followed by a byte -/
example :
    let a : Pkg := { Pkg.fresh with definitionID := 7, flags := 255, payload := [1, 2, 3, 4, 5] }
    let t : Pkg := { Pkg.fresh with definitionID := 1, payload := [9] }
    ∃ b, (Pkg.pack a).2 = .ok b ∧ (Pkg.unpack t (b ++ [0xEE])).2 = .ok [0xEE] :=
  ⟨_, rfl, rfl⟩

theorem packPkgs_idem (ps : List Pkg) : packPkgs (packPkgs ps).1 = packPkgs ps := by
  simp only [packPkgs_eq_packAll]
  exact packAll_idem Pkg.pack ps fun p _ => iNETPackage_pack_idempotent p

/-- `iNET.pack` depends only on the fields: a second call returns the same result and leaves every
    field (including the rebuilt payload, the length and the packages' length fields) as the first did -/
theorem iNET_pack_idempotent (s : State) : pack (pack s).1 = pack s := by
  have hi := packPkgs_idem s.packages
  rw [pack_eq s]
  rcases hp : packPkgs s.packages with ⟨pk, _ | pl⟩ <;> rw [hp] at hi
  · simp only [pack_eq, hi]
  · -- the second call packs `pk` to the same `pl` and frames it with the same header attributes
    simp only [pack_eq, hi]
    rfl

/-- a successful unpack leaves the object in the state a fresh object would be in: every attribute,
    the package list and the application fields included, is rebuilt from the bytes -/
theorem iNET_unpack_state_independent (t u : State) (buf : Bytes) (h : (unpack t buf).2 = .ok ()) :
    unpack t buf = unpack u buf :=
  iNET_decodes.state_independent rfl h

/-- non-vacuity: an object holding one package and one application field decodes a 64-byte packet with two
    application fields and two packages, and ends with exactly those -/
example :
    let a : State := { fresh with type := 3, app_fields := [1, 2],
                                  packages := [{ Pkg.fresh with definitionID := 7, payload := [1, 2, 3, 4, 5] }, Pkg.fresh] }
    let t : State := { fresh with app_fields := [9], packages := [Pkg.fresh] }
    ∃ b, (pack a).2 = .ok b ∧ b.length = 64 ∧ (unpack t b).2 = .ok () ∧ (unpack t b).1.packages.length = 2 ∧
      (unpack t b).1.app_fields = [1, 2] :=
  ⟨_, rfl, rfl, rfl, rfl, rfl⟩

end Acra.Props.C13
