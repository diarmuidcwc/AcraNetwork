import Acra.Lemmas.Ch11ARINC
namespace Acra.Props.C13
open Acra.Py Acra.Model.Ch11Pay Acra.Model.Ch11Pay.ARINC Acra.Gen.Ch11ARINC Acra.Lemmas.Ch11ARINC Acra.Lemmas

/-- the word decoder sets every field: a successful unpack does not depend on the prior state -/
theorem ARINCWord_unpack_state_independent (t u : Word) (buf : Bytes) (h : (Word.unpack t buf).2 = .ok ()) :
    Word.unpack t buf = Word.unpack u buf :=
  Word_decodes.state_independent rfl h

/-- non-vacuity: a word object whose every field is set decodes an 8-byte word successfully -/
example : (Word.unpack ⟨1, true, true, 1, 9, [9, 9, 9, 9]⟩ [0x0E, 0x10, 0x80, 200, 1, 2, 3, 4]).2 = .ok () := rfl

theorem ARINC_pack_preserves_fields (p : Packet) : p.pack.1 = { p with msgcount := p.arincwords.length } := by
  rw [Packet_pack_closed]

/-- `pack()` twice: same bytes, fields as the first call left them (`msgcount` = number of words) -/
theorem ARINC_pack_idempotent (p : Packet) : p.pack.1.pack = p.pack := by
  rw [ARINC_pack_preserves_fields]; rfl

/-- a successful unpack leaves the object exactly as it would leave a new one -/
theorem ARINC_unpack_state_independent (t u : Packet) (buf : Bytes) (h : (Packet.unpack t buf).2 = .ok ()) :
    Packet.unpack t buf = Packet.unpack u buf :=
  Packet_decodes.state_independent rfl h

/-- non-vacuity: a packet object that already holds a word (and a stale count) decodes the encoding of a
    two-word packet successfully, and ends with exactly the two words -/
example :
    let a : Packet := ⟨0, [⟨4110, true, false, 1, 200, [1, 2, 3, 4]⟩, ⟨0, false, true, 0, 0, [0, 0, 0, 0]⟩]⟩
    let t : Packet := ⟨7, [⟨1, false, false, 0, 9, [9, 9, 9, 9]⟩]⟩
    ∃ b, a.pack.2 = .ok b ∧ b.length = 20 ∧ (Packet.unpack t b).2 = .ok () ∧
      (Packet.unpack t b).1.arincwords = a.arincwords :=
  ⟨_, rfl, rfl, rfl, rfl⟩

end Acra.Props.C13
