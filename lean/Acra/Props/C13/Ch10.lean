/-
  C13 for the ch10 family: `pack` is a function of the fields (idempotent on every state, also when it
  raises), `unpack` a function of the bytes (state-independent for an ARBITRARY prior state).
  `Chapter11.data_checksum_size` is never assigned by `unpack`; it plays the part of a codec option
  ("same codec options" in the property), so the fresh object is taken with the same value.
-/
import Acra.Lemmas.Ch11
import Acra.Lemmas.Ch10UDP
namespace Acra.Props.C13
open Acra.Py Acra

/-- the only field `pack` writes is `packetsize` (format 2), from the payload length -/
theorem udp_pack_preserves_fields (s : Model.Ch10UDP.State) :
    (Model.Ch10UDP.pack s).1 = s ∨
    (Model.Ch10UDP.pack s).1 = { s with packetsize := some (s.payload.length / 4) } := by
  rw [Lemmas.Ch10UDP.pack_eq]
  dsimp only
  split
  · exact .inr rfl
  · exact .inl rfl

theorem udp_pack_idempotent (s : Model.Ch10UDP.State) :
    Model.Ch10UDP.pack (Model.Ch10UDP.pack s).1 = Model.Ch10UDP.pack s := by
  -- the state `pack` leaves differs from `s` at most in `packetsize`, which `pack` does not read
  rw [Lemmas.Ch10UDP.pack_eq s]
  dsimp only
  split
  · rw [Lemmas.Ch10UDP.pack_eq]
    exact congrArg (·, _) (ite_self _)
  · next hc => rw [Lemmas.Ch10UDP.pack_eq, if_neg hc]

/-- whatever state the object was in (any format, any stale per-format fields), a successful unpack leaves it
    in the state a fresh object would be in -/
theorem udp_unpack_state_independent (t : Model.Ch10UDP.State) (buf : Bytes)
    (h : (Model.Ch10UDP.unpack t buf).2 = .ok ()) :
    Model.Ch10UDP.unpack t buf = Model.Ch10UDP.unpack Model.Ch10UDP.fresh buf :=
  Lemmas.Ch10UDP.decodes.state_independent rfl h

/-- non-vacuity: an object left in format 3 with stale per-format fields decodes the encoding of a format-1
    packet (24-bit sequence, three payload bytes) successfully -/
example :
    let a : Model.Ch10UDP.State := { Model.Ch10UDP.fresh with sequence := 0xABCDEF, payload := [1, 2, 3] }
    let t : Model.Ch10UDP.State := { Model.Ch10UDP.fresh with
      version := 3, sourceid_len := 3, sourceid := 0x5A5, offset_pkt_start := some 12, packetsize := some 9, payload := [7, 7] }
    ∃ b, (Model.Ch10UDP.pack a).2 = .ok b ∧ b.length = 7 ∧ (Model.Ch10UDP.unpack t b).2 = .ok () ∧
      (Model.Ch10UDP.unpack t b).1.offset_pkt_start = none :=
  ⟨_, rfl, rfl, rfl, rfl⟩

/-! ### Chapter11 (and the deprecated subclass Chapter10) -/
/-- the only fields `pack` writes are `filler`, `packetlen`, `datalen` -/
theorem ch11_pack_preserves_fields (s : Model.Ch11.State) :
    (Model.Ch11.pack s).1 = s ∨
    ∃ f pl, (Model.Ch11.pack s).1 = { s with filler := f, packetlen := pl, datalen := s.payload.length } := by
  rw [Lemmas.Ch11.pack_eq]
  cases Model.Ch11.secHdr s with
  | error e => exact Or.inl rfl
  | ok sec =>
    simp only
    cases Lemmas.Ch11.fillOf s sec with
    | error e => exact Or.inl rfl
    | ok filler => exact Or.inr ⟨_, _, rfl⟩

/-- packing twice returns identical bytes (or the identical exception) and leaves every field as the first
    call left it: the filler is recomputed from the current payload each time -/
theorem ch11_pack_idempotent (s : Model.Ch11.State) :
    Model.Ch11.pack (Model.Ch11.pack s).1 = Model.Ch11.pack s := by
  rw [Lemmas.Ch11.pack_eq s]
  cases hs : Model.Ch11.secHdr s with
  | error e => simp only; rw [Lemmas.Ch11.pack_eq, hs]
  | ok sec =>
    simp only
    cases hf : Lemmas.Ch11.fillOf s sec with
    | error e => simp only; rw [Lemmas.Ch11.pack_eq, hs]; simp only [hf]
    | ok filler =>
      -- the state left behind differs from `s` only in the three fields that are recomputed
      simp only
      rw [Lemmas.Ch11.pack_eq, show Model.Ch11.secHdr (Lemmas.Ch11.withFill s sec filler) = .ok sec from hs]
      simp only [show Lemmas.Ch11.fillOf (Lemmas.Ch11.withFill s sec filler) sec = .ok filler from hf]
      rfl

/-- pack ignores what an earlier pack left behind -/
theorem ch11_pack_ignores_derived (s : Model.Ch11.State) (f : Bytes) (pl dl : Nat) :
    (Model.Ch11.pack { s with filler := f, packetlen := pl, datalen := dl }).2 = (Model.Ch11.pack s).2 := by
  have h2 : ∀ sec, Lemmas.Ch11.fillOf { s with filler := f, packetlen := pl, datalen := dl } sec =
      Lemmas.Ch11.fillOf s sec := fun _ => rfl
  rw [Lemmas.Ch11.pack_eq, Lemmas.Ch11.pack_eq, Lemmas.Ch11.secHdr_indep]
  cases Model.Ch11.secHdr s with
  | error e => rfl
  | ok sec => simp only [h2]; cases Lemmas.Ch11.fillOf s sec <;> rfl

theorem ch11_unpack_state_independent (t : Model.Ch11.State) (buf : Bytes)
    (h : (Model.Ch11.unpack t buf).2 = .ok ()) :
    Model.Ch11.unpack t buf =
      Model.Ch11.unpack { Model.Ch11.fresh with data_checksum_size := t.data_checksum_size } buf :=
  Lemmas.Ch11.decodes.state_independent rfl h

/-- non-vacuity: an object that decoded a packet with secondary header before (PTP time, filler, flags still
    set) decodes the encoding of a 5-byte-payload packet without secondary header successfully -/
example :
    let a : Model.Ch11.State := { Model.Ch11.fresh with
      channelID := 0x1234, sequence := 3, packetflag := 0x35, datatype := 0x50, relativetimecounter := 0xFFFFFFFFFFFF,
      payload := [1, 2, 3, 4, 5] }
    let t : Model.Ch11.State := { Model.Ch11.fresh with
      channelID := 7, packetflag := 0xF7, has_secondary_header := true, ts_source := Gen.Ch11.TS_IEEE1558,
      ptptime := ⟨1700000000, 999999999⟩, payload := [9, 8, 7], filler := [0xFF] }
    ∃ b, (Model.Ch11.pack a).2 = .ok b ∧ b.length = 32 ∧ (Model.Ch11.unpack t b).2 = .ok () ∧
      (Model.Ch11.unpack t b).1.has_secondary_header = false :=
  ⟨_, rfl, rfl, rfl, rfl⟩

/-! ### PTPTime, RTCTime
  In the model `PTP.unpack : Bytes → R PTP` and `rtcUnpack : Bytes → R Nat` take no state argument and
  `PTP.pack` / `rtcPack` return no state: the two classes assign all of their (one or two) fields in a single
  tuple assignment and `pack` assigns nothing, so state independence and idempotence hold by the shape of the
  model; the correspondence histories (generic C13 + `corr_C13`) are what ties that shape to the code. -/

end Acra.Props.C13
