import Acra.Model.NPD
import Acra.Lemmas.NPDPacket
namespace Acra.Props.C13
open Acra.Py Acra.Model.NPD Acra.Gen.NPD Acra.Lemmas.NPD

/-- `NPDSegment.pack` (every class but RS232Segment) reads the fields and writes none -/
theorem NPDSegment_pack_preserves_fields (g : Seg) (hk : g.kind ≠ .rs232) : (Seg.pack g).1 = g := by
  rw [pack_of_ne g hk]

theorem setPayload_idem (g : Seg) (b : Bytes) : (g.setPayload b).setPayload b = g.setPayload b := rfl

/-- `pack` of every segment class, twice, is `pack` once.  `RS232Segment.pack` rewrites the status word (count of
    sync bytes in the low three bits), the payload and `segmentlen`, and with at most seven sync bytes a second
    call changes nothing more; the other classes write nothing -/
theorem Segment_pack_idempotent (g : Seg) (h : g.kind = .rs232 → g.sync_bytes.length < 8) :
    Seg.pack (Seg.pack g).1 = Seg.pack g := by
  by_cases hk : g.kind = .rs232
  · have hn := h hk
    exact (pack_idem_iff_rs232 g hk).2 (by omega)
  · rw [NPDSegment_pack_preserves_fields g hk]

/-- non-vacuity: an RS-232 segment with two sync bytes, a full status word and one data byte satisfies the bound and packs -/
example :
    let g : Seg := { Seg.fresh .rs232 with block_status := 0xFFFF, sync_bytes := [1, 2], data := [9] }
    (g.kind = .rs232 → g.sync_bytes.length < 8) ∧ ∃ b, (Seg.pack g).2 = .ok b ∧ b.length = 16 :=
  ⟨fun _ => by decide, _, rfl, rfl⟩

/-- with eight sync bytes (the count does not fit its three bits) a second `pack` returns other bytes:
    0x0008 becomes 0x0010 in the status word -/
example : (match (Seg.pack (Seg.pack { Seg.fresh .rs232 with sync_bytes := [0, 0, 0, 0, 0, 0, 0, 0] }).1).2,
      (Seg.pack { Seg.fresh .rs232 with sync_bytes := [0, 0, 0, 0, 0, 0, 0, 0] }).2 with
    | .ok second, .ok first => first != second
    | _, _ => false) = true := by decide

/-- exactly when: `RS232Segment.pack` called twice leaves the object and returns the result of calling it once
    ⇔ the segment has at most seven sync bytes (for any list shorter than 2¹⁶; in general the condition is on
    the count mod 2¹⁶ — with 65 536 sync bytes both calls raise `struct.error` from the same state) -/
theorem RS232Segment_pack_idempotent_iff (g : Seg) (hk : g.kind = .rs232) (hn : g.sync_bytes.length < 65536) :
    Seg.pack (Seg.pack g).1 = Seg.pack g ↔ g.sync_bytes.length ≤ 7 := by
  rw [pack_idem_iff_rs232 g hk]
  omega

/-- the same without the bound on the list: the count mod 2¹⁶ decides -/
theorem RS232Segment_pack_idempotent_iff_mod (g : Seg) (hk : g.kind = .rs232) :
    Seg.pack (Seg.pack g).1 = Seg.pack g ↔ g.sync_bytes.length % 65536 ≤ 7 :=
  pack_idem_iff_rs232 g hk

/-- a segment that `pack` accepts has fewer than 2¹⁶ sync bytes, so for it the iff needs no side condition -/
theorem RS232Segment_pack_idempotent_iff_of_ok (g : Seg) (hk : g.kind = .rs232) (b : Bytes) (hb : (Seg.pack g).2 = .ok b) :
    Seg.pack (Seg.pack g).1 = Seg.pack g ↔ g.sync_bytes.length ≤ 7 := by
  apply RS232Segment_pack_idempotent_iff g hk
  rw [pack_rs232 g hk, packRS232_snd, rsPayload] at hb
  cases h1 : structPack RS232Segment_pack_fmt0 [(g.block_status &&& 0xFFF8) + g.sync_bytes.length] with
  | error e => rw [h1] at hb; cases hb
  | ok hh =>
    have := (structPack_ok_iff RS232Segment_pack_fmt0 _).1 ⟨hh, h1⟩
    simp [Fits, RS232Segment_pack_fmt0, Code.bound] at this
    omega

/-- the eight-sync-byte counterexample, as an instance of the iff's right-to-left failure: the results differ -/
example : Seg.pack (Seg.pack { Seg.fresh .rs232 with sync_bytes := [0, 0, 0, 0, 0, 0, 0, 0] }).1 ≠
    Seg.pack { Seg.fresh .rs232 with sync_bytes := [0, 0, 0, 0, 0, 0, 0, 0] } := by
  rw [Ne, RS232Segment_pack_idempotent_iff _ rfl (by decide)]
  decide

/-- and seven are fine -/
example : Seg.pack (Seg.pack { Seg.fresh .rs232 with sync_bytes := [1, 2, 3, 4, 5, 6, 7] }).1 =
    Seg.pack { Seg.fresh .rs232 with sync_bytes := [1, 2, 3, 4, 5, 6, 7] } :=
  (RS232Segment_pack_idempotent_iff _ rfl (by decide)).2 (by decide)

theorem packSegs_idem (gs : List Seg) (h : ∀ g ∈ gs, g.kind = .rs232 → g.sync_bytes.length < 8) :
    packSegs (packSegs gs).1 = packSegs gs := by
  rw [packSegs_eq_packAll]
  exact Lemmas.packAll_idem Seg.pack gs fun g hg => Segment_pack_idempotent g (h g hg)

/-- `NPD.pack` depends only on the fields (RS-232 segments with at most seven sync bytes): a second
    call returns the same result and leaves `packetlen` and every segment as the first call left them -/
theorem NPD_pack_idempotent (s : State) (h : ∀ g ∈ s.segments, g.kind = .rs232 → g.sync_bytes.length < 8) :
    pack (pack s).1 = pack s := by
  have hi := packSegs_idem s.segments h
  rw [pack_eq s]
  rcases hm : s.mcastaddr with _ | mc
  · rw [pack_eq, hm]
  rcases hp : packSegs s.segments with ⟨gs, e | pl⟩ <;> rw [hp] at hi
  · simp only [pack_eq, hi]
  · -- the second call packs `gs` to the same `pl` and frames it with the same attributes
    simp only [pack_eq, hi]
    rfl

/-- the attributes an object of the class has: the typed attributes of the other classes do not exist on it -/
def view (s : Seg) : Seg :=
  match s.kind with
  | .acq => { s with block_status := 0, sync_bytes := [], data := [], blockstatus := 0, gap1 := 0, gap2 := 0 }
  | .rs232 => { s with sfid := 0, cal := 0, words := [], blockstatus := 0, gap1 := 0, gap2 := 0 }
  | .mil1553 => { s with sfid := 0, cal := 0, words := [], block_status := 0, sync_bytes := [] }
  | _ => { s with sfid := 0, cal := 0, words := [], block_status := 0, sync_bytes := [], data := [],
                  blockstatus := 0, gap1 := 0, gap2 := 0 }

/-- a successful segment unpack leaves every attribute of the object as a new object of the same class
    would have it -/
theorem Segment_unpack_state_independent (t u : Seg) (buf r : Bytes) (hk : t.kind = u.kind)
    (h : (Seg.unpack t buf).2 = .ok r) :
    (Seg.unpack t buf).2 = (Seg.unpack u buf).2 ∧ view (Seg.unpack t buf).1 = view (Seg.unpack u buf).1 := by
  have hok : SegOk u.kind buf := by
    have := Seg_unpack_snd t buf
    rw [h, hk] at this
    split at this
    · assumption
    · cases this
  have hpl := hok.2
  rw [Seg_unpack_ok t buf (hk ▸ hok), Seg_unpack_ok u buf hok, hk]
  refine ⟨rfl, ?_⟩
  -- the typed part reads only the payload, which both objects got from the buffer, and the class attributes it
  -- does not write are outside the view
  cases hku : u.kind <;> rw [hku] at hpl <;>
    simp only [typedUnpack, unpackACQ_closed, unpackRS232_closed, unpack1553_closed, baseDecoded, TypedHdrOk] at hpl ⊢ <;>
    simp [view, hk, hku, hpl]

/-- non-vacuity: an RS-232 segment object holding three stale sync bytes decodes a 16-byte segment (two sync bytes)
    followed by one more byte -/
example :
    let t : Seg := { Seg.fresh .rs232 with sync_bytes := [7, 7, 7], data := [1, 2], timedelta := 5 }
    let u : Seg := Seg.fresh .rs232
    t.kind = u.kind ∧
    (Seg.unpack t [0, 0, 0, 0, 0, 13, 0, 0, 255, 250, 1, 2, 9, 255, 255, 255, 0xEE]).2 = .ok [0xEE] ∧
    (Seg.unpack t [0, 0, 0, 0, 0, 13, 0, 0, 255, 250, 1, 2, 9, 255, 255, 255, 0xEE]).1.sync_bytes = [1, 2] :=
  ⟨rfl, rfl, rfl⟩

/-- a successful `NPD.unpack` leaves the object in the state a new object would be in: every header
    attribute and the segment list are rebuilt from the bytes -/
theorem NPD_unpack_state_independent (t u : State) (buf : Bytes) (h : (unpack t buf).2 = .ok ()) :
    unpack t buf = unpack u buf :=
  NPD_decodes.state_independent rfl h

/-- non-vacuity (`packSegs_idem`, `NPD_pack_idempotent`, `NPD_unpack_state_independent`): a packet with one 4-byte
    segment packs to 32 bytes; an object that holds two stale segments decodes it and ends with one -/
example :
    let a : State := { fresh with datatype := some 0xD0, mcastaddr := some 0xEB000001, timestamp := some 7,
                                  segments := [{ Seg.fresh .base with timedelta := 3, payload := [1, 2, 3, 4], segmentlen := 12 }] }
    let t : State := { fresh with sequence := 9, segments := [Seg.fresh .rs232, Seg.fresh .acq] }
    (∀ g ∈ a.segments, g.kind = .rs232 → g.sync_bytes.length < 8) ∧
    ∃ b, (pack a).2 = .ok b ∧ b.length = 32 ∧ (unpack t b).2 = .ok () ∧ (unpack t b).1.segments.length = 1 :=
  ⟨by decide, _, rfl, rfl, rfl, rfl⟩

end Acra.Props.C13
