import Acra.Lemmas.Extra
namespace Acra.Props.C13
open Acra.Py Acra.Model.Extra Acra.Lemmas.Extra Acra.Lemmas
open Acra.Gen.ExtraH264 Acra.Gen.ExtraADTS Acra.Gen.ExtraSEI Acra.Gen.ExtraPA Acra.Gen.ExtraNet

/-! State independence of the `extra` decoders: a successful `unpack` leaves ANY object exactly as it leaves
    any other (in particular a new one), and the result (value / which exception) is a function of the bytes
    alone.  The only attributes a prior state can show through are the ones no `unpack` statement writes and
    that belong to someone else: `ADTS.version`, `NAL.offset` (assigned by the container, `H264.unpack`).
    For `STANAG4609_SEI`, `NAL` and `H264` it rests on the reset at the top of `unpack`; the examples below decode
    two buffers of different kinds into one object and show that nothing of the first is left. -/

theorem ADTS_unpack_result_independent (t u : ADTS) (buf : Bytes) : (ADTS.unpack t buf).2 = (ADTS.unpack u buf).2 := by
  rw [ADTS_decodes.snd_eq, ADTS_decodes.snd_eq]
  unfold adtsRun
  split
  · rfl
  · simp only []; split <;> rfl

/-- `ADTS.unpack` writes `aac`, `sampling_freq`, `_length`, `no_crc` on every successful path and never
    touches `version` (no statement of the class assigns it after `__init__`) -/
theorem ADTS_unpack_state_independent (t u : ADTS) (buf : Bytes) (hv : t.version = u.version)
    (h : (ADTS.unpack t buf).2 = .ok ()) : ADTS.unpack t buf = ADTS.unpack u buf :=
  ADTS_decodes.state_independent hv h

example : (ADTS.unpack ADTS.fresh [0xFF, 0xF1, 0x50, 0x80, 0x02, 0x1F, 0xFC, 1, 2]).2 = .ok () := by rfl

/-- all five attributes are assigned from the four bytes -/
theorem PA429_unpack_state_independent (t u : A429) (buf : Bytes) : 
    (A429.unpack t buf).2 = .ok () → A429.unpack t buf = A429.unpack u buf :=
  A429_decodes.state_independent rfl

example : (A429.unpack A429.fresh [0xE5, 0x12, 0x37, 0xFE]).2 = .ok () := by rfl

theorem SEI_unpack_result_independent (t u : SEI) (buf : Bytes) : (SEI.unpack t buf).2 = (SEI.unpack u buf).2 := by
  unfold SEI.unpack
  cases structUnpack SEI_unpack_fmt0 (slice buf 0 2) <;> rfl

/-- every attribute is reset or assigned on every successful path: the object left behind is a function
    of the bytes -/
theorem SEI_unpack_state_independent (t u : SEI) (buf : Bytes) (h : (SEI.unpack t buf).2 = .ok ()) :
    SEI.unpack t buf = SEI.unpack u buf := by
  revert h
  unfold SEI.unpack
  -- `t` is read only where the first `struct.unpack` fails
  cases structUnpack SEI_unpack_fmt0 (slice buf 0 2) with
  | error e => intro h; cases h
  | ok v0 => intro _; rfl

/-- even a FAILED decode leaves a state that depends on the old one only through `payloadtype` /
    `payloadsize` (untouched when the very first read fails) -/
theorem SEI_unpack_state_independent_on_error (t u : SEI) (buf : Bytes)
    (h1 : t.payloadtype = u.payloadtype) (h2 : t.payloadsize = u.payloadsize) :
    SEI.unpack t buf = SEI.unpack u buf := by
  unfold SEI.unpack
  cases structUnpack SEI_unpack_fmt0 (slice buf 0 2) with
  | error e => simp only [h1, h2]
  | ok v0 => rfl

example : (SEI.unpack { SEI.fresh with stanag := true, status := some 9 } [4, 0]).2 = .ok () := by rfl

/-- signed time, then a payload of another type into the same object: the second decode leaves exactly what a
    new object gets -/
example :
    let signed : Bytes := [5, 28, 0x4D, 0x49, 0x53, 0x50, 0x6D, 0x69, 0x63, 0x72, 0x6F, 0x73, 0x65, 0x63, 0x74, 0x69, 0x6D, 0x65,
                           0x1F, 0, 0, 0xFF, 0, 0, 0xFF, 0, 0, 0xFF, 0, 5]
    let other : Bytes := [4, 0]
    (SEI.unpack SEI.fresh signed).1.stanag = true ∧
    (SEI.unpack (SEI.unpack SEI.fresh signed).1 other).1.stanag = false ∧
    (SEI.unpack (SEI.unpack SEI.fresh signed).1 other).1.time.isSome = false ∧
    (SEI.unpack (SEI.unpack SEI.fresh signed).1 other).1 = (SEI.unpack SEI.fresh other).1 :=
  ⟨by decide +kernel, by decide +kernel, by decide +kernel, by decide +kernel⟩

theorem NAL_unpack_result_independent (t u : NAL) (buf : Bytes) : (NAL.unpack t buf).2 = (NAL.unpack u buf).2 := by
  unfold NAL.unpack
  -- every branch pairs an object built from `t` with a result that does not mention it
  cases structUnpackFrom NAL_unpack_fmt0 buf NAL_HEADER_LEN with
  | error e => rfl
  | ok v =>
    simp only []
    split
    · rcases SEI.unpack SEI.fresh (List.drop (NAL_HEADER_LEN + 1) buf) with ⟨s, _ | _⟩ <;> rfl
    · rfl

/-- `type`, `size` and `sei` are written on every successful path (`sei` is `None` or a NEW object decoded from
    the bytes); `offset` is the container's and is never written -/
theorem NAL_unpack_state_independent (t u : NAL) (buf : Bytes) (ho : t.offset = u.offset)
    (h : (NAL.unpack t buf).2 = .ok ()) : NAL.unpack t buf = NAL.unpack u buf := by
  revert h
  unfold NAL.unpack
  cases structUnpackFrom NAL_unpack_fmt0 buf NAL_HEADER_LEN with
  | error e => intro h; cases h
  | ok v => rw [ho]; exact fun _ => rfl    -- past the type byte the object is read for `offset` only

example : (NAL.unpack NAL.fresh [0, 0, 0, 1, 6, 4, 0]).2 = .ok () := by rfl

/-- an SEI NAL, then an IDR slice into the same object: `sei` is `None` again -/
example :
    let seiNal : Bytes := [0, 0, 0, 1, 6, 4, 0]
    let idr : Bytes := [0, 0, 0, 1, 0x65, 0x88]
    (NAL.unpack NAL.fresh seiNal).1.sei.isSome = true ∧
    (NAL.unpack (NAL.unpack NAL.fresh seiNal).1 idr).1.sei.isSome = false ∧
    (NAL.unpack (NAL.unpack NAL.fresh seiNal).1 idr).1 = (NAL.unpack NAL.fresh idr).1 :=
  ⟨by decide +kernel, by decide +kernel, by decide +kernel⟩

/-- `unpack` never reads the prior state: result and object are functions of the bytes, on success and on
    failure alike -/
theorem H264_unpack_state_independent (t u : H264) (buf : Bytes) : H264.unpack t buf = H264.unpack u buf := rfl

theorem H264_unpack_result_independent (t u : H264) (buf : Bytes) : (H264.unpack t buf).2 = (H264.unpack u buf).2 :=
  congrArg Prod.snd (H264_unpack_state_independent t u buf)

/-- a list assigned by the user does not survive a decode -/
example : (H264.unpack { nals := [NAL.fresh, NAL.fresh] } [0x61]).1.nals = [] := by decide +kernel

/-- `pack` writes `len` and nothing else -/
theorem IPv6_pack_preserves_fields (s : IPv6) :
    (IPv6.pack s).1 = s ∨ (IPv6.pack s).1 = { s with len := s.payload.length } := by
  simp only [IPv6.pack]
  repeat' split
  all_goals simp

theorem IPv6_pack_idempotent (s : IPv6) (b : Bytes) (h : (IPv6.pack s).2 = .ok b) :
    IPv6.pack (IPv6.pack s).1 = IPv6.pack s := by
  revert h
  simp only [IPv6.pack, IPv6.word0]
  repeat' split
  all_goals simp_all

example : (IPv6.pack { IPv6.fresh with payload := [1, 2, 3] }).2.isOk = true := by rfl

end Acra.Props.C13
