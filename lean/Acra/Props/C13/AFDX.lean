import Acra.Lemmas.AFDX
namespace Acra.Props.C13
open Acra.Py Acra.Model.AFDX Acra.Gen.AFDX Acra.Lemmas.AFDX Acra.Lemmas.Net

/-! `AFDX.pack` is a function of the fields and writes none of them.  `AFDX.unpack` never returns normally
    (`C08.AFDX_unpack_never_decodes`), so there is no "state after a successful unpack" to compare; what it raises, and
    the three attributes it assigns before raising, are functions of the bytes alone. -/

theorem AFDX_pack_preserves_fields (s : AFDX) : (AFDX.pack s).1 = s := by
  simp only [AFDX.pack]; repeat' split
  all_goals rfl

theorem AFDX_pack_idempotent (s : AFDX) : AFDX.pack (AFDX.pack s).1 = AFDX.pack s := by
  rw [AFDX_pack_preserves_fields]

theorem AFDX_unpack_result_state_independent (t u : AFDX) (buf : Bytes) :
    (AFDX.unpack t buf).2 = (AFDX.unpack u buf).2 := by
  rw [unpack_eq, unpack_eq u]
  split
  · rfl
  · split <;> rfl

theorem AFDX_unpack_assigned_state_independent (t u : AFDX) (buf : Bytes) (h : 14 ≤ buf.length) :
    (AFDX.unpack t buf).1.vlink = (AFDX.unpack u buf).1.vlink ∧
    (AFDX.unpack t buf).1.type = (AFDX.unpack u buf).1.type ∧
    (AFDX.unpack t buf).1.payload = (AFDX.unpack u buf).1.payload := by
  rw [unpack_eq, unpack_eq u, if_neg (by omega), if_neg (by omega), if_neg (by omega), if_neg (by omega)]
  exact ⟨rfl, rfl, rfl⟩

example : 14 ≤ (List.replicate 60 (0x11 : UInt8)).length := by decide

/-- the other four attributes are left as they were: the object after the (failed) decode is NOT a function
    of the bytes.  The state after an exception is unspecified (DESIGN §3), so this is an observation. -/
theorem AFDX_unpack_leaves_rest (t : AFDX) (buf : Bytes) :
    (AFDX.unpack t buf).1.networkID = t.networkID ∧ (AFDX.unpack t buf).1.equipmentID = t.equipmentID ∧
    (AFDX.unpack t buf).1.interfaceID = t.interfaceID ∧ (AFDX.unpack t buf).1.sequencenum = t.sequencenum := by
  rw [unpack_eq]
  split
  · exact ⟨rfl, rfl, rfl, rfl⟩
  · split <;> exact ⟨rfl, rfl, rfl, rfl⟩

end Acra.Props.C13
