import Acra.Lemmas.Container
import Acra.Props.C13.iNetX
import Acra.Props.C13.IENA
import Acra.Props.C13.IENAQDN
import Acra.Props.C13.iNET
import Acra.Props.C13.NPD
import Acra.Props.C13.ParserAligned
import Acra.Props.C13.ARINC
import Acra.Props.C13.MIL1553
import Acra.Props.C13.UART
import Acra.Props.C13.PCM
import Acra.Props.C13.Ch11Misc
import Acra.Props.C13.Net
import Acra.Props.C13.Extra
import Acra.Props.C13.Mpeg
/-!
  C13 for the container protocol.

  `len(obj)` / `obj[i]` of the element-counting classes (IENA-M/Q/D/N, NPD, ParserAlignedPacket, the Chapter 11
  containers, MPEGTS, and the byte counts of ParserAlignedBlock, PcapRecord, the time formats, NAL) read the object and
  write nothing: in the model they are functions `State → Nat` / `State → Int → R Elem` that return no state, and the
  line protocol (which IS compared with the code, op by op) hands the state through unchanged.  The three classes whose
  `__len__` is `len(self.pack())` DO change the object; the exact change is stated here (`…_len_sets_…`).
  Second half: after a successful `unpack b`, `len` and every `[i]` are functions of `b` only.
-/
namespace Acra.Props.C13
open Acra.Py Acra.Lemmas.Container

section packing
open Acra.Model.iNetX Acra.Gen.iNetX

/-- `len(inetx)` recomputes `packetlen` (the one field `pack` writes) and nothing else — for EVERY state, also one
    whose fields do not fit (then `len` raises, and `packetlen` has been written all the same) -/
theorem iNetX_len_sets_packetlen (s : State) :
    (len s).1 = { s with packetlen := s.payload.length + iNetX_INETX_HEADER_LENGTH } := by
  show (pack s).1 = _
  exact iNetX_pack_preserves_fields s

/-- the object after `len(o)` is the object after `o.pack()`, and the number returned is the length of those bytes;
    `len` raises exactly what `pack` raises -/
theorem iNetX_len_eq_pack (s : State) : (len s).1 = (pack s).1 ∧ (len s).2 = (pack s).2.map List.length := ⟨rfl, rfl⟩

/-- a second `len` changes nothing more and returns the same number -/
theorem iNetX_len_idempotent (s : State) : len (len s).1 = len s :=
  lenOfPack_idem (pack := pack) (iNetX_pack_idempotent s)

/-- `len` after a successful `unpack b` depends on `b` only -/
theorem iNetX_len_after_unpack (t : State) (buf : Bytes) (h : (unpack t buf).2 = .ok ()) :
    len (unpack t buf).1 = len (unpack fresh buf).1 := by
  rw [iNetX_unpack_state_independent t buf h]

example :
    let a : State := { fresh with streamid := 0xDC, payload := [5, 0] }
    let t : State := { fresh with sequence := 9, payload := [1, 2, 3], packetlen := 77 }
    (len a).2 = .ok 30 ∧ (len a).1.packetlen = 30 ∧ a.packetlen = 0 ∧
    ∃ b, (pack a).2 = .ok b ∧ (unpack t b).2 = .ok () ∧ (len (unpack t b).1).2 = .ok 30 :=
  ⟨rfl, rfl, rfl, _, rfl, rfl, rfl⟩

open Acra.Model.IENA Acra.Gen.IENA in
/-- `len(iena)` of the positional class recomputes `size` and nothing else -/
theorem IENA_len_sets_size (s : Base) :
    (Base.len s).1 = { s with size := (s.payload.length + IENA_HEADER_LENGTH + IENA_TRAILER_LENGTH) / 2 } := by
  show (Base.pack s).1 = _
  exact IENA_pack_preserves_fields s

open Acra.Model.IENA in
theorem IENA_len_eq_pack (s : Base) :
    (Base.len s).1 = (Base.pack s).1 ∧ (Base.len s).2 = (Base.pack s).2.map List.length := ⟨rfl, rfl⟩

open Acra.Model.IENA in
theorem IENA_len_idempotent (s : Base) : Base.len (Base.len s).1 = Base.len s :=
  lenOfPack_idem (pack := Base.pack) (IENA_pack_idempotent s)

open Acra.Model.IENA in
theorem IENA_len_after_unpack (t u : Base) (buf : Bytes) (ho : t.lengthError = u.lengthError)
    (h : (Base.unpack t buf).2 = .ok ()) : Base.len (Base.unpack t buf).1 = Base.len (Base.unpack u buf).1 := by
  rw [IENA_unpack_state_independent t u buf ho h]

open Acra.Model.IENA in
example :
    let a : Base := { Base.fresh with key := 0x1A, timeusec := 10000000, payload := [5, 0] }
    let t : Base := { Base.fresh with key := 3, sequence := 9, payload := [1, 2, 3, 4], size := 500 }
    (Base.len a).2 = .ok 18 ∧ (Base.len a).1.size = 9 ∧
    ∃ b, (Base.pack a).2 = .ok b ∧ (Base.unpack t b).2 = .ok () ∧ (Base.len (Base.unpack t b).1).2 = .ok 18 :=
  ⟨rfl, rfl, _, rfl, rfl, rfl⟩

/-- `len(inet)` leaves the object as `pack` leaves it (`_length`, `_payload` rebuilt from the packages, each package's
    `_length`) and returns the length of the bytes `pack` returns -/
theorem iNET_len_eq_pack (s : Acra.Model.iNET.State) :
    (Acra.Model.iNET.len s).1 = (Acra.Model.iNET.pack s).1 ∧
    (Acra.Model.iNET.len s).2 = (Acra.Model.iNET.pack s).2.map List.length := ⟨rfl, rfl⟩

theorem iNET_len_idempotent (s : Acra.Model.iNET.State) :
    Acra.Model.iNET.len (Acra.Model.iNET.len s).1 = Acra.Model.iNET.len s :=
  lenOfPack_idem (pack := Acra.Model.iNET.pack) (iNET_pack_idempotent s)

theorem iNET_len_after_unpack (t u : Acra.Model.iNET.State) (buf : Bytes) (h : (Acra.Model.iNET.unpack t buf).2 = .ok ()) :
    Acra.Model.iNET.len (Acra.Model.iNET.unpack t buf).1 = Acra.Model.iNET.len (Acra.Model.iNET.unpack u buf).1 := by
  rw [iNET_unpack_state_independent t u buf h]

end packing

/-! ### element containers: `len` and every `[i]` after a successful `unpack b` depend on `b` only -/
section counting
open Acra.Model.IENA

theorem IENAM_container_after_unpack (t u : MState) (buf : Bytes) (ho : t.base.lengthError = u.base.lengthError)
    (h : (MState.unpack t buf).2 = .ok ()) :
    (MState.unpack t buf).1.len = (MState.unpack u buf).1.len ∧
    ∀ i, (MState.unpack t buf).1.getitem i = (MState.unpack u buf).1.getitem i := by
  rw [IENAM_unpack_state_independent t u buf ho h]; exact ⟨rfl, fun _ => rfl⟩

theorem IENAQ_container_after_unpack (t u : QState) (buf : Bytes) (ho : t.base.lengthError = u.base.lengthError)
    (h : (QState.unpack t buf).2 = .ok ()) :
    (QState.unpack t buf).1.len = (QState.unpack u buf).1.len ∧
    ∀ i, (QState.unpack t buf).1.getitem i = (QState.unpack u buf).1.getitem i := by
  rw [IENAQ_unpack_state_independent t u buf ho h]; exact ⟨rfl, fun _ => rfl⟩

theorem IENAD_container_after_unpack (t u : DState) (buf : Bytes) (ho : t.base.lengthError = u.base.lengthError)
    (h : (DState.unpack t buf).2 = .ok ()) :
    (DState.unpack t buf).1.len = (DState.unpack u buf).1.len ∧
    ∀ i, (DState.unpack t buf).1.getitem i = (DState.unpack u buf).1.getitem i := by
  rw [IENAD_unpack_state_independent t u buf ho h]; exact ⟨rfl, fun _ => rfl⟩

theorem IENAN_container_after_unpack (t u : NState) (buf : Bytes) (ho : t.base.lengthError = u.base.lengthError)
    (h : (NState.unpack t buf).2 = .ok ()) :
    (NState.unpack t buf).1.len = (NState.unpack u buf).1.len ∧
    ∀ i, (NState.unpack t buf).1.getitem i = (NState.unpack u buf).1.getitem i := by
  rw [IENAN_unpack_state_independent t u buf ho h]; exact ⟨rfl, fun _ => rfl⟩

/-- non-vacuity: an object that holds one parameter decodes a two-parameter packet; `len` is 2, `[−1]` the second -/
example :
    let a : MState := { MState.fresh with parameters := [⟨1, 2, [0xAA, 0xBB, 0xCC]⟩, ⟨3, 4, []⟩] }
    let t : MState := { MState.fresh with parameters := [⟨9, 9, [1]⟩] }
    ∃ b, (MState.pack a).2 = .ok b ∧ (MState.unpack t b).2 = .ok () ∧ (MState.unpack t b).1.len = 2 ∧
      (MState.unpack t b).1.getitem (-1) = .ok ⟨3, 4, []⟩ ∧ (MState.unpack t b).1.getitem 2 = .error .index :=
  ⟨_, rfl, rfl, rfl, rfl, rfl⟩

theorem NPD_container_after_unpack (t u : Acra.Model.NPD.State) (buf : Bytes)
    (h : (Acra.Model.NPD.unpack t buf).2 = .ok ()) :
    Acra.Model.NPD.len (Acra.Model.NPD.unpack t buf).1 = Acra.Model.NPD.len (Acra.Model.NPD.unpack u buf).1 ∧
    ∀ i, Acra.Model.NPD.getitem (Acra.Model.NPD.unpack t buf).1 i = Acra.Model.NPD.getitem (Acra.Model.NPD.unpack u buf).1 i := by
  rw [NPD_unpack_state_independent t u buf h]; exact ⟨rfl, fun _ => rfl⟩

open Acra.Model.ParserAligned in
theorem ParserAlignedPacket_container_after_unpack (t u : Packet) (buf : Bytes) (h : (Packet.unpack t buf).2 = .ok ()) :
    (Packet.unpack t buf).1.len = (Packet.unpack u buf).1.len ∧
    ∀ i, (Packet.unpack t buf).1.getitem i = (Packet.unpack u buf).1.getitem i := by
  rw [ParserAlignedPacket_unpack_state_independent t u buf h]; exact ⟨rfl, fun _ => rfl⟩

open Acra.Model.ParserAligned in
/-- a block's `len` after a successful `unpack` depends on the bytes only -/
theorem ParserAlignedBlock_len_after_unpack (t u : Block) (buf : Bytes) (n : Nat) (h : (Block.unpack t buf).2 = .ok n) :
    (Block.unpack t buf).1.len = (Block.unpack u buf).1.len := by
  rw [ParserAlignedBlock_unpack_state_independent t u buf n h]

open Acra.Model.Pcap in
/-- `len(record)` after a successful `unpack` of a header is 0 whatever payload the record held before -/
theorem PcapRecord_len_after_unpack (t : Rec) (buf : Bytes) (h : (Rec.unpack t buf).2 = .ok ()) :
    (Rec.unpack t buf).1.len = 0 := by
  revert h
  simp only [Rec.unpack]
  split
  · intro h; cases h
  · split
    · intro _; rfl
    · intro h; cases h
    · intro h; cases h

open Acra.Model.Pcap in
example : (Rec.unpack (Rec.fresh.setPayload [0xAB, 0xCD]) (List.replicate 16 0)).2 = .ok () ∧
    (Rec.fresh.setPayload [0xAB, 0xCD]).len = 2 := ⟨rfl, rfl⟩

open Acra.Model.Ch11Pay.ARINC in
theorem ARINC_container_after_unpack (t u : Packet) (buf : Bytes) (h : (Packet.unpack t buf).2 = .ok ()) :
    (Packet.unpack t buf).1.len = (Packet.unpack u buf).1.len ∧
    ∀ i, (Packet.unpack t buf).1.getitem i = (Packet.unpack u buf).1.getitem i := by
  rw [ARINC_unpack_state_independent t u buf h]; exact ⟨rfl, fun _ => rfl⟩

open Acra.Model.Ch11Pay.MIL1553 in
theorem MIL_container_after_unpack (t u : Packet) (buf : Bytes) (ho : t.ipts_source = u.ipts_source)
    (h : (Packet.unpack t buf).2 = .ok ()) :
    (Packet.unpack t buf).1.len = (Packet.unpack u buf).1.len ∧
    ∀ i, (Packet.unpack t buf).1.getitem i = (Packet.unpack u buf).1.getitem i := by
  rw [(MIL_unpack_state_independent t u buf ho h).1]; exact ⟨rfl, fun _ => rfl⟩

open Acra.Model.Ch11Pay.UART in
theorem UART_container_after_unpack (t u : Packet) (buf : Bytes) (ho : t.ipts_source = u.ipts_source)
    (he : t.data_endianness = u.data_endianness) (h : (Packet.unpack t buf).2 = .ok ()) :
    (Packet.unpack t buf).1.len = (Packet.unpack u buf).1.len ∧
    ∀ i, (Packet.unpack t buf).1.getitem i = (Packet.unpack u buf).1.getitem i := by
  rw [(UART_unpack_state_independent t u buf ho he h).1]; exact ⟨rfl, fun _ => rfl⟩

open Acra.Model.Ch11Pay.PCM in
theorem PCM_getitem_after_unpack (t u : Packet) (buf : Bytes) (ex : Bool) (ho : t.ipts_source = u.ipts_source)
    (ha : t.assigned = u.assigned) (hs : t.syncword = u.syncword) (h : (Packet.unpack t buf ex).2 = .ok ()) :
    ∀ i, (Packet.unpack t buf ex).1.getitem i = (Packet.unpack u buf ex).1.getitem i := by
  rw [(PCM_unpack_state_independent t u buf ex ho ha hs h).1]; exact fun _ => rfl

open Acra.Model.Ch11Pay.TimeFmt in
theorem TDF1_len_after_unpack (t u : State1) (buf : Bytes) (h : (State1.unpack t buf).2 = .ok ()) :
    (State1.unpack t buf).1.len = (State1.unpack u buf).1.len := by
  rw [TDF1_unpack_state_independent t u buf h]

open Acra.Model.Ch11Pay.TimeFmt in
/-- `len(TimeDataFormat2)` does not look at the object at all -/
theorem TDF2_len_const (s : State2) : s.len = 12 := rfl

open Acra.Model.Extra in
theorem NAL_len_after_unpack (t u : NAL) (buf : Bytes) (ho : t.offset = u.offset) (h : (NAL.unpack t buf).2 = .ok ()) :
    (NAL.unpack t buf).1.len = (NAL.unpack u buf).1.len := by
  rw [NAL_unpack_state_independent t u buf ho h]

open Acra.Model.MPEGTS in
theorem MPEGTS_container_after_unpack (t u : TS) (buf : Bytes) :
    (TS.unpack t buf).1.len = (TS.unpack u buf).1.len ∧
    ∀ i, (TS.unpack t buf).1.getitem i = (TS.unpack u buf).1.getitem i := ⟨rfl, fun _ => rfl⟩

end counting

/-! ### the iteration cursor `_index` (`Model.Cursor`) -/
section cursor
open Acra.Model.Cursor

/-- a loop started by `__iter__` visits positions `k, k+1, …, n-1` in order and stops with the cursor at `n` -/
theorem cursor_run_from (n k fuel : Nat) (hk : k ≤ n) (hf : n - k < fuel) :
    run fuel (some k) n = ((List.range' k (n - k)), some n) := by
  induction fuel generalizing k with
  | zero => omega
  | succ f ih =>
    by_cases hlt : k < n
    · have : n - k = (n - (k + 1)) + 1 := by omega
      simp only [run, next, hlt, if_true]
      rw [ih (k + 1) (by omega) (by omega), this, List.range'_succ]
    · have hkn : k = n := by omega
      subst hkn
      simp [run, next]

example : run 10 (some 2) 5 = ([2, 3, 4], some 5) := cursor_run_from 5 2 10 (by omega) (by omega)

/-- `for x in obj` = `__iter__` then `next` until `StopIteration`: every position `0 … n-1` once, in order, and the cursor
    ends where the model's `loop` puts it; a further `next()` raises `StopIteration` and keeps raising it -/
theorem cursor_for_loop (c : Cursor) (n : Nat) :
    run (n + 1) (start c) n = (List.range n, loop n) ∧
    next (loop n) n = (loop n, .error .stopIteration) := by
  refine ⟨?_, by simp [next, loop]⟩
  have := cursor_run_from n 0 (n + 1) (by omega) (by omega)
  simpa [start, loop, List.range_eq_range'] using this

/-- `next()` without any `__iter__` before it: `AttributeError`, whatever the container holds -/
theorem cursor_next_uninitialised (n : Nat) : next none n = (none, .error .attribute) := rfl

/-- OBSERVATION (C13 observes public attributes and `pack()` bytes, not a bare `next()`): `unpack` does not reset the
    cursor, so what a direct `next()` returns after `unpack b` is NOT a function of `b` — with 3 decoded elements a
    never-iterated object raises `AttributeError`, one whose last loop ran over 1 element returns element 1, one whose
    last loop ran over 5 raises `StopIteration` -/
theorem cursor_next_depends_on_history :
    next none 3 = (none, .error .attribute) ∧ next (loop 1) 3 = (some 2, .ok 1) ∧
    next (loop 5) 3 = (some 5, .error .stopIteration) := ⟨rfl, rfl, rfl⟩

end cursor

/-- `setPacketTime` writes the two time fields and nothing else -/
theorem iNetX_setPacketTime_fields (s : Acra.Model.iNetX.State) (a b : Nat) :
    (Acra.Model.iNetX.setPacketTime s a b).1 = { s with ptptimeseconds := a, ptptimenanoseconds := b } ∧
    (Acra.Model.iNetX.setPacketTime s a b).2 = true := ⟨rfl, rfl⟩

open Acra.Model.IENA in
/-- the aliases: `n2` reads and writes `status`, `streamid` reads and writes `key` (one storage cell each) -/
theorem IENA_aliases (s : Base) (v : Nat) :
    (s.setN2 v).n2 = v ∧ (s.setN2 v).status = v ∧ ({ s with status := v } : Base).n2 = v ∧
    (s.setStreamid v).streamid = v ∧ (s.setStreamid v).key = v ∧ ({ s with key := v } : Base).streamid = v ∧
    (s.setN2 v).key = s.key ∧ (s.setStreamid v).status = s.status := ⟨rfl, rfl, rfl, rfl, rfl, rfl, rfl, rfl⟩

open Acra.Model.Pcap in
/-- `set_current_time` writes `sec` and `usec` only: payload and both length fields stay -/
theorem PcapRecord_setCurrentTime_keeps_payload (s : Rec) (now : Rat) :
    (s.setCurrentTime now).1.payload = s.payload ∧ (s.setCurrentTime now).1.incl_len = s.incl_len ∧
    (s.setCurrentTime now).1.orig_len = s.orig_len ∧ (s.setCurrentTime now).1.len = s.len := ⟨rfl, rfl, rfl, rfl⟩

end Acra.Props.C13
