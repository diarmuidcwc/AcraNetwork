import Acra.Lemmas.PMT
import Acra.Lemmas.PES
import Acra.Props.C13.Mpeg
import Acra.Props.C06.PMT
import Acra.Props.C06.STANAG
namespace Acra.Props.C13
open Acra.Py Acra.Model.MPEGTS Acra.Model.PMT Acra.Model.PES Acra.Lemmas.MPEGTS Acra.Lemmas.MpegPackVia Acra.Lemmas.PMT Acra.Lemmas.PES

/-! `pack` twice for the composite classes `MPEGPacketPMT` and `STANAG4609`.  Both `pack`s rebuild a
    byte string from fields that `pack` itself does not write (`PMT_payloadR` with `PMT_pack_via` in Lemmas/PMT.lean,
    `STANAG_dataR` with `STANAG_pack_via` in Lemmas/PES.lean, valid for EVERY object) and end in `MPEGPacket.pack` /
    `PES.pack`; the second call therefore sees the same byte string and `Pkt_pack_same_payload` / `PES_pack_idempotent` finish.
    The only hypothesis is that of those two theorems: the embedded transport header is well formed.  It covers the
    calls on which a nested `struct.pack` raises (same exception and, in the model, the same object left behind). -/

theorem PMT_pack_idempotent (s : PMT) (h : Pkt_WF s.pkt) : PMT.pack (PMT.pack s).1 = PMT.pack s := by
  rw [PMT_pack_via s]
  cases hp : PMT_payloadR s with
  | error e =>
    simp only
    rw [PMT_pack_via, show PMT_payloadR { s with program_info_len := PMT_pil s } = PMT_payloadR s from rfl, hp]
    rfl
  | ok pl =>
    simp only
    rw [PMT_pack_via,
      show PMT_payloadR { s with program_info_len := PMT_pil s, pkt := (Pkt.pack { s.pkt with payload := pl }).1 }
        = PMT_payloadR s from rfl, hp]
    simp only
    rw [Pkt_pack_same_payload s.pkt pl false h]
    rfl

set_option maxRecDepth 20000 in
/-- non-vacuity: the PMT example of C06 (one descriptor, two streams) with a stale `program_info_len`, a stale
    payload and an adaptation field whose length `pack` rewrites; the first `pack` changes the object, the second
    does not -/
example :
    let s : PMT :=
      { C06.pmtExample with
        program_info_len := 99,
        pkt := { Pkt.fresh with
                 adaption_ctrl := 3, payload := [1, 2, 3],
                 adaption_field := some { AF.fresh with pcr := [1, 2, 3, 4, 5, 6] } } }
    Pkt_WF s.pkt ∧ (PMT.pack s).1 ≠ s ∧ (PMT.pack s).1.program_info_len = 4 ∧
    ((PMT.pack s).2.toOption.map List.length) = some 188 := by
  decide +kernel

/-- the transport header must be well formed once the PID is forced to 0x104 (so an object whose own PID is out of
    range is covered) -/
theorem STANAG_pack_idempotent (s : STANAG)
    (h : Pkt_WF { s.pes.pkt with pid := Acra.Gen.PES.STANAG4609_PID }) :
    STANAG.pack (STANAG.pack s).1 = STANAG.pack s := by
  have hff : ∀ x : STANAG, x.pes.pkt.pid = Acra.Gen.PES.STANAG4609_PID → STANAG_pidForced x = x := by
    intro x hx
    obtain ⟨⟨⟨sync, pid, tei, pusi, tp, tsc, ac, cc, pl, af⟩, sid, pd, w1, w2, hd⟩, c, u1, u2, tm⟩ := x
    simp only at hx
    subst hx
    rfl
  rw [STANAG_pack_via s]
  cases hp : STANAG_dataR s with
  | error e =>
    simp only
    rw [STANAG_pack_via, show STANAG_dataR (STANAG_pidForced s) = STANAG_dataR s from rfl, hp]
    simp only
    rw [hff (STANAG_pidForced s) rfl]
  | ok d =>
    simp only
    generalize hq : ({ (STANAG_pidForced s).pes with pesdata := d } : PES) = q
    have hqw : Pkt_WF q.pkt := by rw [← hq]; exact h
    have hk := PES_pack_keeps q
    have hqd : q.pesdata = d := by rw [← hq]
    have hqp : q.pkt.pid = Acra.Gen.PES.STANAG4609_PID := by rw [← hq]; rfl
    rw [STANAG_pack_via,
      show STANAG_dataR { STANAG_pidForced s with pes := (PES.pack q).1 } = STANAG_dataR s from rfl, hp]
    simp only
    rw [hff { STANAG_pidForced s with pes := (PES.pack q).1 } (by show (PES.pack q).1.pkt.pid = _; rw [hk.2, hqp])]
    have e : ({ (PES.pack q).1 with pesdata := d } : PES) = (PES.pack q).1 := by
      have := hk.1
      rw [hqd] at this
      generalize PES.pack q = r at this ⊢
      obtain ⟨⟨pk, sid, pd, w1, w2, hd⟩, res⟩ := r
      simp only at this
      subst this
      rfl
    show ({ STANAG_pidForced s with pes := (PES.pack { (PES.pack q).1 with pesdata := d }).1 },
          (PES.pack { (PES.pack q).1 with pesdata := d }).2) = _
    rw [e, PES_pack_idempotent q hqw]

set_option maxRecDepth 20000 in
/-- non-vacuity: the STANAG packet of C06 with a PID outside the 13-bit field (the object's own header is NOT well
    formed), stale metadata and a stale payload; the first `pack` changes the object (PID, `pesdata`), the second
    does not -/
example :
    let s : STANAG :=
      { C06.stanagExample with
        pes := { C06.stanagExample.pes with
                 pesdata := [9, 9],
                 pkt := { C06.stanagExample.pes.pkt with pid := 0x2000, payload := [5] } } }
    Pkt_WF { s.pes.pkt with pid := Acra.Gen.PES.STANAG4609_PID } ∧ ¬ Pkt_WF s.pes.pkt ∧
    (STANAG.pack s).1 ≠ s ∧ (STANAG.pack s).1.pes.pkt.pid = 0x104 ∧ (STANAG.pack s).1.pes.pesdata.length = 36 ∧
    ((STANAG.pack s).2.toOption.map List.length) = some 188 := by
  decide +kernel

/-- the hypothesis in its plain form: a well-formed transport header stays well formed when the PID is forced -/
theorem STANAG_pack_idempotent_wf (s : STANAG) (h : Pkt_WF s.pes.pkt) :
    STANAG.pack (STANAG.pack s).1 = STANAG.pack s :=
  STANAG_pack_idempotent s ⟨h.1, (by show Acra.Gen.PES.STANAG4609_PID < 8192; decide), h.2.2.1, h.2.2.2.1, h.2.2.2.2.1, h.2.2.2.2.2.1, h.2.2.2.2.2.2⟩

example : Pkt_WF C06.stanagExample.pes.pkt := by decide +kernel

end Acra.Props.C13
