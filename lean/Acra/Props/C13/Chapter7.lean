/-
  C13 — PTDP / PTFR: pack is a function of the fields, unpack a function of the bytes (and of the
  codec option `length` for PTFR).  Golay instances only cache tables (Model.Golay), so sharing the
  default `Golay()` between objects is invisible.
-/
import Acra.Lemmas.Chapter7
namespace Acra.Props.C13
open Acra.Py Acra.Model.Chapter7 Acra.Lemmas.Chapter7 Acra.Lemmas

theorem PTDP_pack_preserves_fields (s : PTDP.State) :
    (PTDP.pack s).1 = { s with length := s.payload.length } :=
  congrArg Prod.fst (ptdp_pack_any s)

theorem PTDP_pack_idempotent (s : PTDP.State) : PTDP.pack (PTDP.pack s).1 = PTDP.pack s := by
  rw [PTDP_pack_preserves_fields]; rfl

/-- unpack depends only on the bytes: a successful unpack leaves the object in the state a fresh
    object would be in (`unpack` clears the low-latency marking as well) -/
theorem PTDP_unpack_state_independent (t u : PTDP.State) (b rest : Bytes)
    (h : (PTDP.unpack t b).2 = .ok rest) : PTDP.unpack t b = PTDP.unpack u b :=
  PTDP_decodes.state_independent rfl h

/-- non-vacuity: an object marked low-latency, holding another payload and length, decodes the encoding of a
    three-byte PTDP followed by one more byte successfully -/
example : ∃ (a t : PTDP.State) (b : Bytes), a.payload = [1, 2, 3] ∧ t.low_latency = true ∧ t.payload = [9] ∧
    (PTDP.pack a).2 = .ok b ∧ (PTDP.unpack t (b ++ [0xAA])).2 = .ok [0xAA] :=
  have h : PTDP_WF { PTDP.fresh with payload := [1, 2, 3], fragment := 3, content := 4 } :=
    ⟨by decide, by decide, by decide⟩
  ⟨{ PTDP.fresh with payload := [1, 2, 3], fragment := 3, content := 4 },
    { PTDP.fresh with payload := [9], low_latency := true, length := 77 }, _, rfl, rfl, rfl,
    congrArg Prod.snd (ptdp_pack_eq _ h), congrArg Prod.snd (ptdp_unpack_clean _ _ h [0xAA])⟩

/-- on the failure paths the results agree as well (the state is then unspecified) -/
theorem PTDP_unpack_result_state_independent (t u : PTDP.State) (b : Bytes) :
    (PTDP.unpack t b).2 = (PTDP.unpack u b).2 :=
  PTDP_decodes.result_independent b rfl

theorem PTFR_pack_preserves_fields (s : PTFR.State) : (PTFR.pack s).1 = s :=
  congrArg Prod.fst (ptfr_pack_any s)

theorem PTFR_pack_idempotent (s : PTFR.State) : PTFR.pack (PTFR.pack s).1 = PTFR.pack s := by
  rw [PTFR_pack_preserves_fields]

/-- PTFR.unpack replaces every attribute it decodes (payload included):
    two objects with the same `length` option end in the same state whatever they held before -/
theorem PTFR_unpack_state_independent (t u : PTFR.State) (b : Bytes) (ho : t.length = u.length)
    (h : (PTFR.unpack t b).2 = .ok ()) : PTFR.unpack t b = PTFR.unpack u b :=
  PTFR_decodes.state_independent ho h

/-- non-vacuity: a frame object that holds an older (longer) payload decodes the encoding of a two-byte frame -/
example : ∃ (a t : PTFR.State) (b : Bytes), a.payload = [9, 9] ∧ t.payload = [1, 2, 3] ∧ t.length = a.length ∧
    (PTFR.pack a).2 = .ok b ∧ (PTFR.unpack t b).2 = .ok () :=
  have h : PTFR_WF { PTFR.fresh with streamid := 1, llp := true, ptdp_offset := 0x7FF, length := 2, payload := [9, 9] } :=
    ⟨by decide, by decide, by decide, rfl⟩
  ⟨{ PTFR.fresh with streamid := 1, llp := true, ptdp_offset := 0x7FF, length := 2, payload := [9, 9] },
    { PTFR.fresh with version := 3, ptdp_offset := 5, length := 2, payload := [1, 2, 3] }, _, rfl, rfl, rfl,
    congrArg Prod.snd (ptfr_pack_eq _ h), congrArg Prod.snd (ptfr_unpack_clean _ _ h (Nat.le_refl 2))⟩

end Acra.Props.C13
