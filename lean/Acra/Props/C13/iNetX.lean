import Acra.Lemmas.iNetX
namespace Acra.Props.C13
open Acra.Py Acra.Model.iNetX Acra.Gen.iNetX

/-- the only field pack writes is the computed length -/
theorem iNetX_pack_preserves_fields (s : State) :
    (pack s).1 = { s with packetlen := s.payload.length + iNetX_INETX_HEADER_LENGTH } :=
  Lemmas.iNetX.pack_fst s

/-- pack depends only on the fields: a second call returns the same bytes and leaves every field
    as the first call left it (for every state, also when pack raises) -/
theorem iNetX_pack_idempotent (s : State) : pack (pack s).1 = pack s := by
  rw [iNetX_pack_preserves_fields]
  rfl

/-- unpack depends only on the bytes: whatever state the object was in, a successful unpack leaves
    it in the state a fresh object would be in -/
theorem iNetX_unpack_state_independent (t : State) (buf : Bytes) (h : (unpack t buf).2 = .ok ()) :
    unpack t buf = unpack fresh buf :=
  Lemmas.iNetX.decodes.state_independent rfl h

/-- non-vacuity: a used object decodes a 30-byte packet -/
example :
    let a : State := { fresh with streamid := 0xDC, payload := [5, 0] }
    let t : State := { fresh with sequence := 9, payload := [1, 2, 3] }
    ∃ b, (pack a).2 = .ok b ∧ b.length = 30 ∧ (unpack t b).2 = .ok () ∧ (unpack t b).1.payload = [5, 0] :=
  ⟨_, rfl, rfl, rfl, rfl⟩

end Acra.Props.C13
