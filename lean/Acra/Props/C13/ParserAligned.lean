import Acra.Model.ParserAligned
import Acra.Lemmas.ParserAligned
namespace Acra.Props.C13
open Acra.Py Acra.Model.ParserAligned Acra.Gen.ParserAligned Acra.Lemmas Acra.Lemmas.ParserAligned

/-- the only field `pack` writes is the computed quad-byte count (and nothing when it refuses the payload) -/
theorem ParserAlignedBlock_pack_preserves_fields (s : Block) :
    (Block.pack s).1 = s ∨ (Block.pack s).1 = { s with quadbytes := 2 + s.payload.length / 4 } := by
  rw [Block_pack_closed]
  split
  · exact Or.inl rfl
  · exact Or.inr rfl

theorem ParserAlignedBlock_pack_idempotent (s : Block) : Block.pack (Block.pack s).1 = Block.pack s := by
  rw [Block_pack_closed s]
  split
  · next h => exact (Block_pack_closed s).trans (if_pos h)
  · next h =>
    -- the second call sees the same payload and reads nothing of the count the first wrote
    exact (Block_pack_closed (norm s)).trans (if_neg h)

/-- a successful unpack leaves the block in the state a fresh block would be in -/
theorem ParserAlignedBlock_unpack_state_independent (t u : Block) (buf : Bytes) (n : Nat)
    (h : (Block.unpack t buf).2 = .ok n) : Block.unpack t buf = Block.unpack u buf :=
  Block_decodes.state_independent rfl h

/-- non-vacuity: a block object holding a longer payload decodes a 12-byte block (error flag, code 63) followed by a byte -/
example :
    let a : Block := { Block.fresh with error := true, errorcode := 63, payload := [1, 2, 3, 4] }
    let t : Block := { Block.fresh with payload := [9, 9, 9, 9, 9, 9, 9, 9], quadbytes := 4 }
    ∃ b, (Block.pack a).2 = .ok b ∧ (Block.unpack t (b ++ [0xEE])).2 = .ok 12 ∧ (Block.unpack t (b ++ [0xEE])).1.payload = [1, 2, 3, 4] :=
  ⟨_, rfl, rfl, rfl⟩

theorem packBlocks_idem (bs : List Block) : packBlocks (packBlocks bs).1 = packBlocks bs := by
  simp only [packBlocks_eq_packAll]
  exact packAll_idem Block.pack bs fun b _ => ParserAlignedBlock_pack_idempotent b

theorem ParserAlignedPacket_pack_idempotent (s : Packet) : Packet.pack (Packet.pack s).1 = Packet.pack s := by
  simp only [Packet_pack_closed, packBlocks_idem]

/-- the decoded block list depends only on the bytes -/
theorem ParserAlignedPacket_unpack_blocks_state_independent (t u : Packet) (buf : Bytes) :
    (Packet.unpack t buf).2 = (Packet.unpack u buf).2 ∧
    (Packet.unpack t buf).1.parserblocks = (Packet.unpack u buf).1.parserblocks := by
  simp only [Packet.unpack]
  split <;> simp

/-- a successful unpack leaves the packet in the state a new object would be in: the block list and
    `numberofblocks` are both rebuilt from the bytes (`unpack` writes the count of the blocks it decoded) -/
theorem ParserAlignedPacket_unpack_state_independent (t u : Packet) (buf : Bytes)
    (h : (Packet.unpack t buf).2 = .ok ()) : Packet.unpack t buf = Packet.unpack u buf :=
  Packet_decodes.state_independent rfl h

theorem ParserAlignedPacket_unpack_numberofblocks (t : Packet) (buf : Bytes)
    (h : (Packet.unpack t buf).2 = .ok ()) :
    (Packet.unpack t buf).1.numberofblocks = (Packet.unpack t buf).1.parserblocks.length := by
  obtain ⟨bs, _, hs⟩ := (packetRun_ok_iff ..).1 (Packet_decodes.of_ok h)
  rw [hs]

/-- non-vacuity: a packet object holding three blocks decodes a two-block packet and ends with count 2 -/
example :
    let a : Packet := { Packet.fresh with parserblocks := [{ Block.fresh with payload := [1, 2, 3, 4] }, Block.fresh] }
    let t : Packet := { Packet.fresh with parserblocks := [Block.fresh, Block.fresh, Block.fresh], numberofblocks := 3 }
    ∃ b, (Packet.pack a).2 = .ok b ∧ b.length = 20 ∧ (Packet.unpack t b).2 = .ok () ∧ (Packet.unpack t b).1.numberofblocks = 2 :=
  ⟨_, rfl, rfl, rfl, rfl⟩

example : (Packet.unpack { Packet.fresh with numberofblocks := 3 } [0, 2, 0, 0, 0, 0, 0, 0]).1 =
    (Packet.unpack Packet.fresh [0, 2, 0, 0, 0, 0, 0, 0]).1 := by decide

end Acra.Props.C13
