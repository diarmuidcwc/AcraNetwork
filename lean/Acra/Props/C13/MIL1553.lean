import Acra.Lemmas.Ch11MIL1553
namespace Acra.Props.C13
open Acra.Py Acra.Model.Ch11Pay Acra.Model.Ch11Pay.MIL1553 Acra.Gen.Ch11MIL1553 Acra.Lemmas.Ch11MIL1553 Acra.Lemmas.Ch11Pay

/-- a message decoder configured for the same kind of time stamp gives the same result whatever the
    object held before -/
theorem MILMsg_unpack_state_independent (t u : Msg) (buf : Bytes) (hk : sameKind t.ipts u.ipts)
    (h : ∃ n, (Msg.unpack t buf).2 = .ok n) : Msg.unpack t buf = Msg.unpack u buf := by
  obtain ⟨n, h⟩ := h
  exact Msg_decodes.state_independent ((kindOf_eq_iff _ _).2 hk) h

/-- non-vacuity (also of `MILMsg_pack_idempotent`): a message with RTC stamp and three data bytes packs, and a used
    message object of the same time-stamp kind decodes it -/
example :
    let a : Msg := ⟨.rtc 77, 0xFFFF, 3, 0, [1, 2, 3]⟩
    let t : Msg := ⟨.rtc 5, 1, 1, 9, [7, 7]⟩
    sameKind t.ipts (Msg.fresh (.rtc 0)).ipts ∧
    ∃ b, a.pack.2 = .ok b ∧ b.length = 17 ∧ (Msg.unpack t b).2 = .ok 17 ∧ (Msg.unpack t b).1 = a.pack.1 :=
  ⟨by simp [sameKind, Msg.fresh], _, rfl, rfl, rfl, rfl⟩

/-- `pack()` of a message only sets `length`; calling it again changes nothing -/
theorem MILMsg_pack_idempotent (m : Msg) (b : Bytes) (h : m.pack.2 = .ok b) : m.pack.1.pack = m.pack :=
  Msg_pack_idem m

theorem packMsgs_idempotent (ms : List Msg) (b : Bytes) (h : (packMsgs ms).2 = .ok b) :
    packMsgs (packMsgs ms).1 = packMsgs ms :=
  packMsgs_idem ms

/-- a successful `pack()` twice: identical bytes, fields as the first call left them -/
theorem MIL_pack_idempotent (p : Packet) (b : Bytes) (h : p.pack.2 = .ok b) : p.pack.1.pack = p.pack := by
  have hlen : (packMsgs p.messages).1.length = p.messages.length := by
    rw [packMsgs_eq_packAll]; exact Lemmas.packAll_fst_length _ _
  rw [Packet_pack_closed p] at h ⊢
  by_cases hl : p.messages.length = 0
  · rw [if_pos hl] at h; cases h
  · -- the first call left the messages as `packMsgs` leaves them, on which it gives the same bytes again
    rw [if_neg hl, Packet_pack_closed, if_neg (by dsimp only; rw [hlen]; exact hl)]
    simp only [packMsgs_idem, hlen]

/-- a successful unpack leaves an object with the same `ipts_source` option exactly as it would leave a new one -/
theorem MIL_unpack_state_independent (t u : Packet) (buf : Bytes) (ho : t.ipts_source = u.ipts_source)
    (h : (Packet.unpack t buf).2 = .ok ()) :
    (Packet.unpack t buf).1 = { (Packet.unpack u buf).1 with ipts_source := t.ipts_source } ∧
    (Packet.unpack u buf).2 = .ok () := by
  have e := Packet_decodes.state_independent (u := u) ho h
  have hs := (packetRun_ok (Packet_decodes.of_ok h)).2.1
  exact ⟨by rw [← e, ← hs], e ▸ h⟩

/-- non-vacuity (of `packMsgs_idempotent`, `MIL_pack_idempotent`, `MIL_unpack_state_independent`): a two-message
    packet packs; a used packet object with the same time-stamp source decodes it and ends with two messages -/
example :
    let p : Packet := { messages := [⟨.rtc 1, 0, 0, 0, []⟩, ⟨.rtc 77, 0xFFFF, 3, 0, [1, 2, 3]⟩], msgcount := 2, ttb := 3,
                        ipts_source := some 0 }
    let t : Packet := { messages := [⟨.rtc 5, 1, 1, 2, [7, 7]⟩], msgcount := 1, ttb := 1, ipts_source := some 0 }
    ∃ b, p.pack.2 = .ok b ∧ b.length = 35 ∧ (packMsgs p.messages).2 = .ok (b.drop 4) ∧
      (Packet.unpack t b).2 = .ok () ∧ (Packet.unpack t b).1.messages.length = 2 :=
  ⟨_, rfl, rfl, rfl, rfl, rfl⟩

end Acra.Props.C13
