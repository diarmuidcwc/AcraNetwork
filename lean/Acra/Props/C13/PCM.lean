import Acra.Lemmas.Ch11PCM
namespace Acra.Props.C13
open Acra.Py Acra.Model.Ch11Pay Acra.Model.Ch11Pay.PCM Acra.Gen.Ch11PCM Acra.Lemmas.Ch11PCM Acra.Lemmas.Ch11Pay

/-- a successful minor-frame unpack leaves an object with the same codec options (throughput switch,
    alignment, kind of time stamp) exactly as it would leave a new one: `unpack` starts by clearing
    `syncword`, `sfid` and the data header (Chapter11/PCM.py), so no attribute survives -/
theorem PCMFrame_unpack_state_independent (t u : Frame) (buf : Bytes) (ex : Bool)
    (hthr : t.throughput = u.throughput) (hal : t.alignment = u.alignment) (hk : sameKind t.ipts u.ipts)
    (h : (Frame.unpack t buf ex).2 = .ok ()) : Frame.unpack t buf ex = Frame.unpack u buf ex := by
  exact Frame_decodes.state_independent (buf := (buf, ex))
    (Prod.ext ((kindOf_eq_iff _ _).2 hk) (Prod.ext hthr hal)) h

/-- example: a frame object whose `syncword` is set does not keep it through `unpack(buf)` -/
example :
    let buf : Bytes := [1, 0, 0, 0, 0, 0, 0, 0, 7, 0, 0xAA, 0xBB]
    let fresh : Frame := Frame.fresh (some 0) false 0
    let used : Frame := { fresh with syncword := some 5 }
    (Frame.unpack used buf false).2 = .ok () ∧
    (Frame.unpack used buf false).1.syncword = Option.none ∧
    (Frame.unpack used buf false).1 = (Frame.unpack fresh buf false).1 :=
  ⟨rfl, rfl, rfl⟩

/-- a successful packet unpack leaves an object with the same options (time-stamp source, assigned
    size, sync word) exactly as it would leave a new one; `pack` does not modify the object -/
theorem PCM_unpack_state_independent (t u : Packet) (buf : Bytes) (ex : Bool) (ho : t.ipts_source = u.ipts_source)
    (ha : t.assigned = u.assigned) (hs : t.syncword = u.syncword) (h : (Packet.unpack t buf ex).2 = .ok ()) :
    (Packet.unpack t buf ex).1 = (Packet.unpack u buf ex).1 ∧ (Packet.unpack u buf ex).2 = .ok () := by
  have e := Packet_decodes.state_independent (u := u) (buf := (buf, ex)) (Prod.ext ho (Prod.ext ha hs)) h
  exact ⟨congrArg Prod.fst e, (congrArg Prod.snd e).symm.trans h⟩

/-- non-vacuity: a packet object with the same options that still holds a frame and a detected size decodes the
    encoding of a one-frame packet (PTP stamps, 32-bit alignment, 3 data bytes) -/
example :
    let a : Packet := ⟨0x200000, some 1, some 3, Option.none, Option.none,
      [⟨.ptp 7 8, false, some 0xFFFFFFFF, [1, 2, 3], 1, Option.none, Option.none⟩]⟩
    let t : Packet := { (Packet.fresh (some 1) Option.none (some 3)) with
      minor_frames := [⟨.ptp 1 1, false, some 5, [9, 9, 9], 1, Option.none, Option.none⟩], detected := some 77 }
    t.ipts_source = a.ipts_source ∧ t.assigned = a.assigned ∧ t.syncword = a.syncword ∧
    ∃ b, a.pack = .ok b ∧ (Packet.unpack t b false).2 = .ok () ∧ (Packet.unpack t b false).1.minor_frames.length = 1 :=
  ⟨rfl, rfl, rfl, _, rfl, rfl, rfl⟩

end Acra.Props.C13
