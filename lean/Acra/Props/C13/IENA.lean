import Acra.Lemmas.IENA
namespace Acra.Props.C13
open Acra.Py Acra.Model.IENA Acra.Gen.IENA Acra.Lemmas.IENA

theorem IENA_pack_preserves_fields (s : Base) :
    (Base.pack s).1 = { s with size := (s.payload.length + IENA_HEADER_LENGTH + IENA_TRAILER_LENGTH) / 2 } :=
  IENA_pack_fst s

theorem IENA_pack_idempotent (s : Base) : Base.pack (Base.pack s).1 = Base.pack s := by
  rw [IENA_pack_preserves_fields]; rfl

/-- a successful unpack leaves the object in the state a fresh object (with the same length-check
    option) would be in -/
theorem IENA_unpack_state_independent (t u : Base) (buf : Bytes) (ho : t.lengthError = u.lengthError)
    (h : (Base.unpack t buf).2 = .ok ()) : Base.unpack t buf = Base.unpack u buf :=
  IENA_decodes.state_independent ho h

/-- non-vacuity: a used object (other key, sequence and payload) decodes an 18-byte packet successfully -/
example :
    let a : Base := { Base.fresh with key := 0x1A, timeusec := 10000000, payload := [5, 0] }
    let t : Base := { Base.fresh with key := 3, sequence := 9, payload := [1, 2, 3, 4] }
    ∃ b, (Base.pack a).2 = .ok b ∧ b.length = 18 ∧ (Base.unpack t b).2 = .ok () ∧ (Base.unpack t b).1.payload = [5, 0] :=
  ⟨_, rfl, rfl, rfl, rfl⟩

theorem IENAM_pack_idempotent (s : MState) : MState.pack (MState.pack s).1 = MState.pack s := by
  unfold MState.pack
  cases h : encAllM s.parameters with
  | error e => simp only [h]
  | ok pl =>
    -- the second call packs the same base, except for the `size` the first call stored, which `pack` recomputes
    simp only [h, IENA_pack_fst]
    rfl

/-- IENA-M: the parameter list after a successful unpack does not depend on what the object held -/
theorem IENAM_unpack_state_independent (t u : MState) (buf : Bytes)
    (ho : t.base.lengthError = u.base.lengthError)
    (h : (MState.unpack t buf).2 = .ok ()) : MState.unpack t buf = MState.unpack u buf :=
  IENAM_decodes.state_independent ho h

/-- non-vacuity: an object that already holds a parameter decodes a two-parameter packet (one odd-length dataset
    with its pad byte, one empty dataset) and ends with exactly those two parameters -/
example :
    let a : MState := { MState.fresh with parameters := [⟨1, 2, [0xAA, 0xBB, 0xCC]⟩, ⟨3, 4, []⟩] }
    let t : MState := { MState.fresh with parameters := [⟨9, 9, [1]⟩] }
    ∃ b, (MState.pack a).2 = .ok b ∧ b.length = 32 ∧ (MState.unpack t b).2 = .ok () ∧
      (MState.unpack t b).1.parameters = a.parameters :=
  ⟨_, rfl, rfl, rfl, rfl⟩

end Acra.Props.C13
