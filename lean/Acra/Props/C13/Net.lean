import Acra.Lemmas.Net
import Acra.Lemmas.Pcap
namespace Acra.Props.C13
open Acra.Py Acra.Model.Net Acra.Gen.Net Acra.Lemmas.Net Acra.Lemmas

/-! `pack` is a function of the fields; `unpack` a function of the bytes: every public attribute is assigned by a
    successful `unpack`, whatever the object held before (arbitrary prior state `t`, `u`). -/

theorem Ethernet_pack_preserves_fields (s : Eth) (fcs : Bool) : (Eth.pack s fcs).1 = s := by
  simp only [Eth.pack]; repeat' split
  all_goals rfl

theorem Ethernet_pack_idempotent (s : Eth) (fcs : Bool) : Eth.pack (Eth.pack s fcs).1 fcs = Eth.pack s fcs := by
  rw [Ethernet_pack_preserves_fields]

/-- also the VLAN switch and tag: an untagged frame resets them (SimpleEthernet.py, the `else` branch of `unpack`) -/
theorem Ethernet_unpack_state_independent (t u : Eth) (buf : Bytes) (fcs : Bool)
    (h : (Eth.unpack t buf fcs).2 = .ok ()) : Eth.unpack t buf fcs = Eth.unpack u buf fcs :=
  Eth_decodes.state_independent (buf := (buf, fcs)) rfl h

/-- non-vacuity: an object left VLAN-tagged by an earlier decode decodes an untagged 17-byte frame; the tag switch is reset -/
example :
    let a : Eth := { Eth.fresh with dstmac := 0x01005E000001, srcmac := 0x000C4D000A6C, payload := [1, 2, 3] }
    let t : Eth := { Eth.fresh with vlan := true, vlantag := 5, payload := [9] }
    ∃ b, (Eth.pack a false).2 = .ok b ∧ b.length = 17 ∧ (Eth.unpack t b false).2 = .ok () ∧
      (Eth.unpack t b false).1.vlan = false :=
  ⟨_, rfl, rfl, rfl, rfl⟩

/-- the only field `pack` writes is the computed total length (and nothing at all when an address is unusable) -/
theorem IP_pack_preserves_fields (s : IP) :
    (IP.pack s).1 = s ∨ (IP.pack s).1 = { s with len := IP_HEADER_SIZE + s.payload.length } := by
  simp only [IP.pack]; repeat' split
  all_goals simp

theorem IP_pack_idempotent (s : IP) : IP.pack (IP.pack s).1 = IP.pack s := by
  cases hs : s.srcip with
  | none => simp [IP.pack, hs]
  | some a =>
    cases hd : s.dstip with
    | none => simp [IP.pack, hs, hd]
    | some b =>
      have h1 : (IP.pack s).1 = { s with len := IP_HEADER_SIZE + s.payload.length } := by
        simp only [IP.pack, hs, hd]; repeat' split
        all_goals rfl
      rw [h1]; simp only [IP.pack, hs, hd]

theorem IP_unpack_state_independent (t u : IP) (buf : Bytes) (h : (IP.unpack t buf).2 = .ok ()) :
    IP.unpack t buf = IP.unpack u buf :=
  IP_decodes.state_independent rfl h

/-- non-vacuity: a DF fragment-offset header with four payload bytes, decoded into a used object -/
example :
    let a : IP := { IP.fresh with srcip := some 0xC0A81C10, dstip := some 0xEB000001, flags := 2, fragment_offset := 1480,
                                  payload := [1, 2, 3, 4] }
    let t : IP := { IP.fresh with ident := 77, ttl := 3, payload := [9, 9] }
    ∃ b, (IP.pack a).2 = .ok b ∧ b.length = 24 ∧ (IP.unpack t b).2 = .ok () ∧ (IP.unpack t b).1.payload = [1, 2, 3, 4] :=
  ⟨_, rfl, rfl, rfl, rfl⟩

theorem UDP_pack_preserves_fields (s : UDP) : (UDP.pack s).1 = { s with len := s.payload.length + UDP_HEADER_SIZE } := by
  simp only [UDP.pack]; split <;> rfl

theorem UDP_pack_idempotent (s : UDP) : UDP.pack (UDP.pack s).1 = UDP.pack s := by
  rw [UDP_pack_preserves_fields]; rfl

theorem UDP_unpack_state_independent (t u : UDP) (buf : Bytes) (h : (UDP.unpack t buf).2 = .ok ()) :
    UDP.unpack t buf = UDP.unpack u buf :=
  UDP_decodes.state_independent rfl h

example :
    let a : UDP := { UDP.fresh with srcport := 4400, dstport := 5500, payload := [5] }
    let t : UDP := { UDP.fresh with srcport := 1, len := 99, payload := [7, 7] }
    ∃ b, (UDP.pack a).2 = .ok b ∧ b.length = 9 ∧ (UDP.unpack t b).2 = .ok () ∧ (UDP.unpack t b).1.payload = [5] :=
  ⟨_, rfl, rfl, rfl, rfl⟩

/-! ICMP: `pack` only -/
theorem ICMP_pack_preserves_fields (s : ICMP) : (ICMP.pack s).1 = s := by
  simp only [ICMP.pack]; repeat' split
  all_goals rfl

theorem ICMP_pack_idempotent (s : ICMP) : ICMP.pack (ICMP.pack s).1 = ICMP.pack s := by
  rw [ICMP_pack_preserves_fields]

theorem ARP_pack_preserves_fields (s : ARP) : (ARP.pack s).1 = s := by
  simp only [ARP.pack]; repeat' split
  all_goals rfl

theorem ARP_pack_idempotent (s : ARP) : ARP.pack (ARP.pack s).1 = ARP.pack s := by
  rw [ARP_pack_preserves_fields]

theorem ARP_unpack_state_independent (t u : ARP) (buf : Bytes) (h : (ARP.unpack t buf).2 = .ok ()) :
    ARP.unpack t buf = ARP.unpack u buf :=
  ARP_decodes.state_independent rfl h

example :
    let a : ARP := { ARP.fresh with dstip := some 0xC0A81C02, srcmac := 0x000C4D000A6C }
    let t : ARP := { ARP.fresh with operation := 2, dstmac := 5 }
    ∃ b, (ARP.pack a).2 = .ok b ∧ 28 ≤ b.length ∧ (ARP.unpack t b).2 = .ok () :=
  ⟨_, rfl, by decide, rfl⟩

open Acra.Model.Pcap Acra.Gen.Pcap

theorem PcapRecord_pack_preserves_fields (s : Rec) : (Rec.pack s).1 = s := by
  simp only [Rec.pack]; split <;> rfl

theorem PcapRecord_pack_idempotent (s : Rec) : Rec.pack (Rec.pack s).1 = Rec.pack s := by
  rw [PcapRecord_pack_preserves_fields]

/-- `PcapRecord.unpack` decodes the 16-byte header and clears the payload: a successful unpack leaves a
    used object in the state a new object would be in (`unpack` sets `self._payload = bytes()` once the length test has
    passed, before it decodes the four fields) -/
theorem PcapRecord_unpack_state_independent (t u : Rec) (buf : Bytes) (h : (Rec.unpack t buf).2 = .ok ()) :
    Rec.unpack t buf = Rec.unpack u buf :=
  Lemmas.Pcap.Rec_decodes.state_independent rfl h

/-- non-vacuity: the 16-byte header of a record with three payload bytes and a present-day time stamp, decoded into an
    object that still holds another record's payload -/
example :
    let a : Rec := { (Rec.fresh.setPayload [1, 2, 3]) with sec := 1700000000, usec := 999999 }
    let t : Rec := Rec.fresh.setPayload [0xAB]
    ∃ b, (Rec.pack a).2 = .ok b ∧ (Rec.unpack t (b.take 16)).2 = .ok () ∧ (Rec.unpack t (b.take 16)).1.incl_len = 3 :=
  ⟨_, rfl, rfl, rfl⟩

/-- example: 16 zero bytes decoded into an object that holds a payload leave it with an empty payload -/
theorem PcapRecord_unpack_clears_stale_payload :
    (Rec.unpack (Rec.fresh.setPayload [0xAB]) (List.replicate 16 0)).1.payload = [] ∧
    (Rec.unpack (Rec.fresh.setPayload [0xAB]) (List.replicate 16 0)).2 = .ok () :=
  ⟨by decide, by rfl⟩

end Acra.Props.C13
