import Acra.Gen.Src.Cls.iNetX
import Acra.Lemmas.SrcTieCls
namespace Acra.Props.C13
open Acra Acra.Py Acra.Lemmas.SrcTieCls

/-! Method source ties (C13), stated DIRECTLY on the methods regenerated from the current Python source
    (`Acra.Gen.Src.Cls.iNetX`, `harness/translate_methods.py`), for every object — no model in between, no domain
    restriction (Python ints as `Int`). -/

/-- the only attribute `iNetX.pack` writes is the computed length, also when it raises -/
theorem src_iNetX_pack_writes_only_packetlen (o : Gen.Src.Cls.iNetX.Obj) :
    (Gen.Src.Cls.iNetX.pack o).1 = { o with packetlen := (o.payload.length : Int) + 28 } := by
  rw [iNetX.src_pack_eq]

/-- `iNetX.pack` depends only on the attributes: a second call returns the same result and leaves the object as the
    first call left it -/
theorem src_iNetX_pack_idempotent (o : Gen.Src.Cls.iNetX.Obj) :
    Gen.Src.Cls.iNetX.pack (Gen.Src.Cls.iNetX.pack o).1 = Gen.Src.Cls.iNetX.pack o := by
  rw [src_iNetX_pack_writes_only_packetlen]
  rfl

/-- `iNetX.unpack` depends only on the bytes: an accepted buffer leaves any two objects in the same state -/
theorem src_iNetX_unpack_state_independent (o o' : Gen.Src.Cls.iNetX.Obj) (buf : Bytes)
    (h : (Gen.Src.Cls.iNetX.unpack o buf).2 = .ok true) :
    Gen.Src.Cls.iNetX.unpack o buf = Gen.Src.Cls.iNetX.unpack o' buf :=
  (iNetX.src_unpack_indep o o' buf).2 h

example : (Gen.Src.Cls.iNetX.unpack
    { inetxcontrol := 0, streamid := 9, sequence := 0, packetlen := 0, ptptimeseconds := 0,
      ptptimenanoseconds := 0, pif := 0, payload := [1, 2, 3] }
    ([0x11,0,0,0, 0,0,0,0xDC, 0,0,0,1, 0,0,0,30, 0,0,0,5, 0,0,0,6, 0,0,0,0] ++ [7,8])).2 = .ok true := by rfl

end Acra.Props.C13
