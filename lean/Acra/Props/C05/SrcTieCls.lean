import Acra.Gen.Src.Cls.PcapRecord
import Acra.Model.Pcap
import Acra.Lemmas.SrcTieCls
namespace Acra.Props.C05
open Acra Acra.Py Acra.Lemmas.SrcTieCls

/-! Method source ties (C05): `PcapRecord.pack` and `PcapRecord.unpack` (regenerated from the
    Python source by `harness/translate_methods.py` on every run; `self.packet` resolved through its property to
    `self._payload`, `Pcap.RECORD_HEADER_FORMAT` evaluated from the class `Pcap`) equal the model `Acra.Model.Pcap.Rec`. -/

theorem src_PcapRecord_pack_of (s : Model.Pcap.Rec) :
    Gen.Src.Cls.PcapRecord.pack (PcapRecord.ofModel s) = (PcapRecord.ofModel s.pack.1, s.pack.2) := by
  unfold Gen.Src.Cls.PcapRecord.pack Model.Pcap.Rec.pack
  simp only [PcapRecord.ofModel, Gen.Pcap.RECORD_HEADER_FORMAT]
  rw [structPackI_cast _ [s.sec, s.usec, s.incl_len, s.orig_len] _ (by simp)]
  cases structPack ⟨false, [.u32, .u32, .u32, .u32]⟩ [s.sec, s.usec, s.incl_len, s.orig_len] <;> simp

/-- `PcapRecord.pack`, for every object in the model's domain (int attributes `≥ 0`) -/
theorem src_PcapRecord_pack (o : Gen.Src.Cls.PcapRecord.Obj) (h : PcapRecord.Dom o) :
    (PcapRecord.toModel (Gen.Src.Cls.PcapRecord.pack o).1, (Gen.Src.Cls.PcapRecord.pack o).2)
      = (PcapRecord.toModel o).pack :=
  transfer Gen.Src.Cls.PcapRecord.pack PcapRecord.toModel_ofModel (PcapRecord.ofModel_toModel o h)
    (src_PcapRecord_pack_of _)

example : PcapRecord.Dom { sec := 1700000000, usec := 999999, incl_len := 2, orig_len := 2, _payload := [1, 2] } := by
  decide

/-- `PcapRecord.unpack`, on the image of a model state and for every buffer.  (In the source `_payload` is cleared
    BEFORE `struct.unpack` runs, in the model after; the proof shows the difference is unobservable: once the length
    check has passed `struct.unpack` cannot raise.) -/
theorem src_PcapRecord_unpack_of (s : Model.Pcap.Rec) (buf : Bytes) :
    Gen.Src.Cls.PcapRecord.unpack (PcapRecord.ofModel s) buf
      = (PcapRecord.ofModel (s.unpack buf).1, (s.unpack buf).2) := by
  unfold Gen.Src.Cls.PcapRecord.unpack Model.Pcap.Rec.unpack
  simp only [Gen.Pcap.RECORD_HEADER_FORMAT, Py.len, structUnpackI_eq, Fmt.size, codesSize, Code.size, Nat.add_zero,
    Nat.reduceAdd]
  by_cases hlen : 16 = buf.length
  · have : (16 : Int) = ((buf.length : Nat) : Int) := by omega
    simp only [ne_eq, hlen, this, not_true_eq_false, if_false]
    rw [structUnpack_flds, if_pos (show buf.length = (⟨false, [.u32, .u32, .u32, .u32]⟩ : Fmt).size from hlen.symm)]
    simp [Py.intAt, PcapRecord.ofModel, Except.map, flds]
  · have : ¬ (16 : Int) = ((buf.length : Nat) : Int) := by omega
    simp [hlen, this]

/-- `PcapRecord.unpack`, for every prior object in the model's domain and every buffer -/
theorem src_PcapRecord_unpack (o : Gen.Src.Cls.PcapRecord.Obj) (h : PcapRecord.Dom o) (buf : Bytes) :
    (PcapRecord.toModel (Gen.Src.Cls.PcapRecord.unpack o buf).1, (Gen.Src.Cls.PcapRecord.unpack o buf).2)
      = (PcapRecord.toModel o).unpack buf :=
  transfer (Gen.Src.Cls.PcapRecord.unpack · buf) PcapRecord.toModel_ofModel (PcapRecord.ofModel_toModel o h)
    (src_PcapRecord_unpack_of _ buf)

end Acra.Props.C05
