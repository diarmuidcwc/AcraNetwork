/-
  C05, pcap files: the global header, any split of the records into write sessions gives one file, read = write (iteration and
  index access), and a file cut at any byte reads as `truncSpec`.  Model: Acra.Model.Pcap (a file is a `Bytes` value, an object an
  `FS`); file-level lemmas: Lemmas/PcapFile.  Outside `Rec_WF`: records whose `orig_len` differs from the payload length.
-/
import Acra.Lemmas.PcapFile
import Acra.Spec.Net
import Acra.Lemmas.ListAux
namespace Acra.Props.C05
open Acra.Py Acra.Model.Pcap Acra.Gen.Pcap Acra.Lemmas.Pcap

/-- the bytes written on opening in mode "w" are the standard little-endian libpcap 2.4 global header -/
theorem header_std (fs : FS) :
    (openFile fs .w).2 = .ok () ∧ (openFile fs .w).1.file = some Spec.Pcap.globalHeader ∧
    Spec.Pcap.globalHeader =
      [0xd4, 0xc3, 0xb2, 0xa1, 0x02, 0x00, 0x04, 0x00, 0, 0, 0, 0, 0, 0, 0, 0, 0xff, 0xff, 0, 0, 0x01, 0, 0, 0] := by
  have hw := open_w_writable fs
  refine ⟨hw.1, ?_, by decide⟩
  rw [hw.2.1]
  congr 1

theorem fileOf_eq_spec (rs : List Rec) (hwf : ∀ r ∈ rs, Rec_WF r) :
    fileOf rs = Spec.Pcap.file (rs.map fun r => (r.sec, r.usec, r.payload)) := by
  rw [fileOf, Spec.Pcap.file, List.flatMap_map, show G = Spec.Pcap.globalHeader by decide]
  exact congrArg _ (Lemmas.flatMap_congr' _ _ _ fun r hr => by
    obtain ⟨_, _, h3, h4, _⟩ := hwf r hr
    rw [recBytes_eq_spec, h3, h4])

/-- the sessions of a capture: the first opens in mode "w", every later one in mode "a" -/
def runSessions (first : List Rec) (more : List (List Rec)) : FS :=
  more.foldl (fun fs rs => session fs .a rs) (session FS.fresh .w first)

/-- **every split of the record sequence into write sessions gives the same file**: header ++ records -/
theorem sessions_irrelevant (first : List Rec) (more : List (List Rec))
    (hf : ∀ r ∈ first, Rec_fits r) (hm : ∀ rs ∈ more, ∀ r ∈ rs, Rec_fits r) :
    (runSessions first more).file = some (fileOf (first ++ more.flatten)) := by
  rw [runSessions, sessions_a more _ _ (session_w FS.fresh first hf) hm, fileOf, fileOf, List.flatMap_append,
    List.append_assoc]

example : ∀ r ∈ [Rec.fresh.setPayload [1, 2, 3], { Rec.fresh with sec := 7 }], Rec_WF r := by
  intro r hr; simp at hr; rcases hr with h | h <;> subst h <;> simp [Rec_WF, Rec.fresh, Rec.setPayload]

/-- **read = write**: opening the file for reading and iterating returns the records written -/
theorem read_write (fs : FS) (rs : List Rec) (hwf : ∀ r ∈ rs, Rec_WF r) (hf : fs.file = some (fileOf rs)) :
    (openFile fs .r).2 = .ok () ∧
    (readAll (fuelFor (openFile fs .r).1) (openFile fs .r).1).2 = .ok rs := by
  have ho := open_r_readable fs _ hf
  refine ⟨ho.1, ?_⟩
  rw [readAll_readable _ _ _ _ ho.2, ← G_length]
  exact recs_all G _ _ hwf (by rw [fuelFor, ho.2.getD, List.length_append, G_length, bytesOf]; omega)

/-- index access: `pcap[i]` is the i-th record written, `None` beyond the end — from any reading position -/
theorem getitem_eq (fs : FS) (rs : List Rec) (pos i : Nat) (hwf : ∀ r ∈ rs, Rec_WF r)
    (hr : Readable fs (fileOf rs) pos) : (getitem fs i).2 = .ok rs[i]? := by
  rw [(getitem_records fs rs pos i hwf hr).1, if_neg (by omega), Int.toNat_natCast]

theorem getitem_after_open (fs : FS) (rs : List Rec) (i : Nat) (hwf : ∀ r ∈ rs, Rec_WF r)
    (hf : fs.file = some (fileOf rs)) : (getitem (openFile fs .r).1 i).2 = .ok rs[i]? :=
  getitem_eq _ rs 24 i hwf (open_r_readable fs _ hf).2

/-- **truncation**: a file cut at any byte `t` at or after the global header reads as `truncSpec`: every record
    completely present, unchanged and in order, then — if the next 16-byte header is complete — that record with
    the part of its payload that is there and both lengths set to it; then iteration stops -/
theorem truncation (fs : FS) (rs : List Rec) (t : Nat) (hwf : ∀ r ∈ rs, Rec_WF r) (h24 : 24 ≤ t)
    (hf : fs.file = some ((fileOf rs).take t)) :
    (openFile fs .r).2 = .ok () ∧
    (readAll (fuelFor (openFile fs .r).1) (openFile fs .r).1).2 = .ok (truncSpec rs (t - 24)) := by
  have hcut : (fileOf rs).take t = G ++ (rs.flatMap recBytes).take (t - 24) := by
    rw [fileOf, take_prefix_append _ _ _ (by rw [G_length]; omega), G_length]
  rw [hcut] at hf
  have ho := open_r_readable fs _ hf
  refine ⟨ho.1, ?_⟩
  rw [readAll_readable _ _ _ _ ho.2, ← G_length]
  exact recs_truncated _ _ _ G hwf
    (by rw [fuelFor, ho.2.getD, List.length_append, G_length, List.length_take, ← bytesOf]; omega)

/-- the shape of `truncSpec`, the case split exact: the result ends after the `k` complete records exactly when all
    records are complete or fewer than 16 bytes of the next one are present -/
theorem truncation_shape_exact (rs : List Rec) (n : Nat) :
    ∃ k tail, truncSpec rs n = rs.take k ++ tail ∧ k ≤ rs.length ∧ bytesOf (rs.take k) ≤ n ∧
      (k < rs.length → n < bytesOf (rs.take (k + 1))) ∧
      ((tail = [] ∧ (k = rs.length ∨ n < bytesOf (rs.take k) + 16)) ∨
        ∃ r m, rs[k]? = some r ∧ m < r.payload.length ∧ tail = [shorten r m] ∧
               bytesOf (rs.take k) + 16 + m = n) := by
  induction rs generalizing n with
  | nil =>
    exact ⟨0, [], rfl, Nat.le_refl _, Nat.zero_le _, fun h => absurd h (Nat.lt_irrefl _), Or.inl ⟨rfl, Or.inl rfl⟩⟩
  | cons r rs ih =>
    rw [truncSpec]
    by_cases h16 : n < 16
    · rw [if_pos h16]
      exact ⟨0, [], rfl, Nat.zero_le _, Nat.zero_le _, fun _ => by simp; omega, Or.inl ⟨rfl, Or.inr (by simp; omega)⟩⟩
    · rw [if_neg h16]
      by_cases hcut : n < 16 + r.payload.length
      · rw [if_pos hcut]
        exact ⟨0, [shorten r (n - 16)], rfl, Nat.zero_le _, Nat.zero_le _, fun _ => by simp; omega,
          Or.inr ⟨r, n - 16, rfl, by omega, rfl, by simp; omega⟩⟩
      · rw [if_neg hcut]
        obtain ⟨k, tail, he, hk, hs, hmax, ht⟩ := ih (n - (16 + r.payload.length))
        -- `omega` would split on `hmax` and `ht` wherever they are in sight
        refine ⟨k + 1, tail, by rw [he]; rfl, Nat.succ_le_succ hk, ?_, ?_, ?_⟩
        · rw [List.take_succ_cons, bytesOf_cons]
          clear hmax ht
          omega
        · intro hlt
          have := hmax (Nat.lt_of_succ_lt_succ hlt)
          rw [List.take_succ_cons, bytesOf_cons]
          clear hmax ht
          omega
        · rw [List.take_succ_cons, bytesOf_cons, List.length_cons, List.getElem?_cons_succ]
          clear hmax
          rcases ht with ⟨ht, hend⟩ | ⟨r', m, h1, h2, h3, h4⟩
          · exact Or.inl ⟨ht, by omega⟩
          · exact Or.inr ⟨r', m, h1, h2, h3, by omega⟩


/-- `truncation_shape_exact` in the property's wording -/
theorem truncation_shape (rs : List Rec) (n : Nat) :
    ∃ k tail, truncSpec rs n = rs.take k ++ tail ∧ k ≤ rs.length ∧ bytesOf (rs.take k) ≤ n ∧
      (k < rs.length → n < bytesOf (rs.take (k + 1))) ∧
      (tail = [] ∨ ∃ r m, rs[k]? = some r ∧ m < r.payload.length ∧ tail = [shorten r m] ∧
                         bytesOf (rs.take k) + 16 + m = n) := by
  obtain ⟨k, tail, h1, h2, h3, h4, h5⟩ := truncation_shape_exact rs n
  exact ⟨k, tail, h1, h2, h3, h4, h5.imp And.left id⟩

theorem shorten_fields (r : Rec) (m : Nat) (h : m ≤ r.payload.length) :
    (shorten r m).sec = r.sec ∧ (shorten r m).usec = r.usec ∧ (shorten r m).payload = r.payload.take m ∧
    (shorten r m).incl_len = m ∧ (shorten r m).orig_len = m := by
  simp [shorten, Rec.setPayload]; omega

/-- for arbitrary file contents (used by C08) -/
theorem items_le_bytes (fuel : Nat) (fs : FS) (rs : List Rec) (h : (readAll fuel fs).2 = .ok rs) :
    16 * rs.length ≤ (fs.file.getD []).length := by
  cases fuel with
  | zero => simp [readAll] at h
  | succ fuel =>
    rcases next_cases fs with ⟨_, hn⟩ | hn | ⟨pos, hr⟩
    · simp [readAll, hn] at h
    · simp only [readAll, hn, Except.ok.injEq] at h
      simp [← h]
    · rw [readAll_reading _ _ _ hr] at h
      have := recs_items_le _ _ _ _ h
      omega

/-- three records used in the examples: extreme 32-bit time stamps, an EMPTY payload, a one-byte payload -/
def wRecs : List Rec :=
  [ { sec := 0xFFFFFFFF, usec := 0xFFFFFFFF, incl_len := 3, orig_len := 3, payload := [1, 2, 3] },
    { sec := 5, usec := 0, incl_len := 0, orig_len := 0, payload := [] },
    { sec := 6, usec := 999999, incl_len := 1, orig_len := 1, payload := [9] } ]

theorem wRecs_WF : ∀ r ∈ wRecs, Rec_WF r := by
  intro r hr
  simp only [wRecs, List.mem_cons, List.not_mem_nil, or_false] at hr
  rcases hr with h | h | h <;> subst h <;> simp [Rec_WF]

/-- example for `fileOf_eq_spec`, `sessions_irrelevant` (a split with an EMPTY session), `read_write`,
    `getitem_eq`, `getitem_after_open`, `truncation`: the hypotheses hold together for `wRecs` … -/
example : (∀ r ∈ wRecs, Rec_WF r) ∧ (∀ r ∈ [wRecs[0]], Rec_fits r) ∧
    (∀ rs ∈ [[], [wRecs[1], wRecs[2]]], ∀ r ∈ rs, Rec_fits r) ∧
    (⟨some (fileOf wRecs), none⟩ : FS).file = some (fileOf wRecs) ∧
    (24 ≤ 60 ∧ (⟨some ((fileOf wRecs).take 60), none⟩ : FS).file = some ((fileOf wRecs).take 60)) ∧
    Readable (openFile ⟨some (fileOf wRecs), none⟩ .r).1 (fileOf wRecs) 24 := by
  have w : ∀ i (h : i < wRecs.length), Rec_fits wRecs[i] := fun i h => (wRecs_WF _ (List.getElem_mem h)).fits
  refine ⟨wRecs_WF, ?_, ?_, rfl, ⟨by decide, rfl⟩, (open_r_readable _ _ rfl).2⟩
  · simp only [List.forall_mem_cons, List.not_mem_nil, false_imp_iff, implies_true, and_true]
    exact w _ _
  · simp only [List.forall_mem_cons, List.not_mem_nil, false_imp_iff, implies_true, and_true, true_and]
    exact ⟨w _ _, w _ _⟩

/-- … and the model, run on them, gives the stated results (the file is 24 + 19 + 16 + 17 = 76 bytes) -/
example : (fileOf wRecs).length = 76 := by decide
example : (readAll 200 (openFile (runSessions [wRecs[0]] [[], [wRecs[1], wRecs[2]]]) .r).1).2.toOption = some wRecs := by
  decide +kernel
example : (getitem (openFile (runSessions [wRecs[0]] [[], [wRecs[1], wRecs[2]]]) .r).1 1).2.toOption = some wRecs[1]? := by
  decide +kernel

/-- the truncation result at the interesting offsets of that file (n = offset − 24): a 16-byte header alone gives the
    record with an empty payload; the EMPTY-payload record is complete as soon as its header is; one byte short of a
    header gives nothing -/
example : truncSpec wRecs 15 = [] ∧ truncSpec wRecs 16 = [shorten wRecs[0] 0] ∧
    truncSpec wRecs 18 = [shorten wRecs[0] 2] ∧ truncSpec wRecs 19 = [wRecs[0]] ∧
    truncSpec wRecs 34 = [wRecs[0]] ∧ truncSpec wRecs 35 = [wRecs[0], wRecs[1]] ∧
    truncSpec wRecs 51 = [wRecs[0], wRecs[1], shorten wRecs[2] 0] ∧ truncSpec wRecs 52 = wRecs ∧
    truncSpec wRecs 1000 = wRecs := by decide
example : (shorten wRecs[0] 2) = { sec := 0xFFFFFFFF, usec := 0xFFFFFFFF, incl_len := 2, orig_len := 2, payload := [1, 2] } := by
  decide

/-- **end to end, write then read**: the records written in ANY split into sessions (w, a, a, …; empty sessions
    and empty record lists included) are read back after close — by iteration and by index -/
theorem sessions_then_read (first : List Rec) (more : List (List Rec))
    (hf : ∀ r ∈ first, Rec_WF r) (hm : ∀ rs ∈ more, ∀ r ∈ rs, Rec_WF r) :
    (openFile (runSessions first more) .r).2 = .ok () ∧
    (readAll (fuelFor (openFile (runSessions first more) .r).1) (openFile (runSessions first more) .r).1).2 =
      .ok (first ++ more.flatten) ∧
    ∀ i : Nat, (getitem (openFile (runSessions first more) .r).1 i).2 = .ok (first ++ more.flatten)[i]? := by
  have hfile := sessions_irrelevant first more (fun r hr => (hf r hr).fits) (fun rs hrs r hr => (hm rs hrs r hr).fits)
  have hwf := List.forall_mem_append.2 ⟨hf, List.forall_mem_flatten.2 hm⟩
  have := read_write (runSessions first more) _ hwf hfile
  exact ⟨this.1, this.2, fun i => getitem_after_open _ _ i hwf hfile⟩

example : (∀ r ∈ ([] : List Rec), Rec_WF r) ∧ ∀ rs ∈ [[], wRecs], ∀ r ∈ rs, Rec_WF r := by
  simp only [List.forall_mem_cons, List.not_mem_nil, false_imp_iff, implies_true, and_true, true_and]
  exact wRecs_WF

/-- **end to end, crash**: the file left by any split into sessions, cut by the crash model `truncate` at any
    byte `t` from the end of the global header to the end of the file, reads as `truncSpec` -/
theorem sessions_then_truncate (first : List Rec) (more : List (List Rec)) (t : Nat)
    (hf : ∀ r ∈ first, Rec_WF r) (hm : ∀ rs ∈ more, ∀ r ∈ rs, Rec_WF r)
    (h24 : 24 ≤ t) (hle : t ≤ (fileOf (first ++ more.flatten)).length) :
    (truncate (runSessions first more) t).2 = .ok () ∧
    (openFile (truncate (runSessions first more) t).1 .r).2 = .ok () ∧
    (readAll (fuelFor (openFile (truncate (runSessions first more) t).1 .r).1)
        (openFile (truncate (runSessions first more) t).1 .r).1).2 =
      .ok (truncSpec (first ++ more.flatten) (t - 24)) := by
  have hfile := sessions_irrelevant first more (fun r hr => (hf r hr).fits) (fun rs hrs r hr => (hm rs hrs r hr).fits)
  have hwf := List.forall_mem_append.2 ⟨hf, List.forall_mem_flatten.2 hm⟩
  have hz : t - (fileOf (first ++ more.flatten)).length = 0 := by omega
  have htr : (truncate (runSessions first more) t).2 = .ok () ∧
      (truncate (runSessions first more) t).1.file = some ((fileOf (first ++ more.flatten)).take t) := by
    simp [truncate, closeIfOpen, hfile, hz]
  have := truncation _ _ t hwf h24 htr.2
  exact ⟨htr.1, this.1, this.2⟩

example : (∀ r ∈ [wRecs[0]], Rec_WF r) ∧ (∀ rs ∈ [[wRecs[1], wRecs[2]]], ∀ r ∈ rs, Rec_WF r) ∧ 24 ≤ 60 ∧
    60 ≤ (fileOf ([wRecs[0]] ++ [[wRecs[1], wRecs[2]]].flatten)).length := by
  have w : ∀ i (h : i < wRecs.length), Rec_WF wRecs[i] := fun i h => wRecs_WF _ (List.getElem_mem h)
  simp only [List.forall_mem_cons, List.not_mem_nil, false_imp_iff, implies_true, and_true]
  exact ⟨w _ _, ⟨w _ _, w _ _⟩, by decide, by decide⟩
example : (readAll 200 (openFile (truncate (runSessions [wRecs[0]] [[wRecs[1], wRecs[2]]]) 60).1 .r).1).2.toOption =
    some [wRecs[0], wRecs[1]] := by decide +kernel

theorem truncation_past_end (rs : List Rec) (n : Nat) (h : bytesOf rs ≤ n) : truncSpec rs n = rs :=
  truncSpec_all rs n h

example : bytesOf wRecs ≤ 52 := by decide

/-- what `Rec_WF` excludes (documented exclusion, notes/net.md O5): a record whose `orig_len` was assigned
    directly and differs from the payload length (a snap-length-truncated capture) is written as is, but the
    reader puts the payload in through the `packet` setter, so it comes back with `orig_len = incl_len` -/
example :
    let r : Rec := { sec := 1, usec := 2, incl_len := 2, orig_len := 1500, payload := [7, 8] }
    Rec_fits r ∧ ¬ Rec_WF r ∧
    nextRec (recBytes r) = some ({ r with orig_len := 2 }, 18) := by
  refine ⟨by simp [Rec_fits], by simp [Rec_WF], by decide⟩

/-- **negative index**: `pcap[item]` with `item < 0` is `None` — NOT the record counted from the end, as Python's
    sequence convention would have it.  (`__getitem__` compares the running index 0, 1, 2, … of `enumerate(self)` with
    `item`; a negative `item` is never met, so the whole file is scanned.)  For ANY object state and ANY file
    contents; the two exceptions are those of every index access: no object (`AttributeError`), closed object
    (`ValueError`). -/
theorem getitem_negative (fs : FS) (item : Int) (hneg : item < 0) :
    (getitem fs item).2 =
      match fs.h with
      | none => .error .attribute
      | some h => if h.closed then .error .value else .ok none := by
  obtain ⟨o, ho, h⟩ := getitem_cases fs item
  rw [h, ho hneg]
  rfl

/-- on a file of records written by the library the scan for a negative index leaves the read cursor at the END of the
    file: the next `next()` raises `StopIteration`, while index access (which rewinds) still returns every record -/
theorem getitem_negative_exhausts (fs : FS) (rs : List Rec) (pos : Nat) (item : Int) (hneg : item < 0)
    (hwf : ∀ r ∈ rs, Rec_WF r) (hr : Readable fs (fileOf rs) pos) :
    (getitem fs item).2 = .ok none ∧
    (next (getitem fs item).1).2 = .error .stopIteration ∧
    (readAll (fuelFor (getitem fs item).1) (getitem fs item).1).2 = .ok [] ∧
    ∀ i : Nat, (getitem (getitem fs item).1 i).2 = .ok rs[i]? := by
  obtain ⟨h1, h2⟩ := getitem_records fs rs pos item hwf hr
  rw [if_pos hneg] at h1
  have h3 := h2 h1
  refine ⟨h1, next_at_end _ _ h3, ?_, fun i => getitem_eq _ rs _ i hwf h3⟩
  have := recs_at (fileOf rs) [] (fuelFor (getitem fs item).1 - 1)
  rwa [Nat.sub_add_cancel (by simp [fuelFor]), List.append_nil, nextRec_short [] (by simp),
    ← readAll_readable _ _ _ _ h3] at this

theorem getitem_beyond (fs : FS) (rs : List Rec) (pos i : Nat) (hi : rs.length ≤ i) (hwf : ∀ r ∈ rs, Rec_WF r)
    (hr : Readable fs (fileOf rs) pos) : (getitem fs i).2 = .ok none := by
  rw [getitem_eq fs rs pos i hwf hr, List.getElem?_eq_none hi]

theorem getitem_int (fs : FS) (rs : List Rec) (pos : Nat) (item : Int) (hwf : ∀ r ∈ rs, Rec_WF r)
    (hr : Readable fs (fileOf rs) pos) :
    (getitem fs item).2 = .ok (if item < 0 then none else rs[item.toNat]?) :=
  (getitem_records fs rs pos item hwf hr).1

/-- witnesses on `wRecs` (three records): `pcap[-1]`, `pcap[-3]` and `pcap[3]` are `None`, `pcap[2]` is the last record;
    after `pcap[-1]` iteration yields nothing -/
example : (getitem (openFile ⟨some (fileOf wRecs), none⟩ .r).1 (-1)).2.toOption = some none := by decide +kernel
example : (getitem (openFile ⟨some (fileOf wRecs), none⟩ .r).1 (-3)).2.toOption = some none := by decide +kernel
example : (getitem (openFile ⟨some (fileOf wRecs), none⟩ .r).1 3).2.toOption = some none := by decide +kernel
example : (getitem (openFile ⟨some (fileOf wRecs), none⟩ .r).1 2).2.toOption = some wRecs[2]? := by decide +kernel
example : (readAll 200 (getitem (openFile ⟨some (fileOf wRecs), none⟩ .r).1 (-1)).1).2.toOption = some [] := by
  decide +kernel
/-- example satisfying the hypotheses of `getitem_negative_exhausts` / `getitem_beyond` / `getitem_int` -/
example : (-1 : Int) < 0 ∧ (∀ r ∈ wRecs, Rec_WF r) ∧
    Readable (openFile ⟨some (fileOf wRecs), none⟩ .r).1 (fileOf wRecs) 24 :=
  ⟨by decide, wRecs_WF, (open_r_readable _ _ rfl).2⟩
/-- `getitem_negative` on the other object states: no object, closed object, an object open for WRITING (the scan
    ends at once; `None`) -/
example : (getitem FS.fresh (-1)).2 = .error .attribute := getitem_negative FS.fresh (-1) (by decide)
example : (getitem (close (openFile FS.fresh .w).1).1 (-1)).2 = .error .value :=
  getitem_negative (close (openFile FS.fresh .w).1).1 (-1) (by decide)
example : (getitem (openFile FS.fresh .w).1 (-1)).2 = .ok none := getitem_negative (openFile FS.fresh .w).1 (-1) (by decide)

/-- **every operation of the write sessions succeeds**: `runSessionsR` threads the result of each `open`, `write`,
    `close`, in order -/
theorem sessions_all_ok (first : List Rec) (more : List (List Rec))
    (hf : ∀ r ∈ first, Rec_fits r) (hm : ∀ rs ∈ more, ∀ r ∈ rs, Rec_fits r) :
    (runSessionsR first more).1 = runSessions first more ∧
    (∀ x ∈ (runSessionsR first more).2, x = .ok ()) ∧
    (runSessionsR first more).2.length = (first.length + 2) + (more.map (fun rs => rs.length + 2)).sum ∧
    (runSessionsR first more).1.file = some (fileOf (first ++ more.flatten)) := by
  have h : runSessionsR first more = (runSessions first more,
      List.replicate ((first.length + 2) + (more.map (fun rs => rs.length + 2)).sum) (.ok ())) := by
    rw [runSessionsR, sessionR_eq FS.fresh .w G first (open_w_writable FS.fresh) hf,
      sessionsR_eq more _ _ _ (session_w FS.fresh first hf) hm, runSessions, List.replicate_append_replicate]
  rw [h]
  exact ⟨rfl, fun x hx => (List.mem_replicate.1 hx).2, List.length_replicate .., sessions_irrelevant first more hf hm⟩

/-- witness: the three sessions `[r0] | [] | [r1, r2]` of `wRecs`: 3 + 2 + 4 = 9 operations, all `.ok ()` -/
example : (runSessionsR [wRecs[0]] [[], [wRecs[1], wRecs[2]]]).2.map (·.toOption) = List.replicate 9 (some ()) := by
  decide +kernel

end Acra.Props.C05
