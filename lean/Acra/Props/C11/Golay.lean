/-
  C11 — Golay(24,12): systematic, corrects every ≤ 3-bit error, flags every 4-bit error.
  All statements are about the model of AcraNetwork/Golay.py with G_P / H_P regenerated from the
  source (Acra.Gen.Golay) and quantify over ALL 4096 data values and ALL error patterns of the stated
  weight (`wt e` = number of set bits among the 24 positions), not over samples.
-/
import Acra.Lemmas.Golay
namespace Acra.Props.C11
open Acra.Py Acra.Model.Golay Acra.Lemmas.Golay

theorem Golay_systematic (x : Nat) (hx : x < 4096) : encode x >>> 12 = x :=
  (syn_encode_all x hx).2

/-- values outside 12 bits are masked, not rejected (the range check in the source can never fire) -/
theorem Golay_encode_masks (raw : Nat) : encode raw = encode (raw % 4096) :=
  encode_mod raw

theorem Golay_codeword_lt (raw : Nat) : encode raw < 2 ^ 24 :=
  encode_lt raw

theorem Golay_string_form (raw : Nat) : encodeStr raw = .ok (beBytes 3 (encode raw)) :=
  encodeStr_eq raw

theorem Golay_codeword_syndrome (x : Nat) (hx : x < 4096) : syndrome (encode x) = 0 := by
  rw [syndrome_eq]; exact (syn_encode_all x hx).1

/-- decode of any word within Hamming distance 3 of a code word returns the data value, and the
    error count is the distance: all 4096 values × all 2325 patterns -/
theorem Golay_corrects (x e : Nat) (hx : x < 4096) (he : e < 2 ^ 24) (hw : wt e ≤ 3) :
    decodeInt (encode x ^^^ e) = .ok x ∧ errors { inited := true } (encode x ^^^ e) = .ok (wt e) :=
  decode_corrects x e hx he hw

/-- non-vacuity: a data value and a weight-3 pattern with one bit in the data half (bit 23, in the upper byte) and two in
    the parity half (bits 8 and 0) -/
example : (0xABC : Nat) < 4096 ∧ (0x800101 : Nat) < 2 ^ 24 ∧ wt 0x800101 ≤ 3 := by decide
/-- … and the instance of the theorem for them -/
example : decodeInt (encode 0xABC ^^^ 0x800101) = .ok 0xABC ∧ errors { inited := true } (encode 0xABC ^^^ 0x800101) = .ok 3 :=
  Golay_corrects 0xABC 0x800101 (by decide) (by decide) (by decide)

/-- the state hypothesis `inited := true` of the error-count statements is NOT redundant: `_errors` does not build the
    tables, so on an instance that has never decoded it answers 0 for EVERY word (also for a weight-4 corruption).
    The property's "reported by the error count" therefore holds only after a `decode` on the same instance. -/
theorem Golay_errors_uninitialised (v : Nat) : errors fresh v = .ok 0 := by
  simp [errors, fresh, syndrome2, Acra.Gen.Golay.GOLAY_SIZE, and_fff_lt (v >>> 12)]

theorem Golay_bytes_entry (b : Bytes) (h : b.length = 3) : decodeBytes b = decodeInt (beNat b) :=
  decodeBytes_eq b h

example : ([0xAB, 0xC1, 0x23] : Bytes).length = 3 := rfl

/-- any other length is refused with a bare `Exception` -/
theorem Golay_bytes_entry_rejects (b : Bytes) (h : b.length ≠ 3) : decodeBytes b = .error .generic :=
  decodeBytes_bad b h

example : ([0xAB, 0xC1] : Bytes).length ≠ 3 := by decide

theorem Golay_corrects_bytes (x e : Nat) (hx : x < 4096) (he : e < 2 ^ 24) (hw : wt e ≤ 3) :
    decodeBytes (beBytes 3 (encode x ^^^ e)) = .ok x :=
  decode_corrects_bytes x e hx he hw

example : decodeBytes (beBytes 3 (encode 0xABC ^^^ 0x800101)) = .ok 0xABC :=
  Golay_corrects_bytes 0xABC 0x800101 (by decide) (by decide) (by decide)

/-- every 4-bit error pattern is reported as uncorrectable: all 4096 values × all 10626 patterns -/
theorem Golay_flags4 (x e : Nat) (hx : x < 4096) (he : e < 2 ^ 24) (hw : wt e = 4) :
    errors { inited := true } (encode x ^^^ e) = .ok 4 :=
  errors_flags4 x e hx he hw

example : (0xABC : Nat) < 4096 ∧ (0x810101 : Nat) < 2 ^ 24 ∧ wt 0x810101 = 4 := by decide

/-- `_onesincode` (string slicing of `bin()`) is the bit count on every pattern the table loop writes -/
theorem Golay_onesincode_patterns (i j k : Nat) (hi : i < 24) (hj : j < 24) (hk : k < 24) :
    onesincode (pat i j k) 24 = wt (pat i j k) := ones_all i j k hi hj hk

example : pat 23 8 0 = 0x800101 ∧ pat 5 5 5 = 0x20 := by decide

/-- the triple loop's "last write wins" is harmless: at the syndrome of each enumerated pattern the
    final tables hold that pattern's upper half and weight -/
theorem Golay_tables_last_write (i j k : Nat) (hi : i < 24) (hj : j < 24) (hk : k < 24) :
    corTable[syndrome (pat i j k)]? = some ((pat i j k >>> 12) &&& 0xfff) ∧
    errTable[syndrome (pat i j k)]? = some (wt (pat i j k)) := by
  rw [syndrome_eq, ← ones_all i j k hi hj hk]; exact tables_pat i j k hi hj hk

end Acra.Props.C11
