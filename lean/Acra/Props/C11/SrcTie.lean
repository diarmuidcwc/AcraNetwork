import Acra.Gen.Src.Golay
import Acra.Model.Golay
import Acra.Lemmas.SrcTieGolay
import Acra.Lemmas.SrcTieNorm
namespace Acra.Props.C11
open Acra Acra.Py Acra.Lemmas.SrcTieGolay Acra.Lemmas.SrcTieNorm

/-! Source ties (C11): the Golay helpers, regenerated from the current Python source by `harness/translate.py` on
    every run (see `Props/C07/SrcTie.lean`). -/

/-- `Golay._init_Table()` builds exactly the model's encode table: entry `x` is
    `Model.Golay.encodeEntry x`, for all 4096 entries (`lru_cache` treated as transparent) -/
theorem src_Golay_init_Table :
    Gen.Src.Golay.Golay._init_Table = (List.range 4096).map (fun x => (Model.Golay.encodeEntry x : Int)) := by
  unfold Gen.Src.Golay.Golay._init_Table
  show List.foldl _ (List.replicate 4096 0) (Py.range ((4096 : Nat) : Int)) = _
  apply foldl_table 4096 (fun x => (Model.Golay.encodeEntry x : Int))
  intro T x hx
  simp only [setAt_natCast, intAt_natCast]
  -- the bit test of the row loop, in whatever form it is written, is brought to `(x >> (11 - i)) & 1` for the twelve
  -- indices the loop visits
  rw [foldl_congr_mem _ (fun (T : List Int) (i : Int) =>
      if band (shr (x : Int) (11 - i)) 1 ≠ 0 then T.set x (bxor (T.getD x 0) (intAt Gen.Src.Golay.G_P i)) else T)
    (Py.range 12) _ (by
      intro T i hi
      obtain ⟨n, hn, rfl⟩ := mem_range 12 _ hi
      first
        | rfl
        | (simp only [bit_forms x n hn]))]
  rw [foldl_cell x (fun i => band (shr (x : Int) (11 - i)) 1 ≠ 0) (fun a i => bxor a (intAt Gen.Src.Golay.G_P i))
    _ _ (by simpa using hx)]
  simp only [List.getD_eq_getElem?_getD, List.getElem?_set_self hx, Option.getD_some, List.set_set,
    encode_entry_fold]

/-- `Golay._syndrome2` = the model, on the instance's `SyndromeTable` (all zero before
    `_initgolaydecode`, the model's `synTable` after), for `v2` inside the table.
    (Outside: `v2 ≥ 4096` raises IndexError, see `src_Golay_syndrome2_out`; every caller passes `v & 0xfff`.) -/
theorem src_Golay_syndrome2 (s : Model.Golay.State) (v1 v2 : Nat) (h : v2 < 4096) :
    Gen.Src.Golay.Golay._syndrome2 (synList s) v1 v2 = .ok (Model.Golay.syndrome2 s v1 v2 : Int) := by
  unfold Gen.Src.Golay.Golay._syndrome2 Model.Golay.syndrome2
  rw [getItem_lt _ _ (by rw [synList_length]; exact h), synList_getD s v2 h]
  simp only [bind, Except.bind, bxor_natCast]

theorem src_Golay_syndrome2_out (s : Model.Golay.State) (v1 v2 : Nat) (h : 4096 ≤ v2) :
    Gen.Src.Golay.Golay._syndrome2 (synList s) v1 v2 = .error .index := by
  unfold Gen.Src.Golay.Golay._syndrome2
  rw [getItem_ge _ _ (by rw [synList_length]; exact h)]
  rfl

example := src_Golay_syndrome2 ⟨true⟩ 0xABC 0x123 (by decide)
example := src_Golay_syndrome2 ⟨false⟩ 0xABC 0xFFF (by decide)
example := src_Golay_syndrome2_out ⟨true⟩ 1 4096 (by decide)

/-- `Golay._decode2`, on the tables `_initgolaydecode` leaves, = the model's table look-up:
    with `v1 = (v >> 12) & 0xfff`, `v2 = v & 0xfff` this is `Model.Golay.decodeInt v` (next theorem) -/
theorem src_Golay_decode2 (v1 v2 : Nat) (h : v2 < 4096) :
    Gen.Src.Golay.Golay._decode2 (synList ⟨true⟩) (pyList Model.Golay.corTable) v1 v2
      = (Model.Golay.lookup Model.Golay.corTable (Model.Golay.syndrome2 ⟨true⟩ v1 v2) (fun c => v1 ^^^ c)).map
          Int.ofNat := by
  exact decode2_abs _ _ _ _ _ (src_Golay_syndrome2 ⟨true⟩ v1 v2 h)

example := src_Golay_decode2 0xABC 0x123 (by decide)

theorem src_Golay_decode2_decodeInt (v : Nat) :
    Gen.Src.Golay.Golay._decode2 (synList ⟨true⟩) (pyList Model.Golay.corTable)
        (((v >>> 12) &&& 0xfff : Nat) : Int) ((v &&& 0xfff : Nat) : Int)
      = (Model.Golay.decodeInt v).map Int.ofNat := by
  rw [src_Golay_decode2 _ _ (Lemmas.Golay.and_fff_lt v)]
  rfl

/-- `Golay._onesincode_old(code, size)` counts the set bits of `code` below position `size`
    (non-negative arguments; `range(size)` is empty for a negative `size`) -/
theorem src_Golay_onesincode_old (code size : Nat) :
    Gen.Src.Golay.Golay._onesincode_old code size
      = ((((List.range size).filter (fun i => code.testBit i)).length : Nat) : Int) := by
  unfold Gen.Src.Golay.Golay._onesincode_old
  exact ones_fold code size

/-- … so on 24 positions it is the weight `wt` the C11 theorems speak about, and on every pattern the table loop
    writes it agrees with the string-slicing `_onesincode` that replaced it (`Golay_onesincode_patterns`) -/
theorem src_Golay_onesincode_old_wt (e : Nat) :
    Gen.Src.Golay.Golay._onesincode_old e 24 = (Lemmas.Golay.wt e : Int) :=
  src_Golay_onesincode_old e 24

theorem src_Golay_onesincode_old_eq_new (i j k : Nat) (hi : i < 24) (hj : j < 24) (hk : k < 24) :
    Gen.Src.Golay.Golay._onesincode_old (Model.Golay.pat i j k) 24
      = (Model.Golay.onesincode (Model.Golay.pat i j k) 24 : Int) := by
  rw [src_Golay_onesincode_old_wt, Lemmas.Golay.ones_all i j k hi hj hk]

example := src_Golay_onesincode_old_eq_new 23 12 0 (by decide) (by decide) (by decide)
example : Gen.Src.Golay.Golay._onesincode_old 0b1011 3 = 2 := by decide

end Acra.Props.C11
