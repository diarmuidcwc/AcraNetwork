import Acra.Gen.Src.Golay
import Acra.Model.Golay
import Acra.Lemmas.SrcTieGolay
import Acra.Lemmas.SrcTieGolayTables
import Acra.Props.C11.SrcTie
import Acra.Props.C11.Golay
import Acra.Lemmas.SrcTieNorm
namespace Acra.Props.C11
open Acra Acra.Py Acra.Lemmas.SrcTieGolay Acra.Lemmas.SrcTieGolayTables Acra.Lemmas.SrcTieNorm

/-! Source tie (C11 / C20): the decode tables.  `Golay._initgolaydecode` writes three instance tables in nested loops;
    the translator returns their final values (`mutates=` in the SRC table).  The theorems below show that, started on
    the tables the constructor leaves (`[0] * GOLAY_SIZE`), the source builds exactly the model's `synTable`, `corTable`,
    `errTable` — structurally, without evaluating the 4096 + 13824 writes. -/

/-- `Golay._onesincode` (the string idiom `bin(code)[2:size+2].count('1')`) = the model's
    `onesincode`, for every `code ≥ 0` and `0 ≤ size ≤ 64` (the range is a hypothesis of the generated definition: the
    slice bound `size + 2` must be `≥ 0`; the only caller passes 24).  Negative `code`: Python counts the ones of
    `'b101…'` (the sign shifts the slice by one) — defined by the translation, outside the model. -/
theorem src_Golay_onesincode (code size : Nat) (h : 0 ≤ (size : Int) ∧ (size : Int) ≤ 64) :
    Gen.Src.Golay.Golay._onesincode code size h = (Model.Golay.onesincode code size : Int) := by
  unfold Gen.Src.Golay.Golay._onesincode
  exact onesincode_tie code size

example : (0 : Int) ≤ ((24 : Nat) : Int) ∧ ((24 : Nat) : Int) ≤ 64 := by decide
example : Gen.Src.Golay.Golay._onesincode 0x800003 24 (by decide) = 3 := by decide +kernel
example : Gen.Src.Golay.Golay._onesincode (-5) 24 (by decide) = 2 := by decide +kernel

/-- `Golay._syndrome` = the model's syndrome of the two 12-bit halves, on the instance table -/
theorem src_Golay_syndrome (s : Model.Golay.State) (v : Nat) :
    Gen.Src.Golay.Golay._syndrome (synList s) v
      = .ok (Model.Golay.syndrome2 s ((v >>> 12) &&& 0xfff) (v &&& 0xfff) : Int) := by
  unfold Gen.Src.Golay.Golay._syndrome
  simp only [shr_natCast, band_natCast_lit, toNat_lit]
  rw [src_Golay_syndrome2 s _ _ (Lemmas.Golay.and_fff_lt v)]; rfl

/-- the three cell values the first loop leaves at `x` (Python ints) -/
def cellS (x : Nat) : Int := ((Model.Golay.initEntry Gen.Golay.H_P x (0, 0, 0)).1 : Nat)
def cellE (x : Nat) : Int := ((Model.Golay.initEntry Gen.Golay.H_P x (0, 0, 0)).2.1 : Nat)
def cellC (x : Nat) : Int := ((Model.Golay.initEntry Gen.Golay.H_P x (0, 0, 0)).2.2 : Nat)

/-- the body of the innermost loop of `_initgolaydecode`, as the translator emits it -/
@[reducible] def stepK (val : Int → Int) (i j : Int) (st : List Int × List Int) (k : Int) : R (List Int × List Int) :=
  Gen.Src.Golay.Golay._syndrome (pyList Model.Golay.synTable) (bor (bor (shl 1 i) (shl 1 j)) (shl 1 k)) >>= fun t13 =>
  setItem st.1 t13 (val (bor (bor (shl 1 i) (shl 1 j)) (shl 1 k))) >>= fun t14 =>
  setItem st.2 t13 (Gen.Src.Golay.Golay._onesincode (bor (bor (shl 1 i) (shl 1 j)) (shl 1 k)) 24 (by decide)) >>= fun t15 =>
  (Except.ok (t14, t15) : R (List Int × List Int))

@[reducible] def stepJ (val : Int → Int) (i : Int) (st : List Int × List Int) (j : Int) : R (List Int × List Int) :=
  List.foldlM (stepK val i j) (st.1, st.2) (Py.range 24) >>= fun st17 => .ok (st17.1, st17.2)

@[reducible] def stepI (val : Int → Int) (st : List Int × List Int) (i : Int) : R (List Int × List Int) :=
  List.foldlM (stepJ val i) (st.1, st.2) (Py.range 24) >>= fun st19 => .ok (st19.1, st19.2)

/-- one pass of the row loop inside the first loop of `_initgolaydecode` at cell `k`, with the bit test in the form the
    tie brings it to (`(k >> (11 - i)) & 1`) -/
@[reducible] def cellPass (k : Nat) (st7 : List Int × List Int × List Int) (i : Int) : R (List Int × List Int × List Int) :=
  (if band (shr (k : Int) (11 - i)) 1 ≠ 0 then
    (getItem st7.1 (k : Int) >>= fun t2 =>
      setItem st7.1 (k : Int) (bxor t2 (intAt Gen.Src.Golay.H_P i)) >>= fun t3 =>
      setItem st7.2.1 (k : Int) 4 >>= fun t4 =>
      setItem st7.2.2 (k : Int) 4095 >>= fun t5 =>
      (Except.ok (t3, t4, t5) : R (List Int × List Int × List Int)))
  else Except.ok (st7.1, st7.2.1, st7.2.2)) >>= fun st6 => Except.ok (st6.1, st6.2.1, st6.2.2)

/-- the row loop at `k`; `.set k 0`: the source resets `SyndromeTable[k]` before it -/
theorem initgolaydecode_cell (k : Nat) (hk : k < 4096) :
    List.foldlM (cellPass k) ((mk 4096 cellS k).set k 0, mk 4096 cellE k, mk 4096 cellC k) (Py.range 12) =
      .ok (mk 4096 cellS (k + 1), mk 4096 cellE (k + 1), mk 4096 cellC (k + 1)) := by
  have hl : ∀ f, k < (mk 4096 f k).length := fun f => by rw [mk_length _ _ _ (by omega)]; exact hk
  rw [foldlM_cell3 k (fun i t => if band (shr (k : Int) (11 - i)) 1 ≠ 0
      then (bxor t.1 (intAt Gen.Src.Golay.H_P i), 4, 4095) else t) _ ?hinner (Py.range 12) _ _ _
      (by simpa using hl cellS) (hl cellE) (hl cellC)]
  case hinner =>
    intro S E C i hS hE hC
    simp only [cellPass]
    by_cases hc : band (shr (k : Int) (11 - i)) 1 ≠ 0
    · simp only [if_pos hc]
      rw [getItem_lt _ _ hS, ok_bind, setItem_lt _ _ _ hS, ok_bind, setItem_lt _ _ _ hE, ok_bind,
        setItem_lt _ _ _ hC, ok_bind, ok_bind]
    · simp only [if_neg hc, ok_bind, set_getD_self]
  simp only [getD_set_self _ _ _ (hl cellS), mk_getD, List.set_set]
  rw [init_fold k]
  simp only []
  rw [← mk_set 4096 cellS k hk, ← mk_set 4096 cellE k hk, ← mk_set 4096 cellC k hk]
  rfl

/-- `.set 0 0`: `self.ErrorTable[0] = 0`, `self.CorrectTable[0] = 0` after the first loop -/
theorem cells_tables :
    List.map cellS (List.range 4096) = pyList Model.Golay.synTable ∧
    (List.map cellE (List.range 4096)).set 0 0 = pyList Model.Golay.errTable0 ∧
    (List.map cellC (List.range 4096)).set 0 0 = pyList Model.Golay.corTable0 := by
  refine ⟨?_, ?_, ?_⟩
  · unfold Model.Golay.synTable
    exact (pyList_ofFn (fun x => (Model.Golay.initEntry Gen.Golay.H_P x (0, 0, 0)).1)).symm
  · unfold Model.Golay.errTable0
    rw [pyList_set, pyList_ofFn (fun x => (Model.Golay.initEntry Gen.Golay.H_P x (0, 0, 0)).2.1)]; rfl
  · unfold Model.Golay.corTable0
    rw [pyList_set, pyList_ofFn (fun x => (Model.Golay.initEntry Gen.Golay.H_P x (0, 0, 0)).2.2)]; rfl

/-- the triple loop: every pass is one pair of in-range stores (`applyW`), under the invariant "both tables have 4096
    cells"; `val` is the value stored in `CorrectTable`, `(error >> 12) & 0xfff` or any expression equal to it on 24-bit
    patterns -/
theorem initgolaydecode_triples (val : Int → Int)
    (hval : ∀ e : Nat, e < 2 ^ 24 → val (e : Int) = (((e >>> 12) &&& 0xfff : Nat) : Int)) :
    List.foldlM (stepI val) (pyList Model.Golay.corTable0, pyList Model.Golay.errTable0) (Py.range 24) =
      .ok (pyList Model.Golay.corTable, pyList Model.Golay.errTable) := by
  have hk : ∀ (i j : Nat), i < 24 → j < 24 → ∀ (st : List Int × List Int) (k : Nat), k < 24 →
      (st.1.length = 4096 ∧ st.2.length = 4096) →
      stepK val i j st k = .ok (applyW st (i, j, k)) ∧
      ((applyW st (i, j, k)).1.length = 4096 ∧ (applyW st (i, j, k)).2.length = 4096) := by
    intro i j hi' hj' st k hk' hst
    unfold stepK
    have he : bor (bor (shl 1 (i : Int)) (shl 1 (j : Int))) (shl 1 (k : Int)) = ((Model.Golay.pat i j k : Nat) : Int) := by
      simp only [shl_lit, Int.toNat_natCast, bor_natCast]; rfl
    have hsy2 : Model.Golay.syndrome2 ⟨true⟩ ((Model.Golay.pat i j k >>> 12) &&& 0xfff) (Model.Golay.pat i j k &&& 0xfff)
        = Model.Golay.syndrome (Model.Golay.pat i j k) := by
      unfold Model.Golay.syndrome2 Model.Golay.syndrome; rw [if_pos rfl]
    have hlt := syndrome_lt (Model.Golay.pat i j k)
    rw [he, ← synList_inited, src_Golay_syndrome ⟨true⟩, ok_bind, hsy2,
      setItem_lt _ _ _ (by rw [hst.1]; exact hlt), ok_bind,
      setItem_lt _ _ _ (by rw [hst.2]; exact hlt), ok_bind]
    refine ⟨?_, by simp [applyW, hst.1], by simp [applyW, hst.2]⟩
    have h24 : Gen.Src.Golay.Golay._onesincode ((Model.Golay.pat i j k : Nat) : Int) 24 (by decide) = ((Model.Golay.onesincode (Model.Golay.pat i j k) 24 : Nat) : Int) :=
      src_Golay_onesincode (Model.Golay.pat i j k) 24 (by decide)
    rw [hval _ (Lemmas.Golay.pat_lt i j k hi' hj' hk'), h24]
    rfl
  let P : List Int × List Int → Prop := fun st => st.1.length = 4096 ∧ st.2.length = 4096
  have hj : ∀ (i : Nat), i < 24 → ∀ (st : List Int × List Int) (j : Nat), j < 24 → P st →
      stepJ val i st j = .ok ((List.range 24).foldl (fun st k => applyW st (i, j, k)) st) ∧
      P ((List.range 24).foldl (fun st k => applyW st (i, j, k)) st) := by
    intro i hi st j hj hP
    have := foldlM_range 24 24 rfl P (stepK val i j) (fun st k => applyW st (i, j, k)) (hk i j hi hj) st hP
    unfold stepJ
    rw [Prod.eta, this.1, ok_bind, Prod.eta]
    exact ⟨Eq.refl _, this.2⟩
  have hi : ∀ (st : List Int × List Int) (i : Nat), i < 24 → P st →
      stepI val st i = .ok ((List.range 24).foldl (fun st j =>
        (List.range 24).foldl (fun st k => applyW st (i, j, k)) st) st) ∧
      P ((List.range 24).foldl (fun st j => (List.range 24).foldl (fun st k => applyW st (i, j, k)) st) st) := by
    intro st i hi' hP
    have := foldlM_range 24 24 rfl P (stepJ val i) (fun st j => (List.range 24).foldl (fun st k => applyW st (i, j, k)) st)
      (hj i hi') st hP
    unfold stepI
    rw [Prod.eta, this.1, ok_bind, Prod.eta]
    exact ⟨Eq.refl _, this.2⟩
  have hP0 : P (pyList Model.Golay.corTable0, pyList Model.Golay.errTable0) := by
    constructor <;> simp [pyList_length, Model.Golay.corTable0, Model.Golay.errTable0, Gen.Golay.GOLAY_SIZE]
  have hall := foldlM_range 24 24 rfl P (stepI val) _ hi _ hP0
  have hfl : (List.range 24).foldl (fun st i => (List.range 24).foldl (fun st j =>
        (List.range 24).foldl (fun st k => applyW st (i, j, k)) st) st)
        (pyList Model.Golay.corTable0, pyList Model.Golay.errTable0) =
      Model.Golay.triples.foldl applyW (pyList Model.Golay.corTable0, pyList Model.Golay.errTable0) := by
    unfold Model.Golay.triples
    simp only [List.foldl_flatMap, List.foldl_map]
  have hX := hfl.trans pyList_tables
  rw [hX] at hall
  exact hall.1


theorem src_Golay_initgolaydecode :
    Gen.Src.Golay.Golay._initgolaydecode (List.replicate 4096 0) (List.replicate 4096 0) (List.replicate 4096 0) =
      .ok (pyList Model.Golay.synTable, pyList Model.Golay.corTable, pyList Model.Golay.errTable) := by
  unfold Gen.Src.Golay.Golay._initgolaydecode
  rw [show Gen.Src.Golay.GOLAY_SIZE = ((4096 : Nat) : Int) from rfl]
  rw [foldlM_table3 4096 cellS cellE cellC _ ?hstep]
  case hstep =>
    intro k hk
    simp only []
    rw [setItem_lt _ _ _ (by rw [mk_length _ _ _ (by omega)]; exact hk), ok_bind]
    -- the bit test of the row loop, in whatever form it is written, is brought to `(x >> (11 - i)) & 1` for the twelve
    -- indices the loop visits
    rw [foldlM_congr_mem _ (cellPass k) (Py.range 12) _ (by
        intro st7 i hi
        obtain ⟨n, hn, rfl⟩ := mem_range 12 _ hi
        first
          | rfl
          | (simp only [bit_forms k n hn])), initgolaydecode_cell k hk]
    rfl
  have hlen : ∀ f : Nat → Int, 0 < (List.map f (List.range 4096)).length := fun f => by simp
  rw [ok_bind]
  simp only []
  rw [setItem_zero _ _ (hlen cellE), ok_bind, setItem_zero _ _ (hlen cellC), ok_bind]
  simp only [cells_tables.1, cells_tables.2.1, cells_tables.2.2]
  have fin : ∀ (val : Int → Int), (∀ e : Nat, e < 2 ^ 24 → val (e : Int) = (((e >>> 12) &&& 0xfff : Nat) : Int)) →
      (List.foldlM (stepI val) (pyList Model.Golay.corTable0, pyList Model.Golay.errTable0) (Py.range 24) >>= fun st21 =>
        (Except.ok (pyList Model.Golay.synTable, st21.1, st21.2) : R (List Int × List Int × List Int))) =
      Except.ok (pyList Model.Golay.synTable, pyList Model.Golay.corTable, pyList Model.Golay.errTable) :=
    fun val hval => by rw [initgolaydecode_triples val hval, ok_bind]
  have hv1 : ∀ e : Nat, e < 2 ^ 24 → band (shr (e : Int) 12) 4095 = (((e >>> 12) &&& 0xfff : Nat) : Int) := fun e _ => by
    simp only [shr_natCast, band_natCast_lit, toNat_lit]
  have hv2 : ∀ e : Nat, e < 2 ^ 24 → shr (e : Int) 12 = (((e >>> 12) &&& 0xfff : Nat) : Int) := fun e he => by
    simp only [shr_natCast, toNat_lit, Int.natCast_inj]
    have : e >>> 12 < 4096 := by rw [Lemmas.Bits.shr]; omega
    rw [Lemmas.Bits.and_FFF, Nat.mod_eq_of_lt this]
  -- (`with_reducible`: the shapes are compared without unfolding the prelude, so a shape that does not fit fails at once)
  first
    | with_reducible exact fin (fun e => band (shr e 12) 4095) hv1
    | with_reducible exact fin (fun e => shr e 12) hv2



/-- the tables the theorem starts from are the ones `Golay.__init__` creates (`[0] * GOLAY_SIZE`) -/
example : (List.replicate 4096 (0 : Int)).length = 4096 := List.length_replicate

/-- the instance tables after `_initgolaydecode`, read back cell by cell (beyond 4096 every `getD` is 0 on both sides) -/
theorem src_Golay_tables_cells (x : Nat) :
    ∃ S C E, Gen.Src.Golay.Golay._initgolaydecode (List.replicate 4096 0) (List.replicate 4096 0) (List.replicate 4096 0)
        = .ok (S, C, E) ∧
      S.getD x 0 = ((Model.Golay.synTable.getD x 0 : Nat) : Int) ∧
      C.getD x 0 = ((Model.Golay.corTable.getD x 0 : Nat) : Int) ∧
      E.getD x 0 = ((Model.Golay.errTable.getD x 0 : Nat) : Int) :=
  ⟨_, _, _, src_Golay_initgolaydecode, pyList_getD _ _, pyList_getD _ _, pyList_getD _ _⟩

/-- END TO END: `Golay.decode(v)` for an int `v` — `self._initgolaydecode()` on a fresh instance, then
    `self._decode2((v >> 12) & 0xfff, v & 0xfff)` on the tables it left — is the model's `decodeInt v`, for every `v`. -/
theorem src_Golay_decode (v : Nat) :
    (Gen.Src.Golay.Golay._initgolaydecode (List.replicate 4096 0) (List.replicate 4096 0) (List.replicate 4096 0)
      >>= fun T => Gen.Src.Golay.Golay._decode2 T.1 T.2.1 (((v >>> 12) &&& 0xfff : Nat) : Int) ((v &&& 0xfff : Nat) : Int))
      = (Model.Golay.decodeInt v).map Int.ofNat := by
  -- with the tables as opaque variables, so that nothing is evaluated
  have gen : ∀ (S C E : List Int) (X : R (List Int × List Int × List Int)) (a b : Int) (r : R Int), X = .ok (S, C, E) →
      Gen.Src.Golay.Golay._decode2 S C a b = r →
      (X >>= fun T => Gen.Src.Golay.Golay._decode2 T.1 T.2.1 a b) = r := by
    intro S C E X a b r hX hr; subst hX; subst hr; rfl
  exact gen _ _ _ _ _ _ _ src_Golay_initgolaydecode
    ((congrArg (fun S => Gen.Src.Golay.Golay._decode2 S (pyList Model.Golay.corTable)
      (((v >>> 12) &&& 0xfff : Nat) : Int) ((v &&& 0xfff : Nat) : Int)) synList_inited).symm.trans (src_Golay_decode2_decodeInt v))

/-- hence the error-correction theorem of C11 holds for the SOURCE: decoding any word within Hamming distance 3 of a
    code word, with the tables the source builds, returns the data value -/
theorem src_Golay_decode_corrects (x e : Nat) (hx : x < 4096) (he : e < 2 ^ 24) (hw : Lemmas.Golay.wt e ≤ 3) :
    (Gen.Src.Golay.Golay._initgolaydecode (List.replicate 4096 0) (List.replicate 4096 0) (List.replicate 4096 0)
      >>= fun T => Gen.Src.Golay.Golay._decode2 T.1 T.2.1
        ((((Model.Golay.encode x ^^^ e) >>> 12) &&& 0xfff : Nat) : Int) (((Model.Golay.encode x ^^^ e) &&& 0xfff : Nat) : Int))
      = .ok (x : Int) := by
  rw [src_Golay_decode, (Golay_corrects x e hx he hw).1]; rfl

example : (0xABC : Nat) < 4096 ∧ (0x800101 : Nat) < 2 ^ 24 ∧ Lemmas.Golay.wt 0x800101 ≤ 3 := by decide

end Acra.Props.C11
