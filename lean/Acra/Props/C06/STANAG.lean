import Acra.Lemmas.PES
import Acra.Lemmas.CRCMpeg
import Acra.Spec.MPEG
namespace Acra.Props.C06
open Acra.Py Acra.Model.MPEGTS Acra.Model.PES Acra.Gen.PES Acra.Lemmas.MPEGTS Acra.Lemmas.PES

/-- the metadata `STANAG4609.pack` builds is the MISB 0601 layout of the Spec: counter and the two
    undocumented fields, universal key, BER length 14, tag 2 / length 8 / 64-bit time, tag 1 /
    length 2 / MISB checksum over key … checksum-length byte -/
theorem STANAG_data_layout (c u1 u2 tm : Nat) :
    STANAG_data c u1 u2 tm = Spec.MPEG.stanagData c u1 u2 tm := by
  unfold STANAG_data Spec.MPEG.stanagData Spec.MPEG.uasLocalSet
  rw [Acra.Lemmas.CRCMpeg.checksum_eq_spec, STANAG_prot_spec]
  simp [encInt, Spec.MPEG.byte, beBytes, leBytes]

/-- `STANAG4609.pack` is `PES.pack` of the packet with the PID forced to 0x104 and that metadata -/
theorem STANAG_pack_layout (s : STANAG) (h : STANAG_WF s) (hw : PES_WF (STANAG_pes s)) :
    (STANAG.pack s).2 = .ok (Pkt_bytes (PES_pkt (STANAG_pes s))) ∧
    (STANAG_pes s).pesdata = Spec.MPEG.stanagData s.stanag_counter s.unknown s.unknown2 s.time_us ∧
    (STANAG_pes s).pkt.pid = 0x104 := by
  refine ⟨?_, STANAG_data_layout _ _ _ _, rfl⟩
  rw [STANAG_pack_eq s h, PES_pack_eq _ hw]

/-- round trip without the optional PES header, for ALL 64-bit times, counters and undocumented
    field values, into an object in ANY prior state.
    Preconditions: the metadata ends exactly at byte 188 (the decoder's checksum range is
    `pesdata[5:-2]`, so 0xFF stuffing after the metadata is rejected — E3 in notes/mpeg.md; the
    library's own usage stuffs through the adaptation field) and the K2 heuristic does not fire
    (`¬ looksLikeHeader`: for a header-less packet that is `stanag_counter / 4096 ≠ 8`). -/
theorem STANAG_roundtrip_partial (s t : STANAG) (h : STANAG_WF s) (hw : PES_WF (STANAG_pes s))
    (hs : s.pes.pkt.sync = 0x47) (hafc : s.pes.pkt.adaption_ctrl = 1 ∨ s.pes.pkt.adaption_ctrl = 3)
    (hne : PES.ext s.pes = none) (hfull : Pkt_used (PES_pkt (STANAG_pes s)) = 188)
    (hnl : ¬ looksLikeHeader (STANAG_pes s)) :
    ∃ b, (STANAG.pack s).2 = .ok b ∧ b.length = 188 ∧
      STANAG.unpack t b = (STANAG_decoded s none, .ok ()) ∧
      (STANAG_decoded s none).time_us = s.time_us ∧ (STANAG_decoded s none).stanag_counter = s.stanag_counter ∧
      (STANAG_decoded s none).unknown = s.unknown ∧ (STANAG_decoded s none).unknown2 = s.unknown2 ∧
      (STANAG_decoded s none).pes.pkt.pid = 0x104 := by
  refine ⟨_, (STANAG_pack_layout s h hw).1, ?_, STANAG_unpack_headerless s t h hw hs hafc hne hfull hnl,
    rfl, rfl, rfl, rfl, rfl⟩
  rw [Pkt_bytes_length]; omega

/-- the K2 heuristic through the subclass: a header-less, exactly filled STANAG packet whose counter is
    0x8000 looks like it has an optional header -/
example : looksLikeHeader (STANAG_pes { STANAG.fresh with
    pes := { PES.fresh with pkt := { Pkt.fresh with adaption_ctrl := 3,
                                                    adaption_field := some { AF.fresh with length := 141 } } },
    stanag_counter := 0x8000 }) := by decide +kernel

/-- round trip with the optional PES header (first flag byte 0x8_) -/
theorem STANAG_roundtrip_header (s t : STANAG) (h : STANAG_WF s) (hw : PES_WF (STANAG_pes s))
    (hs : s.pes.pkt.sync = 0x47) (hafc : s.pes.pkt.adaption_ctrl = 1 ∨ s.pes.pkt.adaption_ctrl = 3)
    (w1 w2 : Nat) (hd : Bytes) (he : PES.ext s.pes = some (w1, w2, hd)) (hw1 : w1 / 16 = 8)
    (hfull : Pkt_used (PES_pkt (STANAG_pes s)) = 188) :
    ∃ b, (STANAG.pack s).2 = .ok b ∧ b.length = 188 ∧
      STANAG.unpack t b = (STANAG_decoded s (some (w1, w2, hd)), .ok ()) := by
  refine ⟨_, (STANAG_pack_layout s h hw).1, ?_, STANAG_unpack_header s t h hw hs hafc w1 w2 hd he hw1 hfull⟩
  rw [Pkt_bytes_length]; omega

/-- the packet of the library's test `test_stanag_create` (adaptation length 133, PTS header, time
    2024-01-25 15:07:59.767139 UTC) satisfies the hypotheses of the header case -/
def stanagExample : STANAG :=
  { STANAG.fresh with
    pes := { PES.fresh with
             pkt := { Pkt.fresh with adaption_ctrl := 3, continuitycounter := 15,
                                     adaption_field := some { AF.fresh with length := 133 } },
             streamid := 0xFC, extension_w1 := some 0x81, extension_w2 := some 0x80,
             header_data := some [0x21, 0x04, 0x03, 0xFE, 0xD1] },
    stanag_counter := 15, time_us := 1706195279767139 }

example : STANAG_WF stanagExample ∧ Pkt_used (PES_pkt (STANAG_pes stanagExample)) = 188 ∧
    PES.ext stanagExample.pes = some (0x81, 0x80, [0x21, 0x04, 0x03, 0xFE, 0xD1]) := by decide +kernel

/-- example for `STANAG_pack_layout` and `STANAG_roundtrip_header` (all hypotheses) -/
example : STANAG_WF stanagExample ∧ PES_WF (STANAG_pes stanagExample) ∧ stanagExample.pes.pkt.sync = 0x47 ∧
    (stanagExample.pes.pkt.adaption_ctrl = 1 ∨ stanagExample.pes.pkt.adaption_ctrl = 3) ∧
    PES.ext stanagExample.pes = some (0x81, 0x80, [0x21, 0x04, 0x03, 0xFE, 0xD1]) ∧ 0x81 / 16 = 8 ∧
    Pkt_used (PES_pkt (STANAG_pes stanagExample)) = 188 := by decide +kernel

/-- header-less STANAG packet, the largest 64-bit time, filled exactly through 141 bytes of adaptation stuffing -/
def stanagPlain : STANAG :=
  { STANAG.fresh with
    pes := { PES.fresh with
             pkt := { Pkt.fresh with adaption_ctrl := 3, adaption_field := some { AF.fresh with length := 141 } },
             streamid := 0xFC },
    stanag_counter := 15, time_us := 0xFFFFFFFFFFFFFFFF }

/-- example for `STANAG_roundtrip_partial` (all seven hypotheses) -/
example : STANAG_WF stanagPlain ∧ PES_WF (STANAG_pes stanagPlain) ∧ stanagPlain.pes.pkt.sync = 0x47 ∧
    (stanagPlain.pes.pkt.adaption_ctrl = 1 ∨ stanagPlain.pes.pkt.adaption_ctrl = 3) ∧ PES.ext stanagPlain.pes = none ∧
    Pkt_used (PES_pkt (STANAG_pes stanagPlain)) = 188 ∧ ¬ looksLikeHeader (STANAG_pes stanagPlain) := by decide +kernel

/-- `STANAG_roundtrip_header` states its result through `STANAG_decoded`; here it is field by field -/
theorem STANAG_roundtrip_header_fields (s : STANAG) (w1 w2 : Nat) (hd : Bytes) :
    (STANAG_decoded s (some (w1, w2, hd))).time_us = s.time_us ∧
    (STANAG_decoded s (some (w1, w2, hd))).stanag_counter = s.stanag_counter ∧
    (STANAG_decoded s (some (w1, w2, hd))).unknown = s.unknown ∧ (STANAG_decoded s (some (w1, w2, hd))).unknown2 = s.unknown2 ∧
    (STANAG_decoded s (some (w1, w2, hd))).pes.pkt.pid = 0x104 ∧
    (STANAG_decoded s (some (w1, w2, hd))).pes.streamid = s.pes.streamid ∧
    (STANAG_decoded s (some (w1, w2, hd))).pes.extension_w1 = some w1 ∧
    (STANAG_decoded s (some (w1, w2, hd))).pes.extension_w2 = some w2 ∧
    (STANAG_decoded s (some (w1, w2, hd))).pes.header_data = some hd ∧
    (STANAG_decoded s (some (w1, w2, hd))).pes.pesdata =
      Spec.MPEG.stanagData s.stanag_counter s.unknown s.unknown2 s.time_us :=
  ⟨rfl, rfl, rfl, rfl, rfl, rfl, rfl, rfl, rfl, STANAG_data_layout _ _ _ _⟩

/-- what `hfull` excludes (E3): a STANAG packet with payload-only control — 0xFF stuffing AFTER the metadata — is well
    formed and packs to 188 bytes, but the decoder (checksum range `pesdata[5:-2]`) rejects the library's own encoding -/
example :
    let s : STANAG := { STANAG.fresh with pes := { PES.fresh with pkt := { Pkt.fresh with adaption_ctrl := 1 } } }
    STANAG_WF s ∧ PES_WF (STANAG_pes s) ∧ Pkt_used (PES_pkt (STANAG_pes s)) < 188 ∧
    ((STANAG.pack s).2.toOption.map List.length) = some 188 ∧
    (match (STANAG.unpack STANAG.fresh (Pkt_bytes (PES_pkt (STANAG_pes s)))).2 with | .error .generic => true | _ => false) = true := by
  decide +kernel

/-- **STANAG re-encode**: under the hypotheses of `STANAG_roundtrip_partial` (`w = none`) or
    `STANAG_roundtrip_header` (`w = some (w1, w2, hd)`), `STANAG4609.pack` of the decoded object succeeds and
    reproduces the 188 bytes -/
theorem STANAG_reencode (s : STANAG) (w : Option (Nat × Nat × Bytes)) (h : STANAG_WF s) (hw : PES_WF (STANAG_pes s))
    (hew : PES.ext s.pes = w) (hfull : Pkt_used (PES_pkt (STANAG_pes s)) = 188) :
    (STANAG.pack (STANAG_decoded s w)).2 = .ok (Pkt_bytes (PES_pkt (STANAG_pes s))) :=
  Acra.Lemmas.PES.STANAG_reencode_gen s w h hw hew hfull

example : PES.ext stanagExample.pes = some (0x81, 0x80, [0x21, 0x04, 0x03, 0xFE, 0xD1]) ∧ PES.ext stanagPlain.pes = none := by
  decide

end Acra.Props.C06
