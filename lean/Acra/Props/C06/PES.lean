import Acra.Lemmas.PES
import Acra.Spec.MPEG
namespace Acra.Props.C06
open Acra.Py Acra.Model.MPEGTS Acra.Model.PES Acra.Gen.PES Acra.Lemmas.MPEGTS Acra.Lemmas.PES

/-- `PES.pack` puts the ISO 13818-1 PES packet into the TS payload: start-code prefix 000001,
    stream id, PES_packet_length = number of bytes that follow it, the optional header (two flag
    bytes, header-data length, header data) iff all three attributes are set, then the data -/
theorem PES_pack_layout (s : PES) (h : PES_WF s) :
    (PES.pack s).2 = .ok (Pkt_bytes (PES_pkt s)) ∧
    (PES_pkt s).payload = Spec.MPEG.pesPacket s.streamid (PES.ext s) s.pesdata := by
  refine ⟨by rw [PES_pack_eq s h], ?_⟩
  show PES_payload s = _
  unfold PES_payload PES_prefix PES_len PES_extBytes PES_ext Spec.MPEG.pesPacket
  have b1 : ∀ n, beBytes 1 n = [UInt8.ofNat (n % 256)] := fun n => by simp [beBytes, leBytes]
  have b21 : beBytes 2 1 = [0, 1] := by decide
  cases PES.ext s with
  | none => simp [encInt, Spec.MPEG.byte, b1, b21]
  | some x =>
    obtain ⟨w1, w2, hd⟩ := x
    simp [encInt, Spec.MPEG.byte, b1, b21]

/-- round trip, header-less packets, into an object in ANY prior state; the data comes back followed by the 0xFF
    stuffing: the decoder takes everything after the prefix.
    FULL statement (without `¬ looksLikeHeader`) is FALSE of the model and of the code — known
    finding K2, witness below: the decoder recognises the optional header heuristically. -/
theorem PES_roundtrip_partial (s t : PES) (h : PES_WF s) (hs : s.pkt.sync = 0x47)
    (hafc : s.pkt.adaption_ctrl = 1 ∨ s.pkt.adaption_ctrl = 3) (hne : PES.ext s = none)
    (hf : Pkt_used (PES_pkt s) ≤ 188) (hnl : 3 ≤ (PES_tail s).length → ¬ looksLikeHeader s) :
    ∃ b, (PES.pack s).2 = .ok b ∧ b.length = 188 ∧
      (PES.unpack t b).2 = .ok () ∧
      (PES.unpack t b).1.streamid = s.streamid ∧
      (PES.unpack t b).1.pesdata = s.pesdata ++ List.replicate (188 - Pkt_used (PES_pkt s)) 0xFF ∧
      (PES.unpack t b).1.extension_w1 = none ∧ (PES.unpack t b).1.extension_w2 = none ∧
      (PES.unpack t b).1.header_data = none ∧
      (PES.unpack t b).1.pkt = Pkt_decoded (PES_pkt s) := by
  refine ⟨Pkt_bytes (PES_pkt s), by rw [PES_pack_eq s h], ?_, ?_⟩
  · exact Pkt_bytes_length_of_fits _ hf
  · rw [PES_unpack_headerless_any s t h hs hafc hne hnl]
    exact ⟨rfl, rfl, rfl, rfl, rfl, rfl, rfl⟩

/-- K2 witness: payload-only packet, no optional header, 178 data bytes starting with 0x80 (the PES
    packet fills the TS packet exactly).  It is well formed, the heuristic fires, and the decoder
    reports an optional header (flags 0x80 0x00, header length 0) that was never encoded. -/
def k2Witness : PES :=
  { PES.fresh with pkt := { Pkt.fresh with adaption_ctrl := 1 }, streamid := 224,
                   pesdata := 0x80 :: List.replicate 177 0 }

example : looksLikeHeader k2Witness ∧ PES.ext k2Witness = none ∧
    (PES.unpack PES.fresh (Pkt_bytes (PES_pkt k2Witness))).1.extension_w1 = some 0x80 ∧
    (PES.unpack PES.fresh (Pkt_bytes (PES_pkt k2Witness))).1.pesdata.length = 175 := by
  decide +kernel

/-- round trip with the optional header (first flag byte 0x8_, i.e. '10' marker and scrambling
    bits 00, PES packet filling the TS packet exactly — with or without adaptation stuffing) -/
theorem PES_roundtrip_header (s t : PES) (h : PES_WF s) (hs : s.pkt.sync = 0x47)
    (hafc : s.pkt.adaption_ctrl = 1 ∨ s.pkt.adaption_ctrl = 3) (w1 w2 : Nat) (hd : Bytes)
    (he : PES.ext s = some (w1, w2, hd)) (hw1 : w1 / 16 = 8) (hfull : Pkt_used (PES_pkt s) = 188) :
    ∃ b, (PES.pack s).2 = .ok b ∧ b.length = 188 ∧
      PES.unpack t b =
        ({ pkt := Pkt_decoded (PES_pkt s), streamid := s.streamid, pesdata := s.pesdata,
           extension_w1 := some w1, extension_w2 := some w2, header_data := some hd }, .ok ()) := by
  refine ⟨Pkt_bytes (PES_pkt s), by rw [PES_pack_eq s h], ?_, ?_⟩
  · exact Pkt_bytes_length_of_fits _ (by omega)
  · exact PES_unpack_header s t h hs hafc w1 w2 hd he hw1 (by rw [Pkt_stuffing_length, hfull])

/-- an example satisfying the header-case hypotheses: flags 0x81 0x80, five bytes of header data
    (a PTS), 164 data bytes, payload only -/
def headerExample : PES :=
  { PES.fresh with pkt := { Pkt.fresh with adaption_ctrl := 1, pid := 0x104 }, streamid := 0xFC,
                   extension_w1 := some 0x81, extension_w2 := some 0x80, pesdata := List.replicate 170 7,
                   header_data := some [0x21, 0, 1, 0, 1] }

example : PES.ext headerExample = some (0x81, 0x80, [0x21, 0, 1, 0, 1]) ∧ Pkt_used (PES_pkt headerExample) = 188 ∧
    headerExample.pkt.sync = 0x47 := by decide +kernel

/-- header-less, payload only, three data bytes followed by stuffing (the first data byte is 0x80, but the packet is
    not exactly filled, so the heuristic does not fire) -/
def pesPlain : PES :=
  { PES.fresh with pkt := { Pkt.fresh with adaption_ctrl := 1 }, streamid := 224, pesdata := [0x80, 2, 3] }

/-- header-less, filled exactly through 167 bytes of adaptation stuffing -/
def pesFill : PES :=
  { PES.fresh with
    pkt := { Pkt.fresh with adaption_ctrl := 3, adaption_field := some { AF.fresh with length := 167 } },
    streamid := 224, pesdata := [0x47, 1, 2, 3, 4, 5, 6, 7, 8, 9] }

/-- examples for `PES_pack_layout` and `PES_roundtrip_partial` (all hypotheses), without and with
    adaptation stuffing -/
example : PES_WF pesPlain ∧ pesPlain.pkt.sync = 0x47 ∧ (pesPlain.pkt.adaption_ctrl = 1 ∨ pesPlain.pkt.adaption_ctrl = 3) ∧
    PES.ext pesPlain = none ∧ Pkt_used (PES_pkt pesPlain) ≤ 188 ∧ 3 ≤ (PES_tail pesPlain).length ∧ ¬ looksLikeHeader pesPlain := by
  decide +kernel
example : PES_WF pesFill ∧ pesFill.pkt.sync = 0x47 ∧ (pesFill.pkt.adaption_ctrl = 1 ∨ pesFill.pkt.adaption_ctrl = 3) ∧
    PES.ext pesFill = none ∧ Pkt_used (PES_pkt pesFill) = 188 ∧ 3 ≤ (PES_tail pesFill).length ∧ ¬ looksLikeHeader pesFill := by
  decide +kernel

/-- with the optional header, filled exactly through 100 bytes of adaptation stuffing -/
def headerFill : PES :=
  { headerExample with
    pkt := { Pkt.fresh with adaption_ctrl := 3, pid := 0x104, adaption_field := some { AF.fresh with length := 100 } },
    pesdata := List.replicate 69 7 }

/-- examples for `PES_roundtrip_header` (all hypotheses), without and with adaptation stuffing -/
example : PES_WF headerExample ∧ headerExample.pkt.sync = 0x47 ∧
    (headerExample.pkt.adaption_ctrl = 1 ∨ headerExample.pkt.adaption_ctrl = 3) ∧
    PES.ext headerExample = some (0x81, 0x80, [0x21, 0, 1, 0, 1]) ∧ 0x81 / 16 = 8 ∧ Pkt_used (PES_pkt headerExample) = 188 := by
  decide +kernel
example : PES_WF headerFill ∧ headerFill.pkt.sync = 0x47 ∧
    (headerFill.pkt.adaption_ctrl = 1 ∨ headerFill.pkt.adaption_ctrl = 3) ∧
    PES.ext headerFill = some (0x81, 0x80, [0x21, 0, 1, 0, 1]) ∧ 0x81 / 16 = 8 ∧ Pkt_used (PES_pkt headerFill) = 188 := by
  decide +kernel

/-- no lower bound on `|PES_tail s|` is needed: a header-less PES packet with fewer than 3 bytes after the 6-byte
    prefix — here 2 data bytes, the packet filled exactly by 175 bytes of adaptation stuffing — is well formed, packs
    to 188 bytes, and `PES.unpack` of its own encoding returns the two bytes (the 3-byte peek at payload offset 6 is
    guarded by the length, MPEG/PES.py) -/
example :
    let s : PES :=
      { PES.fresh with
        pkt := { Pkt.fresh with adaption_ctrl := 3, adaption_field := some { AF.fresh with length := 175 } },
        streamid := 224, pesdata := [1, 2] }
    PES_WF s ∧ PES.ext s = none ∧ Pkt_used (PES_pkt s) = 188 ∧ (PES_tail s).length = 2 ∧
    (match (PES.unpack PES.fresh (Pkt_bytes (PES_pkt s))).2 with | .ok () => true | _ => false) = true ∧
    (PES.unpack PES.fresh (Pkt_bytes (PES_pkt s))).1.pesdata = [1, 2] := by
  decide +kernel

/-- what `hfull` of `PES_roundtrip_header` excludes (corollary of K2): a packet WITH the optional header that does not
    fill the TS packet is decoded as header-less, the header bytes turning up in `pesdata` -/
example :
    let s : PES := { headerExample with pesdata := [1, 2, 3] }
    PES_WF s ∧ PES.ext s = some (0x81, 0x80, [0x21, 0, 1, 0, 1]) ∧ Pkt_used (PES_pkt s) < 188 ∧
    (PES.unpack PES.fresh (Pkt_bytes (PES_pkt s))).1.extension_w1 = none ∧
    (PES.unpack PES.fresh (Pkt_bytes (PES_pkt s))).1.pesdata.take 11 = [0x81, 0x80, 5, 0x21, 0, 1, 0, 1, 1, 2, 3] := by
  decide +kernel

/-- **PES re-encode, with the optional header**: under the hypotheses of `PES_roundtrip_header`, `PES.pack` of the
    decoded object (the first component of that theorem's result) succeeds and reproduces the 188 bytes -/
theorem PES_reencode_header (s : PES) (h : PES_WF s) (w1 w2 : Nat) (hd : Bytes)
    (he : PES.ext s = some (w1, w2, hd)) (hfull : Pkt_used (PES_pkt s) = 188) :
    (PES.pack { pkt := Pkt_decoded (PES_pkt s), streamid := s.streamid, pesdata := s.pesdata,
                extension_w1 := some w1, extension_w2 := some w2, header_data := some hd }).2 =
      .ok (Pkt_bytes (PES_pkt s)) := by
  have hst : Pkt_stuffing (PES_pkt s) = [] := (Pkt_stuffing_eq_nil _).2 (by omega)
  obtain ⟨b', hb', _, heq⟩ := Acra.Lemmas.PES.PES_reencode_gen s
    { pkt := Pkt_decoded (PES_pkt s), streamid := s.streamid, pesdata := s.pesdata,
      extension_w1 := some w1, extension_w2 := some w2, header_data := some hd }
    h (by omega) rfl rfl (by rw [hst, List.append_nil]) (by rw [he]; rfl)
  rw [hb', heq hst]

/-- **PES re-encode, header-less**: `PES.pack` of the object `PES_roundtrip_partial` decodes to (data followed by the
    stuffing) succeeds with 188 bytes, and reproduces the bytes when the packet was exactly filled -/
theorem PES_reencode_headerless (s : PES) (h : PES_WF s) (hne : PES.ext s = none) (hf : Pkt_used (PES_pkt s) ≤ 188) :
    ∃ b', (PES.pack { pkt := Pkt_decoded (PES_pkt s), streamid := s.streamid,
                      pesdata := s.pesdata ++ List.replicate (188 - Pkt_used (PES_pkt s)) 0xFF,
                      extension_w1 := none, extension_w2 := none, header_data := none }).2 = .ok b' ∧
      b'.length = 188 ∧ (Pkt_used (PES_pkt s) = 188 → b' = Pkt_bytes (PES_pkt s)) := by
  obtain ⟨b', hb', hl, heq⟩ := Acra.Lemmas.PES.PES_reencode_gen s
    { pkt := Pkt_decoded (PES_pkt s), streamid := s.streamid,
      pesdata := s.pesdata ++ List.replicate (188 - Pkt_used (PES_pkt s)) 0xFF,
      extension_w1 := none, extension_w2 := none, header_data := none }
    h hf rfl rfl rfl (by rw [hne]; rfl)
  exact ⟨b', hb', hl, fun hfull => heq ((Pkt_stuffing_eq_nil _).2 (by omega))⟩

end Acra.Props.C06
