import Acra.Gen.Src.Cls.MPEGAdaptionExtension
import Acra.Model.MPEGTS
import Acra.Lemmas.SrcTieCls
namespace Acra.Props.C06
open Acra Acra.Py Acra.Lemmas.SrcTieCls

/-! Method source ties (C06): `MPEGAdaptionExtension.pack` and `.unpack` (regenerated from the
    Python source by `harness/translate_methods.py` on every run) equal the hand-written model `Model.MPEGTS.Ext`, for
    EVERY object and buffer (the class has no int attributes, so there is no domain restriction).  The model is written
    with guards (`if len ≠ 2 ∧ len ≠ 0 then error`), the source with `if / elif / else: raise`; the theorems show the
    two shapes agree, including the object at each of the three raises. -/

theorem src_MPEGAdaptionExtension_pack (o : Gen.Src.Cls.MPEGAdaptionExtension.Obj) :
    (MPEGAdaptionExtension.toModel (Gen.Src.Cls.MPEGAdaptionExtension.pack o).1,
      (Gen.Src.Cls.MPEGAdaptionExtension.pack o).2) = (MPEGAdaptionExtension.toModel o).pack :=
  transfer Gen.Src.Cls.MPEGAdaptionExtension.pack MPEGAdaptionExtension.toModel_ofModel
    (MPEGAdaptionExtension.ofModel_toModel o) (MPEGAdaptionExtension.pack_of _)

example : (Gen.Src.Cls.MPEGAdaptionExtension.pack
    { ltw_flag := false, piecewise_rate_flag := false, seamless_splice_flag := false,
      ltw := [1, 2], piecewise := [], seamless_splice := [1, 2, 3, 4, 5] }).2 = .ok [9, 0xBF, 1, 2, 1, 2, 3, 4, 5] := by
  rfl

/-- `MPEGAdaptionExtension.unpack`, for every prior object and every buffer: the object afterwards, the returned offset
    (as a Python int) and the exceptions are the model's -/
theorem src_MPEGAdaptionExtension_unpack (o : Gen.Src.Cls.MPEGAdaptionExtension.Obj) (buf : Bytes) :
    (MPEGAdaptionExtension.toModel (Gen.Src.Cls.MPEGAdaptionExtension.unpack o buf).1,
      (Gen.Src.Cls.MPEGAdaptionExtension.unpack o buf).2)
      = (((MPEGAdaptionExtension.toModel o).unpack buf).1,
         ((MPEGAdaptionExtension.toModel o).unpack buf).2.map Int.ofNat) := by
  unfold Gen.Src.Cls.MPEGAdaptionExtension.unpack Model.MPEGTS.Ext.unpack
  simp only [Gen.MPEGTS.Ext_unpack_fmt0, structUnpackFromI_eq, toNat_lit, Py.len, structUnpackFrom_flds]
  by_cases h : 0 + (⟨true, [.u8, .u8]⟩ : Fmt).size ≤ buf.length
  · rw [if_pos h]
    simp only [flds]
    generalize decInt true (slice buf 0 _) = len
    generalize decInt true (slice buf _ _) = flags
    have g0 : Py.intAt [(len : Int), (flags : Int)] 0 = len := rfl
    have g1 : Py.intAt [(len : Int), (flags : Int)] 1 = flags := rfl
    simp only [Except.map, List.map, Int.ofNat_eq_natCast, g0, g1, MPEGAdaptionExtension.flag_bit,
      Nat.reducePow, Int.ofNat_lt]
    by_cases hlen : buf.length < len
    · simp [hlen]
    · simp only [hlen, if_false]
      cases h1 : (flags / 128 % 2 == 1) <;> cases h2 : (flags / 64 % 2 == 1) <;> cases h3 : (flags / 32 % 2 == 1) <;>
        simp [MPEGAdaptionExtension.toModel, Py.sliceI, slice]
  · rw [if_neg h]; simp [Except.map]

end Acra.Props.C06
