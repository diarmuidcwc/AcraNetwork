import Acra.Lemmas.MpegReencode
namespace Acra.Props.C06
open Acra.Py Acra.Model.MPEGTS Acra.Lemmas.MPEGTS Acra.Lemmas.MpegReencode

/-! Re-encoding what was decoded from ARBITRARY bytes (not only from the encoding of a well-formed
    object — that case is `TS_reencode_ok` / `TS_roundtrip`).  `MPEGAdaption.unpack` stores the integer read
    from the byte in `splice_countdown` (a tuple there would make `pack` raise `TypeError`: DESIGN §6 D07), and in
    the model a non-integer cannot be stored at all; what can still go wrong is a `struct.error` when a decoded
    value does not fit the field it is written to.  These theorems exclude that for every input. -/

/-- for EVERY buffer of at most 188 bytes that `MPEGPacket.unpack` accepts —
    garbage included, decoded into an object in any prior state — `MPEGPacket.pack` of the decoded
    packet (with or without stuffing) either succeeds or raises the bare `Exception` of
    `MPEGAdaption.pack` / `MPEGAdaptionExtension.pack` ("PCR should be 6 bytes", "ltw should be 2
    bytes", …: a truncated adaptation field leaves a part of the wrong size).  It never raises
    `struct.error` (every decoded value fits its field: splice countdown, private-data length,
    adaptation length, flags, 13-bit PID, 2-bit controls, 4-bit counter). -/
theorem TS_reencode_total (t q : Pkt) (buf : Bytes) (ns : Bool) (hlen : buf.length ≤ 188)
    (hq : Pkt.unpack t buf = (q, .ok ())) :
    (Pkt.pack q ns).2 = .error .generic ∨ ∃ b, (Pkt.pack q ns).2 = .ok b :=
  Pkt_pack_ok_or_generic q ns (Pkt_unpack_bounded t buf q hlen hq)

/-- the error alternative is real: a PCR flag with adaptation length 3 leaves a 2-byte PCR, which
    `pack` refuses -/
example : (Pkt.unpack Pkt.fresh [0x47, 0, 0, 0x30, 3, 0x10, 0xAA, 0xBB, 1, 2, 3]).2 = .ok () ∧
    (Pkt.pack (Pkt.unpack Pkt.fresh [0x47, 0, 0, 0x30, 3, 0x10, 0xAA, 0xBB, 1, 2, 3]).1).2 = .error .generic :=
  ⟨rfl, rfl⟩

/-- the same for a whole stream: whatever bytes `MPEGTS.unpack` accepts (any length, any content),
    `MPEGTS.pack` of the decoded blocks succeeds or raises that bare `Exception` -/
theorem MPEGTS_reencode_total (t ts : TS) (buf : Bytes) (r : Bool) (h : TS.unpack t buf = (ts, .ok r)) :
    (TS.pack ts).2 = .error .generic ∨ ∃ b, (TS.pack ts).2 = .ok b :=
  packBlocks_ok_or_generic ts.blocks (TS_unpack_bounded t buf ts r h)

/-- witness for the hypothesis of `MPEGTS_reencode_total` with two packets (and for its "succeeds" alternative):
    the stream of two well-formed packets is accepted and decodes to two blocks -/
example : ∃ ts, TS.unpack TS.fresh (Pkt_bytes { Pkt.fresh with adaption_ctrl := 1, payload := [1] } ++
      Pkt_bytes { Pkt.fresh with adaption_ctrl := 1, payload := [2] }) = (ts, .ok true) ∧ ts.blocks.length = 2 := by
  have h := TS_unpack_chunks TS.fresh
    [Pkt_bytes { Pkt.fresh with adaption_ctrl := 1, payload := [1] }, Pkt_bytes { Pkt.fresh with adaption_ctrl := 1, payload := [2] }]
    (by decide +kernel)
    (by
      intro c hc
      simp only [List.mem_cons, List.not_mem_nil, or_false] at hc
      rcases hc with rfl | rfl <;> rw [Pkt_unpack_bytes _ _ (by decide) (by decide) (by decide)])
  exact ⟨_, by simpa using h, by simp⟩

end Acra.Props.C06
