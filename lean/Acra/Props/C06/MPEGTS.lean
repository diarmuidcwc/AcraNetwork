/-
  C06, MPEG transport stream (`MPEGTS.py`): adaptation extension, adaptation field, packet, stream.  Per class the layout
  against `Spec.MPEG` (the extension against the layout the code implements: its length byte is ISO's + 1), the round trip
  into an object in any prior state, the error branches; then re-encoding of decoded objects and the length laws that
  hold whenever `pack` succeeds, well formed or not.
-/
import Acra.Lemmas.MPEGTS
import Acra.Spec.MPEG
namespace Acra.Props.C06
open Acra.Py Acra.Model.MPEGTS Acra.Gen.MPEGTS Acra.Lemmas.MPEGTS

/-- an optional part as the Spec sees it: absent when empty -/
def part (b : Bytes) : Option Bytes := if b.length = 0 then none else some b

theorem part_optB (b : Bytes) : Spec.MPEG.optB (part b) = b := by
  unfold part; split
  · rename_i h; simp [Spec.MPEG.optB, List.eq_nil_of_length_eq_zero h]
  · rfl

theorem enc1 (n : Nat) : encInt true 1 n = [Spec.MPEG.byte n] := by
  simp [encInt, beBytes, leBytes, Spec.MPEG.byte]

/-- against the layout the code implements:
    `MPEGAdaptionExtension.pack` emits exactly `Spec.MPEG.extensionAsCoded` — length byte counting
    itself and everything after it, flags byte (ltw / piecewise / seamless, five reserved bits set),
    then the parts in ISO order. -/
theorem Ext_pack_layout (e : Ext) (h : Ext_WF e) :
    (Ext.pack e).2 = .ok (Spec.MPEG.extensionAsCoded (part e.ltw) (part e.piecewise) (part e.seamless_splice)) := by
  rw [Ext_pack_eq e h]
  obtain ⟨h1, h2, h3⟩ := h
  simp only [Spec.MPEG.extensionAsCoded, Spec.MPEG.afExtensionBody, Ext_bytes, enc1, part_optB, List.length_cons,
    List.length_append, Ext_len, Ext_flags, List.cons_append, List.nil_append]
  have e1 : (part e.ltw).isSome = (e.ltw.length == 2) := by
    unfold part; rcases h1 with h1 | h1 <;> simp [h1]
  have e2 : (part e.piecewise).isSome = (e.piecewise.length == 3) := by
    unfold part; rcases h2 with h2 | h2 <;> simp [h2]
  have e3 : (part e.seamless_splice).isSome = (e.seamless_splice.length == 5) := by
    unfold part; rcases h3 with h3 | h3 <;> simp [h3]
  simp only [e1, e2, e3, List.append_assoc]
  have a1 : 2 + e.ltw.length + e.piecewise.length + e.seamless_splice.length =
      e.ltw.length + e.piecewise.length + e.seamless_splice.length + 1 + 1 := by omega
  have a2 : 31 + (e.ltw.length == 2).toNat * 128 + (e.piecewise.length == 3).toNat * 64 +
      (e.seamless_splice.length == 5).toNat * 32 = (e.ltw.length == 2).toNat * 128 + (e.piecewise.length == 3).toNat * 64 +
      (e.seamless_splice.length == 5).toNat * 32 + 31 := by omega
  rw [a1, a2]

/-- **the deviation from ISO 13818-1, exactly** (observation E1 of notes/mpeg.md): for all parts, the coded extension
    and the ISO extension have the same body (flags byte and parts); ISO's length byte is the number
    `n` of body bytes, the library's is `n + 1`.  (`byte` reduces mod 256, so this is literally
    "first byte + 1, rest identical" for every input.) -/
theorem Ext_asCoded_iso_plus_one (ltw pw ss : Option Bytes) :
    ∃ n body, n = body.length ∧
      Spec.MPEG.afExtension ltw pw ss = Spec.MPEG.byte n :: body ∧
      Spec.MPEG.extensionAsCoded ltw pw ss = Spec.MPEG.byte (n + 1) :: body :=
  ⟨_, _, rfl, rfl, rfl⟩

/-- … hence the two layouts are never equal: no extension the library emits is ISO-conformant -/
theorem Ext_asCoded_ne_iso (ltw pw ss : Option Bytes) :
    Spec.MPEG.extensionAsCoded ltw pw ss ≠ Spec.MPEG.afExtension ltw pw ss := by
  intro h
  simp only [Spec.MPEG.extensionAsCoded, Spec.MPEG.afExtension, List.cons.injEq, and_true, Spec.MPEG.byte] at h
  have := congrArg UInt8.toNat h
  simp only [UInt8.toNat_ofNat'] at this
  omega

/-- `pack` against the ISO layout: same body, length byte = ISO's value + 1 (corollary of
    `Ext_pack_layout` and `Ext_asCoded_iso_plus_one`; the statement `pack = Spec.afExtension` is false
    for every extension by `Ext_asCoded_ne_iso`) -/
theorem Ext_pack_vs_iso (e : Ext) (h : Ext_WF e) :
    ∃ body, Spec.MPEG.afExtension (part e.ltw) (part e.piecewise) (part e.seamless_splice)
        = Spec.MPEG.byte body.length :: body ∧
      (Ext.pack e).2 = .ok (Spec.MPEG.byte (body.length + 1) :: body) :=
  ⟨_, rfl, Ext_pack_layout e h⟩

/-- witness: an extension carrying only an LTW field is emitted as `04 9F l1 l2`, ISO 13818-1 says
    `03 9F l1 l2`; and the library's decoder, given the ISO-conformant bytes, truncates the part
    (`payload = buffer[:_len]` with ISO's smaller length) -/
example : (Ext.pack { Ext.fresh with ltw := [1, 2] }).2 = .ok [4, 0x9F, 1, 2] ∧
    Spec.MPEG.extensionAsCoded (some [1, 2]) none none = [4, 0x9F, 1, 2] ∧
    Spec.MPEG.afExtension (some [1, 2]) none none = [3, 0x9F, 1, 2] ∧
    (Ext.unpack Ext.fresh [3, 0x9F, 1, 2]).1.ltw = [1] := ⟨rfl, rfl, rfl, by decide⟩

/-- round trip into an object in ANY prior state, with anything after the extension -/
theorem Ext_roundtrip (e t : Ext) (rest : Bytes) (h : Ext_WF e) :
    ∃ b, (Ext.pack e).2 = .ok b ∧
      Ext.unpack t (b ++ rest) = (Ext_packed e, .ok b.length) ∧
      (Ext_packed e).ltw = e.ltw ∧ (Ext_packed e).piecewise = e.piecewise ∧
      (Ext_packed e).seamless_splice = e.seamless_splice ∧
      (Ext.pack (Ext_packed e)).2 = .ok b := by
  refine ⟨Ext_bytes e, by rw [Ext_pack_eq e h], ?_, rfl, rfl, rfl, ?_⟩
  · rw [Ext_unpack_bytes e t rest h, Ext_bytes_length]
  · rw [Ext_pack_eq _ (Ext_packed_WF e h)]; rfl

example : Ext_WF { Ext.fresh with ltw := [1, 2], seamless_splice := [1, 2, 3, 4, 5] } := by decide

theorem Ext_pack_rejects (e : Ext) (h : ¬ Ext_WF e) : (Ext.pack e).2 = .error .generic :=
  Ext_pack_error e h

/-- the splice countdown as the Spec sees it: present iff positive (the library cannot express a
    present countdown of 0: `> 0` decides presence) -/
def spliceOpt (n : Nat) : Option Nat := if 0 < n then some n else none

theorem part_isSome (b : Bytes) : (part b).isSome = decide (0 < b.length) := by
  by_cases h : b.length = 0
  · simp [part, h]
  · simp [part, h]; omega

theorem spl_eq (a : AF) : Spec.MPEG.spliceBytes (spliceOpt a.splice_countdown) = AF_spl a := by
  by_cases h : 0 < a.splice_countdown <;> simp [spliceOpt, AF_spl, h, enc1, Spec.MPEG.spliceBytes]

theorem priv_eq (a : AF) : Spec.MPEG.privBytes (part a.private_data) = AF_tl a ++ a.private_data := by
  by_cases h : a.private_data.length = 0
  · simp [part, AF_tl, List.eq_nil_of_length_eq_zero h, Spec.MPEG.privBytes]
  · have : 0 < a.private_data.length := by omega
    simp [part, AF_tl, h, this, enc1, Spec.MPEG.privBytes]

theorem ext_eq (a : AF) : Spec.MPEG.optB (a.adaption_extension.map Ext_bytes) = AF_extb a := by
  unfold AF_extb; cases a.adaption_extension <;> rfl

theorem AF_body_eq (a : AF) :
    Spec.MPEG.afBody a.discontinutiy a.random_access a.es_priority (part a.pcr) (part a.opcr)
      (spliceOpt a.splice_countdown) (part a.private_data) (a.adaption_extension.map Ext_bytes)
      (AF_lenByte a - AF_dataLen a) =
    encInt true 1 (AF_flagsByte a) ++ (a.pcr ++ (a.opcr ++ (AF_spl a ++ (AF_tl a ++ (a.private_data ++ (AF_extb a ++
      List.replicate (AF_lenByte a - AF_dataLen a) (0xFF : UInt8))))))) := by
  have hs : (spliceOpt a.splice_countdown).isSome = decide (0 < a.splice_countdown) := by
    unfold spliceOpt; split <;> simp_all
  simp only [Spec.MPEG.afBody, part_isSome, hs, part_optB, spl_eq, priv_eq, ext_eq, Option.isSome_map, enc1,
    List.append_assoc, List.cons_append, List.nil_append]
  rfl

/-- `MPEGAdaption.pack` emits the ISO 13818-1 adaptation field: length byte = number of bytes that
    follow it, flags byte, PCR, OPCR, splice countdown, private-data length + data, extension,
    0xFF stuffing (`max(length, data length) − data length` bytes) -/
theorem AF_pack_layout (a : AF) (h : AF_WF a) :
    (AF.pack a).2 = .ok (Spec.MPEG.adaptationField a.discontinutiy a.random_access a.es_priority (part a.pcr)
      (part a.opcr) (spliceOpt a.splice_countdown) (part a.private_data) (a.adaption_extension.map Ext_bytes)
      (AF_lenByte a - AF_dataLen a)) := by
  rw [AF_pack_eq a h]
  have hl := AF_bytes_length a
  simp only [Spec.MPEG.adaptationField, AF_body_eq]
  simp only [AF_bytes, List.length_append, encInt_length] at hl ⊢
  rw [enc1]
  have : (1 + (a.pcr.length + (a.opcr.length + ((AF_spl a).length + ((AF_tl a).length + (a.private_data.length +
      ((AF_extb a).length + (List.replicate (AF_lenByte a - AF_dataLen a) (0xFF : UInt8)).length))))))) = AF_lenByte a := by
    omega
  rw [this]; rfl

/-- the adaptation-field length byte equals the number of adaptation bytes that follow it -/
theorem AF_length_law (a : AF) (h : AF_WF a) :
    ∃ body, (AF.pack a).2 = .ok (UInt8.ofNat body.length :: body) ∧ body.length = AF_lenByte a ∧ body.length < 256 := by
  have hp : (AF.pack a).2 = .ok (AF_bytes a) := by rw [AF_pack_eq a h]
  obtain ⟨body, hb, hlt⟩ := Acra.Lemmas.MPEGTS.AF_pack_length_total a _ hp
  have hl := AF_bytes_length a
  rw [hb, List.length_cons] at hl
  exact ⟨body, by rw [hp, hb], by omega, hlt⟩

/-- round trip into an object in ANY prior state, with anything after the field (the rest of a packet) -/
theorem AF_roundtrip (a t : AF) (rest : Bytes) (h : AF_WF a) :
    ∃ b, (AF.pack a).2 = .ok b ∧
      AF.unpack t (b ++ rest) = (AF_packed a, .ok ()) ∧
      (AF_packed a).pcr = a.pcr ∧ (AF_packed a).opcr = a.opcr ∧
      (AF_packed a).splice_countdown = a.splice_countdown ∧ (AF_packed a).private_data = a.private_data ∧
      (AF_packed a).adaption_extension = a.adaption_extension.map Ext_packed ∧
      (AF_packed a).discontinutiy = a.discontinutiy ∧ (AF_packed a).random_access = a.random_access ∧
      (AF_packed a).es_priority = a.es_priority ∧
      (AF.pack (AF_packed a)).2 = .ok b := by
  refine ⟨AF_bytes a, by rw [AF_pack_eq a h], AF_unpack_bytes a t rest h, rfl, rfl, rfl, rfl, rfl, rfl, rfl, rfl, ?_⟩
  obtain ⟨hw, hb⟩ := AF_packed_WF a h
  rw [AF_pack_eq _ hw, hb]

example : AF_WF { AF.fresh with pcr := [1, 2, 3, 4, 5, 6], splice_countdown := 7, private_data := [0xAA],
                                length := 40,
                                adaption_extension := some { Ext.fresh with piecewise := [1, 2, 3] } } := by decide

theorem AF_pack_rejects_pcr (a : AF) (h : 0 < a.pcr.length ∧ a.pcr.length ≠ 6) : (AF.pack a).2 = .error .generic := by
  unfold AF.pack; rw [if_pos h]

/-- header + adaptation bytes + payload occupy at most 188 bytes -/
def Fits188 (p : Pkt) : Prop := Pkt_used p ≤ 188
instance (p : Pkt) : Decidable (Fits188 p) := by unfold Fits188; infer_instance

theorem TS_pack_188 (p : Pkt) (h : Pkt_WF p) (hf : Fits188 p) :
    ∃ b, (Pkt.pack p).2 = .ok b ∧ b.length = 188 := by
  exact ⟨Pkt_bytes p, by rw [Pkt_pack_eq p false h]; rfl, Pkt_bytes_length_of_fits p hf⟩

/-- the error branch of `Fits188`: parts that occupy more than 188 bytes are emitted as a LONGER
    packet (no exception; `b"\xff" * negative` is empty) -/
theorem TS_pack_overlong (p : Pkt) (h : Pkt_WF p) (hf : ¬ Fits188 p) :
    ∃ b, (Pkt.pack p).2 = .ok b ∧ b.length = Pkt_used p ∧ 188 < b.length := by
  refine ⟨Pkt_bytes p, by rw [Pkt_pack_eq p false h]; rfl, ?_⟩
  rw [Pkt_bytes_length]; unfold Fits188 at hf; omega

/-- witness: a payload-only packet with a 185-byte payload packs to 189 bytes -/
example : (match (Pkt.pack { Pkt.fresh with adaption_ctrl := 1, payload := List.replicate 185 0 }).2 with
    | .ok b => b.length | .error _ => 0) = 189 := by decide +kernel

/-- with `nostuff=True` the header, adaptation bytes and payload are returned without stuffing -/
theorem TS_pack_nostuff (p : Pkt) (h : Pkt_WF p) :
    (Pkt.pack p true).2 = .ok (Pkt_hdr p ++ (Pkt_af p ++ p.payload)) := by
  rw [Pkt_pack_eq p true h]; rfl

/-- no well-formedness needed: `encInt` and `Spec.MPEG.byte` both reduce mod 256 -/
theorem Pkt_hdr_layout (p : Pkt) :
    Pkt_hdr p = Spec.MPEG.tsHeader p.sync p.tei p.pusi p.transport_priority p.pid p.tsc p.adaption_ctrl
      p.continuitycounter := by
  have e2 : encInt true 2 (Pkt_pidFull p) = [Spec.MPEG.byte (Pkt_pidFull p / 256), Spec.MPEG.byte (Pkt_pidFull p % 256)] := by
    rw [encInt_big, be2_split, ← encInt_big, enc1, enc1]; rfl
  simp only [Pkt_hdr, enc1, e2, Spec.MPEG.tsHeader, List.cons_append, List.nil_append]
  have a1 : Pkt_pidFull p / 256 = p.tei.toNat * 128 + p.pusi.toNat * 64 + p.transport_priority * 32 + p.pid / 256 := by
    unfold Pkt_pidFull; omega
  have a2 : Pkt_pidFull p % 256 % 256 = p.pid % 256 % 256 := by unfold Pkt_pidFull; omega
  have a3 : Pkt_cont p = p.tsc * 64 + p.adaption_ctrl * 16 + p.continuitycounter := by unfold Pkt_cont; omega
  rw [a1, a3]
  simp only [Spec.MPEG.byte, a2]

/-- the first four bytes are the ISO 13818-1 header: sync byte, TEI/PUSI/priority/13-bit PID,
    scrambling control / adaptation-field control / continuity counter -/
theorem TS_header_layout (p : Pkt) (ns : Bool) (h : Pkt_WF p) :
    ∃ rest, (Pkt.pack p ns).2 = .ok (Spec.MPEG.tsHeader p.sync p.tei p.pusi p.transport_priority p.pid p.tsc
      p.adaption_ctrl p.continuitycounter ++ rest) := by
  rw [Pkt_pack_eq p ns h, ← Pkt_hdr_layout p]
  cases ns
  · exact ⟨_, rfl⟩
  · exact ⟨_, rfl⟩

/-- with adaptation control 2 or 3, byte 4 of the packet is the number of adaptation bytes that
    follow it and the payload starts at offset 5 + that number — for EVERY adaptation field value
    (every subset of the optional parts, every stuffing length) and also for `adaption_field = None`
    (a single 0 byte) -/
theorem TS_af_length (p : Pkt) (h : Pkt_WF p) (haf : hasAF p) :
    ∃ hdr body tail, hdr.length = 4 ∧ body.length < 256 ∧
      (Pkt.pack p).2 = .ok (hdr ++ (UInt8.ofNat body.length :: body) ++ (p.payload ++ tail)) := by
  have hp : (Pkt.pack p).2 = .ok (Pkt_bytes p) := by rw [Pkt_pack_eq p false h]; rfl
  obtain ⟨hdr, body, tail, h1, h2, h3⟩ := Acra.Lemmas.MPEGTS.Pkt_pack_af_length_total p false _ hp haf
  exact ⟨hdr, body, tail, h1, h2, by rw [hp, h3]⟩

/-- round trip into an object in ANY prior state: the payload comes back followed by the 0xFF stuffing (the format
    carries no payload length), and re-encoding the decoded packet reproduces the bytes when the format can express
    the packet (no payload with adaptation control 0 or 2).
    Preconditions: sync byte 0x47 (the decoder rejects any other), the parts fit, and with
    adaptation control 2 an adaptation-field object is present (with None a lone 0 byte is emitted
    and the 0xFF stuffing after it decodes as flags and parts). -/
theorem TS_roundtrip (p t : Pkt) (h : Pkt_WF p) (hs : p.sync = 0x47) (hf : Fits188 p)
    (h2af : p.adaption_ctrl = 2 → p.adaption_field.isSome = true) :
    ∃ b, (Pkt.pack p).2 = .ok b ∧ b.length = 188 ∧
      Pkt.unpack t b = (Pkt_decoded p, .ok ()) ∧
      (Pkt_decoded p).pid = p.pid ∧ (Pkt_decoded p).tei = p.tei ∧ (Pkt_decoded p).pusi = p.pusi ∧
      (Pkt_decoded p).transport_priority = p.transport_priority ∧ (Pkt_decoded p).tsc = p.tsc ∧
      (Pkt_decoded p).adaption_ctrl = p.adaption_ctrl ∧ (Pkt_decoded p).continuitycounter = p.continuitycounter ∧
      ((p.adaption_ctrl = 1 ∨ p.adaption_ctrl = 3) →
        (Pkt_decoded p).payload = p.payload ++ List.replicate (188 - Pkt_used p) 0xFF) ∧
      (hasAF p → (Pkt_decoded p).adaption_field = p.adaption_field.map AF_packed) ∧
      (∃ b', (Pkt.pack (Pkt_decoded p)).2 = .ok b') ∧
      (((p.adaption_ctrl = 0 ∨ p.adaption_ctrl = 2) → p.payload = []) → (Pkt.pack (Pkt_decoded p)).2 = .ok b) := by
  obtain ⟨hw, hb⟩ := Pkt_decoded_bytes p h hf
  refine ⟨Pkt_bytes p, by rw [Pkt_pack_eq p false h]; rfl, ?_, Pkt_unpack_bytes p t h hs h2af,
    rfl, rfl, rfl, rfl, rfl, rfl, rfl, ?_, ?_, ?_, ?_⟩
  · exact Pkt_bytes_length_of_fits p hf
  · exact Pkt_decoded_payload p
  · intro hc; simp [Pkt_decoded, hc]
  · exact ⟨_, by rw [Pkt_pack_eq _ false hw]⟩
  · intro hpl; rw [Pkt_pack_eq _ false hw, ← hb hpl]; rfl

/-- a non-trivial packet satisfying the hypotheses: adaptation and payload, PCR + private data, stuffing -/
def examplePkt : Pkt :=
  { Pkt.fresh with
    pid := 0x104, adaption_ctrl := 3, continuitycounter := 15, payload := [1, 2, 3],
    adaption_field := some { AF.fresh with pcr := [1, 2, 3, 4, 5, 6], private_data := [0xAA], length := 100 } }

example : Pkt_WF examplePkt ∧ Fits188 examplePkt ∧ examplePkt.sync = 0x47 := by decide

theorem MPEGTS_unpack_n (t : TS) (cs : List Bytes) (hlen : ∀ c ∈ cs, c.length = 188)
    (hok : ∀ c ∈ cs, (Pkt.unpack Pkt.fresh c).2 = .ok ()) :
    ∃ bs, TS.unpack t (cs.flatMap id) = ({ blocks := bs }, .ok true) ∧ bs.length = cs.length ∧
      bs = cs.map fun c => (Pkt.unpack Pkt.fresh c).1 := by
  exact ⟨_, TS_unpack_chunks t cs hlen hok, by simp, rfl⟩

theorem MPEGTS_roundtrip (t : TS) (ps : List Pkt) (hwf : ∀ p ∈ ps, Pkt_WF p ∧ p.sync = 0x47 ∧ Fits188 p ∧
      (p.adaption_ctrl = 2 → p.adaption_field.isSome = true)) :
    TS.unpack t (ps.flatMap Pkt_bytes) = ({ blocks := ps.map Pkt_decoded }, .ok true) ∧
    (ps.flatMap Pkt_bytes).length = 188 * ps.length :=
  ⟨TS_unpack_packed t ps hwf, flatMap_Pkt_bytes_length ps fun p hp => (hwf p hp).2.2.1⟩

/-- **MPEGTS round trip for a stream of N packets, arbitrary N**, into an object in any prior state; re-encoding the
    decoded stream reproduces the bytes when the format can express every packet (no payload with adaptation control
    0 or 2) -/
theorem MPEGTS_roundtrip_n (t : TS) (ps : List Pkt) (hwf : ∀ p ∈ ps, Pkt_WF p ∧ p.sync = 0x47 ∧ Fits188 p ∧
      (p.adaption_ctrl = 2 → p.adaption_field.isSome = true)) :
    ∃ b, (TS.pack { blocks := ps }).2 = .ok b ∧ b.length = 188 * ps.length ∧
      TS.unpack t b = ({ blocks := ps.map Pkt_decoded }, .ok true) ∧
      (ps.map Pkt_decoded).length = ps.length ∧
      (∃ b', (TS.pack { blocks := ps.map Pkt_decoded }).2 = .ok b' ∧ b'.length = 188 * ps.length) ∧
      ((∀ p ∈ ps, (p.adaption_ctrl = 0 ∨ p.adaption_ctrl = 2) → p.payload = []) →
        (TS.pack { blocks := ps.map Pkt_decoded }).2 = .ok b) := by
  obtain ⟨hu, hl⟩ := MPEGTS_roundtrip t ps hwf
  have hw : ∀ p ∈ ps, Pkt_WF p := fun p hp => (hwf p hp).1
  have hd := Pkt_decoded_whole ps fun p hp => ⟨(hwf p hp).1, (hwf p hp).2.2.1⟩
  have hwd : ∀ q ∈ ps.map Pkt_decoded, Pkt_WF q := fun q hq => (hd q hq).1
  have hused : ∀ q ∈ ps.map Pkt_decoded, Pkt_used q ≤ 188 := fun q hq => (hd q hq).2
  have hl' : ((ps.map Pkt_decoded).flatMap Pkt_bytes).length = 188 * ps.length := by
    rw [flatMap_Pkt_bytes_length _ hused, List.length_map]
  have hp1 : (TS.pack { blocks := ps }).2 = .ok (ps.flatMap Pkt_bytes) := by
    simp only [TS.pack, packBlocks_eq ps hw]
  have hp2 : (TS.pack { blocks := ps.map Pkt_decoded }).2 = .ok ((ps.map Pkt_decoded).flatMap Pkt_bytes) := by
    simp only [TS.pack, packBlocks_eq _ hwd]
  refine ⟨ps.flatMap Pkt_bytes, hp1, hl, hu, List.length_map _, ⟨_, hp2, hl'⟩, ?_⟩
  intro hpl
  rw [hp2, flatMap_decoded_bytes ps (fun p hp => ⟨(hwf p hp).1, (hwf p hp).2.2.1, hpl p hp⟩)]

/-- re-encoding succeeds (DESIGN §6 D07: a splice countdown stored as a tuple would make `pack` raise `TypeError`):
    whatever optional parts a well-formed packet carries — in particular a splice countdown, which the decoder stores
    as the integer read from the byte — `MPEGPacket.pack` of the DECODED packet does not raise.  (For buffers that are
    not the encoding of a well-formed packet the decoded adaptation field can hold a truncated PCR or extension part,
    for which `pack` raises its own bare `Exception`; that is input validation, not the D07 `TypeError`.) -/
theorem TS_reencode_ok (p t q : Pkt) (b : Bytes) (h : Pkt_WF p) (hs : p.sync = 0x47) (hf : Fits188 p)
    (h2af : p.adaption_ctrl = 2 → p.adaption_field.isSome = true)
    (hb : (Pkt.pack p).2 = .ok b) (hq : Pkt.unpack t b = (q, .ok ())) :
    (∃ b', (Pkt.pack q).2 = .ok b' ∧ b'.length = 188) ∧
    (∀ a, hasAF p → p.adaption_field = some a →
      ∃ a', q.adaption_field = some a' ∧ a'.splice_countdown = a.splice_countdown) := by
  rw [Pkt_pack_eq p false h] at hb
  simp only [Bool.false_eq_true, if_false, Except.ok.injEq] at hb
  subst hb
  rw [Pkt_unpack_bytes p t h hs h2af] at hq
  simp only [Prod.mk.injEq, and_true] at hq
  subst hq
  obtain ⟨hw, _⟩ := Pkt_decoded_bytes p h hf
  refine ⟨⟨Pkt_bytes (Pkt_decoded p), by rw [Pkt_pack_eq _ false hw]; rfl,
    Pkt_bytes_length_of_fits _ (Pkt_used_decoded_le p h hf)⟩, ?_⟩
  · intro a haf ha
    exact ⟨AF_packed a, by simp [Pkt_decoded, haf, ha], rfl⟩

/-- a packet with a splice countdown (and PCR, private data, stuffing) satisfying the hypotheses of
    `TS_reencode_ok`, and two of them those of `MPEGTS_roundtrip_n` -/
def examplePktSplice : Pkt :=
  { Pkt.fresh with
    pid := 0x104, adaption_ctrl := 3, continuitycounter := 3, payload := [1, 2, 3],
    adaption_field := some { AF.fresh with pcr := [1, 2, 3, 4, 5, 6], splice_countdown := 7,
                                           private_data := [0xAA], length := 100 } }

example : Pkt_WF examplePktSplice ∧ Fits188 examplePktSplice ∧ examplePktSplice.sync = 0x47 ∧
    (examplePktSplice.adaption_ctrl = 2 → examplePktSplice.adaption_field.isSome = true) := by decide

/-- the adaptation-field length law in total form: whenever `MPEGAdaption.pack` succeeds — NO well-formedness assumed: flags left set
    without their part (E8), an OPCR of any size (only the PCR size is checked), any `length` — the first byte emitted
    is the number of bytes that follow it -/
theorem AF_length_law_total (a : AF) (b : Bytes) (h : (AF.pack a).2 = .ok b) :
    ∃ body, b = UInt8.ofNat body.length :: body ∧ body.length < 256 :=
  Acra.Lemmas.MPEGTS.AF_pack_length_total a b h

/-- the same law on the packet: whenever `MPEGPacket.pack` succeeds on a packet with adaptation control 2 or 3 —
    any header field values, any adaptation-field object (or None), over-full or not, with or without stuffing —
    byte 4 is the number of adaptation bytes that follow it and the payload starts at offset 5 + that number.
    (`TS_af_length` is the special case `Pkt_WF p`, `nostuff = False`.) -/
theorem TS_af_length_total (p : Pkt) (ns : Bool) (b : Bytes) (hb : (Pkt.pack p ns).2 = .ok b) (haf : hasAF p) :
    ∃ hdr body tail, hdr.length = 4 ∧ body.length < 256 ∧
      b = hdr ++ (UInt8.ofNat body.length :: body) ++ (p.payload ++ tail) :=
  Acra.Lemmas.MPEGTS.Pkt_pack_af_length_total p ns b hb haf

/-- witness for the total forms on an object OUTSIDE `AF_WF` / `Pkt_WF`: PCR flag set without PCR, a 3-byte OPCR,
    a 14-bit PID; `pack` succeeds and byte 4 (= 9) counts flags + 3 OPCR bytes + 5 stuffing bytes -/
def staleAF : AF := { AF.fresh with pcr_flag := true, opcr := [1, 2, 3], length := 9 }

example : ¬ AF_WF staleAF ∧
    (AF.pack staleAF).2.toOption = some [9, 24, 1, 2, 3, 255, 255, 255, 255, 255] ∧
    hasAF { Pkt.fresh with adaption_ctrl := 3, pid := 0x2000, payload := [5, 6], adaption_field := some staleAF } ∧
    (Pkt.pack { Pkt.fresh with adaption_ctrl := 3, pid := 0x2000, payload := [5, 6], adaption_field := some staleAF } true).2.toOption
      = some [71, 96, 0, 48, 9, 24, 1, 2, 3, 255, 255, 255, 255, 255, 5, 6] := by decide +kernel

def extOf (ltw pw ss : Bool) : Ext :=
  { Ext.fresh with
    ltw := if ltw then [1, 2] else [],
    piecewise := if pw then [3, 4, 5] else [],
    seamless_splice := if ss then [6, 7, 8, 9, 10] else [] }

def afOf (pcr opcr spl prv ext ltw pw ss : Bool) (len : Nat) : AF :=
  { AF.fresh with
    length := len,
    pcr := if pcr then [1, 2, 3, 4, 5, 6] else [],
    opcr := if opcr then [7, 8, 9, 10, 11, 12] else [],
    splice_countdown := if spl then 200 else 0,
    private_data := if prv then [0xAA, 0xBB, 0xCC] else [],
    adaption_extension := if ext then some (extOf ltw pw ss) else none }

def pktOf (afc : Nat) (pcr opcr spl prv ext ltw pw ss : Bool) (len : Nat) (pl : Bytes) : Pkt :=
  { Pkt.fresh with
    pid := 0x1FFF, adaption_ctrl := afc, continuitycounter := 9, payload := pl,
    adaption_field := some (afOf pcr opcr spl prv ext ltw pw ss len) }

/-- **every subset of the optional parts** (PCR, OPCR, splice countdown, private data, extension × {LTW, piecewise,
    seamless}: 256 combinations) satisfies the hypotheses of `Ext_*`, `AF_pack_layout`, `AF_length_law`, `AF_roundtrip`,
    `TS_pack_188`, `TS_af_length`, `TS_roundtrip`, `TS_reencode_ok` TOGETHER — without stuffing, with stuffing next to a
    payload (control 3) and as an adaptation-only packet filled exactly by stuffing (control 2) -/
example : ∀ pcr opcr spl prv ext ltw pw ss : Bool,
    Ext_WF (extOf ltw pw ss) ∧
    AF_WF (afOf pcr opcr spl prv ext ltw pw ss 0) ∧ AF_WF (afOf pcr opcr spl prv ext ltw pw ss 60) ∧
    Pkt_WF (pktOf 3 pcr opcr spl prv ext ltw pw ss 0 [1, 2, 3]) ∧ hasAF (pktOf 3 pcr opcr spl prv ext ltw pw ss 0 [1, 2, 3]) ∧
    Fits188 (pktOf 3 pcr opcr spl prv ext ltw pw ss 0 [1, 2, 3]) ∧ (pktOf 3 pcr opcr spl prv ext ltw pw ss 0 [1, 2, 3]).sync = 0x47 ∧
    Pkt_WF (pktOf 3 pcr opcr spl prv ext ltw pw ss 60 [1, 2, 3]) ∧ Fits188 (pktOf 3 pcr opcr spl prv ext ltw pw ss 60 [1, 2, 3]) ∧
    Pkt_WF (pktOf 2 pcr opcr spl prv ext ltw pw ss 183 []) ∧ hasAF (pktOf 2 pcr opcr spl prv ext ltw pw ss 183 []) ∧
    ((pktOf 2 pcr opcr spl prv ext ltw pw ss 183 []).adaption_ctrl = 2 →
      (pktOf 2 pcr opcr spl prv ext ltw pw ss 183 []).adaption_field.isSome = true) ∧
    Pkt_used (pktOf 2 pcr opcr spl prv ext ltw pw ss 183 []) = 188 := by
  intro pcr opcr spl prv ext ltw pw ss
  -- the parts are chosen independently; what couples them is their total length, at most 60 here: the one fact swept
  -- over the 256 subsets, together with well-formedness for `length` 0.  `length` enters only through `max`.
  obtain ⟨hA, hD⟩ : AF_WF (afOf pcr opcr spl prv ext ltw pw ss 0) ∧ AF_dataLen (afOf pcr opcr spl prv ext ltw pw ss 0) ≤ 60 := by
    revert pcr opcr spl prv ext ltw pw ss; decide +kernel
  have hAn : ∀ n, n < 256 → AF_WF (afOf pcr opcr spl prv ext ltw pw ss n) := fun n hn => hA.with_length n hn
  have hP : ∀ c n pl, c < 4 → n < 256 → Pkt_WF (pktOf c pcr opcr spl prv ext ltw pw ss n pl) := fun c n pl hc hn =>
    ⟨(by decide : (0x47 : Nat) < 256), (by decide : (0x1FFF : Nat) < 8192), (by decide : (0 : Nat) < 2), (by decide : (0 : Nat) < 4), hc,
      (by decide : (9 : Nat) < 16), fun a ha => by cases ha; exact hAn n hn⟩
  have hU : ∀ c n pl, hasAF (pktOf c pcr opcr spl prv ext ltw pw ss n pl) →
      Pkt_used (pktOf c pcr opcr spl prv ext ltw pw ss n pl) =
        4 + (max n (AF_dataLen (afOf pcr opcr spl prv ext ltw pw ss 0)) + 1) + pl.length := fun c n pl h => by
    rw [Pkt_used_of_af _ _ h rfl, AF_lenByte_eq_max]; rfl
  refine ⟨(by decide : ∀ l p s, Ext_WF (extOf l p s)) _ _ _, hA, hAn 60 (by decide), hP 3 0 _ (by decide) (by decide),
    .inr rfl, ?_, rfl, hP 3 60 _ (by decide) (by decide), ?_, hP 2 183 _ (by decide) (by decide), .inl rfl, fun _ => rfl, ?_⟩
  · show Pkt_used _ ≤ 188
    rw [hU 3 0 _ (.inr rfl)]; simp only [List.length_cons, List.length_nil]; omega
  · show Pkt_used _ ≤ 188
    rw [hU 3 60 _ (.inr rfl)]; simp only [List.length_cons, List.length_nil]; omega
  · rw [hU 2 183 _ (.inl rfl)]; simp only [List.length_nil]; omega

/-- example for `TS_af_length` (and for `TS_header_layout`, `TS_pack_nostuff`): `examplePkt`; its byte 4 is 100 -/
example : Pkt_WF examplePkt ∧ hasAF examplePkt ∧
    ((Pkt.pack examplePkt).2.toOption.map fun b => (b.take 5, slice b 105 108)) = some ([0x47, 0x41, 0x04, 0x3F, 100], [1, 2, 3]) := by
  decide +kernel

/-- example for `TS_pack_overlong` -/
example : Pkt_WF { Pkt.fresh with adaption_ctrl := 1, payload := List.replicate 185 0 } ∧
    ¬ Fits188 { Pkt.fresh with adaption_ctrl := 1, payload := List.replicate 185 0 } := by decide +kernel

/-- witnesses for the error-branch theorems `Ext_pack_rejects` and `AF_pack_rejects_pcr` -/
example : ¬ Ext_WF { Ext.fresh with ltw := [1] } := by decide
example : 0 < ({ AF.fresh with pcr := [1, 2] } : AF).pcr.length ∧ ({ AF.fresh with pcr := [1, 2] } : AF).pcr.length ≠ 6 := by
  decide

/-- the precondition `h2af` of `TS_roundtrip` is needed (E2): adaptation control 2 with `adaption_field = None` is well
    formed and fits, `pack` emits a lone 0 byte and 183 bytes of 0xFF, and the decoder reads those as an adaptation
    field of length 0 with every flag set — PCR FF…, countdown 255, 168 bytes of private data; re-encoding that gives a
    190-byte packet -/
example :
    let p : Pkt := { Pkt.fresh with adaption_ctrl := 2 }
    Pkt_WF p ∧ Fits188 p ∧ p.sync = 0x47 ∧ ¬ (p.adaption_ctrl = 2 → p.adaption_field.isSome = true) ∧
    ((Pkt.unpack Pkt.fresh (Pkt_bytes p)).1.adaption_field.map fun a => (a.length, a.pcr.length, a.splice_countdown,
        a.private_data.length)) = some (0, 6, 255, 168) ∧
    ((Pkt.pack (Pkt.unpack Pkt.fresh (Pkt_bytes p)).1).2.toOption.map List.length) = some 190 := by
  decide +kernel

/-- example for `MPEGTS_unpack_n` with N = 2: two different 188-byte chunks, each accepted -/
example : (∀ c ∈ [Pkt_bytes examplePkt, Pkt_bytes examplePktSplice], c.length = 188) ∧
    (∀ c ∈ [Pkt_bytes examplePkt, Pkt_bytes examplePktSplice], (Pkt.unpack Pkt.fresh c).2 = .ok ()) := by
  refine ⟨?_, ?_⟩ <;> intro c hc <;> simp only [List.mem_cons, List.not_mem_nil, or_false] at hc <;>
    rcases hc with rfl | rfl
  · exact Pkt_bytes_length_of_fits _ (by decide)
  · exact Pkt_bytes_length_of_fits _ (by decide)
  · rw [Pkt_unpack_bytes _ _ (by decide) (by decide) (by decide)]
  · rw [Pkt_unpack_bytes _ _ (by decide) (by decide) (by decide)]

/-- example for `MPEGTS_roundtrip` / `MPEGTS_roundtrip_n` with N = 3 (adaptation + payload twice, payload only) -/
example : ∀ p ∈ [examplePkt, examplePktSplice, { Pkt.fresh with adaption_ctrl := 1, payload := [9, 8, 7] }],
    Pkt_WF p ∧ p.sync = 0x47 ∧ Fits188 p ∧ (p.adaption_ctrl = 2 → p.adaption_field.isSome = true) := by
  decide +kernel

/-- example for `TS_reencode_ok`, including `hb` and `hq` -/
example : Pkt_WF examplePktSplice ∧ examplePktSplice.sync = 0x47 ∧ Fits188 examplePktSplice ∧
    (examplePktSplice.adaption_ctrl = 2 → examplePktSplice.adaption_field.isSome = true) ∧
    (Pkt.pack examplePktSplice).2 = .ok (Pkt_bytes examplePktSplice) ∧
    Pkt.unpack Pkt.fresh (Pkt_bytes examplePktSplice) = (Pkt_decoded examplePktSplice, .ok ()) :=
  ⟨by decide, by decide, by decide, by decide, by rw [Pkt_pack_eq _ false (by decide)]; rfl,
   Pkt_unpack_bytes _ _ (by decide) (by decide) (by decide)⟩

end Acra.Props.C06
