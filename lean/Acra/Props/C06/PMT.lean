import Acra.Lemmas.PMT
import Acra.Lemmas.CRCMpeg
import Acra.Spec.MPEG
namespace Acra.Props.C06
open Acra.Py Acra.Model.MPEGTS Acra.Model.PMT Acra.Gen.PMT Acra.Lemmas.MPEGTS Acra.Lemmas.PMT Acra.Lemmas.PMTSection

theorem Desc_bytes_spec (d : Desc) : Desc_bytes d = Spec.MPEG.descriptor (Desc_tag d) d.data := by
  simp [Desc_bytes, Spec.MPEG.descriptor, encInt, beBytes, leBytes, Spec.MPEG.byte]

theorem Stream_bytes_spec (x : Stream) :
    Stream_bytes x = Spec.MPEG.esEntry x.streamtype x.elementary_pid x.elementary_stream_descriptors := by
  simp [Stream_bytes, Spec.MPEG.esEntry, encInt, beBytes, leBytes, Spec.MPEG.byte, Nat.add_comm]

/-- PMT layout (0..k descriptors and streams): `MPEGPacketPMT.pack` puts pointer field 0 and the ISO
    13818-1 TS_program_map_section into the payload — table id, syntax indicator, '0', reserved 11,
    12-bit section_length = number of bytes after it INCLUDING the CRC, program number, version /
    current-next, section numbers, PCR PID, 12-bit program_info_length = size of the descriptor loop,
    descriptors, streams, and CRC-32/MPEG-2 of the section big-endian after it -/
theorem PMT_pack_layout (s : PMT) (h : PMT_WF s) :
    (PMT.pack s).2 = .ok (Pkt_bytes (PMT_pkt s)) ∧
    (PMT_pkt s).payload = Spec.MPEG.pmtPayload s.tableid s.syntax_indicator s.program_number s.version
      s.current_next_indicator s.sectionNo s.last_section s.pcr_pid
      (s.descriptor_tags.map fun d => (Desc_tag d, d.data))
      (s.streams.map fun x => (x.streamtype, x.elementary_pid, x.elementary_stream_descriptors)) ∧
    (PMT.pack s).1.program_info_len = (s.descriptor_tags.flatMap Desc_bytes).length := by
  refine ⟨by rw [PMT_pack_eq s h], ?_, by rw [PMT_pack_eq s h]; rfl⟩
  show PMT_payload s = _
  have hd : (s.descriptor_tags.map fun d => (Desc_tag d, d.data)).flatMap (fun x => Spec.MPEG.descriptor x.1 x.2)
      = PMT_dbytes s := by
    simp only [List.flatMap_map, PMT_dbytes]
    have : (fun a : Desc => Spec.MPEG.descriptor (Desc_tag a) a.data) = Desc_bytes := funext fun d => (Desc_bytes_spec d).symm
    rw [this]
  have hs : (s.streams.map fun x => (x.streamtype, x.elementary_pid, x.elementary_stream_descriptors)).flatMap
      (fun x => Spec.MPEG.esEntry x.1 x.2.1 x.2.2) = PMT_sbytes s := by
    simp only [List.flatMap_map, PMT_sbytes]
    have : (fun a : Stream => Spec.MPEG.esEntry a.streamtype a.elementary_pid a.elementary_stream_descriptors) = Stream_bytes :=
      funext fun d => (Stream_bytes_spec d).symm
    rw [this]
  unfold Spec.MPEG.pmtPayload Spec.MPEG.pmtSection
  simp only [hd, hs]
  have hlen : 9 + (PMT_dbytes s).length + (PMT_sbytes s).length + 4 = PMT_slen s := by unfold PMT_slen; omega
  rw [hlen, ← Acra.Lemmas.CRCMpeg.crc_eq_spec]
  have hbody : Spec.MPEG.byte s.tableid :: (beBytes 2 (s.syntax_indicator * 32768 + 0x3000 + PMT_slen s) ++ beBytes 2 s.program_number ++
      [Spec.MPEG.byte (0xC0 + s.version * 2 + s.current_next_indicator), Spec.MPEG.byte s.sectionNo, Spec.MPEG.byte s.last_section] ++
      beBytes 2 (0xE000 + s.pcr_pid) ++ beBytes 2 (0xF000 + (PMT_dbytes s).length) ++ PMT_dbytes s ++ PMT_sbytes s) = PMT_body s := by
    simp [PMT_body, PMT_hdr, encInt, beBytes, leBytes, Spec.MPEG.byte]
  rw [hbody]
  simp [PMT_payload, encInt, beBytes, leBytes]

/-- section_length law on the definitions: `PMT_slen` is the length of `PMT_body` minus the 3 bytes up to and including
    the field, plus the 4 CRC bytes (on the emitted bytes: conjunct 4 of `PMT_crc_std_bytes`, Props/C07/Mpeg.lean) -/
theorem PMT_section_length_law (s : PMT) :
    (PMT_body s).length + 4 = 3 + PMT_slen s := by
  simp [PMT_body, PMT_hdr, PMT_slen]; omega

/-- round trip (0..k descriptors and streams), into an object in ANY prior state: the decoder returns True (CRC
    verified) and re-encoding the decoded object reproduces the bytes.  Preconditions: sync byte 0x47, adaptation
    control 1 or 3 (a PMT packet needs a payload — a fresh object has control 0, notes/mpeg.md E6), the section fits
    the packet. -/
theorem PMT_roundtrip (s t : PMT) (h : PMT_WF s) (hs : s.pkt.sync = 0x47)
    (hafc : s.pkt.adaption_ctrl = 1 ∨ s.pkt.adaption_ctrl = 3) (hf : Pkt_used (PMT_pkt s) ≤ 188) :
    ∃ b, (PMT.pack s).2 = .ok b ∧ b.length = 188 ∧
      PMT.unpack t b = (PMT_decoded s, .ok true) ∧
      (PMT_decoded s).descriptor_tags = s.descriptor_tags ∧ (PMT_decoded s).streams = s.streams ∧
      (PMT_decoded s).tableid = s.tableid ∧ (PMT_decoded s).syntax_indicator = s.syntax_indicator ∧
      (PMT_decoded s).program_number = s.program_number ∧ (PMT_decoded s).version = s.version ∧
      (PMT_decoded s).current_next_indicator = s.current_next_indicator ∧ (PMT_decoded s).sectionNo = s.sectionNo ∧
      (PMT_decoded s).last_section = s.last_section ∧ (PMT_decoded s).pcr_pid = s.pcr_pid ∧
      (PMT_decoded s).program_info_len = (s.descriptor_tags.flatMap Desc_bytes).length ∧
      (PMT.pack (PMT_decoded s)).2 = .ok b := by
  obtain ⟨hwd, hbd⟩ := PMT_decoded_pack s h hf
  refine ⟨Pkt_bytes (PMT_pkt s), by rw [PMT_pack_eq s h], ?_, PMT_unpack_bytes s t h hs hafc,
    rfl, rfl, rfl, rfl, rfl, rfl, rfl, rfl, rfl, rfl, rfl, ?_⟩
  · rw [Pkt_bytes_length]; omega
  · rw [PMT_pack_eq _ hwd, hbd]

example : PMT_WF { PMT.fresh with
    pkt := { Pkt.fresh with adaption_ctrl := 1 }, program_number := 1, pcr_pid := 0x100,
    descriptor_tags := [{ tag := some 5, data := [1, 2] }],
    streams := [{ streamtype := 0x1B, elementary_pid := 0x100, elementary_stream_descriptors := [] },
                { streamtype := 0x0F, elementary_pid := 0x101, elementary_stream_descriptors := [9, 9, 9] }] } := by decide +kernel

/-- one descriptor, two streams (one with ES descriptors), payload only -/
def pmtExample : PMT :=
  { PMT.fresh with
    pkt := { Pkt.fresh with adaption_ctrl := 1 }, program_number := 1, pcr_pid := 0x100,
    descriptor_tags := [{ tag := some 5, data := [1, 2] }],
    streams := [{ streamtype := 0x1B, elementary_pid := 0x100, elementary_stream_descriptors := [] },
                { streamtype := 0x0F, elementary_pid := 0x101, elementary_stream_descriptors := [9, 9, 9] }] }

/-- example for `PMT_roundtrip` (all four hypotheses) … -/
example : PMT_WF pmtExample ∧ pmtExample.pkt.sync = 0x47 ∧
    (pmtExample.pkt.adaption_ctrl = 1 ∨ pmtExample.pkt.adaption_ctrl = 3) ∧ Pkt_used (PMT_pkt pmtExample) ≤ 188 := by
  decide +kernel

/-- … and for the boundary case of the quantifier: 0 descriptors and 0 streams, behind adaptation stuffing -/
example :
    let s : PMT :=
      { PMT.fresh with
        pkt := { Pkt.fresh with adaption_ctrl := 3, adaption_field := some { AF.fresh with length := 20 } } }
    s.descriptor_tags = [] ∧ s.streams = [] ∧ PMT_WF s ∧ s.pkt.sync = 0x47 ∧
    (s.pkt.adaption_ctrl = 1 ∨ s.pkt.adaption_ctrl = 3) ∧ Pkt_used (PMT_pkt s) ≤ 188 := by
  decide +kernel

/-- what `hafc` excludes (E6): a FRESH `MPEGPacketPMT()` has adaptation control 0; it is well formed and packs, but its
    own encoding cannot be decoded (`struct.error`: no payload is decoded with control 0) -/
example : PMT_WF PMT.fresh ∧ PMT.fresh.pkt.adaption_ctrl = 0 ∧
    (match (PMT.unpack PMT.fresh (Pkt_bytes (PMT_pkt PMT.fresh))).2 with | .error .struct => true | _ => false) = true := by
  decide +kernel

end Acra.Props.C06
