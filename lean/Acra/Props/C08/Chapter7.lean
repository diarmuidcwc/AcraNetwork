/-
  C08 — the decoders of the golay7 family are total.
  PTDP.unpack, PTFR.unpack and Golay.decode have no loops; `get_aligned_payload` is a `while` loop
  ended only by a PTDP exception (or a struct.error on the continuation byte): the model gives it
  fuel `len(payload) + len(remainder) + 2` and the fuel never runs out, for ANY frame object,
  remainder and flag.  Work bound: at most that many tuples are yielded.
  (`datapkts_to_ptfr` with `ptfr_len = 0` never terminates; frame lengths start at 1 in C10 and the
  encoder is not a decoder, so that is shown in Props/C10/Termination.lean — the example at its end — not here.)
-/
import Acra.Lemmas.Chapter7Gap
namespace Acra.Props.C08
open Acra.Py Acra.Model Acra.Model.Chapter7 Acra.Lemmas.Chapter7 Acra.Lemmas.Golay Acra.Lemmas

theorem Golay_decode_total (v : Nat) : ∃ r, Golay.decodeInt v = .ok r := decodeInt_ok v

/-- decode of a byte string raises only for a length other than 3 -/
theorem Golay_decode_bytes_total (b : Bytes) :
    (∃ r, Golay.decodeBytes b = .ok r) ∨ Golay.decodeBytes b = .error .generic := by
  by_cases h : b.length = 3
  · left; exact ⟨_, decodeBytes_gval b h⟩
  · right; exact decodeBytes_bad b h

theorem PTDP_unpack_total (t : PTDP.State) (b : Bytes) :
    (∃ rest, (PTDP.unpack t b).2 = .ok rest) ∨ (PTDP.unpack t b).2 = .error .ptdpRemaining ∨
    (PTDP.unpack t b).2 = .error .ptdpLength := ptdp_unpack_total t b

/-- a successful PTDP.unpack consumes at least its 6 header bytes: the progress fact behind the loop -/
theorem PTDP_unpack_progress (t p : PTDP.State) (b rest : Bytes) (h : PTDP.unpack t b = (p, .ok rest)) :
    rest.length + 6 ≤ b.length := (ptdp_unpack_ok_len t p b rest h).1

theorem PTFR_unpack_total (t : PTFR.State) (b : Bytes) :
    (PTFR.unpack t b).2 = .ok () ∨ (PTFR.unpack t b).2 = .error .struct ∨
    (PTFR.unpack t b).2 = .error .generic := by
  rw [PTFR_decodes.snd_eq, ptfrRun]
  split
  · exact .inl rfl
  · split
    · exact .inr (.inl rfl)
    · exact .inr (.inr rfl)

theorem gap_fuel_sufficient (self : PTFR.State) (first : Bool) (rem : Option Bytes) :
    (getAlignedPayload self first rem).raised ≠ some .fuel := gap_fuel self first rem

/-- work bound: one yielded tuple per iteration, at most `len(payload) + len(remainder) + 2` of them -/
theorem gap_items_le (self : PTFR.State) (first : Bool) (rem : Option Bytes) :
    (getAlignedPayload self first rem).items.length ≤ self.payload.length + (rem.getD []).length + 2 := by
  refine Nat.le_trans (gap_items_stride self first rem) ?_
  split <;> omega

/-- the consumer loop makes one `get_aligned_payload` call per frame: it stops after the last frame
    (the model is a fold over the list of frames) and never reports fuel -/
theorem decap_no_fuel (L : Nat) (frames : List Bytes) (st : DecSt) : (decFold L frames st).2 ≠ some .fuel := by
  induction frames generalizing st with
  | nil => exact nofun
  | cons f fs ih =>
    unfold decFold
    have hf := decStep_no_fuel L st f
    cases hs : decStep L st f with
    | mk st' e =>
      rw [hs] at hf
      cases e with
      | none => exact ih st'
      | some e => exact hf

/-- example for `PTDP_unpack_progress` (hypothesis `PTDP.unpack t b = (p, .ok rest)`): a PTDP with a
    3-byte payload followed by two more bytes, decoded into an object in a non-trivial prior state -/
example : ∃ b p rest, PTDP.unpack { PTDP.fresh with payload := [7], content := 2 } b = (p, .ok rest) ∧
    p.payload = [1, 2, 3] ∧ rest = [9, 9] ∧ rest.length + 6 ≤ b.length :=
  ⟨_, _, _, ptdp_unpack_clean { PTDP.fresh with payload := [1, 2, 3], fragment := 1, content := 4 }
      { PTDP.fresh with payload := [7], content := 2 } ⟨by decide, by decide, by decide⟩ [9, 9], rfl, rfl,
    by rw [List.length_append, encB_length]; decide⟩

/-- both error outcomes of `PTDP_unpack_total` occur: fewer than 6 bytes is "remaining data" -/
example : (PTDP.unpack PTDP.fresh [17, 4, 211]).2 = .error .ptdpRemaining := by
  rw [ptdp_unpack_short _ _ (by decide)]
/-- hidden fuel: the model of Python's `bin()` inside `Golay._onesincode` (`Golay.binDigitsAux`) returns its
    accumulator SILENTLY when the fuel is used up (no `Err.fuel`).  One binary digit is consumed per step, so the fuel
    `n + 1` that `binDigits` passes always suffices: any larger fuel gives the same digits. -/
theorem binDigitsAux_fuel (n : Nat) : ∀ f acc, n ≤ f → Golay.binDigitsAux f n acc = Golay.binDigitsAux n n acc :=
  -- the loop goes on with `n / 2`: `fuel_stable` at the function of the accumulator
  fun f acc hf => congrFun (fuel_stable Golay.binDigitsAux (fun n g acc => g (((n + 1) % 2 == 1) :: acc)) 2 (by decide)
    (fun f => by cases f <;> rfl) (fun f n => by funext acc; simp only [Golay.binDigitsAux, Nat.succ_ne_zero, if_false]) n f hf) acc

theorem binDigits_fuel_sufficient (n f : Nat) (acc : List Bool) (hf : n + 1 ≤ f) :
    Golay.binDigitsAux f n acc = Golay.binDigitsAux (n + 1) n acc := by
  rw [binDigitsAux_fuel n f acc (by omega), binDigitsAux_fuel n (n + 1) acc (by omega)]

example : Golay.binDigits 0b101101 = [true, false, true, true, false, true] := by decide
end Acra.Props.C08
