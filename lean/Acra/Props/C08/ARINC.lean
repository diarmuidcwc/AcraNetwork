import Acra.Lemmas.Ch11ARINC
namespace Acra.Props.C08
open Acra.Py Acra.Model.Ch11Pay Acra.Model.Ch11Pay.ARINC Acra.Gen.Ch11ARINC Acra.Lemmas.Ch11ARINC Acra.Lemmas

/-! ### the element decoder has no loop and no fuel in its model, so `≠ .error .fuel` holds by construction; what
    C08 says about it is which ordinary exceptions can occur -/

theorem ARINCWord_unpack_outcomes (t : Word) (buf : Bytes) :
    (Word.unpack t buf).2 = .ok () ∨ (Word.unpack t buf).2 = .error .struct :=
  Word_decodes.len_outcomes t buf

theorem ARINCWord_unpack_total (t : Word) (buf : Bytes) : (Word.unpack t buf).2 ≠ .error .fuel := by
  rcases ARINCWord_unpack_outcomes t buf with h | h <;> rw [h] <;> simp

/-- the `for` loop of ARINC429DataPacket.unpack has no fuel in the model, so the explicit count IS the
    C08 content: an accepted buffer yields exactly `(|buf| − 4) / 8` words, equal to the declared count -/
theorem ARINC_items_eq (t : Packet) (buf : Bytes) (h : (Packet.unpack t buf).2 = .ok ()) :
    (Packet.unpack t buf).1.arincwords.length = (buf.length - 4) / 8 ∧
    (Packet.unpack t buf).1.msgcount = (buf.length - 4) / 8 ∧ 4 ≤ buf.length := by
  obtain ⟨h4, hc, e⟩ := (packetRun_ok_iff _ _).1 (Packet_decodes.of_ok h)
  rw [(Prod.mk.inj e).1]
  exact ⟨wordsAt_length _ _ _, hc, h4⟩

/-- `ARINC429DataPacket.unpack` has a `for` loop over `(len-4)//8` slices: it returns or raises an
    ordinary exception on every buffer (the number of words it returns: `ARINC_items_le`) -/
theorem ARINC_unpack_total (t : Packet) (buf : Bytes) : (Packet.unpack t buf).2 ≠ .error .fuel := by
  intro h
  rcases packetRun_error buf _ ((Packet_decodes.error_iff t buf _).1 h) with h | h <;> cases h

theorem ARINC_items_le (t : Packet) (buf : Bytes) (h : (Packet.unpack t buf).2 = .ok ()) :
    (Packet.unpack t buf).1.arincwords.length ≤ buf.length / 8 := by
  rw [(ARINC_items_eq t buf h).1]
  omega

/-- witness: two ARINC-429 words -/
def wARINC : Bytes := [2, 0, 0, 0,  14, 16, 160, 200, 1, 2, 3, 4,  255, 255, 79, 255, 9, 8, 7, 6]
example : (Packet.unpack Packet.fresh wARINC).2 = .ok () ∧ (Packet.unpack Packet.fresh wARINC).1.arincwords.length = 2 :=
  ⟨by rfl, by rfl⟩
end Acra.Props.C08
