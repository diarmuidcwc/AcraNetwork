/-
  C08 for the `search` family: the search helpers and the SAM/DEC decommutator terminate.
  Every `while` loop of the models carries fuel; the theorems say the fuel the model starts with
  (text length + 1, `j + 1`, file length + 1, payload length + 2) is never exhausted — for *arbitrary*
  input bytes in the case of the decommutator, for every non-empty pattern in the case of the search
  helpers (Horspool with an empty pattern on a non-empty text does not terminate: see Props/C17/Horspool).
-/
import Acra.Lemmas.KMP
import Acra.Lemmas.Swap
import Acra.Lemmas.SamDecTotal
namespace Acra.Props.C08
open Acra.Py Acra.Model.Search Acra.Model.SamDec Acra.Gen.SamDec Acra.Spec Acra.Lemmas.SamDec

theorem BMH_total (text pat : Bytes) (hp : pat ≠ []) : ∃ r, bmh text pat = .ok r :=
  ⟨_, Acra.Lemmas.Search.bmh_eq_occ text pat hp⟩

theorem KMP_total (t p : Bytes) (hp : p ≠ []) : ∃ r, kmpSearch t p = .ok r :=
  ⟨_, Acra.Lemmas.KMP.kmpSearch_eq_occ t p hp⟩

/-- `endianness_swap` is loop-free: it returns bytes or raises Exception / ZeroDivisionError -/
theorem swap_total (b : Bytes) (n : Int) :
    (∃ r, endiannessSwap b n = .ok r) ∨ endiannessSwap b n = .error .generic ∨ endiannessSwap b n = .error .zeroDiv := by
  rw [Acra.Lemmas.Swap.endiannessSwap_eq]
  split
  · exact Or.inr (Or.inr rfl)
  · split
    · exact Or.inl ⟨_, rfl⟩
    · exact Or.inr (Or.inl rfl)

/-- termination and work bound of the record iteration on any byte string: at most one record per 16 bytes -/
theorem pcapRecords_total (file : Bytes) :
    pcapRecords file ≠ .error .fuel ∧
    ∀ recs, pcapRecords file = .ok recs →
      (recs.map fun r => r.length + 16).sum ≤ file.length - 24 ∧ 16 * recs.length ≤ file.length - 24 :=
  ⟨decOff_fuel_sufficient pcapRec pcapMore file pcapRec_progress _ _ (by omega),
   fun recs h => by
    have hw := pcapRecords_weight file recs h
    have := sum_add_const recs 16 ▸ hw
    exact ⟨hw, by omega⟩⟩

/-- `list(SamDecPcap(file).frames())` terminates for every file: the iteration ends normally or with an
    exception, never by exhausting the fuel of a loop -/
theorem decom_total (file : Bytes) : (decom file).2 ≠ some .fuel := by
  rw [decom_eq, getData_eq]
  by_cases hl : 24 ≤ file.length
  · rw [if_pos hl]
    cases h : pcapRecords file with
    | error e => exact fun he => (pcapRecords_total file).1 (h.trans (congrArg _ (Option.some.inj he)))
    | ok recs => exact framesLoop_no_fuel _ none (Or.inl rfl)
  · rw [if_neg hl]
    nofun


-- `BMH_total` / `KMP_total` (hypothesis: non-empty pattern), overlapping occurrences
example : ([1, 2, 1] : Bytes) ≠ [] ∧ bmh [1, 2, 1, 2, 1, 3] [1, 2, 1] = .ok [0, 2] ∧
    kmpSearch [1, 2, 1, 2, 1, 3] [1, 2, 1] = .ok [0, 2] := ⟨by decide, by rfl, by rfl⟩
/-- the excluded input: Horspool with an EMPTY pattern on a non-empty text exhausts the fuel (the real code never
    returns); KMP raises IndexError -/
example : bmh [1, 2, 3] [] = .error .fuel ∧ kmpSearch [1, 2, 3] [] = .error .index := ⟨by rfl, by rfl⟩
-- `pcapRecords_total` (inner hypothesis `pcapRecords file = .ok recs`): a global header and two records
example : (pcapRecords (List.replicate 24 0 ++ [0, 0, 0, 0, 0, 0, 0, 0, 2, 0, 0, 0, 2, 0, 0, 0, 7, 8] ++
    [0, 0, 0, 0, 0, 0, 0, 0, 0, 0, 0, 0, 0, 0, 0, 0])).map List.length = .ok 2 := by rfl
end Acra.Props.C08
