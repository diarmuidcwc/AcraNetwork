import Acra.Lemmas.Ch11Misc
import Acra.Lemmas.Ch11TimeFmt
namespace Acra.Props.C08
open Acra.Py Acra.Model.Ch11Pay Acra.Lemmas.Ch11Misc Acra.Lemmas.Ch11TimeFmt

/-!
  The five decoders of this file have NO loop and NO fuel parameter in their models (Model/Ch11Misc.lean, the `unpack`
  functions of Model/Ch11TimeFmt.lean), so `≠ .error .fuel` below holds by construction of the model and carries no information.  What C08 says about them is "returns or raises
  an ordinary exception": the outcome lists, from which the `_total` theorems are read off. -/

theorem Analog_unpack_outcomes (t : Analog.State) (buf : Bytes) :
    (Analog.unpack t buf).2 = .ok () ∨ (Analog.unpack t buf).2 = .error .struct :=
  Analog_decodes.len_outcomes t buf

theorem Analog_unpack_ok_iff (t : Analog.State) (buf : Bytes) :
    (Analog.unpack t buf).2 = .ok () ↔ 4 ≤ buf.length :=
  Analog_decodes.len_ok_iff t buf

theorem CG0_unpack_outcomes (t : Computer.State0) (buf : Bytes) :
    (Computer.State0.unpack t buf).2 = .ok () ∨ (Computer.State0.unpack t buf).2 = .error .struct :=
  CG0_decodes.len_outcomes t buf

theorem CG1_unpack_outcomes (t : Computer.State1) (buf : Bytes) :
    (Computer.State1.unpack t buf).2 = .ok () ∨ (Computer.State1.unpack t buf).2 = .error .struct :=
  CG1_decodes.len_outcomes t buf

theorem TDF1_unpack_outcomes (t : TimeFmt.State1) (buf : Bytes) :
    (TimeFmt.State1.unpack t buf).2 = .ok () ∨ (TimeFmt.State1.unpack t buf).2 = .error .struct ∨
    (TimeFmt.State1.unpack t buf).2 = .error .value := by
  rw [TDF1_decodes.snd_eq, tdf1Run]
  split
  · exact .inr (.inl rfl)
  · simp only []
    split
    all_goals
      split
      · exact .inr (.inl rfl)
      · split
        · exact .inl rfl
        · exact .inr (.inr rfl)

theorem TDF2_unpack_outcomes (fl : Rat → Rat) (t : TimeFmt.State2) (buf : Bytes) :
    (TimeFmt.State2.unpackWith fl t buf).2 = .ok () ∨ (TimeFmt.State2.unpackWith fl t buf).2 = .error .struct := by
  rw [(TDF2_decodes fl).snd_eq, tdf2Run]
  split
  · exact .inl rfl
  · exact .inr rfl

/-- the loop-free decoders: one `struct.unpack_from`, a slice, bit arithmetic — total on every buffer -/
theorem Analog_unpack_total (t : Analog.State) (buf : Bytes) : (Analog.unpack t buf).2 ≠ .error .fuel := by
  rcases Analog_unpack_outcomes t buf with h | h <;> simp [h]

theorem CG0_unpack_total (t : Computer.State0) (buf : Bytes) : (Computer.State0.unpack t buf).2 ≠ .error .fuel := by
  rcases CG0_unpack_outcomes t buf with h | h <;> simp [h]

theorem CG1_unpack_total (t : Computer.State1) (buf : Bytes) : (Computer.State1.unpack t buf).2 ≠ .error .fuel := by
  rcases CG1_unpack_outcomes t buf with h | h <;> simp [h]

theorem TDF1_unpack_total (t : TimeFmt.State1) (buf : Bytes) : (TimeFmt.State1.unpack t buf).2 ≠ .error .fuel := by
  rcases TDF1_unpack_outcomes t buf with h | h | h <;> simp [h]

theorem TDF2_unpack_total (fl : Rat → Rat) (t : TimeFmt.State2) (buf : Bytes) :
    (TimeFmt.State2.unpackWith fl t buf).2 ≠ .error .fuel := by
  rcases TDF2_unpack_outcomes fl t buf with h | h <;> simp [h]

/-- `bcd_to_int` consumes one nibble per step: the fuel `v` the model gives it suffices for every `v`
    (a value with k nibbles is at least 16^(k-1) ≥ k) — the result does not change with more fuel -/
theorem bcdToIntF_fuel (v : Nat) : ∀ f, v ≤ f → TimeFmt.bcdToIntF f v = TimeFmt.bcdToIntF v v :=
  fuel_stable TimeFmt.bcdToIntF (fun v r => r * (if 10 ≤ (v + 1) % 16 then 100 else 10) + (v + 1) % 16) 16 (by decide)
    (fun f => by cases f <;> rfl) (fun f v => by simp only [TimeFmt.bcdToIntF, Nat.succ_ne_zero, if_false]) v

/-- `TDF2_unpack_outcomes` is about `unpackWith fl` for every rounding function; the driver's `State2.unpack` is the
    instance `fl = Float.rne` -/
theorem TDF2_unpack_driver_outcomes (t : TimeFmt.State2) (buf : Bytes) :
    (TimeFmt.State2.unpack t buf).2 = .ok () ∨ (TimeFmt.State2.unpack t buf).2 = .error .struct :=
  TDF2_unpack_outcomes _ t buf

-- `bcdToIntF_fuel` (hypothesis `v ≤ f`): 0x1234 with more fuel than digits gives the same value as with fuel `v`
example : (0x1234 : Nat) ≤ 5000 ∧ TimeFmt.bcdToIntF 5000 0x1234 = 1234 ∧ TimeFmt.bcdToInt 0x1234 = 1234 := by decide +kernel
end Acra.Props.C08
