/-
  C08 for the ch10 family.  The codec decoders (Chapter10UDP, Chapter11, PTPTime, RTCTime, the checksum
  helpers) are straight-line: no loop, no fuel parameter; on any bytes they return or raise one of the listed
  ordinary exceptions.  `FileParser.next` has the one data-dependent loop (the byte-wise sync search): fuel
  `|file| − offset + 2` always suffices, iteration over ANY file contents stops and yields no more items than
  the file has bytes, none empty (a sync word followed by length 0 is not in sync: FileParser.py, `pkt_len > 0`).
-/
import Acra.Lemmas.Ch11
import Acra.Lemmas.Ch10UDP
import Acra.Lemmas.Ch10File
namespace Acra.Props.C08
open Acra.Py Acra

theorem udp_unpack_total (t : Model.Ch10UDP.State) (buf : Bytes) :
    (Model.Ch10UDP.unpack t buf).2 = .ok () ∨ (Model.Ch10UDP.unpack t buf).2 = .error .struct ∨
    (Model.Ch10UDP.unpack t buf).2 = .error .generic := by
  rw [Lemmas.Ch10UDP.unpack_snd]
  exact Lemmas.Ch10UDP.verdict_cases buf

theorem ch11_unpack_total (t : Model.Ch11.State) (buf : Bytes) :
    (Model.Ch11.unpack t buf).2 = .ok () ∨ (Model.Ch11.unpack t buf).2 = .error .struct ∨
    (Model.Ch11.unpack t buf).2 = .error .generic := by
  rw [Lemmas.Ch11.unpack_snd]
  exact Lemmas.Ch11.verdict_cases buf

theorem ptp_unpack_total (buf : Bytes) :
    (∃ t, Model.Ch11.PTP.unpack buf = .ok t) ∨ Model.Ch11.PTP.unpack buf = .error .struct := by
  rw [Lemmas.Ch11.PTP_unpack_eq]
  by_cases h : buf.length = 8
  · rw [if_pos h]; exact .inl ⟨_, rfl⟩
  · rw [if_neg h]; exact .inr rfl

theorem rtc_unpack_total (buf : Bytes) :
    (∃ c, Model.Ch11.rtcUnpack buf = .ok c) ∨ Model.Ch11.rtcUnpack buf = .error .struct := by
  rw [Lemmas.Ch11.rtcUnpack_eq]
  by_cases h : buf.length = 8
  · rw [if_pos h]; exact .inl ⟨_, rfl⟩
  · rw [if_neg h]; exact .inr rfl

/-- the checksum helpers on any bytes: a value, or the documented exception (odd length), or `TypeError`
    (empty buffer: `reduce` of an empty sequence) -/
theorem checksum_helpers_total (buf : Bytes) :
    (buf.length % 2 = 1 → Model.Ch11.getChecksumBuf buf = .error .generic) ∧
    (buf = [] → Model.Ch11.getChecksumBuf buf = .error .type ∧ Model.Ch11.getChecksumByteBuf buf = .error .type) ∧
    (buf ≠ [] → Model.Ch11.getChecksumByteBuf buf = .ok (Spec.Ch11.secChecksum buf)) ∧
    (buf ≠ [] → buf.length % 2 = 0 → Model.Ch11.getChecksumBuf buf = .ok (Spec.Ch11.hdrChecksum buf)) := by
  refine ⟨fun h => by simp [Model.Ch11.getChecksumBuf, h], fun h => by subst h; exact ⟨by decide, by decide⟩, ?_, ?_⟩
  · intro h
    exact Lemmas.Ch10.getChecksumByteBuf_eq buf (List.length_pos_iff.mpr h)
  · intro h he
    exact Lemmas.Ch10.getChecksumBuf_eq buf he (List.length_pos_iff.mpr h)

/-- the sync search of `FileParser.next` never runs out of fuel, at any offset of any file -/
theorem fileparser_next_fuel_sufficient (data : Bytes) (off : Nat) :
    ∃ st, Model.Ch10File.nextFuel data (data.length - off + 2) off = .ok st :=
  Lemmas.Ch10File.next_total data off

/-- a returned packet is non-empty and `_offset` moves past it, staying inside the file -/
theorem fileparser_next_progress (data : Bytes) (off o : Nat) (p : Bytes)
    (h : Model.Ch10File.next data off = .ok (o, some p)) :
    0 < p.length ∧ off + p.length ≤ o ∧ o ≤ data.length := Lemmas.Ch10File.next_some data off o p h

/-- iterating ANY file contents stops (fuel `|file| + 1` suffices) and yields at
    most `|file|` items, none of them empty -/
theorem fileparser_items_le_bytes (data : Bytes) :
    ∃ ps o, Model.Ch10File.iterate data = .ok (ps, o) ∧ ps.length ≤ data.length ∧ ∀ p ∈ ps, 0 < p.length := by
  have := Lemmas.Ch10File.iterFuel_total data (data.length + 1) 0 (by omega)
  simpa [Model.Ch10File.iterate] using this

/-- the file `25 EB 00 00 00 00 00 00` (sync word, zero length) yields nothing and stops (DESIGN §6 D11) -/
theorem fileparser_zero_length_stops :
    Model.Ch10File.iterate [0x25, 0xEB, 0, 0, 0, 0, 0, 0] = .ok ([], 1) := by decide +kernel

/-- the driver iterates from the object's CURRENT offset, not only from 0: from ANY
    offset of ANY file the iteration stops and yields at most one item per remaining byte, none empty -/
theorem fileparser_items_le_bytes_from (data : Bytes) (off : Nat) :
    ∃ ps o, Model.Ch10File.iterate data off = .ok (ps, o) ∧ ps.length ≤ data.length - off ∧
      ∀ p ∈ ps, 0 < p.length := by
  have := Lemmas.Ch10File.iterFuel_total data (data.length + 1) off (by omega)
  simpa [Model.Ch10File.iterate] using this

/-- witness file: 3 junk bytes (one of them half a sync word), a 12-byte packet, a sync word with a zero
    length field (skipped), a 9-byte packet, 2 trailing bytes -/
def wCh10File : Bytes :=
  [0x25, 7, 0xEB,  0x25, 0xEB, 1, 0, 12, 0, 0, 0, 0xA, 0xB, 0xC, 0xD,  0x25, 0xEB, 0, 0, 0, 0, 0, 0,
   0x25, 0xEB, 2, 0, 9, 0, 0, 0, 0xE,  5, 6]

example : Model.Ch10File.next wCh10File 0 = .ok (15, some [0x25, 0xEB, 1, 0, 12, 0, 0, 0, 0xA, 0xB, 0xC, 0xD]) := by decide +kernel
example : Model.Ch10File.iterate wCh10File =
    .ok ([[0x25, 0xEB, 1, 0, 12, 0, 0, 0, 0xA, 0xB, 0xC, 0xD], [0x25, 0xEB, 2, 0, 9, 0, 0, 0, 0xE]], 32) := by decide +kernel
example : Model.Ch10File.iterate wCh10File 16 = .ok ([[0x25, 0xEB, 2, 0, 9, 0, 0, 0, 0xE]], 32) := by decide +kernel
/-- a length field pointing past the end of the file: the item is dropped and iteration stops -/
example : Model.Ch10File.iterate [0x25, 0xEB, 1, 0, 200, 0, 0, 0, 1, 2, 3] = .ok ([], 200) := by decide +kernel
-- the four cases of `checksum_helpers_total` all occur
example : Model.Ch11.getChecksumBuf [1, 2, 3] = .error .generic ∧ Model.Ch11.getChecksumBuf [] = .error .type ∧
    (Model.Ch11.getChecksumByteBuf [1, 2, 3]).isOk = true ∧ (Model.Ch11.getChecksumBuf [1, 2, 3, 4]).isOk = true := by
  decide +kernel
end Acra.Props.C08
