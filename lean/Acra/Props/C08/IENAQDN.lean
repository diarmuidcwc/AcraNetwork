import Acra.Lemmas.IENAQDN
import Acra.Props.C08.IENA
namespace Acra.Props.C08
open Acra.Py Acra.Model.IENA Acra.Gen.IENA Acra.Lemmas.IENA

theorem decQ_progress : Progress decQ := by
  exact decQ_eq ▸ qRec.progress

/-- the per-iteration bound, stated: an accepted IENA-Q parameter advances the offset by the 4-byte
    header (the format `>HH`; IENA-M's `>HHH` has 6) + dataset + pad byte -/
theorem decQ_advance_ge (b : Bytes) (p : QParam) (n : Nat) (h : decQ b = .ok (p, n)) :
    4 ≤ n ∧ n = 4 + p.dataset.length + p.dataset.length % 2 ∧ 4 + p.dataset.length ≤ b.length := by
  rw [decQ_eq] at h
  obtain ⟨rfl, rfl, hle⟩ := lpRec_ok h
  rw [mkQ_dataset_length b hle]
  exact ⟨by omega, rfl, hle⟩

example : decQ [0, 1, 0, 3, 0xAA, 0xBB, 0xCC, 0, 9, 9] = .ok (⟨1, [0xAA, 0xBB, 0xCC]⟩, 8) := by rfl

/-- `IENAQ.unpack` terminates on every buffer: the fuel the model gives the loop (payload length + 1)
    is never exhausted -/
theorem IENAQ_unpack_total (t : QState) (buf : Bytes) : (QState.unpack t buf).2 ≠ .error .fuel := by
  intro h
  rcases loopLP_error IENAQ_decodes h with h | h | h <;> cases h

/-- work bound: at most one parameter per byte of payload -/
theorem IENAQ_items_le (t : QState) (buf : Bytes) (h : (QState.unpack t buf).2 = .ok ()) :
    (QState.unpack t buf).1.parameters.length ≤ (QState.unpack t buf).1.base.payload.length := by
  obtain ⟨ps, he, _, hle, _⟩ := loopLP_ok IENAQ_decodes h
  rw [he]
  exact hle

/-- witness: IENA-Q packet with two parameters -/
def wIENAQ : Bytes :=
  [0, 1, 0, 14, 0, 0, 0, 0, 0, 0, 0, 0, 0, 0,  0, 1, 0, 3, 0xAA, 0xBB, 0xCC, 0,  0, 3, 0, 0,  0xDE, 0xAD]

example : (QState.unpack QState.fresh wIENAQ).2 = .ok () ∧
    (QState.unpack QState.fresh wIENAQ).1.parameters = [⟨1, [0xAA, 0xBB, 0xCC]⟩, ⟨3, []⟩] := ⟨by rfl, by rfl⟩

/-- work bound with the real stride, relative to the input length -/
theorem IENAQ_items_stride (t : QState) (buf : Bytes) (h : (QState.unpack t buf).2 = .ok ()) :
    (QState.unpack t buf).1.parameters.length * 4 ≤ (buf.length - 16) + 3 := by
  obtain ⟨ps, he, _, _, hs, _⟩ := loopLP_ok IENAQ_decodes h
  rw [he]
  exact hs

/-- the only exception of one IENA-D parameter step is the `IndexError` of a read past the end -/
theorem decD1_error (dwc : Nat) (payload : Bytes) (off : Nat) (e : Err) (h : decD1 dwc payload off = .error e) :
    e = .index := by
  rw [decD1_closed] at h
  split at h
  · cases h
  · exact (Except.error.inj h).symm

theorem decDAll_nofuel (dwc : Nat) (payload : Bytes) (l : List Nat) : decDAll dwc payload l ≠ .error .fuel := by
  intro h
  rw [decDAll_eq] at h
  obtain ⟨i, _, hi⟩ := Lemmas.mapR_error _ _ _ h
  cases decD1_error _ _ _ _ hi

theorem decDAll_length (dwc : Nat) (payload : Bytes) (l : List Nat) (ps : List DParam)
    (h : decDAll dwc payload l = .ok ps) : ps.length = l.length := by
  rw [decDAll_eq] at h
  exact Lemmas.mapR_length _ _ _ h

theorem IENAD_unpack_total (t : DState) (buf : Bytes) : (DState.unpack t buf).2 ≠ .error .fuel := by
  intro h
  rcases loopFix_error IENAD_decodes h with h | h <;> cases h

/-- work bound: the number of parameters returned is `|payload| / (2n + 4)`, at most one per byte -/
theorem IENAD_items_le (t : DState) (buf : Bytes) (h : (DState.unpack t buf).2 = .ok ()) :
    (DState.unpack t buf).1.parameters.length ≤ (DState.unpack t buf).1.base.payload.length := by
  obtain ⟨ps, he, _, hm, _⟩ := loopFix_ok IENAD_decodes h
  rw [he]
  exact hm ▸ Nat.le_mul_of_pos_right _ (by omega)

/-- witness: IENA-D packet, `keystatus & 7 = 1` (6 bytes per parameter), two parameters -/
def wIENAD : Bytes :=
  [0, 1, 0, 14, 0, 0, 0, 0, 0, 0, 1, 0, 0, 0,  0, 1, 0, 2, 0, 3,  0, 4, 0, 5, 0, 6,  0xDE, 0xAD]

example : (DState.unpack DState.fresh wIENAD).2 = .ok () ∧
    (DState.unpack DState.fresh wIENAD).1.parameters = [⟨1, 2, [3]⟩, ⟨4, 5, [6]⟩] := ⟨by rfl, by rfl⟩

example : decDAll 1 [0, 1, 0, 2, 0, 3] [0] = .ok [⟨1, 2, [3]⟩] := by rfl   -- hypothesis of `decDAll_length`
example : decD1 1 [0, 1, 0, 2, 0] 0 = .error .index := by rfl               -- hypothesis of `decD1_error`

/-- the exact count (the `for` loop has no fuel, so the explicit bound is the whole content of C08
    here): an accepted IENA-D packet has exactly `|payload| / (2n+4)` parameters, `n = keystatus & 7`, and
    the payload is a whole number of them — so at most `|payload| / 4 = (|buf| − 16)/4` parameters -/
theorem IENAD_items_eq (t : DState) (buf : Bytes) (h : (DState.unpack t buf).2 = .ok ()) :
    (DState.unpack t buf).1.parameters.length * (((DState.unpack t buf).1.base.keystatus &&& 0x7) * 2 + 4) =
      (DState.unpack t buf).1.base.payload.length ∧
    (DState.unpack t buf).1.base.payload.length = buf.length - 16 := by
  obtain ⟨ps, he, hlen, hm, _⟩ := loopFix_ok IENAD_decodes h
  rw [he]
  exact ⟨by rw [Lemmas.Bits.and_7, Nat.mul_comm _ 2]; exact hm, hlen⟩

theorem decN1_error (dwc : Nat) (payload : Bytes) (off : Nat) (e : Err) (h : decN1 dwc payload off = .error e) :
    e = .index := by
  rw [decN1_closed] at h
  split at h
  · cases h
  · exact (Except.error.inj h).symm

theorem decNAll_nofuel (dwc : Nat) (payload : Bytes) (l : List Nat) : decNAll dwc payload l ≠ .error .fuel := by
  intro h
  rw [decNAll_eq] at h
  obtain ⟨i, _, hi⟩ := Lemmas.mapR_error _ _ _ h
  cases decN1_error _ _ _ _ hi

theorem decNAll_length (dwc : Nat) (payload : Bytes) (l : List Nat) (ps : List NParam)
    (h : decNAll dwc payload l = .ok ps) : ps.length = l.length := by
  rw [decNAll_eq] at h
  exact Lemmas.mapR_length _ _ _ h

theorem IENAN_unpack_total (t : NState) (buf : Bytes) : (NState.unpack t buf).2 ≠ .error .fuel := by
  intro h
  rcases loopFix_error IENAN_decodes h with h | h <;> cases h

theorem IENAN_items_le (t : NState) (buf : Bytes) (h : (NState.unpack t buf).2 = .ok ()) :
    (NState.unpack t buf).1.parameters.length ≤ (NState.unpack t buf).1.base.payload.length := by
  obtain ⟨ps, he, _, hm, _⟩ := loopFix_ok IENAN_decodes h
  rw [he]
  exact hm ▸ Nat.le_mul_of_pos_right _ (by omega)

/-- witness: IENA-N packet, `keystatus & 7 = 1` (4 bytes per parameter), three parameters -/
def wIENAN : Bytes :=
  [0, 1, 0, 14, 0, 0, 0, 0, 0, 0, 1, 0, 0, 0,  0, 1, 0, 2,  0, 3, 0, 4,  0, 5, 0, 6,  0xDE, 0xAD]

example : (NState.unpack NState.fresh wIENAN).2 = .ok () ∧
    (NState.unpack NState.fresh wIENAN).1.parameters = [⟨1, [2]⟩, ⟨3, [4]⟩, ⟨5, [6]⟩] := ⟨by rfl, by rfl⟩

example : decNAll 1 [0, 1, 0, 2] [0] = .ok [⟨1, [2]⟩] := by rfl   -- hypothesis of `decNAll_length`
example : decN1 1 [0, 1, 0] 0 = .error .index := by rfl            -- hypothesis of `decN1_error`

/-- exact count for IENA-N: `|payload| / (2n+2)` parameters, payload a whole number of them -/
theorem IENAN_items_eq (t : NState) (buf : Bytes) (h : (NState.unpack t buf).2 = .ok ()) :
    (NState.unpack t buf).1.parameters.length * (((NState.unpack t buf).1.base.keystatus &&& 0x7) * 2 + 2) =
      (NState.unpack t buf).1.base.payload.length ∧
    (NState.unpack t buf).1.base.payload.length = buf.length - 16 := by
  obtain ⟨ps, he, hlen, hm, _⟩ := loopFix_ok IENAN_decodes h
  rw [he]
  exact ⟨by rw [Lemmas.Bits.and_7, Nat.mul_comm _ 2]; exact hm, hlen⟩

end Acra.Props.C08
