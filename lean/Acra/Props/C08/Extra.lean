import Acra.Lemmas.Extra
namespace Acra.Props.C08
open Acra.Py Acra.Model.Extra Acra.Lemmas.Extra Acra.Lemmas
open Acra.Gen.ExtraH264 Acra.Gen.ExtraADTS Acra.Gen.ExtraSEI Acra.Gen.ExtraPA Acra.Gen.ExtraNet

/-! Totality of the decoders of the `extra` family.  None of the models has a loop with a fuel parameter
    (`utf8Len` is structural recursion on the buffer; `SEI.unpack`, `ADTS.unpack`, `NAL.unpack`,
    `ARINC429.unpack` are straight-line code), so on ANY bytes and ANY prior state each returns a value or one
    of the listed ordinary exceptions. -/

/-- the signed-time part of `STANAG4609_SEI.unpack`: a value or the `ValueError` of `datetime.fromtimestamp` -/
theorem SEI_signed_total (p q a b c d e f g h i j : Nat) :
    (SEI.signed p q a b c d e f g h i j).2 = .ok () ∨ (SEI.signed p q a b c d e f g h i j).2 = .error .value := by
  unfold SEI.signed
  split
  · split
    · rename_i e he; right; rw [fromTimestampF_error _ _ he]
    · left; rfl
  · left; rfl

/-- `STANAG4609_SEI.unpack`: a value, `struct.error` (fewer than 2 bytes, or an unregistered-data payload
    shorter than 28 bytes) or `ValueError` (a signed time beyond year 9999) -/
theorem SEI_unpack_total (t : SEI) (buf : Bytes) :
    (SEI.unpack t buf).2 = .ok () ∨ (SEI.unpack t buf).2 = .error .struct ∨ (SEI.unpack t buf).2 = .error .value := by
  unfold SEI.unpack
  split
  · rename_i e h; have := structUnpack_error _ _ _ h; subst this; simp
  · split
    · split
      · rename_i e h; have := structUnpackFrom_error _ _ _ _ h; subst this; simp
      · rcases SEI_signed_total _ _ _ _ _ _ _ _ _ _ _ _ with h | h
        · left; exact h
        · right; right; exact h
    · simp

/-- fewer than two bytes: `struct.error` from the first read -/
theorem SEI_unpack_short (t : SEI) (buf : Bytes) (h : buf.length < 2) :
    (SEI.unpack t buf).2 = .error .struct := by
  have : ¬ (min 2 buf.length = 2) := by omega
  simp [SEI.unpack, structUnpack, SEI_unpack_fmt0, Fmt.size, codesSize, Code.size, this]

/-- `ADTS.unpack`: a value, `struct.error` (fewer than 7 bytes) or the bare `Exception` of the sync check -/
theorem ADTS_unpack_total (t : ADTS) (buf : Bytes) :
    (ADTS.unpack t buf).2 = .ok () ∨ (ADTS.unpack t buf).2 = .error .struct ∨ (ADTS.unpack t buf).2 = .error .generic := by
  rw [ADTS_decodes.snd_eq, adtsRun]
  split
  · simp [Except.map]
  · simp only []; split <;> simp [Except.map]

/-- the acceptance condition, exactly: at least 7 bytes, first byte 0xFF, high nibble of the second 0xF -/
theorem ADTS_accepts_iff (t : ADTS) (buf : Bytes) :
    (ADTS.unpack t buf).2 = .ok () ↔
      match buf with
      | b0 :: b1 :: _ :: _ :: _ :: _ :: _ :: _ => b0.toNat = 0xFF ∧ b1.toNat / 16 = 0xF
      | _ => False := by
  rw [ADTS_decodes.ok_iff, adtsRun]
  match buf with
  | b0 :: b1 :: b2 :: b3 :: b4 :: b5 :: b6 :: rest =>
    have h0 := b0.toNat_lt
    have h1 := b1.toNat_lt
    have e0 : decInt true (slice (b0 :: b1 :: b2 :: b3 :: b4 :: b5 :: b6 :: rest) 0 (0 + 1)) = b0.toNat := decInt_singleton b0
    have e1 : decInt true (slice (b0 :: b1 :: b2 :: b3 :: b4 :: b5 :: b6 :: rest) 1 (1 + 1)) = b1.toNat := decInt_singleton b1
    simp only [List.length_cons, e0, e1, ADTS_SYNC, Nat.shiftRight_eq_div_pow, Nat.shiftLeft_eq]
    rw [if_neg (by omega)]
    split
    · rename_i hs; exact ⟨fun ⟨_, h⟩ => (nomatch h), fun _ => absurd (by omega) hs⟩
    · rename_i hs; exact ⟨fun _ => by omega, fun _ => ⟨_, rfl⟩⟩
  | [] | [_] | [_, _] | [_, _, _] | [_, _, _, _] | [_, _, _, _, _] | [_, _, _, _, _, _] =>
    rw [if_pos (by simp)]; simp

/-- `NAL.unpack`: a value, `struct.error` (no type byte, or the SEI payload is short) or the SEI's `ValueError` -/
theorem NAL_unpack_total (t : NAL) (buf : Bytes) :
    (NAL.unpack t buf).2 = .ok () ∨ (NAL.unpack t buf).2 = .error .struct ∨ (NAL.unpack t buf).2 = .error .value := by
  unfold NAL.unpack
  split
  · rename_i e h; have := structUnpackFrom_error _ _ _ _ h; subst this; simp
  · simp only
    split
    · have := SEI_unpack_total SEI.fresh (List.drop (NAL_HEADER_LEN + 1) buf)
      split
      · rename_i e he; rw [he] at this; simpa using this
      · simp
    · simp

/-- fewer than five bytes: `struct.error` from the read of the type byte -/
theorem NAL_unpack_short (t : NAL) (buf : Bytes) (h : buf.length < 5) : (NAL.unpack t buf).2 = .error .struct := by
  unfold NAL.unpack
  rw [structUnpackFrom_flds, if_neg (by rw [NAL_HEADER_LEN]; exact Nat.not_le.2 h)]

/-- `H264.unpack` on every buffer: `True`, `UnicodeDecodeError` (a `ValueError`) or `TypeError` — and
    which of the three is decided by the UTF-8 reading of the buffer alone -/
theorem H264_unpack_result (t : H264) (buf : Bytes) :
    (H264.unpack t buf).2 =
      match utf8Len buf with
      | none => .error .value
      | some n => if n < 4 then .ok true else .error .type :=
  congrArg Prod.snd (H264_unpack_eq t buf)

theorem H264_unpack_total (t : H264) (buf : Bytes) :
    (H264.unpack t buf).2 = .ok true ∨ (H264.unpack t buf).2 = .error .value ∨ (H264.unpack t buf).2 = .error .type := by
  rw [H264_unpack_result]
  cases utf8Len buf with
  | none => simp
  | some n => by_cases h : n < 4 <;> simp [h]

/-- no buffer is ever decoded into a NAL: whatever the object held, it holds the empty list afterwards
    (`self.nals = []` is the first statement, and the loop over the offsets never runs) -/
theorem H264_unpack_never_decodes (t : H264) (buf : Bytes) : (H264.unpack t buf).1 = H264.fresh :=
  congrArg Prod.fst (H264_unpack_eq t buf)

/-- `utf8Len` counts at most one character per byte (the work bound of the decode step) -/
theorem H264_utf8_chars_le (buf : Bytes) (n : Nat) (h : utf8Len buf = some n) : n ≤ buf.length :=
  utf8Len_le buf n h

/-- `ParserAligned.ARINC429.unpack`: a value or the `ValueError` of the length check; the label table has
    an entry for every byte value, so the `IndexError` branch of the model is dead -/
theorem PA429_unpack_total (t : A429) (buf : Bytes) :
    (A429.unpack t buf).2 = .ok () ∨ (A429.unpack t buf).2 = .error .value := by
  rw [A429_decodes.snd_eq]; unfold a429Run
  split <;> simp [Except.map]

/-- the length check is the only one: exactly the four-byte buffers are accepted -/
theorem PA429_accepts_iff (t : A429) (buf : Bytes) : (A429.unpack t buf).2 = .ok () ↔ buf.length = 4 := by
  rw [A429_decodes.snd_eq]; unfold a429Run
  split
  · simp [Except.map]
  · next hne =>
    refine ⟨fun h => (nomatch h), fun h => ?_⟩
    obtain ⟨b1, b2, b3, b4, rfl⟩ := len4 buf h
    exact absurd rfl (hne _ _ _ _)

/-- `IPv6.unpack` is a stub: a bare `Exception` on every input -/
theorem IPv6_unpack_total (t : IPv6) (buf : Bytes) : (IPv6.unpack t buf).2 = .error .generic := rfl

/-! non-vacuity of the hypotheses above -/
example : ([5] : Bytes).length < 2 := by decide
example : ([0, 0, 0, 1] : Bytes).length < 5 := by decide
example : utf8Len [0xC3, 0xA9, 0x61] = some 2 := by decide
example : (H264.unpack H264.fresh [0x61, 0x62, 0x63, 0x64]).2 = .error .type := by rfl
example : (H264.unpack H264.fresh [0x61, 0x62, 0x63]).2 = .ok true := by rfl
example : (H264.unpack H264.fresh [0xFF]).2 = .error .value := by rfl

end Acra.Props.C08
