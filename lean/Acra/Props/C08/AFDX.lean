import Acra.Lemmas.AFDX
namespace Acra.Props.C08
open Acra.Py Acra.Model.AFDX Acra.Gen.AFDX Acra.Lemmas.AFDX Acra.Lemmas.Net

/-! `AFDX.unpack` is a straight-line function of the buffer (no loop, no fuel parameter in the model): on any bytes,
    into an object in any state, it raises one of two ordinary exceptions — and it never returns normally. -/

theorem AFDX_unpack_outcome (t : AFDX) (buf : Bytes) :
    (AFDX.unpack t buf).2 = if buf.length < 14 then .error .struct else .error .type := by
  rw [unpack_eq]
  split
  · rw [if_pos (by omega)]
  · split <;> rfl

theorem AFDX_unpack_total (t : AFDX) (buf : Bytes) :
    (AFDX.unpack t buf).2 = .error .struct ∨ (AFDX.unpack t buf).2 = .error .type := by
  rw [AFDX_unpack_outcome]; split <;> simp

/-- OBSERVATION about the code: the decoder decodes nothing — there is no buffer and no object state on which
    `AFDX.unpack` returns normally (its last statement applies `struct.unpack` to the int `buf[-1]`) -/
theorem AFDX_unpack_never_decodes (t : AFDX) (buf : Bytes) : (AFDX.unpack t buf).2 ≠ .ok () := by
  rw [AFDX_unpack_outcome]; split <;> simp

/-- the helper `set_dstmac` alone is total as well -/
theorem AFDX_set_dstmac_total (t : AFDX) (mac : Bytes) :
    (AFDX.set_dstmac t mac).2 = .ok () ∨ (AFDX.set_dstmac t mac).2 = .error .struct := by
  rw [set_dstmac_eq]; split
  · exact .inl rfl
  · exact .inr rfl

end Acra.Props.C08
