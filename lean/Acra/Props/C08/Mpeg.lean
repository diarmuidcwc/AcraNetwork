import Acra.Model.MPEGTS
import Acra.Model.PMT
import Acra.Model.PES
import Acra.Lemmas.MpegParse
import Acra.Lemmas.MPEGTS
import Acra.Lemmas.PMTSection
namespace Acra.Props.C08
open Acra.Py Acra.Model.MPEGTS Acra.Model.PMT Acra.Model.PES

/-! Totality of the MPEG decoders: every `unpack` model is a function that, on ANY bytes and ANY prior
    state, returns a value or an ordinary exception; the loops never exhaust the fuel the model gives
    them (buffer length + 1), which is the termination half of C08. -/

/-! ### outcome lists for the straight-line decoders
  `Ext.unpack`, `AF.unpack`, `Pkt.unpack`, `PES.unpack`, `STANAG.unpack` contain no loop and their models no fuel
  (Model/MPEGTS.lean and Model/PES.lean mention `fuel` nowhere): the `… ≠ .error .fuel` theorems below hold by
  construction of the model.  The content of C08 for them is the list of ordinary exceptions. -/

/-- a value, `struct.error` or a bare `Exception` -/
abbrev okOrSG (r : R α) : Prop := (∃ a, r = .ok a) ∨ r = .error .struct ∨ r = .error .generic

theorem Ext_unpack_outcomes (t : Ext) (buf : Bytes) : okOrSG (Ext.unpack t buf).2 := by
  rw [Lemmas.MpegParse.Ext_decodes.snd_eq, Lemmas.MpegParse.extRun]
  split
  · exact .inr (.inl rfl)
  · split
    · exact .inr (.inr rfl)
    · exact .inl ⟨_, rfl⟩

theorem Ext_unpack_total (t : Ext) (buf : Bytes) : (Ext.unpack t buf).2 ≠ .error .fuel :=
  Lemmas.MpegParse.ne_fuel_of_ok_or_struct_generic (Ext_unpack_outcomes t buf)

theorem AF_unpack_outcomes (t : AF) (buf : Bytes) : okOrSG (AF.unpack t buf).2 :=
  R.ok_or_error fun _ h => .inl (Lemmas.MpegParse.AF_unpack_error h)

theorem AF_unpack_total (t : AF) (buf : Bytes) : (AF.unpack t buf).2 ≠ .error .fuel :=
  Lemmas.MpegParse.ne_fuel_of_ok_or_struct_generic (AF_unpack_outcomes t buf)

theorem Pkt_unpack_outcomes (t : Pkt) (buf : Bytes) : okOrSG (Pkt.unpack t buf).2 :=
  R.ok_or_error fun _ => Lemmas.MpegParse.Pkt_unpack_error

theorem Pkt_unpack_total (t : Pkt) (buf : Bytes) : (Pkt.unpack t buf).2 ≠ .error .fuel :=
  Lemmas.MpegParse.ne_fuel_of_ok_or_struct_generic (Pkt_unpack_outcomes t buf)

theorem PES_unpack_outcomes (t : PES) (buf : Bytes) : okOrSG (PES.unpack t buf).2 :=
  R.ok_or_error fun _ => Lemmas.MpegParse.PES_unpack_error

theorem PES_unpack_total (t : PES) (buf : Bytes) : (PES.unpack t buf).2 ≠ .error .fuel :=
  Lemmas.MpegParse.ne_fuel_of_ok_or_struct_generic (PES_unpack_outcomes t buf)

theorem STANAG_unpack_outcomes (t : STANAG) (buf : Bytes) : okOrSG (STANAG.unpack t buf).2 :=
  R.ok_or_error fun _ => Lemmas.MpegParse.STANAG_unpack_error

theorem STANAG_unpack_total (t : STANAG) (buf : Bytes) : (STANAG.unpack t buf).2 ≠ .error .fuel :=
  Lemmas.MpegParse.ne_fuel_of_ok_or_struct_generic (STANAG_unpack_outcomes t buf)

theorem mpegBlock_progress : Progress decBlock where
  pos := by
    intro b x n h
    simp only [decBlock] at h
    split at h <;> simp_all <;> omega
  nofuel := by
    intro b h
    simp only [decBlock] at h
    split at h <;> simp_all
  empty := by
    intro x n h
    have e : (Pkt.unpack Pkt.fresh (([] : Bytes).take 188)).2 = .error .struct := Lemmas.MpegParse.Pkt_decodes.snd_eq _ _
    simp only [decBlock] at h
    split at h
    · next hu => rw [hu] at e; cases e
    · cases h


/-- `MPEGTS.unpack` terminates on every buffer -/
theorem MPEGTS_unpack_total (t : TS) (buf : Bytes) : (TS.unpack t buf).2 ≠ .error .fuel := fun h =>
  decOff_fuel_sufficient decBlock moreBlocks buf mpegBlock_progress (buf.length + 1) 0 (by omega)
    (R.map_eq_error.1 ((Lemmas.MpegParse.TS_decodes.error_iff t buf _).1 h))

theorem mpegBlock_advance (b : Bytes) (p : Pkt) (n : Nat) (h : decBlock b = .ok (p, n)) : n = 188 := by
  simp only [decBlock] at h
  split at h <;> simp_all

/-- work bound with the stride 188: at most ⌈|buf|/188⌉ packets -/
theorem MPEGTS_items_stride (t : TS) (buf : Bytes) (h : (TS.unpack t buf).2 = .ok true) :
    (TS.unpack t buf).1.blocks.length * 188 ≤ buf.length + 187 := by
  have := Acra.Py.decOff_items_stride decBlock moreBlocks buf mpegBlock_progress 188
    (fun b x n hb => by rw [mpegBlock_advance b x n hb]; exact Nat.le_refl _) _ 0 _
    (Lemmas.MpegParse.tsRun_ok (Lemmas.MpegParse.TS_decodes.of_ok h)).1
  omega

/-- work bound: at most one packet per byte (in fact per 188 bytes) -/
theorem MPEGTS_items_le (t : TS) (buf : Bytes) (h : (TS.unpack t buf).2 = .ok true) :
    (TS.unpack t buf).1.blocks.length ≤ buf.length := by
  have := MPEGTS_items_stride t buf h
  omega

theorem MPEGTS_unpack_outcomes (t : TS) (buf : Bytes) :
    (TS.unpack t buf).2 = .ok true ∨ (TS.unpack t buf).2 = .error .generic := by
  cases hr : (TS.unpack t buf).2 with
  | ok b => rw [(Lemmas.MpegParse.tsRun_ok (Lemmas.MpegParse.TS_decodes.of_ok hr)).2]; exact .inl rfl
  | error e =>
    rcases Acra.Py.decOff_error_source _ _ _ _ _ _
      (R.map_eq_error.1 ((Lemmas.MpegParse.TS_decodes.error_iff t buf e).1 hr)) with rfl | ⟨o, ho⟩
    · exact absurd hr (MPEGTS_unpack_total t buf)
    · simp only [decBlock] at ho
      split at ho
      · cases ho
      · cases ho; exact .inr rfl

theorem Desc_unpack_consumes (buf rest : Bytes) (d : Desc) (h : Desc.unpack buf = .ok (d, rest)) :
    rest.length + 2 ≤ buf.length ∧ d.data.length + rest.length + 2 ≤ buf.length := by
  rw [Lemmas.PMTSection.Desc_unpack_eq] at h
  split at h
  · cases h
  · cases h
    simp only [List.length_drop, slice_length]
    omega

theorem Desc_unpack_shorter (buf rest : Bytes) (d : Desc) (h : Desc.unpack buf = .ok (d, rest)) :
    rest.length < buf.length := by
  have := (Desc_unpack_consumes buf rest d h).1
  omega

theorem Desc_unpack_outcomes (buf : Bytes) :
    (∃ r, Desc.unpack buf = .ok r) ∨ Desc.unpack buf = .error .struct := by
  rw [Lemmas.PMTSection.Desc_unpack_eq]
  split
  · exact .inr rfl
  · exact .inl ⟨_, rfl⟩

theorem Desc_unpack_nofuel (buf : Bytes) : Desc.unpack buf ≠ .error .fuel := by
  rcases Desc_unpack_outcomes buf with ⟨r, h⟩ | h <;> rw [h] <;> simp

theorem decDescs_error_struct (fuel : Nat) (buf : Bytes) (e : Err) (hf : buf.length < fuel)
    (h : decDescs fuel buf = .error e) : e = .struct := by
  induction fuel generalizing buf with
  | zero => omega
  | succ fuel ih =>
    unfold decDescs at h
    split at h
    · cases hd : Desc.unpack buf with
      | error e' =>
        simp only [hd, Except.error.injEq] at h
        subst h
        rcases Desc_unpack_outcomes buf with ⟨r, hr⟩ | hs
        · rw [hd] at hr; cases hr
        · rw [hd] at hs; cases hs; rfl
      | ok r =>
        obtain ⟨d, rest⟩ := r
        simp only [hd] at h
        have hs := Desc_unpack_shorter buf rest d hd
        cases hr : decDescs fuel rest with
        | ok ds => simp only [hr] at h; cases h
        | error e' =>
          simp only [hr, Except.error.injEq] at h
          subst h
          exact ih rest (by omega) hr
    · cases h

theorem decDescs_fuel_sufficient (fuel : Nat) (buf : Bytes) (h : buf.length < fuel) :
    decDescs fuel buf ≠ .error .fuel :=
  fun he => nomatch decDescs_error_struct fuel buf .fuel h he

theorem Stream_unpack_consumes (buf rest : Bytes) (d : Stream) (h : Stream.unpack buf = .ok (d, rest)) :
    rest.length + 5 ≤ buf.length ∧ d.elementary_stream_descriptors.length + rest.length + 5 ≤ buf.length := by
  rw [Lemmas.PMTSection.Stream_unpack_eq] at h
  split at h
  · cases h
  · cases h
    simp only [List.length_drop, slice_length]
    omega

theorem Stream_unpack_shorter (buf rest : Bytes) (d : Stream) (h : Stream.unpack buf = .ok (d, rest)) :
    rest.length < buf.length := by
  have := (Stream_unpack_consumes buf rest d h).1
  omega

theorem Stream_unpack_outcomes (buf : Bytes) :
    (∃ r, Stream.unpack buf = .ok r) ∨ Stream.unpack buf = .error .struct := by
  rw [Lemmas.PMTSection.Stream_unpack_eq]
  split
  · exact .inr rfl
  · exact .inl ⟨_, rfl⟩

theorem Stream_unpack_nofuel (buf : Bytes) : Stream.unpack buf ≠ .error .fuel := by
  rcases Stream_unpack_outcomes buf with ⟨r, h⟩ | h <;> rw [h] <;> simp

/-- the stream loop cannot fail at all: its condition `len(stream_buf) > CRC_LEN` leaves at least the five bytes a stream
    header needs -/
theorem decStreams_total (fuel : Nat) (buf : Bytes) (hf : buf.length < fuel) : ∃ r, decStreams fuel buf = .ok r := by
  induction fuel generalizing buf with
  | zero => omega
  | succ fuel ih =>
    unfold decStreams
    by_cases hlt : Acra.Gen.PMT.PMT_CRC_LEN < buf.length
    · rw [if_pos hlt]
      simp only [Acra.Gen.PMT.PMT_CRC_LEN] at hlt
      have hd := Lemmas.PMTSection.Stream_unpack_eq buf
      rw [if_neg (by omega)] at hd
      obtain ⟨⟨ss, left⟩, hr⟩ := ih (buf.drop (decInt true (slice buf 3 5) % 4096 + 5))
        (by simp only [List.length_drop]; omega)
      simp only [hd, hr]
      exact ⟨_, rfl⟩
    · rw [if_neg hlt]
      exact ⟨_, rfl⟩

theorem decStreams_fuel_sufficient (fuel : Nat) (buf : Bytes) (h : buf.length < fuel) :
    decStreams fuel buf ≠ .error .fuel := by
  obtain ⟨r, hr⟩ := decStreams_total fuel buf h
  rw [hr]
  exact fun he => nomatch he

theorem decDescs_items_le (fuel : Nat) (buf : Bytes) (ds : List Desc) (h : decDescs fuel buf = .ok ds) :
    ds.length * 2 ≤ buf.length := by
  induction fuel generalizing buf ds with
  | zero => simp [decDescs] at h
  | succ fuel ih =>
    unfold decDescs at h
    split at h
    · cases hd : Desc.unpack buf with
      | error e => simp [hd] at h
      | ok r =>
        obtain ⟨d, rest⟩ := r
        have hs := (Desc_unpack_consumes buf rest d hd).1
        simp only [hd] at h
        cases hr : decDescs fuel rest with
        | error e => simp [hr] at h
        | ok es =>
          simp only [hr, Except.ok.injEq] at h
          subst h
          have := ih rest es hr
          simp only [List.length_cons, Nat.succ_mul]
          omega
    · simp at h; subst h; simp

theorem decStreams_items_le (fuel : Nat) (buf : Bytes) (ss : List Stream) (left : Bytes)
    (h : decStreams fuel buf = .ok (ss, left)) : ss.length * 5 + left.length ≤ buf.length := by
  induction fuel generalizing buf ss left with
  | zero => simp [decStreams] at h
  | succ fuel ih =>
    unfold decStreams at h
    split at h
    · cases hd : Stream.unpack buf with
      | error e => simp [hd] at h
      | ok r =>
        obtain ⟨d, rest⟩ := r
        have hs := (Stream_unpack_consumes buf rest d hd).1
        simp only [hd] at h
        cases hr : decStreams fuel rest with
        | error e => simp [hr] at h
        | ok es =>
          obtain ⟨es, l⟩ := es
          simp only [hr, Except.ok.injEq, Prod.mk.injEq] at h
          obtain ⟨rfl, rfl⟩ := h
          have := ih rest es l hr
          simp only [List.length_cons, Nat.succ_mul]
          omega
    · simp only [Except.ok.injEq, Prod.mk.injEq] at h
      obtain ⟨rfl, rfl⟩ := h
      simp


theorem pmtParse_error {p : Pkt} {e : Err} (h : Lemmas.PMTSection.pmtParse p = .error e) :
    e = .struct ∨ (e = .index ∧ 1 ≤ p.payload.length ∧
      12 ≤ (p.payload.drop (1 + decInt true (slice p.payload 0 1))).length ∧
      (Lemmas.MpegSteer.crcRange (p.payload.drop (1 + decInt true (slice p.payload 0 1)))
        (Lemmas.MpegSteer.fieldL (p.payload.drop (1 + decInt true (slice p.payload 0 1))))).length = 0) := by
  rcases Lemmas.PMTSection.pmtParse_cases p with hc | ⟨h1, h12, hc⟩
  · rw [hc] at h; cases h; exact .inl rfl
  rw [hc] at h
  cases hs : Lemmas.PMTSection.secParse (p.payload.drop (1 + decInt true (slice p.payload 0 1))) with
  | ok x => rw [hs] at h; cases h
  | error e' =>
    rw [hs] at h; cases h
    rcases Lemmas.PMTSection.secParse_error_cases hs with h | ⟨h, hcrc⟩ | ⟨b, hd⟩ | ⟨b, hs⟩
    · exact .inl h
    · exact .inr ⟨h, h1, h12, hcrc⟩
    · exact .inl (decDescs_error_struct _ _ _ (Nat.lt_succ_self _) hd)
    · obtain ⟨r, hr⟩ := decStreams_total _ b (Nat.lt_succ_self _)
      rw [hr] at hs; cases hs

/-- past the transport-packet layer only `struct.error` and `IndexError` are possible -/
theorem PMT_unpack_after_pkt (t : PMT) (buf : Bytes) (h : (Pkt.unpack t.pkt buf).2 = .ok ()) :
    (∃ b, (PMT.unpack t buf).2 = .ok b) ∨ (PMT.unpack t buf).2 = .error .struct ∨
    (PMT.unpack t buf).2 = .error .index := by
  rw [Lemmas.PMTSection.PMT_decodes.snd_eq, Lemmas.MpegParse.Pkt_decodes.of_ok h]
  generalize (Pkt.unpack t.pkt buf).1 = p
  change (∃ b, (Lemmas.PMTSection.pmtParse p).map (·.2) = .ok b) ∨ (Lemmas.PMTSection.pmtParse p).map (·.2) = .error .struct ∨
    (Lemmas.PMTSection.pmtParse p).map (·.2) = .error .index
  cases hg : Lemmas.PMTSection.pmtParse p with
  | ok x => exact .inl ⟨x.2, rfl⟩
  | error e => rcases pmtParse_error hg with rfl | ⟨rfl, _⟩; exact .inr (.inl rfl); exact .inr (.inr rfl)

/-- the outcome list: a Boolean (False = CRC mismatch), `struct.error`, a bare `Exception`, or `IndexError` —
    nothing else; the bare `Exception` comes from the transport-packet layer and only from there (sync byte ≠ 0x47) -/
theorem PMT_unpack_outcomes (t : PMT) (buf : Bytes) :
    ((∃ b, (PMT.unpack t buf).2 = .ok b) ∨ (PMT.unpack t buf).2 = .error .struct ∨
      (PMT.unpack t buf).2 = .error .generic ∨ (PMT.unpack t buf).2 = .error .index) ∧
    ((PMT.unpack t buf).2 = .error .generic ↔ (Pkt.unpack t.pkt buf).2 = .error .generic) := by
  have hp := Pkt_unpack_outcomes t.pkt buf
  have ha := PMT_unpack_after_pkt t buf
  simp only [okOrSG] at hp
  cases hu : Pkt.unpack t.pkt buf with
  | mk p r =>
    rw [hu] at hp ha
    cases r with
    | error e =>
      have hr : (PMT.unpack t buf).2 = .error e := by
        rw [Lemmas.PMTSection.PMT_decodes.error_iff,
          show Lemmas.MpegParse.pktRun buf = .error e from
            (Lemmas.MpegParse.Pkt_decodes.error_iff t.pkt buf e).1 (by rw [hu])]
        rfl
      rw [hr]
      simp only [reduceCtorEq, exists_false, false_or, Except.error.injEq] at hp ⊢
      refine ⟨?_, ?_⟩
      · rcases hp with rfl | rfl <;> simp
      · first | trivial | exact Iff.rfl
    | ok u =>
      cases u
      rcases ha rfl with ⟨b, hb⟩ | hs | hi
      · rw [hb]; exact ⟨Or.inl ⟨b, rfl⟩, by simp⟩
      · rw [hs]; exact ⟨Or.inr (Or.inl rfl), by simp⟩
      · rw [hi]; exact ⟨Or.inr (Or.inr (Or.inr rfl)), by simp⟩

/-- `MPEGPacketPMT.unpack` terminates on every buffer and from every prior state -/
theorem PMT_unpack_total (t : PMT) (buf : Bytes) : (PMT.unpack t buf).2 ≠ .error .fuel := by
  intro h
  rcases (PMT_unpack_outcomes t buf).1 with ⟨b, hb⟩ | hb | hb | hb <;> rw [hb] at h <;> cases h

/-- packet-level work bound for `MPEGPacketPMT.unpack`: the numbers of descriptors and
    streams returned are bounded by the length of the transport packet's payload -/
theorem PMT_items_le (t : PMT) (buf : Bytes) (b : Bool) (h : (PMT.unpack t buf).2 = .ok b) :
    (PMT.unpack t buf).1.descriptor_tags.length * 2 ≤ (PMT.unpack t buf).1.pkt.payload.length ∧
    (PMT.unpack t buf).1.streams.length * 5 ≤ (PMT.unpack t buf).1.pkt.payload.length := by
  have hg := Lemmas.PMTSection.PMT_decodes.of_ok h
  generalize (PMT.unpack t buf).1 = s at hg ⊢
  obtain ⟨x, _, hg⟩ := R.bind_eq_ok.1 hg
  generalize x.1 = p at hg
  rcases Lemmas.PMTSection.pmtParse_cases p with h | ⟨_, _, h⟩
  · rw [h] at hg; cases hg
  rw [h] at hg
  generalize hP : p.payload.drop (1 + decInt true (slice p.payload 0 1)) = P at hg
  have hPl : P.length ≤ p.payload.length := by rw [← hP, List.length_drop]; omega
  cases hs : Lemmas.PMTSection.secParse P with
  | error e => rw [hs] at hg; cases hg
  | ok x =>
    rw [hs] at hg
    cases hg
    obtain ⟨ds, ss, left, hds, hss, hx⟩ := Lemmas.PMTSection.secParse_ok_cases hs
    rw [hx]
    have h1 : ds.length * 2 ≤ P.length := by
      split at hds
      · have := decDescs_items_le _ _ _ hds
        simp only [slice_length] at this
        omega
      · cases hds; exact Nat.zero_le _
    have h2 := decStreams_items_le _ _ _ _ hss
    simp only [Lemmas.MpegSteer.streamRange, slice_length] at h2
    exact ⟨show ds.length * 2 ≤ p.payload.length by omega, show ss.length * 5 ≤ p.payload.length by omega⟩

/-- the pointer byte and the 12-bit section length of a PMT payload (bytes 0 and `pointer + 2 .. pointer + 3`) -/
def pmtPointer (pl : Bytes) : Nat := decInt true (pl.take 1)
def pmtSectionLength (pl : Bytes) : Nat := decInt true (((pl.drop (1 + pmtPointer pl)).drop 1).take 2) % 4096

/-- `IndexError` (raised by the debug line that reads `crc_buffer[0]`) occurs only when the transport packet was
    accepted, the pointer byte and the 12 header bytes after it are there, and the section length field is 0 or 1 —
    the CRC-protected region `payload[pointer+1 : pointer+section_length]` is then empty -/
theorem PMT_unpack_index_imp (t : PMT) (buf : Bytes) (h : (PMT.unpack t buf).2 = .error .index) :
    (Pkt.unpack t.pkt buf).2 = .ok () ∧
    13 + pmtPointer (Pkt.unpack t.pkt buf).1.payload ≤ (Pkt.unpack t.pkt buf).1.payload.length ∧
    pmtSectionLength (Pkt.unpack t.pkt buf).1.payload ≤ 1 := by
  rcases R.bind_eq_error ((Lemmas.PMTSection.PMT_decodes.error_iff t buf _).1 h) with h | ⟨x, hx, h⟩
  · rcases Lemmas.MpegParse.pktRun_error h with h | h <;> cases h
  · rw [Lemmas.MpegParse.Pkt_decodes.of_run (t := t.pkt) (show Lemmas.MpegParse.pktRun buf = .ok (x.1, ()) from hx)]
    generalize x.1 = p at h
    refine ⟨rfl, ?_⟩
    · show 13 + decInt true (p.payload.take 1) ≤ p.payload.length ∧ pmtSectionLength p.payload ≤ 1
      rw [take_eq_slice0]
      obtain c | ⟨_, h1, h12, hcrc⟩ := pmtParse_error h
      · cases c
      have hL : pmtSectionLength p.payload =
          Lemmas.MpegSteer.fieldL (p.payload.drop (1 + decInt true (slice p.payload 0 1))) := by
        rw [pmtSectionLength, pmtPointer, take_drop_slice, take_eq_slice0]
        exact congrArg (· % 4096) (Lemmas.PMTSection.decInt_pair _ 1 (by omega))
      rw [hL]
      -- the CRC-protected range `section[0 : section_length - 1]` of a section of twelve bytes or more is empty
      simp only [Lemmas.MpegSteer.crcRange, slice_length, List.length_drop] at hcrc h12
      omega

/-- witness: two transport packets -/
def wTS : Bytes := ([0x47, 0x01, 0x00, 0x10] ++ List.replicate 184 0xAB) ++ ([0x47, 0x01, 0x00, 0x11] ++ List.replicate 184 0xCD)

set_option maxRecDepth 20000 in
example : (TS.unpack ⟨[]⟩ wTS).2 = .ok true ∧ (TS.unpack ⟨[]⟩ wTS).1.blocks.length = 2 := by
  -- two chunks of 188 bytes, each passing the three checks of `pktRun`
  have e : wTS = [[0x47, 0x01, 0x00, 0x10] ++ List.replicate 184 0xAB,
      [0x47, 0x01, 0x00, 0x11] ++ List.replicate 184 0xCD].flatMap id := by
    simp only [List.flatMap_cons, List.flatMap_nil, List.append_nil, id, wTS]
  rw [e, Lemmas.MPEGTS.TS_unpack_chunks _ _ (by decide) (by simp only [Lemmas.MpegParse.Pkt_decodes.snd_eq]; decide)]
  exact ⟨rfl, rfl⟩
set_option maxRecDepth 20000 in
example : (decBlock wTS).map (·.2) = .ok 188 := by decide +kernel

/-- witness: the PMT packet of `pmtExample` (Props/C06/PMT.lean; one descriptor, two streams, valid CRC) -/
def wPMT : Bytes :=
  [71, 64, 0, 16, 0, 0, 48, 30, 0, 1, 198, 0, 0, 225, 0, 240, 4, 5, 2, 1, 2, 27, 225, 0, 240, 0, 15, 225, 1,
   240, 3, 9, 9, 9, 21, 232, 116, 73] ++ List.replicate 150 0xFF

set_option maxRecDepth 20000 in
example : (PMT.unpack PMT.fresh wPMT).2 = .ok true ∧ (PMT.unpack PMT.fresh wPMT).1.descriptor_tags.length = 1 ∧
    (PMT.unpack PMT.fresh wPMT).1.streams.length = 2 := by decide +kernel
example : Desc.unpack [5, 2, 1, 2, 9] = .ok (⟨some 5, [1, 2]⟩, [9]) := by rfl
example : Stream.unpack [15, 225, 1, 240, 3, 9, 9, 9, 7, 7] = .ok (⟨15, 0x101, [9, 9, 9]⟩, [7, 7]) := by rfl
example : decDescs 7 [5, 2, 1, 2, 6, 0] = .ok [⟨some 5, [1, 2]⟩, ⟨some 6, []⟩] := by rfl
example : decStreams 20 [27, 225, 0, 240, 0, 15, 225, 1, 240, 3, 9, 9, 9, 1, 2, 3, 4] =
    .ok ([⟨27, 0x100, []⟩, ⟨15, 0x101, [9, 9, 9]⟩], [1, 2, 3, 4]) := by rfl
-- a conditional read past the end of the buffer is `struct.error`
example : (if (1 : Nat) = 1 then structUnpackFrom ⟨true, [.u16]⟩ [7] 0 else .ok []) = .error .struct := by rfl
/-- every outcome is reachable: `wPMT` → True; one CRC byte changed → False; 3 bytes → `struct.error`; sync byte
    0x46 → bare `Exception`; section length forced to 1 → `IndexError` -/
example : (PMT.unpack PMT.fresh (wPMT.take 3)).2 = .error .struct := by decide +kernel
set_option maxRecDepth 20000 in
example : (PMT.unpack PMT.fresh (wPMT.set 37 74)).2 = .ok false := by decide +kernel
set_option maxRecDepth 20000 in
example : (PMT.unpack PMT.fresh (wPMT.set 0 0x46)).2 = .error .generic := by decide +kernel
set_option maxRecDepth 20000 in
example : (PMT.unpack PMT.fresh ((wPMT.set 6 0).set 7 1)).2 = .error .index := by decide +kernel

/-- examples for the helper lemmas above: a descriptor loop / stream loop that runs into a cut element with enough
    fuel (`decDescs_error_struct`); the stream loop stops before a cut element (`decStreams_total`); `PMT_unpack_after_pkt`: `wPMT` passes the transport-packet layer -/
example : ([5, 2, 1, 2, 6] : Bytes).length < 7 ∧ decDescs 7 [5, 2, 1, 2, 6] = .error .struct := ⟨by decide, rfl⟩
example : ([27, 225, 0, 240, 0, 15, 225, 1, 240] : Bytes).length < 20 ∧
    decStreams 20 [27, 225, 0, 240, 0, 15, 225, 1, 240] = .ok ([⟨27, 0x100, []⟩], [15, 225, 1, 240]) := ⟨by decide, rfl⟩
set_option maxRecDepth 20000 in
example : (Pkt.unpack PMT.fresh.pkt wPMT).2 = .ok () := by decide +kernel

end Acra.Props.C08
