import Acra.Lemmas.Container
/-!
  C08 for the container protocol: `len(obj)` and `obj[i]` are total — no loop at all in the element-counting classes
  (the model functions have no fuel parameter), and the three packing `__len__` terminate because `pack` does.
  On ANY object state (in particular whatever an `unpack` of arbitrary bytes produced or left behind) and ANY integer
  index the result is a value or one ordinary exception: `IndexError` for `obj[i]`, `struct.error` for the `len` of
  iNetX and IENA, whatever `pack` raises for the `len` of iNET.
-/
namespace Acra.Props.C08
open Acra.Py Acra.Lemmas.Container

/-- `obj[i]` of every list-backed container: the element, or `IndexError`, nothing else -/
theorem getitem_total :
    (∀ (s : Acra.Model.IENA.MState) i, (∃ x, s.getitem i = .ok x) ∨ s.getitem i = .error .index) ∧
    (∀ (s : Acra.Model.IENA.QState) i, (∃ x, s.getitem i = .ok x) ∨ s.getitem i = .error .index) ∧
    (∀ (s : Acra.Model.IENA.DState) i, (∃ x, s.getitem i = .ok x) ∨ s.getitem i = .error .index) ∧
    (∀ (s : Acra.Model.IENA.NState) i, (∃ x, s.getitem i = .ok x) ∨ s.getitem i = .error .index) ∧
    (∀ (s : Acra.Model.NPD.State) i, (∃ x, Acra.Model.NPD.getitem s i = .ok x) ∨ Acra.Model.NPD.getitem s i = .error .index) ∧
    (∀ (s : Acra.Model.ParserAligned.Packet) i, (∃ x, s.getitem i = .ok x) ∨ s.getitem i = .error .index) ∧
    (∀ (s : Acra.Model.Ch11Pay.ARINC.Packet) i, (∃ x, s.getitem i = .ok x) ∨ s.getitem i = .error .index) ∧
    (∀ (s : Acra.Model.Ch11Pay.MIL1553.Packet) i, (∃ x, s.getitem i = .ok x) ∨ s.getitem i = .error .index) ∧
    (∀ (s : Acra.Model.Ch11Pay.UART.Packet) i, (∃ x, s.getitem i = .ok x) ∨ s.getitem i = .error .index) ∧
    (∀ (s : Acra.Model.Ch11Pay.PCM.Packet) i, (∃ x, s.getitem i = .ok x) ∨ s.getitem i = .error .index) :=
  ⟨fun _ _ => listGet_total _ _, fun _ _ => listGet_total _ _, fun _ _ => listGet_total _ _,
   fun _ _ => listGet_total _ _, fun _ _ => listGet_total _ _, fun _ _ => listGet_total _ _,
   fun _ _ => listGet_total _ _, fun _ _ => listGet_total _ _, fun _ _ => listGet_total _ _,
   fun _ _ => listGet_total _ _⟩

open Acra.Model.MPEGTS in
/-- `MPEGTS.__getitem__` (its own range test first, then the list): the packet or `IndexError` -/
theorem MPEGTS_getitem_total (t : TS) (i : Int) : (∃ x, t.getitem i = .ok x) ∨ t.getitem i = .error .index := by
  simp only [TS.getitem]
  split
  · exact Or.inr rfl
  · exact listGet_total _ _

open Acra.Model.MPEGTS in
/-- it answers exactly on `-n ≤ i < n`, like the plain list classes: the extra test changes nothing -/
theorem MPEGTS_getitem_eq_list (t : TS) (i : Int) : t.getitem i = listGet t.blocks i := by
  simp only [TS.getitem]
  split
  · rename_i h
    exact ((listGet_error_iff t.blocks i).2 (by omega)).symm
  · rfl

open Acra.Model.iNetX in
/-- `len(inetx)`: a number, or `struct.error` (a field that does not fit 32 bits) — on every state -/
theorem iNetX_len_total (s : State) : (∃ n, (len s).2 = .ok n) ∨ (len s).2 = .error .struct :=
  lenOfPack_total (pack := pack) (iNetX_pack_error s)

open Acra.Model.IENA in
theorem IENA_len_total (s : Base) : (∃ n, (Base.len s).2 = .ok n) ∨ (Base.len s).2 = .error .struct :=
  lenOfPack_total (pack := Base.pack) (IENA_pack_error s)

/-- `len(inet)` terminates with a number or with the exception `pack` raises (the model's `pack` is structural
    recursion over the package list: no fuel) -/
theorem iNET_len_total (s : Acra.Model.iNET.State) :
    (∃ n, (Acra.Model.iNET.len s).2 = .ok n) ∨ ∃ e, (Acra.Model.iNET.pack s).2 = .error e ∧ (Acra.Model.iNET.len s).2 = .error e := by
  cases h : (Acra.Model.iNET.pack s).2 with
  | ok b => exact Or.inl ⟨_, lenOfPack_ok (pack := Acra.Model.iNET.pack) h⟩
  | error e => exact Or.inr ⟨e, rfl, lenOfPack_error (pack := Acra.Model.iNET.pack) h⟩

/-- witnesses: states on which each branch is taken -/
example : (Acra.Model.iNetX.len { Acra.Model.iNetX.fresh with streamid := 2 ^ 32 }).2 = .error .struct ∧
    (Acra.Model.iNetX.len Acra.Model.iNetX.fresh).2 = .ok 28 ∧
    (Acra.Model.IENA.Base.len { Acra.Model.IENA.Base.fresh with key := 65536 }).2 = .error .struct ∧
    (Acra.Model.IENA.MState.getitem Acra.Model.IENA.MState.fresh 0) = .error .index ∧
    (Acra.Model.MPEGTS.TS.getitem Acra.Model.MPEGTS.TS.fresh (-1)) = .error .index := ⟨rfl, rfl, rfl, rfl, rfl⟩

end Acra.Props.C08
