/-
  C08 — work bound of `get_aligned_payload` by the STRIDE of its loop (`gap_items_le` bounds the number
  of yielded tuples by the model's fuel `len(payload) + len(remainder) + 2`, which says something about the real code
  only together with `gap_fuel_sufficient`).

  Every iteration yields one tuple.  A normal iteration consumes a whole PTDP, ≥ 6 bytes (`PTDP_unpack_progress`); a
  low-latency iteration consumes the PTDP and its continuation byte, ≥ 7 bytes of the frame payload.  The loop makes at
  most TWO passes: the low-latency prefix of the payload, then — after the single switch — either the payload again
  from `ptdp_offset` or `remainder ++ rest of the payload`.  Hence, for ANY frame object, flag and remainder
  (`remainder=None` counts as 0 bytes):
      tuples ≤ (|payload| + |remainder|)/6 + 1                       frame without the LLP flag
      tuples ≤ |payload|/7 + 1 + (|payload| + |remainder|)/6 + 1     frame with the LLP flag.
  The bound does not mention the fuel and holds for every fuel (`gapLoop_need`).
  The second pass is real: on the first frame (or with an empty remainder) the loop, after the low-latency prefix,
  restarts from `payload[ptdp_offset:]` wherever the offset field points — also back INTO the low-latency prefix.  Witness
  on the real code (/repo, checked by running it; not kernel-checkable because of the Golay tables): the 7-byte unit
  `BA FE 0A 08 00 10 FF` is an empty low-latency PTDP + continuation byte, and read from its second byte (wrapping into
  the next unit) it is a 1-byte normal PTDP; the frame `unit × 6` (last byte 00), 42 bytes, LLP flag set,
  `ptdp_offset = 1`, `get_aligned_payload(True, b"")` yields 13 tuples (6 low-latency + 6 normal + the closing one);
  `unit × 30`, 210 bytes: 61.  One pass over `|payload| + |remainder|` bytes does not account for these (it allows 9
  resp. 37 tuples); the two-pass bound below gives 15 resp. 67.
-/
import Acra.Lemmas.Chapter7Gap
namespace Acra.Props.C08
open Acra.Py Acra.Model Acra.Model.Chapter7 Acra.Lemmas.Chapter7

theorem gap_items_le_stride (self : PTFR.State) (first : Bool) (rem : Option Bytes) :
    (getAlignedPayload self first rem).items.length ≤
      (if self.llp then self.payload.length / 7 + 1 else 0) + (self.payload.length + (rem.getD []).length) / 6 + 1 :=
  gap_items_stride self first rem

/-- the same from any loop state and for ANY fuel (not only the one `get_aligned_payload` passes): the tuples still to
    come are bounded by the bytes still to be parsed, 7 per low-latency PTDP / 6 per normal PTDP -/
theorem gapLoop_items_le_stride (self : PTFR.State) (first : Bool) (rem : Option Bytes) (fuel : Nat) (st : GapSt)
    (hinv : st.isLlp = true → st.buf.length ≤ self.payload.length) :
    (gapLoop self first rem fuel st).items.length ≤
      if st.isLlp then st.buf.length / 7 + (self.payload.length + (rem.getD []).length) / 6 + 2
      else st.buf.length / 6 + 1 :=
  (gapLoop_need self first rem fuel st hinv).1

/-- `hinv` holds in the start state of `get_aligned_payload` on a flagged frame (buffer = payload) and in a normal-phase state -/
example : (({ buf := [1, 2, 3], isLlp := true, byteOffset := 0, doCheck := true, checkCount := 0 } : GapSt).isLlp = true →
    ({ buf := [1, 2, 3], isLlp := true, byteOffset := 0, doCheck := true, checkCount := 0 } : GapSt).buf.length ≤
      ({ PTFR.fresh with payload := [1, 2, 3], llp := true } : PTFR.State).payload.length) := fun _ => Nat.le_refl _

/-- a 2047-byte frame with a 2047-byte remainder: at most 683 tuples (fuel bound: 4096); flagged: 976 -/
example : (2047 + 2047) / 6 + 1 = 683 ∧ 2047 / 7 + 1 + (2047 + 2047) / 6 + 1 = 976 := ⟨rfl, rfl⟩

end Acra.Props.C08
