import Acra.Model.ParserAligned
import Acra.Lemmas.ParserAligned
namespace Acra.Props.C08
open Acra.Py Acra.Model.ParserAligned Acra.Gen.ParserAligned Acra.Lemmas.ParserAligned

/-- `ParserAlignedBlock.unpack` is straight-line code: a value, ValueError or struct.error -/
theorem ParserAlignedBlock_unpack_total (t : Block) (buf : Bytes) :
    (∃ n, (Block.unpack t buf).2 = .ok n) ∨ (Block.unpack t buf).2 = .error .value ∨
      (Block.unpack t buf).2 = .error .struct := by
  rw [Block_unpack_closed]
  split
  · exact Or.inr (Or.inr rfl)
  · split
    · exact Or.inr (Or.inl rfl)
    · exact Or.inl ⟨_, rfl⟩

theorem decBlock_progress : Progress decBlock := decBlock_eq ▸ blockRec.progress

/-- `ParserAlignedPacket.unpack` terminates on every buffer -/
theorem ParserAlignedPacket_unpack_total (t : Packet) (buf : Bytes) : (Packet.unpack t buf).2 ≠ .error .fuel :=
  fun h => decOff_fuel_sufficient decBlock moreLt buf decBlock_progress _ 0 (Nat.le_refl _)
    (R.map_eq_error.1 ((Packet_decodes.error_iff t buf _).1 h))

/-- the per-iteration bound for the loop step: an accepted block advances by `4·quadbytes`, at least
    the 8-byte header and never past the end of the buffer -/
theorem decBlock_advance_ge (b : Bytes) (x : Block) (n : Nat) (h : decBlock b = .ok (x, n)) :
    8 ≤ n ∧ n ≤ b.length := by
  obtain ⟨⟨_, h2, h4⟩, _, rfl⟩ := (decBlock_eq ▸ blockRec.run_ok_iff b x n).1 h
  show 8 ≤ 4 * quads b ∧ 4 * quads b ≤ b.length
  omega

/-- an accepted block is at least the 8-byte header long (`quadbytes ≥ 2` is checked before use) -/
theorem ParserAlignedBlock_advance (t : Block) (buf : Bytes) (n : Nat) (h : (Block.unpack t buf).2 = .ok n) :
    8 ≤ n ∧ n ≤ buf.length :=
  decBlock_advance_ge buf _ n (decBlock_eq ▸ Block_decodes.of_ok h)

/-- witness: two blocks (quadbytes 3 with a 4-byte payload, quadbytes 2) -/
def wPAP : Bytes := [0, 3, 0, 1, 0, 2, 0, 5, 1, 2, 3, 4,  0, 2, 0, 0, 0, 0, 0, 0]
example : (Packet.unpack Packet.fresh wPAP).2 = .ok () ∧ (Packet.unpack Packet.fresh wPAP).1.parserblocks.length = 2 := ⟨by rfl, by rfl⟩
example : (Block.unpack Block.fresh wPAP).2 = .ok 12 := by rfl
example : decBlock wPAP = .ok ({ Block.fresh with quadbytes := 3, messagecount := 0, busid := 1, elapsedtime := 131077, payload := [1, 2, 3, 4] }, 12) := by rfl

/-- work bound with the real stride: at most `|buf| / 8` blocks -/
theorem ParserAlignedPacket_items_stride (t : Packet) (buf : Bytes) (h : (Packet.unpack t buf).2 = .ok ()) :
    (Packet.unpack t buf).1.parserblocks.length * 8 ≤ buf.length := by
  obtain ⟨bs, hd, hs⟩ := (packetRun_ok_iff ..).1 (Packet_decodes.of_ok h)
  rw [hs]
  exact Acra.Py.decOff_items_stride_exact decBlock moreLt buf 8 decBlock_advance_ge _ 0 bs hd

/-- work bound: at most one block per byte of the buffer -/
theorem ParserAlignedPacket_items_le (t : Packet) (buf : Bytes) (h : (Packet.unpack t buf).2 = .ok ()) :
    (Packet.unpack t buf).1.parserblocks.length ≤ buf.length := by
  have := ParserAlignedPacket_items_stride t buf h
  omega

/-! ### packet-level outcome list: `ParserAlignedPacket.unpack` returns, or raises `ValueError` or
    `struct.error`; each kind is the exception of the FIRST block that fails, and the block-level kinds are
    characterised on the bytes -/

/-- the block decoder's exceptions, on the bytes (`q` = the low nine bits of the first half word):
    `struct.error` iff the 8-byte header is incomplete; `ValueError` iff it is complete and `q < 2` or the
    `4·q` bytes of the block are not all there -/
theorem ParserAlignedBlock_error_iff (t : Block) (buf : Bytes) :
    ((Block.unpack t buf).2 = .error .struct ↔ buf.length < 8) ∧
    ((Block.unpack t buf).2 = .error .value ↔
      8 ≤ buf.length ∧ (beNat (buf.take 2) % 512 < 2 ∨ buf.length < 4 * (beNat (buf.take 2) % 512))) := by
  have hs : ∀ e, (Block.unpack t buf).2 = .error e ↔ (buf.length < 8 ∧ e = .struct) ∨ (8 ≤ buf.length ∧
      ¬ (2 ≤ beNat (buf.take 2) % 512 ∧ 4 * (beNat (buf.take 2) % 512) ≤ buf.length) ∧ e = .value) :=
    fun e => (Block_decodes.error_iff t buf e).trans (blockRec.run_error_iff buf e)
  constructor
  · rw [hs]
    simp only [reduceCtorEq, and_false, and_true, or_false]
  · rw [hs]
    simp only [reduceCtorEq, and_false, and_true, false_or]
    exact and_congr_right fun _ => by omega

/-- `ParserAlignedPacket.unpack` ends with exception `e` exactly when, after decoding the blocks `bs` one after
    the other from offset 0, it stands at an offset `o` inside the buffer where the block decoder raises `e` -/
theorem ParserAlignedPacket_unpack_error_iff (t : Packet) (buf : Bytes) (e : Err) :
    (Packet.unpack t buf).2 = .error e ↔
      ∃ bs o, Acra.Lemmas.RecordsErr.Reach decBlock moreLt buf 0 bs o ∧ o < buf.length ∧
        (Block.unpack Block.fresh (buf.drop o)).2 = .error e := by
  rw [Packet_decodes.error_iff, packetRun, R.map_eq_error,
    Acra.Lemmas.RecordsErr.decOff_error_iff decBlock moreLt buf decBlock_progress (buf.length + 1) 0 (Nat.le_refl _) e]
  simp only [moreLt_iff, decBlock_eq, Block_decodes.error_iff]

/-- the outcome list: a value, `ValueError`, or `struct.error` — nothing else, in particular never `fuel` -/
theorem ParserAlignedPacket_unpack_outcomes (t : Packet) (buf : Bytes) :
    (Packet.unpack t buf).2 = .ok () ∨ (Packet.unpack t buf).2 = .error .value ∨
    (Packet.unpack t buf).2 = .error .struct :=
  (R.ok_or_error fun e hr => (blockRec.loop_error buf _ 0 (Nat.le_refl _)
    (decBlock_eq ▸ R.map_eq_error.1 ((Packet_decodes.error_iff t buf e).1 hr))).symm).imp_left fun ⟨_, h⟩ => h

/-- every outcome is reachable: `wPAP` is accepted; a second block of three quadbytes cut by one byte / declaring one quadbyte →
    `ValueError`; three stray bytes after the first block → `struct.error`.  In each case the failing block is the
    SECOND one (the first was decoded: `Reach` with one block, offset 12). -/
example : (Packet.unpack Packet.fresh wPAP).2 = .ok () := by rfl
example : (Packet.unpack Packet.fresh (wPAP.take 12 ++ [0, 3, 0, 0, 0, 0, 0, 0, 1, 2, 3])).2 = .error .value := by rfl
example : (Packet.unpack Packet.fresh (wPAP.take 12 ++ [0, 1, 0, 0, 0, 0, 0, 0])).2 = .error .value := by rfl
example : (Packet.unpack Packet.fresh (wPAP.take 15)).2 = .error .struct := by rfl
example : Acra.Lemmas.RecordsErr.Reach decBlock moreLt (wPAP.take 15) 0
    [{ Block.fresh with quadbytes := 3, messagecount := 0, busid := 1, elapsedtime := 131077, payload := [1, 2, 3, 4] }] 12 ∧
    (Block.unpack Block.fresh ((wPAP.take 15).drop 12)).2 = .error .struct :=
  ⟨⟨by rfl, 12, by rfl, by rfl⟩, by rfl⟩

end Acra.Props.C08
