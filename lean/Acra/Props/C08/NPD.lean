import Acra.Model.NPD
import Acra.Lemmas.NPDPacket
import Acra.Props.C09.NPD
namespace Acra.Props.C08
open Acra.Py Acra.Model.NPD Acra.Gen.NPD Acra.Lemmas.NPD Acra.Lemmas.Walk

/-- `NPDSegment.unpack` is straight-line code: the rest of the buffer or struct.error -/
theorem NPDSegment_unpackBase_total (t : Seg) (buf : Bytes) :
    (∃ r, (Seg.unpackBase t buf).2 = .ok r) ∨ (Seg.unpackBase t buf).2 = .error .struct := by
  by_cases h8 : 8 ≤ buf.length
  · rw [unpackBase_closed, if_pos h8]
    exact Or.inl ⟨_, rfl⟩
  · rw [unpackBase_closed, if_neg h8]
    exact Or.inr rfl

/-- after the base unpack the `payload` setter has rewritten `segmentlen` to 8 + |payload| ≥ 8: this is
    why the NPD segment loop always advances, whatever length the segment header declares -/
theorem NPDSegment_unpackBase_segmentlen (t : Seg) (buf r : Bytes) (h : (Seg.unpackBase t buf).2 = .ok r) :
    (Seg.unpackBase t buf).1.segmentlen = (Seg.unpackBase t buf).1.payload.length + 8 ∧ 8 ≤ buf.length := by
  by_cases h8 : 8 ≤ buf.length
  · rw [unpackBase_closed, if_pos h8]
    have := segLen_ge buf
    refine ⟨?_, h8⟩
    show segLen buf = (segPayload buf).length + 8
    rw [segPayload_length buf]
    omega
  · rw [unpackBase_closed, if_neg h8] at h
    cases h

theorem typed_nofuel_acq (s : Seg) : s.unpackACQ.2 ≠ .error .fuel ∧ s.unpackACQ.1.segmentlen = s.segmentlen :=
  ⟨typedUnpack_nofuel .acq s, (typedUnpack_base .acq s).1⟩

theorem typed_nofuel_rs232 (s : Seg) : s.unpackRS232.2 ≠ .error .fuel ∧ s.unpackRS232.1.segmentlen = s.segmentlen :=
  ⟨typedUnpack_nofuel .rs232 s, (typedUnpack_base .rs232 s).1⟩

theorem typed_nofuel_1553 (s : Seg) : s.unpack1553.2 ≠ .error .fuel ∧ s.unpack1553.1.segmentlen = s.segmentlen :=
  ⟨typedUnpack_nofuel .mil1553 s, (typedUnpack_base .mil1553 s).1⟩

/-- every segment class: `unpack` never reports `fuel`, and an accepted segment has `segmentlen ≥ 8` -/
theorem Segment_unpack_total (t : Seg) (buf : Bytes) :
    (Seg.unpack t buf).2 ≠ .error .fuel ∧
    (∀ r, (Seg.unpack t buf).2 = .ok r → 8 ≤ (Seg.unpack t buf).1.segmentlen ∧ 8 ≤ buf.length) := by
  constructor
  · rw [Seg_unpack_snd]
    split <;> simp
  · intro r hr
    obtain ⟨hok, _, hsl, _⟩ := Seg_unpack_fields t buf _ r (Prod.ext rfl hr)
    exact ⟨hsl ▸ segLen_ge buf, hok.1⟩

theorem decSeg_progress (k : Kind) : Progress (decSeg k) := progress_decSeg k

/-- the per-iteration bound of DESIGN §5 C08, stated for the loop step itself: an accepted segment
    advances the offset by its (rewritten) `segmentlen` rounded up to a multiple of 4 — at least 8 bytes -/
theorem decSeg_advance_ge (k : Kind) (b : Bytes) (g : Seg) (n : Nat) (h : decSeg k b = .ok (g, n)) :
    8 ≤ n ∧ n % 4 = 0 ∧ g.segmentlen ≤ n ∧ n < g.segmentlen + 4 ∧ 8 ≤ b.length := by
  obtain ⟨hok, rfl, hsl, _⟩ := decSeg_ok k b g n h
  rw [hsl]
  exact ⟨segAdvance_ge b, roundUp4_mod _, roundUp4_ge _, roundUp4_lt _, hok.1⟩

/-- `NPD.unpack` terminates on every buffer -/
theorem NPD_unpack_total (t : State) (buf : Bytes) : (unpack t buf).2 ≠ .error .fuel := by
  rw [unpack_snd]
  repeat' split
  all_goals simp

/-- witness: NPD packet (header 20 bytes) with two segments, payloads of 6 bytes (+2 pad) and 1 byte (+3 pad) -/
def wNPD : Bytes :=
  [53, 16, 0, 12, 0, 0, 0, 0, 0, 0, 0, 0, 235, 0, 0, 1, 0, 0, 0, 7,  0, 0, 0, 1, 0, 14, 2, 3, 0, 5, 1, 2, 9, 9, 255, 255,
   0, 0, 0, 1, 0, 9, 2, 3, 7, 255, 255, 255]

example : (unpack fresh wNPD).2 = .ok () ∧ (unpack fresh wNPD).1.segments.length = 2 := ⟨by rfl, by rfl⟩
example : decSeg .base (wNPD.drop 20) = .ok ({ Seg.fresh .base with timedelta := 1, segmentlen := 14, errorcode := 2, flags := 3, payload := [0, 5, 1, 2, 9, 9] }, 16) := by rfl

/-- work bound with the real stride: at most ⌈|buf|/8⌉ segments -/
theorem NPD_items_stride (t : State) (buf : Bytes) (h : (unpack t buf).2 = .ok ()) :
    (unpack t buf).1.segments.length * 8 ≤ buf.length + 7 := by
  have := Acra.Py.decOff_items_stride _ _ _ (decSeg_progress _) 8
    (fun b x n hb => (decSeg_advance_ge _ b x n hb).1) _ 0 _ (unpack_segments t buf h)
  rw [List.length_drop] at this
  omega

/-- work bound: at most one segment per byte of the buffer -/
theorem NPD_items_le (t : State) (buf : Bytes) (h : (unpack t buf).2 = .ok ()) :
    (unpack t buf).1.segments.length ≤ buf.length := by
  have := NPD_items_stride t buf h
  omega
-- examples for the hypotheses `(Seg.unpackBase t buf).2 = .ok r` / `(Seg.unpack t buf).2 = .ok r`
example : (Seg.unpackBase (Seg.fresh .base) (wNPD.drop 20)).2 = .ok (wNPD.drop 36) ∧
    (Seg.unpackBase (Seg.fresh .base) (wNPD.drop 20)).1.segmentlen = 14 := ⟨by rfl, by rfl⟩
example : (Seg.unpack (Seg.fresh .mil1553) (wNPD.drop 20)).2 = .ok (wNPD.drop 36) := by rfl
/-- a declared segment length of 0 (or anything below 8) still advances by 8: the setter rewrote it -/
example : decSeg .base [0, 0, 0, 1, 0, 0, 2, 3, 9, 9, 9, 9] =
    .ok ({ Seg.fresh .base with timedelta := 1, segmentlen := 8, errorcode := 2, flags := 3 }, 8) := by rfl

/-- `NPD.unpack` returns, or raises `struct.error`, or a bare `Exception` — nothing else; and each kind is
    characterised on the bytes: `struct.error` iff the 20-byte header is incomplete; `Exception` iff the header is
    complete and the declared total length (32-bit words) is not the real one, or the declarative segment walk of
    `Acra.Lemmas.NPD.SegsReject` meets an incomplete segment header / typed header (the segment decoders'
    `struct.error` re-raised by `except Exception as e: raise Exception(e)`); a value otherwise
    (`Acra.Props.C09.NPD_accepts_iff_fits`). -/
theorem NPD_unpack_outcomes (t : State) (buf : Bytes) :
    ((unpack t buf).2 = .ok () ∨ (unpack t buf).2 = .error .struct ∨ (unpack t buf).2 = .error .generic) ∧
    ((unpack t buf).2 = .error .struct ↔ buf.length < 20) ∧
    ((unpack t buf).2 = .error .generic ↔ 20 ≤ buf.length ∧ (Acra.Props.C09.declaredWords buf * 4 ≠ buf.length ∨
      Acra.Lemmas.NPD.SegsReject (kindOf (Acra.Props.C09.declaredType buf))
        (buf.drop (Acra.Props.C09.declaredHdrlen buf * 4)))) :=
  ⟨(Acra.Props.C09.NPD_rejects_iff t buf).2.2, (Acra.Props.C09.NPD_rejects_iff t buf).1,
   (Acra.Props.C09.NPD_rejects_iff t buf).2.1⟩

/-- the segment decoders raise nothing but `struct.error` (which is what the packet decoder wraps) -/
theorem Segment_unpack_outcomes (k : Kind) (buf : Bytes) :
    (∃ g r, Seg.unpack (Seg.fresh k) buf = (g, .ok r)) ∨ (Seg.unpack (Seg.fresh k) buf).2 = .error .struct := by
  by_cases hok : SegOk k buf
  · exact Or.inl ⟨_, _, Seg_unpack_ok (Seg.fresh k) buf hok⟩
  · right
    rw [Seg_unpack_snd]
    exact if_neg hok

/-- every outcome is reachable: `wNPD` accepted; 19 bytes → `struct.error`; length word off by one → `Exception`;
    total length right but the last segment header cut (4 stray bytes, 13 words) → `Exception` from the segment walk;
    an ACQ packet (data type 0xA1) whose segment is too short for the typed header → `Exception` -/
example : (unpack fresh wNPD).2 = .ok () := by rfl
example : (unpack fresh (wNPD.take 19)).2 = .error .struct := by rfl
example : (unpack fresh (wNPD.set 3 13)).2 = .error .generic := by rfl
example : (unpack fresh ((wNPD.set 3 13) ++ [0, 0, 0, 1])).2 = .error .generic ∧
    Acra.Props.C09.declaredWords ((wNPD.set 3 13) ++ [0, 0, 0, 1]) * 4 = ((wNPD.set 3 13) ++ [0, 0, 0, 1]).length :=
  ⟨by rfl, by decide⟩
example : (unpack fresh ([53, 161, 0, 8, 0, 0, 0, 0, 0, 0, 0, 0, 235, 0, 0, 1, 0, 0, 0, 7] ++
    [0, 0, 0, 1, 0, 10, 0, 0, 1, 2, 255, 255])).2 = .error .generic := by rfl
example : (unpack fresh ([53, 161, 0, 8, 0, 0, 0, 0, 0, 0, 0, 0, 235, 0, 0, 1, 0, 0, 0, 7] ++
    [0, 0, 0, 1, 0, 12, 0, 0, 1, 2, 3, 4])).2 = .ok () := by rfl
example : (Seg.unpack (Seg.fresh .acq) [0, 0, 0, 1, 0, 10, 0, 0, 1, 2, 255, 255]).2 = .error .struct := by rfl

end Acra.Props.C08
