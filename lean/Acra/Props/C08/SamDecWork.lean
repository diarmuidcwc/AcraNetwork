/-
  C08 — work bound of the SAM/DEC decommutator (`decom_total` in Search.lean says only that no loop of
  `list(SamDecPcap(file).frames())` runs out of fuel).  For EVERY byte string taken as a capture file, whether the
  iteration ends normally or with an exception (`No Frame sync found`, the `int + None` TypeError, …):
  * every frame yielded starts with the 4-byte sync word (so it has ≥ 4 bytes);
  * the frames yielded hold, together, no more bytes than the file has after its 24-byte global header — they are
    disjoint slices of the record payloads (memory clause: what the consumer accumulates is bounded by the file);
  * hence at most (file length − 24)/4 frames are yielded.
  Nothing is assumed about the contents: frame length inferred from garbage, foreign packets, truncated records included.
-/
import Acra.Lemmas.SamDecTotal
namespace Acra.Props.C08
open Acra.Py Acra.Model.SamDec Acra.Spec Acra.Spec.SamDec Acra.Lemmas.SamDec

theorem decom_work_bound (file : Bytes) :
    ((decom file).1.map List.length).sum ≤ file.length - 24 ∧ ∀ f ∈ (decom file).1, f.take 4 = syncWord := by
  rw [decom_eq, getData_eq]
  by_cases h24 : 24 ≤ file.length
  · rw [if_pos h24]
    cases hrecs : pcapRecords file with
    | error e => simp
    | ok recs =>
      dsimp only
      have ho := framesLoop_out (recs.filterMap udpData) none (.inl rfl)
      refine ⟨?_, fun f hf => (ho.frames f hf).1⟩
      have a := pcapRecords_weight file recs hrecs
      have b := filterMap_udpData_le recs
      have c := ho.sum
      rw [sum_add_const] at a
      omega
  · rw [if_neg h24]
    simp

theorem decom_frames_le (file : Bytes) : 4 * (decom file).1.length ≤ file.length - 24 := by
  obtain ⟨h1, h2⟩ := decom_work_bound file
  have := four_mul_length_le _ h2
  omega

/-- per datagram, for ANY fuel of the slicing loop: the frames are disjoint slices of the payload after the offset -/
theorem sliceLoop_work_bound (sync payload : Bytes) (L fuel o : Nat) :
    ((sliceLoop sync payload fuel (o : Int) (some (L : Int))).1.map List.length).sum ≤ payload.length - o ∧
    ∀ f ∈ (sliceLoop sync payload fuel (o : Int) (some (L : Int))).1, f.take 4 = sync ∧ f.length = L :=
  ⟨(sliceLoop_sliced sync payload L fuel o).sum, (sliceLoop_sliced sync payload L fuel o).frames⟩

/-- a file that is only a global header: nothing yielded, no exception -/
example : decom (List.replicate 24 0) = ([], none) := by decide +kernel

end Acra.Props.C08
