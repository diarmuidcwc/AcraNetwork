/-
  C08, memory clause — `Pcap.next` reads the data of a record in bounded pieces (one `read(incl_len)` on a
  41-byte file with a corrupt `incl_len` of 0xFFFFFFFF would allocate 4 GiB before discovering that one byte is left).

  `Model.Pcap.readLoop` is the loop `_todo = incl_len; while _todo > 0: _chunk = read(min(_todo, 1 << 20)); if not
  _chunk: break; _chunks.append(_chunk); _todo -= len(_chunk)` statement by statement; it records the argument of every
  `read()`.  `READ_CHUNK` (= 1 << 20) is regenerated from the source (`Gen/Pcap.lean`).  For ANY file contents after
  the file position and ANY `incl_len`:
  * `Pcap_readLoop_eq_take` — the loop terminates (fuel `bytes left + 1`) and `b"".join(_chunks)` is exactly what ONE
    `read(incl_len)` would have returned (`take`), the file position ends where it would have ended (`drop`);
  * … no single `read()` asks for more than the piece size (nor for more than is still wanted, nor for 0 bytes), and
    at most `min incl_len (bytes left) / piece + 2` calls are made;
  * `Pcap_next_chunked_eq` — `Pcap.next` with the loop spelled out (`nextRecChunked`) IS `nextRec`, the one-`take`
    model that `next`, the driver and the C05 theorems use; every `read()` of record data asks for ≤ `READ_CHUNK`;
  * `Pcap_next_memory` — what `next` holds afterwards is bounded by the bytes of the FILE, whatever `incl_len` says.
-/
import Acra.Lemmas.PcapChunk
import Acra.Lemmas.Pcap
namespace Acra.Props.C08
open Acra.Py Acra.Model.Pcap Acra.Gen.Pcap Acra.Lemmas.Pcap

theorem Pcap_readLoop_eq_take (chunk : Nat) (hc : 0 < chunk) (rest : Bytes) (todo : Nat) (acc : Bytes) (asks : List Nat) :
    ∃ asks', readLoop chunk (rest.length + 1) rest todo acc asks = .ok (acc ++ rest.take todo, rest.drop todo, asks ++ asks') ∧
      (∀ a ∈ asks', 0 < a ∧ a ≤ chunk ∧ a ≤ todo) ∧
      asks'.length ≤ min todo rest.length / chunk + 2 := by
  obtain ⟨asks', h, hall, hcnt, _⟩ := readLoop_spec chunk hc (rest.length + 1) rest todo acc asks (Nat.le_refl _)
  exact ⟨asks', h, hall, le_div_add_two hc hcnt⟩

/-- the piece size the library uses is positive -/
example : 0 < READ_CHUNK := by decide
/-- … and at most 1 MiB: with the bound below, no `read()` of record data allocates more than that, whatever the file
    says (`READ_CHUNK` is regenerated from the literal in `Pcap.next`; a larger literal fails this theorem) -/
theorem Pcap_read_chunk_le : READ_CHUNK ≤ 1048576 := by decide
/-- the hypothesis is needed: with a piece size of 0 the first `read(0)` returns nothing and the loop gives up -/
example : (readLoop 0 4 [1, 2, 3] 2 [] []).toOption = some ([], [1, 2, 3], [0]) := by decide

theorem Pcap_next_chunked_eq (rest : Bytes) :
    ∃ asks, nextRecChunked rest = .ok (nextRec rest, asks) ∧ (∀ a ∈ asks, 0 < a ∧ a ≤ READ_CHUNK) ∧
      asks.length ≤ (rest.length - 16) / READ_CHUNK + 2 := by
  simp only [nextRecChunked, nextRec, RECORD_HEADER_SIZE]
  by_cases hl : (List.take 16 rest).length = 16
  · rw [Rec_decodes.of_run (t := Rec.fresh) (buf := rest.take 16) (s := decHdr (rest.take 16)) (r := ())
      (by rw [recRun, if_pos hl])]
    simp only [hl]
    obtain ⟨asks, h, hall, hcnt, _⟩ := readLoop_spec READ_CHUNK (by decide) _ (rest.drop 16)
      (decHdr (rest.take 16)).incl_len [] [] (Nat.le_refl _)
    rw [h]
    refine ⟨asks, rfl, fun a ha => ⟨(hall a ha).1, (hall a ha).2.1⟩,
      le_div_add_two (by decide) (Nat.le_trans hcnt ?_)⟩
    rw [List.length_drop]
    omega
  · obtain ⟨s, hs⟩ := Rec_decodes.of_run_error (t := Rec.fresh) (buf := rest.take 16) (e := .value)
      (by rw [recRun, if_neg hl])
    rw [hs]
    exact ⟨[], rfl, by simp, by simp⟩

theorem Pcap_next_memory (rest : Bytes) (r : Rec) (n : Nat) (h : nextRec rest = some (r, n)) :
    r.payload.length + 16 ≤ rest.length ∧ r.incl_len = r.payload.length ∧ n = 16 + r.payload.length := by
  obtain ⟨_, h2, h3, h4, _⟩ := nextRec_some rest r n h
  omega

/-- the file that calls for it: a record header announcing 0xFFFFFFFF bytes, one byte of data.  Two `read()` calls of 1 MiB
    each (the second returns nothing), one byte held — where `read(incl_len)` would ask for 4 GiB -/
example : (nextRecChunked ([0, 0, 0, 0, 0, 0, 0, 0, 0xFF, 0xFF, 0xFF, 0xFF, 0xFF, 0xFF, 0xFF, 0xFF] ++ [7])).toOption =
    some (some ({ sec := 0, usec := 0, incl_len := 1, orig_len := 1, payload := [7] }, 17), [1048576, 1048576]) := by
  decide +kernel
/-- … and it satisfies the hypothesis of `Pcap_next_memory` -/
example : nextRec ([0, 0, 0, 0, 0, 0, 0, 0, 0xFF, 0xFF, 0xFF, 0xFF, 0xFF, 0xFF, 0xFF, 0xFF] ++ [7]) =
    some ({ sec := 0, usec := 0, incl_len := 1, orig_len := 1, payload := [7] }, 17) := by decide +kernel
/-- data longer than one piece is read in several: 10 bytes wanted and there, piece size 4 → requests 4, 4, 2;
    12 wanted, 10 there → 4, 4, 4 (2 delivered), 2 (nothing delivered: stop) -/
example : (readLoop 4 (10 + 1) [0, 1, 2, 3, 4, 5, 6, 7, 8, 9] 10 [] []).toOption = some ([0, 1, 2, 3, 4, 5, 6, 7, 8, 9], [], [4, 4, 2]) ∧
    (readLoop 4 (10 + 1) [0, 1, 2, 3, 4, 5, 6, 7, 8, 9] 12 [] []).toOption = some ([0, 1, 2, 3, 4, 5, 6, 7, 8, 9], [], [4, 4, 4, 2]) := by
  decide

end Acra.Props.C08
