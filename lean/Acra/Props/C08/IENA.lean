import Acra.Lemmas.IENA
namespace Acra.Props.C08
open Acra.Py Acra.Model.IENA Acra.Gen.IENA Acra.Lemmas.IENA

theorem IENA_unpack_nofuel (t : Base) (buf : Bytes) : (Base.unpack t buf).2 ≠ .error .fuel := by
  intro h
  rcases baseRun_error ((IENA_decodes.error_iff _ _ _).1 h) with h | h <;> cases h

theorem IENA_unpack_payload_le (t : Base) (buf : Bytes) : (Base.unpack t buf).1.payload.length ≤ max t.payload.length buf.length := by
  rw [IENA_unpack_closed]
  split
  · exact Nat.le_max_left _ _
  · split
    · exact Nat.le_max_left _ _
    · simp only [IENA_ofBytes, slice_length]; omega

/-- the ordinary exceptions of the straight-line base decoder, listed: `ValueError` (shorter than
    the header), bare `Exception` (length field ≠ buffer length), `struct.error` -/
theorem IENA_unpack_outcomes (t : Base) (buf : Bytes) :
    (Base.unpack t buf).2 = .ok () ∨ (Base.unpack t buf).2 = .error .value ∨
    (Base.unpack t buf).2 = .error .generic ∨ (Base.unpack t buf).2 = .error .struct := by
  cases h : (Base.unpack t buf).2 with
  | ok u => exact .inl rfl
  | error e => rcases baseRun_error ((IENA_decodes.error_iff _ _ _).1 h) with rfl | rfl <;> simp

/-- ties the payload-relative work bounds below to the input length; `IENA_unpack_payload_le` alone allows the
    prior state's payload -/
theorem IENA_unpack_ok_payload (t : Base) (buf : Bytes) (h : (Base.unpack t buf).2 = .ok ()) :
    (Base.unpack t buf).1.payload = slice buf 14 (buf.length - 2) ∧
    (Base.unpack t buf).1.payload.length = buf.length - 16 ∧ 14 ≤ buf.length := by
  obtain ⟨⟨h14, _⟩, hu⟩ := (baseRun_ok_iff ..).1 (IENA_decodes.of_ok h)
  rw [hu]
  exact ⟨rfl, by simp only [IENA_ofBytes, slice_length]; omega, h14⟩

/-- witness buffer: IENA-M packet, two parameters (3-byte dataset + pad, empty dataset) -/
def wIENAM : Bytes :=
  [0, 1, 0, 16, 0, 0, 0, 0, 0, 0, 0, 0, 0, 0,  0, 1, 0, 2, 0, 3, 0xAA, 0xBB, 0xCC, 0,  0, 3, 0, 4, 0, 0,  0xDE, 0xAD]

example : (Base.unpack Base.fresh wIENAM).2 = .ok () ∧ (Base.unpack Base.fresh wIENAM).1.payload.length = 16 :=
  ⟨by rfl, by rfl⟩

theorem decM_progress : Progress decM := by
  exact decM_eq ▸ mRec.progress

/-- the per-iteration bound of DESIGN §5 C08 (`Progress` only records `0 < n`) -/
theorem decM_advance_ge (b : Bytes) (p : MParam) (n : Nat) (h : decM b = .ok (p, n)) :
    6 ≤ n ∧ n = 6 + p.dataset.length + p.dataset.length % 2 ∧ 6 + p.dataset.length ≤ b.length := by
  rw [decM_eq] at h
  obtain ⟨rfl, rfl, hle⟩ := lpRec_ok h
  rw [mkM_dataset_length b hle]
  exact ⟨by omega, rfl, hle⟩

example : decM [0, 1, 0, 2, 0, 3, 0xAA, 0xBB, 0xCC, 0, 9, 9] = .ok (⟨1, 2, [0xAA, 0xBB, 0xCC]⟩, 10) := by rfl

/-- `IENAM.unpack` terminates on every buffer: the fuel the model gives the loop (payload length + 1)
    is never exhausted -/
theorem IENAM_unpack_total (t : MState) (buf : Bytes) : (MState.unpack t buf).2 ≠ .error .fuel := by
  intro h
  rcases loopLP_error IENAM_decodes h with h | h | h <;> cases h

/-- work bound: at most one parameter per byte of payload -/
theorem IENAM_items_le (t : MState) (buf : Bytes) (h : (MState.unpack t buf).2 = .ok ()) :
    (MState.unpack t buf).1.parameters.length ≤ (MState.unpack t buf).1.base.payload.length := by
  obtain ⟨ps, he, _, hle, _⟩ := loopLP_ok IENAM_decodes h
  rw [he]
  exact hle

example : (MState.unpack MState.fresh wIENAM).2 = .ok () ∧
    (MState.unpack MState.fresh wIENAM).1.parameters = [⟨1, 2, [0xAA, 0xBB, 0xCC]⟩, ⟨3, 4, []⟩] := ⟨by rfl, by rfl⟩

/-- work bound with the real stride, relative to the INPUT: an accepted IENA-M packet of `|buf|`
    bytes has at most ⌈(|buf| − 16)/6⌉ parameters (in particular fewer than `|buf|`) -/
theorem IENAM_items_stride (t : MState) (buf : Bytes) (h : (MState.unpack t buf).2 = .ok ()) :
    (MState.unpack t buf).1.parameters.length * 6 ≤ (buf.length - 16) + 5 := by
  obtain ⟨ps, he, _, _, hs, _⟩ := loopLP_ok IENAM_decodes h
  rw [he]
  exact hs

/-- the exceptions `IENAM.unpack` can end with: those of the base decoder, or those of one
    parameter step (`struct.error`, bare `Exception`) — never `fuel` -/
theorem IENAM_unpack_outcomes (t : MState) (buf : Bytes) :
    (MState.unpack t buf).2 = .ok () ∨ (MState.unpack t buf).2 = .error .value ∨
    (MState.unpack t buf).2 = .error .generic ∨ (MState.unpack t buf).2 = .error .struct := by
  cases h : (MState.unpack t buf).2 with
  | ok u => exact .inl rfl
  | error e =>
    rcases loopLP_error IENAM_decodes h with rfl | rfl | rfl <;> simp

end Acra.Props.C08
