import Acra.Lemmas.Ch11Video
import Acra.Props.C08.Mpeg
namespace Acra.Props.C08
open Acra.Py Acra.Model.Ch11Pay.Video Acra.Model.MPEGTS Acra.Gen.Ch11Video
open Acra.Lemmas.Ch11Video (Video_decodes videoRun tsRun_eq)

/-! `VideoFormat2.unpack` hands `buffer[4:]` to `MPEGTS.unpack`, and so does the model (`videoRun`), so
    totality and the work bound are those of the MPEG family's loop:
    `MPEGTS_unpack_total`, `mpegBlock_progress`, `mpegBlock_advance`, `MPEGTS_items_stride` (Props/C08/Mpeg.lean). -/

/-! ### packet-level outcome list, on the transport-stream model: `VideoFormat2.unpack` returns, or raises
    `struct.error` (fewer than 4 bytes) or a bare `Exception` (intra-packet-header bit set, or `MPEGTS.unpack` refuses
    `buffer[4:]`); each kind characterised -/

/-- the channel-specific word (little-endian 32 bits) of a buffer holding it -/
def videoCsw (buf : Bytes) : Nat := decInt false (buf.take 4)

theorem Video_unpack_error_iff (t : State) (buf : Bytes) (e : Err) :
    (unpack t buf).2 = .error e ↔
      (buf.length < 4 ∧ e = .struct) ∨
      (4 ≤ buf.length ∧ e = .generic ∧ ((videoCsw buf / 2 ^ 19) % 2 = 1 ∨
        (TS.unpack TS.fresh (buf.drop 4)).2 = .error .generic)) := by
  rw [Video_decodes.error_iff, videoRun, tsRun_eq]
  by_cases h4 : buf.length < 4
  · simp [h4, Nat.not_le.2 h4, eq_comm]
  · by_cases hiph : decInt false (buf.take 4) / 2 ^ IPH_OFFSET % 2 = 1
    · have hiph' : videoCsw buf / 2 ^ 19 % 2 = 1 := hiph
      simp [h4, Nat.not_lt.1 h4, hiph, hiph', eq_comm]
    · have hiph' : ¬ videoCsw buf / 2 ^ 19 % 2 = 1 := hiph
      rcases MPEGTS_unpack_outcomes TS.fresh (buf.drop 4) with h | h <;>
        simp [h4, Nat.not_lt.1 h4, hiph, hiph', h, Except.map, eq_comm]

theorem Video_unpack_outcomes (t : State) (buf : Bytes) :
    (unpack t buf).2 = .ok () ∨ (unpack t buf).2 = .error .struct ∨ (unpack t buf).2 = .error .generic :=
  (R.ok_or_error fun e hr => by
    rcases (Video_unpack_error_iff t buf e).1 hr with ⟨_, rfl⟩ | ⟨_, rfl, _⟩ <;> simp).imp_left fun ⟨_, h⟩ => h

/-- `VideoFormat2.unpack` (and the `MPEGTS.unpack` loop inside it) terminates on every buffer, whatever the prior state -/
theorem Video_unpack_total (t : State) (buf : Bytes) : (unpack t buf).2 ≠ .error .fuel := by
  rcases Video_unpack_outcomes t buf with h | h | h <;> simp [h]

theorem Video_ok_is_ts_ok (t : State) (buf : Bytes) (h : (unpack t buf).2 = .ok ()) :
    (TS.unpack TS.fresh (buf.drop 4)).2 = .ok true ∧ (unpack t buf).1.mpegts = (TS.unpack TS.fresh (buf.drop 4)).1 := by
  have hr := Video_decodes.of_ok h
  rw [videoRun, tsRun_eq] at hr
  split at hr
  · cases hr
  · split at hr
    · cases hr
    · rcases MPEGTS_unpack_outcomes TS.fresh (buf.drop 4) with ho | ho
      · rw [ho] at hr
        exact ⟨ho, (congrArg (fun x : State × Unit => x.1.mpegts) (Except.ok.inj hr)).symm⟩
      · rw [ho] at hr; cases hr

/-- packet-level work bound: an accepted buffer yields at most ⌈(|buf| − 4)/188⌉ blocks -/
theorem Video_items_le (t : State) (buf : Bytes) (h : (unpack t buf).2 = .ok ()) :
    (unpack t buf).1.mpegts.blocks.length * 188 ≤ (buf.length - 4) + 187 := by
  obtain ⟨hts, hblocks⟩ := Video_ok_is_ts_ok t buf h
  have := MPEGTS_items_stride TS.fresh (buf.drop 4) hts
  rwa [← hblocks, List.length_drop] at this

/-- witness: channel-specific word 0x1000, a payload-only packet and a packet with a 7-byte adaptation field (PCR)
    followed by payload -/
def wVideo : Bytes :=
  [0, 0x10, 0, 0] ++ ([0x47, 0x01, 0x00, 0x10] ++ List.replicate 184 0xAB) ++
    ([0x47, 0x01, 0x00, 0x31, 7, 0x10, 1, 2, 3, 4, 5, 6] ++ List.replicate 176 0xCD)

set_option maxRecDepth 20000 in
example : (unpack fresh wVideo).2.toOption = some () ∧ (unpack fresh wVideo).1.mpegts.blocks.length = 2 ∧
    ((unpack fresh wVideo).1.mpegts.blocks.map fun p => p.adaption_field.map fun a => a.pcr) = [none, some [1, 2, 3, 4, 5, 6]] ∧
    wVideo.length = 380 := by decide +kernel

/-- every outcome is reachable: `wVideo` accepted; 3 bytes → `struct.error`; intra-packet-header bit (bit 19 of the
    channel-specific word) set → `Exception`; the SECOND packet's sync byte wrong → `Exception`; a trailing chunk of
    three bytes (shorter than the 4-byte transport header) → `Exception` -/
example : (unpack fresh (wVideo.take 3)).2 = .error .struct := by decide +kernel
set_option maxRecDepth 20000 in
example : (unpack fresh (wVideo.set 2 8)).2 = .error .generic := by decide +kernel
set_option maxRecDepth 20000 in
example : (unpack fresh (wVideo.set 192 0x46)).2 = .error .generic := by decide +kernel
set_option maxRecDepth 20000 in
example : (unpack fresh (wVideo ++ [0x47, 0, 0])).2 = .error .generic := by decide +kernel

end Acra.Props.C08
