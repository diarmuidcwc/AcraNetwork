import Acra.Lemmas.iNetX
namespace Acra.Props.C08
open Acra.Py Acra.Model.iNetX

/-- `iNetX.unpack` is a straight-line function of the buffer: no loop, so it never runs out of fuel
    (the model has no fuel parameter at all); on any bytes it returns or raises ValueError/struct.error -/
theorem iNetX_unpack_total (t : State) (buf : Bytes) :
    (unpack t buf).2 = .ok () ∨ (unpack t buf).2 = .error .value ∨ (unpack t buf).2 = .error .struct := by
  rw [Lemmas.iNetX.decodes.snd_eq, Lemmas.iNetX.run]
  split <;> simp [Except.map]

end Acra.Props.C08
