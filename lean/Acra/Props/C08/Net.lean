import Acra.Lemmas.Net
import Acra.Lemmas.Pcap
import Acra.Props.C05.Pcap
namespace Acra.Props.C08
open Acra.Py Acra.Model.Net Acra.Gen.Net Acra.Lemmas.Net Acra.Lemmas

/-! The SimpleEthernet decoders are straight-line functions of the buffer (no loop, no fuel parameter in the
    model): on any bytes they return or raise one of the listed ordinary exceptions. -/

theorem IP_unpack_total (t : IP) (buf : Bytes) :
    (IP.unpack t buf).2 = .ok () ∨ (IP.unpack t buf).2 = .error .value := by
  rw [IP_decodes.snd_eq]; unfold ipRun; split <;> simp [Except.map]

theorem UDP_unpack_total (t : UDP) (buf : Bytes) :
    (UDP.unpack t buf).2 = .ok () ∨ (UDP.unpack t buf).2 = .error .value := by
  rw [UDP_decodes.snd_eq]; unfold udpRun; split <;> simp [Except.map]

theorem Ethernet_unpack_short (t : Eth) (buf : Bytes) (fcs : Bool) (h : buf.length < 14) :
    (Eth.unpack t buf fcs).2 = .error .struct :=
  (Eth_decodes.error_iff t (buf, fcs) _).2 (if_pos (Nat.lt_of_lt_of_le h (hdrLen_ge buf)))

theorem Ethernet_unpack_total (t : Eth) (buf : Bytes) (fcs : Bool) :
    (Eth.unpack t buf fcs).2 = .ok () ∨ (Eth.unpack t buf fcs).2 = .error .struct ∨
    (Eth.unpack t buf fcs).2 = .error .generic := by
  rw [show (Eth.unpack t buf fcs).2 = _ from Eth_decodes.snd_eq t (buf, fcs)]
  unfold ethRun
  split
  · exact .inr (.inl rfl)
  · split
    · exact .inr (.inr rfl)
    · exact .inl rfl

theorem ARP_unpack_total (t : ARP) (buf : Bytes) :
    (ARP.unpack t buf).2 = .ok () ∨ (ARP.unpack t buf).2 = .error .struct ∨ (ARP.unpack t buf).2 = .error .os := by
  rw [ARP_decodes.snd_eq]; unfold arpRun
  split
  · split
    · exact .inr (.inl rfl)
    · exact .inr (.inr rfl)
  · exact .inl rfl

open Acra.Model.Pcap Acra.Gen.Pcap in
theorem PcapRecord_unpack_total (t : Rec) (buf : Bytes) :
    (Rec.unpack t buf).2 = .ok () ∨ (Rec.unpack t buf).2 = .error .value := by
  rw [Lemmas.Pcap.Rec_decodes.snd_eq]; unfold Lemmas.Pcap.recRun
  split
  · exact Or.inl rfl
  · exact Or.inr rfl

/-- `ICMP.unpack` is not implemented: NotImplementedError on every input -/
theorem ICMP_unpack_total (t : ICMP) (buf : Bytes) : (ICMP.unpack t buf).2 = .error .notImplemented := rfl

/-! Iterating a pcap file with ARBITRARY contents, from an object in ANY state: the fuel the model gives the loops
    (file length + 1) is never exhausted, and no more records come out than the file has 16-byte headers. -/
open Acra.Model.Pcap Acra.Lemmas.Pcap

theorem Pcap_iterate_fuel_sufficient (fs : FS) : (readAll (fuelFor fs) fs).2 ≠ .error .fuel :=
  readAll_nofuel fs _ (by simp only [fuelFor]; omega)

theorem Pcap_getitem_fuel_sufficient (fs : FS) (item : Int) : (getitem fs item).2 ≠ .error .fuel :=
  getitem_nofuel fs item

/-- at most one record per 16 bytes: in particular no more items than the file has bytes -/
theorem Pcap_items_le_bytes (fs : FS) (rs : List Rec) (h : (readAll (fuelFor fs) fs).2 = .ok rs) :
    16 * rs.length ≤ (fs.file.getD []).length ∧ rs.length ≤ (fs.file.getD []).length := by
  have := C05.items_le_bytes _ fs rs h
  exact ⟨this, by omega⟩

/-- every step of the reader consumes at least the 16-byte header (why the fuel suffices) -/
theorem Pcap_step_progress (rest : Bytes) (r : Rec) (n : Nat) (h : nextRec rest = some (r, n)) :
    16 ≤ n ∧ n ≤ rest.length := by
  obtain ⟨h1, h2, _⟩ := nextRec_some rest r n h
  exact ⟨h1, h2⟩

open Acra.Props.C05 in
/-- example for `Pcap_items_le_bytes`: the 76-byte file of `Props/C05/Pcap.wRecs` (three records, one
    with an empty payload) read with exactly the fuel the driver uses (`fuelFor fs` = 77) -/
example : let fs : FS := (openFile ⟨some (fileOf wRecs), none⟩ .r).1
    (readAll (fuelFor fs) fs).2.toOption = some wRecs ∧ fuelFor fs = 77 := by decide +kernel

open Acra.Props.C05 in
/-- …and on a file that is NOT a pcap file at all (arbitrary contents: 40 bytes of 0xFF after a header-sized
    prefix): one record with a truncated payload, then the iteration stops -/
example : let fs : FS := (openFile ⟨some (List.replicate 64 0xFF), none⟩ .r).1
    ((readAll (fuelFor fs) fs).2.toOption.map List.length) = some 1 := by decide +kernel

-- `Pcap_step_progress`: a complete record, and a header whose payload is cut short
example : (nextRec [1, 0, 0, 0, 2, 0, 0, 0, 3, 0, 0, 0, 3, 0, 0, 0, 7, 8, 9, 5, 5]).map (·.2) = some 19 ∧
    (nextRec [1, 0, 0, 0, 2, 0, 0, 0, 200, 0, 0, 0, 200, 0, 0, 0, 7, 8]).map (·.2) = some 18 := by decide +kernel
-- `Ethernet_unpack_short`
example : ([1, 2, 3, 4, 5, 6, 7, 8, 9, 10, 11, 12, 13] : Bytes).length < 14 := by decide
end Acra.Props.C08
