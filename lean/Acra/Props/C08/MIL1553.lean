import Acra.Lemmas.Ch11MIL1553
import Acra.Py.Records
namespace Acra.Props.C08
open Acra.Py Acra.Model.Ch11Pay Acra.Model.Ch11Pay.MIL1553 Acra.Gen.Ch11MIL1553 Acra.Lemmas.Ch11MIL1553 Acra.Lemmas.Ch11Pay Acra.Lemmas

/-! ### the element decoders: they have no loop and no fuel in their models, so `≠ .error .fuel` holds by
    construction; what C08 says about them is which ordinary exceptions can occur -/

theorem Ipts_unpack_outcomes (t : Ipts) (buf : Bytes) :
    (∃ i, Ipts.unpack t buf = .ok i) ∨ Ipts.unpack t buf = .error .struct ∨ Ipts.unpack t buf = .error .attribute := by
  rw [Ipts_unpack_eq]
  split
  · exact Or.inr (Or.inr rfl)
  · split
    · exact Or.inl ⟨_, rfl⟩
    · exact Or.inr (Or.inl rfl)

theorem Ipts_unpack_nofuel (t : Ipts) (buf : Bytes) : Ipts.unpack t buf ≠ .error .fuel := by
  rcases Ipts_unpack_outcomes t buf with ⟨i, h⟩ | h | h <;> rw [h] <;> simp

theorem Ipts_unpack_ok8 (t : Ipts) (hn : t ≠ .none) (b : Bytes) (h : b.length = 8) : ∃ i, Ipts.unpack t b = .ok i :=
  ⟨_, by rw [Ipts_unpack_eq, if_neg hn, if_pos h]⟩

theorem MILMsg_unpack_outcomes (t : Msg) (buf : Bytes) :
    (∃ n, (Msg.unpack t buf).2 = .ok n) ∨ (Msg.unpack t buf).2 = .error .struct ∨
    (Msg.unpack t buf).2 = .error .attribute :=
  R.ok_or_error fun e h => by
    rcases (msgRun_error_iff _ _ _).1 ((Msg_decodes.error_iff t buf e).1 h) with ⟨_, rfl⟩ | ⟨_, _, rfl⟩ <;> simp

theorem MILMsg_unpack_total (t : Msg) (buf : Bytes) : (Msg.unpack t buf).2 ≠ .error .fuel := by
  rcases MILMsg_unpack_outcomes t buf with ⟨n, h⟩ | h | h <;> rw [h] <;> simp

/-- a message decoder with a time-stamp kind accepts every buffer that holds the 14 header bytes
    (the loop condition `offset + 14 < len` guarantees 15) -/
theorem MILMsg_unpack_ok_of_len (m : Msg) (hn : m.ipts ≠ .none) (b : Bytes) (h : 14 ≤ b.length) :
    ∃ m' n, Msg.unpack m b = (m', .ok n) :=
  ⟨_, _, Msg_decodes.of_run ((msgRun_ok_iff _ _ _).2 ⟨mt (kindOf_none _).1 hn, h, rfl⟩)⟩

/-- the per-iteration bound for the loop step: an accepted message advances by the 14-byte
    intra-packet header plus the declared length -/
theorem decMsg_advance_ge (proto : R Msg) (b : Bytes) (m : Msg) (n : Nat) (h : decMsg proto b = .ok (m, n)) :
    14 ≤ n ∧ n = 14 + m.length ∧ 14 ≤ b.length := by
  cases proto with
  | error e => cases h
  | ok m0 =>
    rw [decMsg_ok_run] at h
    obtain ⟨_, h14, e⟩ := (msgRun_ok_iff _ _ _).1 h
    cases e
    exact ⟨by omega, by rw [msgAt_kindOf], h14⟩

theorem MILMsg_unpack_consumes (t : Msg) (buf : Bytes) (m : Msg) (n : Nat) (h : Msg.unpack t buf = (m, .ok n)) : 14 ≤ n :=
  (decMsg_advance_ge (.ok t) buf m n (by rw [decMsg, h])).1

theorem decMsg_progress (proto : R Msg) (hp : proto ≠ .error .fuel) : Progress (decMsg proto) where
  pos := fun b x n h => by have := (decMsg_advance_ge proto b x n h).1; omega
  nofuel := by
    intro b h
    cases proto with
    | error e => cases h; exact hp rfl
    | ok m0 =>
      rw [decMsg_ok_run] at h
      rcases (msgRun_error_iff _ _ _).1 h with ⟨_, h⟩ | ⟨_, _, h⟩ <;> cases h
  empty := fun x n h => by have := (decMsg_advance_ge proto [] x n h).2.2; simp at this

theorem MIL_proto_nofuel (p : Packet) : p.proto ≠ .error .fuel := by
  rcases proto_cases p with ⟨_, h⟩ | ⟨_, _, _, _, h⟩ | ⟨_, _, _, h⟩ <;> rw [h] <;> exact fun h => nomatch h

theorem MIL_proto_ipts (p : Packet) (m0 : Msg) (h : p.proto = .ok m0) : m0.ipts ≠ .none := by
  rcases proto_cases p with ⟨_, h'⟩ | ⟨_, _, _, hi, h'⟩ | ⟨_, _, _, h'⟩ <;> rw [h'] at h <;> cases h
  exact iptsOfSource_ne_none hi

/-- witness: RTC-stamped packet with two messages (lengths 0 and 3) -/
def wMIL : Bytes :=
  [2, 0, 0, 192,  1, 0, 0, 0, 0, 0, 0, 0, 0, 0, 0, 0, 0, 0,  77, 0, 0, 0, 0, 0, 0, 0, 255, 255, 3, 0, 3, 0, 1, 2, 3]

example : (Packet.unpack ⟨[], 0, 0, some 0⟩ wMIL).2 = .ok () ∧
    (Packet.unpack ⟨[], 0, 0, some 0⟩ wMIL).1.messages = [⟨.rtc 1, 0, 0, 0, []⟩, ⟨.rtc 77, 0xFFFF, 3, 3, [1, 2, 3]⟩] := ⟨by rfl, by rfl⟩
example : Msg.unpack (Msg.fresh (.rtc 0)) (wMIL.drop 18) = (⟨.rtc 77, 0xFFFF, 3, 3, [1, 2, 3]⟩, .ok 17) := by decide +kernel
example : Packet.proto ⟨[], 0, 0, some 0⟩ = .ok (Msg.fresh (.rtc 0)) ∧
    decMsg (Packet.proto ⟨[], 0, 0, some 0⟩) (wMIL.drop 18) = .ok (⟨.rtc 77, 0xFFFF, 3, 3, [1, 2, 3]⟩, 17) := ⟨by rfl, by rfl⟩

/-! ### packet-level outcome list: `MILSTD1553DataPacket.unpack` returns, or raises `struct.error`
    (channel-specific word incomplete), a bare `Exception` (`ipts_source=None`) or `AttributeError` (an
    `ipts_source` that is neither `TS_CH4` nor `TS_IEEE1558`); each kind characterised on the bytes -/

/-- exactly: `struct.error` iff fewer than 4 bytes; otherwise the exception of the constructor call
    `MILSTD1553Message(self._ipts_source)` — raised iff the loop is entered at all (more than 18 bytes: the loop
    starts at offset 4 and tests `offset + 14 < len(mybuffer)`) —
    and a value in every other case: the message decoder itself cannot fail inside the loop -/
theorem MIL_unpack_error_iff (t : Packet) (buf : Bytes) (e : Err) :
    (Packet.unpack t buf).2 = .error e ↔
      (buf.length < 4 ∧ e = .struct) ∨ (18 < buf.length ∧ t.proto = .error e) := by
  rw [Packet_decodes.error_iff, packetRun, show (Packet.fresh t.ipts_source).proto = t.proto from rfl,
    R.ite_error_eq_error, R.map_eq_error]
  refine or_congr_right ?_
  cases hp : t.proto with
  | error e0 =>
    rw [decOff_proto_error]
    by_cases h18 : 18 < buf.length <;> simp [h18, eq_comm]; omega
  | ok m0 =>
    have hn := MIL_proto_ipts t m0 hp
    refine iff_of_false (fun ⟨_, hd⟩ => ?_) (fun h => nomatch h.2)
    -- inside the loop at least 15 bytes are left, and 14 are all the message decoder needs
    obtain ⟨ms, o, _, hm, he⟩ := (Acra.Lemmas.RecordsErr.decOff_error_iff (decMsg (.ok m0)) more1553 buf
      (decMsg_progress _ (by simp)) (buf.length + 1) 4 (by omega) e).1 hd
    simp only [more1553, decide_eq_true_eq] at hm
    rw [decMsg_ok_run] at he
    rcases (msgRun_error_iff _ _ _).1 he with ⟨hk, _⟩ | ⟨_, hl, _⟩
    · exact hn ((kindOf_none _).1 hk)
    · rw [List.length_drop] at hl; omega

/-- the outcome list — nothing else, in particular never `fuel` -/
theorem MIL_unpack_outcomes (t : Packet) (buf : Bytes) :
    (Packet.unpack t buf).2 = .ok () ∨ (Packet.unpack t buf).2 = .error .struct ∨
    ((Packet.unpack t buf).2 = .error .generic ∧ t.ipts_source = Option.none) ∨
    ((Packet.unpack t buf).2 = .error .attribute ∧ ∃ s, t.ipts_source = some s ∧ iptsOfSource s = Option.none) := by
  cases hr : (Packet.unpack t buf).2 with
  | ok u => exact Or.inl rfl
  | error e =>
    rcases (MIL_unpack_error_iff t buf e).1 hr with ⟨_, rfl⟩ | ⟨_, hp⟩
    · exact Or.inr (Or.inl rfl)
    · rcases proto_cases t with ⟨hs, h⟩ | ⟨_, _, _, _, h⟩ | ⟨s, hs, hi, h⟩ <;> rw [h] at hp <;> cases hp
      · exact Or.inr (Or.inr (Or.inl ⟨rfl, hs⟩))
      · exact Or.inr (Or.inr (Or.inr ⟨rfl, s, hs, hi⟩))

/-- `MILSTD1553DataPacket.unpack` terminates on every buffer: the fuel (len + 1) is never exhausted.  Every message
    advances the offset (by 14 at least, `decMsg_progress`), so a loop that starts at offset 4 needs one unit per message
    and one for the failing loop test, at most `len − 4 + 1` (`decOff_fuel_sufficient`). -/
theorem MIL_unpack_total (t : Packet) (buf : Bytes) : (Packet.unpack t buf).2 ≠ .error .fuel := by
  rcases MIL_unpack_outcomes t buf with h | h | ⟨h, _⟩ | ⟨h, _⟩ <;> rw [h] <;> simp

/-- work bound with the real stride: at most ⌈(|buf| − 4)/14⌉ messages -/
theorem MIL_items_stride (t : Packet) (buf : Bytes) (h : (Packet.unpack t buf).2 = .ok ()) :
    (Packet.unpack t buf).1.messages.length * 14 ≤ (buf.length - 4) + 13 :=
  Acra.Py.decOff_items_stride (decMsg t.proto) more1553 buf (decMsg_progress _ (MIL_proto_nofuel t)) 14
    (fun b x n hb => (decMsg_advance_ge _ b x n hb).1) _ 4 _ (packetRun_ok (Packet_decodes.of_ok h)).2.2

/-- work bound: at most one message per byte after the channel-specific word -/
theorem MIL_items_le (t : Packet) (buf : Bytes) (h : (Packet.unpack t buf).2 = .ok ()) :
    (Packet.unpack t buf).1.messages.length ≤ buf.length - 4 := by
  have := MIL_items_stride t buf h
  omega

/-- every outcome is reachable: `wMIL` accepted; 3 bytes → `struct.error`; `ipts_source=None` → bare `Exception`;
    `ipts_source=7` → `AttributeError`; and with `ipts_source=None` a buffer of at most 18 bytes is ACCEPTED (the
    loop body, and with it the failing constructor call, is never reached) -/
example : (Packet.unpack ⟨[], 0, 0, some 0⟩ wMIL).2 = .ok () := by decide +kernel
example : (Packet.unpack ⟨[], 0, 0, some 0⟩ (wMIL.take 3)).2 = .error .struct := by decide +kernel
example : (Packet.unpack ⟨[], 0, 0, Option.none⟩ wMIL).2 = .error .generic := by decide +kernel
example : (Packet.unpack ⟨[], 0, 0, some 7⟩ wMIL).2 = .error .attribute := by decide +kernel
example : (Packet.unpack ⟨[], 0, 0, Option.none⟩ (wMIL.take 18)).2 = .ok () := by decide +kernel

/-- examples for the helper lemmas above: `Ipts_unpack_ok8` (a PTP stamp decoder on 8 bytes), `MILMsg_unpack_ok_of_len`
    (an RTC message decoder on the 15 bytes the loop condition guarantees), `MIL_proto_ipts` (the prototype for source 1) -/
example : (Ipts.ptp 0 0 ≠ .none) ∧ ([1, 0, 0, 0, 2, 0, 0, 0] : Bytes).length = 8 ∧
    Ipts.unpack (.ptp 0 0) [1, 0, 0, 0, 2, 0, 0, 0] = .ok (.ptp 2 1) := ⟨by decide, rfl, rfl⟩
example : (Msg.fresh (.rtc 0)).ipts ≠ .none ∧ 14 ≤ (wMIL.drop 18).length ∧
    (Msg.unpack (Msg.fresh (.rtc 0)) ((wMIL.drop 18).take 15)).2 = .ok 17 := ⟨by decide, by decide, rfl⟩
example : Packet.proto ⟨[], 0, 0, some 1⟩ = .ok (Msg.fresh (.ptp 0 0)) ∧ (Msg.fresh (.ptp 0 0)).ipts ≠ .none := ⟨rfl, by decide⟩

end Acra.Props.C08
