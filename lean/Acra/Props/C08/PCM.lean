import Acra.Lemmas.Ch11PCM
namespace Acra.Props.C08
open Acra.Py Acra.Model.Ch11Pay Acra.Model.Ch11Pay.PCM Acra.Gen.Ch11PCM Acra.Lemmas.Ch11PCM

/-! ### the minor-frame decoder: no loop and no fuel in its model, so `≠ .error .fuel` holds by construction; what C08
    says about it is which ordinary exceptions can occur, and on which buffers -/

theorem PCMFrame_unpack_outcomes (t : Frame) (buf : Bytes) (ex : Bool) :
    (Frame.unpack t buf ex).2 = .ok () ∨ (Frame.unpack t buf ex).2 = .error .struct ∨
    (Frame.unpack t buf ex).2 = .error .attribute ∨ (Frame.unpack t buf ex).2 = .error .key := by
  rw [Frame_unpack_snd]
  by_cases h1 : t.ipts ≠ .none ∧ buf.length < 8
  · rw [if_pos h1]
    exact Or.inr (Or.inl rfl)
  rw [if_neg h1]
  by_cases h2 : t.throughput = true
  · rw [if_pos h2]
    exact Or.inl rfl
  rw [if_neg h2]
  by_cases h3 : 2 ≤ t.alignment
  · rw [if_pos h3]
    exact Or.inr (Or.inr (Or.inr rfl))
  rw [if_neg h3]
  by_cases h4 : buf.length < 8 + hdrLen t.alignment + (if ex then 6 else 0)
  · rw [if_pos h4]
    exact Or.inr (Or.inl rfl)
  · rw [if_neg h4]
    exact Or.inl rfl

theorem PCMFrame_unpack_total (t : Frame) (buf : Bytes) (ex : Bool) : (Frame.unpack t buf ex).2 ≠ .error .fuel := by
  rcases PCMFrame_unpack_outcomes t buf ex with h | h | h | h <;> simp [h]

/-- a packed-mode frame object (which always has a time stamp) does not decode the empty slice -/
theorem PCMFrame_unpack_nil (t : Frame) (ex : Bool) (h : t.ipts ≠ .none) : (Frame.unpack t [] ex).2 ≠ .ok () :=
  fun hok => absurd (Frame_unpack_ok_len t h [] ex hok).1 (by decide)

/-- a packed-mode frame object (time stamp, not throughput) only decodes a slice that holds the 8-byte
    time stamp and the 2- or 4-byte data header: at least 10 bytes -/
theorem PCMFrame_unpack_ok_len (t : Frame) (buf : Bytes) (ex : Bool) (hi : t.ipts ≠ .none) (ht : t.throughput = false)
    (h : (Frame.unpack t buf ex).2 = .ok ()) : 10 ≤ buf.length :=
  (Frame_unpack_ok_len t hi buf ex h).2 ht

/-- bytes a packed-mode frame decoder needs: time stamp (8), data header (2 for 16-bit, 4 for 32-bit alignment), and with
    `extract_sync_sfid` three more half words -/
def pcmNeed (a : Nat) (ex : Bool) : Nat := 8 + (if a = 0 then 2 else 4) + (if ex then 6 else 0)

theorem Ipts_unpack_short (t : Ipts) (hn : t ≠ .none) (b : Bytes) (h : b.length ≠ 8) : Ipts.unpack t b = .error .struct := by
  rw [Lemmas.Ch11Pay.Ipts_unpack_eq, if_neg hn, if_neg h]

/-- whether a packed-mode frame object decodes a slice depends on the slice's LENGTH only; the exception otherwise is
    `struct.error` -/
theorem PCMFrame_packed_unpack_iff (f : Frame) (a : Nat) (ha : a < 2) (hn : f.ipts ≠ .none) (ht : f.throughput = false)
    (hal : f.alignment = a) (b : Bytes) (ex : Bool) :
    ((Frame.unpack f b ex).2 = .ok () ↔ pcmNeed a ex ≤ b.length) ∧
    ((Frame.unpack f b ex).2 = .ok () ∨ (Frame.unpack f b ex).2 = .error .struct) := by
  subst hal
  rw [Frame_unpack_packed f hn ht ha]
  by_cases h : pcmNeed f.alignment ex ≤ b.length
  · simp [if_pos (show 8 + hdrLen f.alignment + (if ex then 6 else 0) ≤ b.length from h), h]
  · simp [if_neg (show ¬ 8 + hdrLen f.alignment + (if ex then 6 else 0) ≤ b.length from h), h]

/-! ### the packed-mode loop `while offset + req <= len` -/

/-- every iteration that decodes a frame advances, so fuel len − off + 1 is never exhausted -/
theorem decFrames_fuel_sufficient (proto : Frame) (ex : Bool) (req : Nat) (buf : Bytes) (hp : proto.ipts ≠ .none)
    (fuel off : Nat) (hf : buf.length - off + 1 ≤ fuel) :
    decFrames proto ex req buf fuel off ≠ .error .fuel := by
  intro h
  have := decFrames_run proto ex req buf 8 (by decide) (fun b h => (Frame_unpack_ok_len proto hp b ex h).1) fuel off
  rw [h] at this
  rcases this with ⟨_, hlt⟩ | ⟨he, _⟩
  · omega
  · cases he

theorem decFrames_items_le (proto : Frame) (ex : Bool) (req : Nat) (buf : Bytes) (hp : proto.ipts ≠ .none)
    (fuel off : Nat) (fs : List Frame) (h : decFrames proto ex req buf fuel off = .ok fs) : fs.length ≤ buf.length - off := by
  have := decFrames_run proto ex req buf 8 (by decide) (fun b h => (Frame_unpack_ok_len proto hp b ex h).1) fuel off
  rw [h] at this
  have := this.1
  omega

/-- every iteration of the packed-mode loop that yields a frame has `req ≥ 10`, and the frames
    fit side by side in the buffer -/
theorem decFrames_items_stride (proto : Frame) (ex : Bool) (req : Nat) (buf : Bytes) (hp : proto.ipts ≠ .none)
    (ht : proto.throughput = false) (fuel off : Nat) (fs : List Frame)
    (h : decFrames proto ex req buf fuel off = .ok fs) :
    fs.length * 10 ≤ buf.length - off ∧ fs.length * req ≤ buf.length - off := by
  have := decFrames_run proto ex req buf 10 (by decide) (fun b h => (Frame_unpack_ok_len proto hp b ex h).2 ht) fuel off
  rwa [h] at this

/-- the packed-mode loop raises — always a bare `Exception` — exactly when its first slice exists and is too short
    (all slices have the same length `req`, so the first one decides) -/
theorem decFrames_error_iff (f : Frame) (a : Nat) (ha : a < 2) (hn : f.ipts ≠ .none) (ht : f.throughput = false)
    (hal : f.alignment = a) (ex : Bool) (req : Nat) (buf : Bytes) (fuel off : Nat)
    (hf : buf.length - off + 1 ≤ fuel) (e : Err) :
    decFrames f ex req buf fuel off = .error e ↔ e = .generic ∧ off + req ≤ buf.length ∧ req < pcmNeed a ex := by
  have hacc := fun b => (PCMFrame_packed_unpack_iff f a ha hn ht hal b ex).1
  constructor
  · intro h
    have := decFrames_run f ex req buf 8 (by decide) (fun b h => (Frame_unpack_ok_len f hn b ex h).1) fuel off
    rw [h] at this
    rcases this with ⟨_, hlt⟩ | ⟨he, hle, b, hb, hnb⟩
    · omega
    · rw [Ne, hacc, hb] at hnb
      exact ⟨he, hle, by omega⟩
  · rintro ⟨rfl, hle, hlt⟩
    obtain ⟨fuel, rfl⟩ : ∃ k, fuel = k + 1 := ⟨fuel - 1, by omega⟩
    refine decFrames_refused f ex req buf fuel off hle ?_
    rw [Ne, hacc, slice_length]
    omega

theorem fresh_ipts_ne_none (src : Option Nat) (a : Nat) : (Frame.fresh src false a).ipts ≠ .none := by
  simp only [Frame.fresh, Bool.false_eq_true, if_false]
  split <;> simp

/-! ### the packet decoder: `PCMDataPacket.unpack` returns, or raises `struct.error` (channel-specific word incomplete;
    sync-word option that does not fit 32 bits) or a bare `Exception` (packed mode: the frame slice is too short for the
    time stamp + data header [+ sync/SFID words]); each kind characterised on the bytes -/

/-- size detection fails only when the sync-word option does not fit the 32-bit pattern it is packed into -/
theorem detect_error_iff (p : Packet) (buf : Bytes) (hl : Nat) (e : Err) :
    detect p buf hl = .error e ↔ e = .struct ∧ ∃ sw, p.syncword = some sw ∧ 4294967296 ≤ sw := by
  simp only [detect]
  cases hs : p.syncword with
  | none => simp
  | some sw =>
    simp only [PCM_unpack_fmt1, pack_word, Option.some.injEq, exists_eq_left']
    by_cases hlt : sw < 2 ^ 32
    · simp only [if_pos hlt]
      constructor
      · intro h; split at h <;> cases h
      · rintro ⟨_, h⟩; omega
    · rw [if_neg hlt, Except.error.injEq]
      constructor
      · rintro rfl; exact ⟨rfl, by omega⟩
      · rintro ⟨rfl, _⟩; rfl

theorem detect_nofuel (p : Packet) (buf : Bytes) (hl : Nat) : detect p buf hl ≠ .error .fuel :=
  fun h => nomatch ((detect_error_iff p buf hl .fuel).1 h).1

/-- the channel-specific word (little-endian 32 bits) of a buffer holding it -/
def pcmCsw (buf : Bytes) : Nat := decInt false (buf.take 4)
/-- the alignment bit (bit 21) and throughput bit (bit 20) of the channel-specific word -/
def pcmAlign (buf : Bytes) : Nat := (pcmCsw buf / 2097152) % 2
def pcmThroughput (buf : Bytes) : Prop := (pcmCsw buf / 1048576) % 2 = 1
/-- the slice length of the packed-mode loop for a frame size `size` (assigned or detected; may be negative when detected) -/
def pcmReq (buf : Bytes) (size : Int) : Nat :=
  (size + ((8 : Nat) : Int) + ((if pcmAlign buf = 0 then 2 else 4 : Nat) : Int)).toNat

instance (buf : Bytes) : Decidable (pcmThroughput buf) := by unfold pcmThroughput; exact inferInstance

/-- exactly which exception, and when.  Throughput mode never fails once the 4-byte word is there. -/
theorem PCM_unpack_error_iff (t : Packet) (buf : Bytes) (ex : Bool) (e : Err) :
    (Packet.unpack t buf ex).2 = .error e ↔
      (buf.length < 4 ∧ e = .struct) ∨
      (4 ≤ buf.length ∧ ¬ pcmThroughput buf ∧
        ((t.assigned = Option.none ∧ e = .struct ∧ ∃ sw, t.syncword = some sw ∧ 4294967296 ≤ sw) ∨
         (∃ size : Int, (t.assigned = some size.toNat ∧ 0 ≤ size ∨
              t.assigned = Option.none ∧ detect t buf (if pcmAlign buf = 0 then 2 else 4) = .ok size) ∧
            e = .generic ∧ 4 + pcmReq buf size ≤ buf.length ∧ pcmReq buf size < pcmNeed (pcmAlign buf) ex))) := by
  -- the right-hand side in terms of `frameSize`: it fails, or gives a size with which the loop fails
  have hE : (t.assigned = Option.none ∧ e = .struct ∧ ∃ sw, t.syncword = some sw ∧ 4294967296 ≤ sw) ↔
      frameSize t buf (hdrLen (pcmAlign buf)) = .error e := by
    rw [frameSize_error_iff, detect_error_iff]
  have hO : ∀ size : Int, (t.assigned = some size.toNat ∧ 0 ≤ size ∨
      t.assigned = Option.none ∧ detect t buf (if pcmAlign buf = 0 then 2 else 4) = .ok size) ↔
      frameSize t buf (hdrLen (pcmAlign buf)) = .ok size := fun size => (frameSize_ok_iff t buf _ size).symm
  simp only [hE, hO]
  rw [Acra.Lemmas.Decodes.error_iff Packet_decodes t (buf, ex)]
  simp only [packetRun, pcfg, frameSize_cfg]
  by_cases h4 : buf.length < 4
  · simp [h4, Nat.not_le.2 h4, eq_comm]
  · have hframe := fun req => decFrames_error_iff (Frame.fresh t.ipts_source false (pcmAlign buf)) (pcmAlign buf)
      (by unfold pcmAlign; omega) (fresh_ipts_ne_none _ _) rfl rfl ex req buf (buf.length + 1) 4 (by omega) e
    simp only [h4, Nat.not_lt.1 h4, if_false, false_and, false_or, true_and]
    show (if pcmThroughput buf then _ else _ : R (Packet × Unit)) = _ ↔ _
    by_cases hthr : pcmThroughput buf
    · simp [hthr]
    · simp only [hthr, if_false, not_false_eq_true, true_and]
      show ((frameSize t buf (hdrLen (pcmAlign buf))).bind fun size =>
        (decFrames (Frame.fresh t.ipts_source false (pcmAlign buf)) ex (pcmReq buf size) buf (buf.length + 1) 4).map _) = _ ↔ _
      cases frameSize t buf (hdrLen (pcmAlign buf)) with
      | error e' => simp [Except.bind, eq_comm]
      | ok size =>
        simp only [Except.bind, reduceCtorEq, false_or, Except.ok.injEq, exists_eq_left', ← hframe]
        cases decFrames (Frame.fresh t.ipts_source false (pcmAlign buf)) ex (pcmReq buf size) buf (buf.length + 1) 4 <;>
          simp [Except.map]

/-- the outcome list — nothing else, in particular never `fuel`, nor the `KeyError` the frame decoder raises for an
    alignment key other than 0 / 1 (`PCMFrame_unpack_outcomes`): the packet decoder builds its frame objects with 0 or 1 -/
theorem PCM_unpack_outcomes (t : Packet) (buf : Bytes) (ex : Bool) :
    (Packet.unpack t buf ex).2 = .ok () ∨ (Packet.unpack t buf ex).2 = .error .struct ∨
    (Packet.unpack t buf ex).2 = .error .generic :=
  (R.ok_or_error fun e hr => by
    rcases (PCM_unpack_error_iff t buf ex e).1 hr with ⟨_, rfl⟩ | ⟨_, _, ⟨_, rfl, _⟩ | ⟨_, _, rfl, _⟩⟩ <;> simp).imp_left
    fun ⟨_, h⟩ => h

/-- `PCMDataPacket.unpack` terminates on every buffer, in throughput and packed mode, with or without
    a size hint or sync word -/
theorem PCM_unpack_total (t : Packet) (buf : Bytes) (ex : Bool) : (Packet.unpack t buf ex).2 ≠ .error .fuel := by
  rcases PCM_unpack_outcomes t buf ex with h | h | h <;> simp [h]

/-- packet-level work bound: an accepted buffer yields
    at most `(|buf| + 6)/10` frames (one frame in throughput mode; at most `(|buf| − 4)/10` in packed mode) -/
theorem PCM_items_le (t : Packet) (buf : Bytes) (ex : Bool) (h : (Packet.unpack t buf ex).2 = .ok ()) :
    (Packet.unpack t buf ex).1.minor_frames.length * 10 ≤ buf.length + 6 ∧
    (Packet.unpack t buf ex).1.minor_frames.length ≤ buf.length := by
  obtain ⟨h4, _, ⟨_, h1⟩ | ⟨size, hd⟩⟩ := packetRun_ok (Acra.Lemmas.Decodes.of_ok Packet_decodes (buf := (buf, ex)) h)
  · rw [h1]; dsimp only at h4; omega
  · have := decFrames_items_stride _ _ _ _ (fresh_ipts_ne_none _ _) rfl _ _ _ hd
    dsimp only at this
    omega

/-- witness: packed mode, 32-bit alignment, PTP stamps, two minor frames of 3 data bytes (+1 fill) -/
def wPCM : Bytes :=
  [0, 0, 32, 0,  8, 0, 0, 0, 7, 0, 0, 0, 255, 255, 255, 255, 1, 2, 3, 0,  10, 0, 0, 0, 9, 0, 0, 0, 5, 0, 0, 0, 4, 5, 6, 0]

example : (Packet.unpack (Packet.fresh (some 1) Option.none (some 3)) wPCM false).2 = .ok () ∧
    (Packet.unpack (Packet.fresh (some 1) Option.none (some 3)) wPCM false).1.minor_frames.map (fun f => (f.ipts, f.hdr, f.data)) =
      [(.ptp 7 8, some 0xFFFFFFFF, [1, 2, 3]), (.ptp 9 10, some 5, [4, 5, 6])] := by decide +kernel
-- example for `decFrames_fuel_sufficient`, `decFrames_items_le`, `decFrames_items_stride`: req = 3 + 8 + 4 = 15
example : (Frame.fresh (some 1) false 1).ipts ≠ .none ∧ (Frame.fresh (some 1) false 1).throughput = false ∧
    wPCM.length - 4 + 1 ≤ 37 ∧
    (decFrames (Frame.fresh (some 1) false 1) false 15 wPCM 37 4).map List.length = .ok 2 :=
  by decide +kernel
example : (Frame.unpack (Frame.fresh (some 1) false 1) (slice wPCM 4 19) false).2 = .ok () := by decide +kernel
-- `PCMFrame_unpack_nil`: a prototype with a time stamp
example : (Frame.fresh Option.none false 0).ipts ≠ .none := fresh_ipts_ne_none _ _
-- `detect_nofuel` (no hypothesis besides its arguments): size detection from two sync words
example : detect (Packet.fresh (some 1) (some 0x01020300) Option.none)
    [0, 0, 32, 0, 9, 9, 9, 9, 9, 9, 9, 9, 9, 9, 9, 9, 1, 2, 3, 0, 9, 9, 9, 9, 9, 9, 9, 9, 9, 9, 9, 9, 1, 2, 3, 0] 4 = .ok 4 := by decide +kernel
/-- every outcome is reachable: `wPCM` accepted; 3 bytes → `struct.error`; sync-word option 2^32 without a size hint →
    `struct.error`; with `extract_sync_sfid` a frame size of 3 (slice of 15 < 18 bytes) → `Exception`; a throughput-mode
    word followed by anything → accepted -/
example : (Packet.unpack (Packet.fresh (some 1) Option.none (some 3)) wPCM false).2 = .ok () := by decide +kernel
example : (Packet.unpack (Packet.fresh (some 1) Option.none (some 3)) (wPCM.take 3) false).2 = .error .struct := by decide +kernel
example : (Packet.unpack (Packet.fresh (some 1) (some 4294967296) Option.none) wPCM false).2 = .error .struct := by decide +kernel
example : (Packet.unpack (Packet.fresh (some 1) Option.none (some 3)) wPCM true).2 = .error .generic := by decide +kernel
example : (Packet.unpack (Packet.fresh (some 1) Option.none Option.none) [0, 0, 0x10, 0, 1, 2, 3] false).2 = .ok () := by decide +kernel

/-- examples for the helper lemmas above.  `Ipts_unpack_short`: 7 bytes for an RTC stamp.  `PCMFrame_packed_unpack_iff`:
    the packed-mode prototype of `wPCM` (PTP, 32-bit alignment) satisfies the four hypotheses; a 12-byte slice is accepted,
    an 11-byte one refused, and with `extract_sync_sfid` 18 / 17 bytes.  `decFrames_error_iff`: on `wPCM` with a slice length
    of 11 the loop raises at once.  `detect_error_iff`: both sides on a 2^32 sync word. -/
example : (Ipts.rtc 0 ≠ .none) ∧ ([1, 2, 3, 4, 5, 6, 7] : Bytes).length ≠ 8 ∧
    Ipts.unpack (.rtc 0) [1, 2, 3, 4, 5, 6, 7] = .error .struct := ⟨by decide, by decide, rfl⟩
example : (1 < 2) ∧ (Frame.fresh (some 1) false 1).ipts ≠ .none ∧ (Frame.fresh (some 1) false 1).throughput = false ∧
    (Frame.fresh (some 1) false 1).alignment = 1 ∧ pcmNeed 1 false = 12 ∧ pcmNeed 1 true = 18 ∧ pcmNeed 0 false = 10 ∧
    (Frame.unpack (Frame.fresh (some 1) false 1) (slice wPCM 4 16) false).2 = .ok () ∧
    (Frame.unpack (Frame.fresh (some 1) false 1) (slice wPCM 4 15) false).2 = .error .struct ∧
    (Frame.unpack (Frame.fresh (some 1) false 1) (slice wPCM 4 22) true).2 = .ok () ∧
    (Frame.unpack (Frame.fresh (some 1) false 1) (slice wPCM 4 21) true).2 = .error .struct :=
  by decide +kernel
example : wPCM.length - 4 + 1 ≤ wPCM.length + 1 ∧
    decFrames (Frame.fresh (some 1) false 1) false 11 wPCM (wPCM.length + 1) 4 = .error .generic ∧
    4 + 11 ≤ wPCM.length ∧ 11 < pcmNeed 1 false := by decide +kernel
example : detect (Packet.fresh (some 1) (some 4294967296) Option.none) wPCM 4 = .error .struct ∧
    (Packet.fresh (some 1) (some 4294967296) Option.none).syncword = some 4294967296 := ⟨rfl, rfl⟩

end Acra.Props.C08
