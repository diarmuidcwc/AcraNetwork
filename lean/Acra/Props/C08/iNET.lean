import Acra.Model.iNET
import Acra.Props.C09.iNET
namespace Acra.Props.C08
open Acra.Py Acra.Model.iNET Acra.Gen.iNET Acra.Lemmas.iNET Acra.Lemmas.Walk

/-- `iNETPackage.unpack` is straight-line code: the rest of the buffer, ValueError (length field
    shorter than the header) or struct.error (header incomplete) -/
theorem iNETPackage_unpack_total (t : Pkg) (buf : Bytes) :
    (∃ r, (Pkg.unpack t buf).2 = .ok r) ∨ (Pkg.unpack t buf).2 = .error .value ∨
      (Pkg.unpack t buf).2 = .error .struct := by
  rw [Pkg_unpack_closed]
  split
  · exact Or.inr (Or.inr rfl)
  · split
    · exact Or.inr (Or.inl rfl)
    · exact Or.inl ⟨_, rfl⟩

/-- an accepted package declares at least the 12-byte header: the length check of `iNETPackage.unpack` rejects
    a package that declares fewer than 12 bytes, so the loop always advances (without it an iteration on a length
    field of 0 would consume nothing and `iNET.unpack` would never return) -/
theorem iNETPackage_accepted_length (t : Pkg) (buf r : Bytes) (h : (Pkg.unpack t buf).2 = .ok r) :
    12 ≤ (Pkg.unpack t buf).1.length ∧ 12 ≤ buf.length := by
  obtain ⟨hok, hp, _⟩ := (pkgRun_ok_iff ..).1 (Pkg_decodes.of_ok h)
  rw [hp]
  exact ⟨hok.2, hok.1⟩

theorem decPkg_progress : Progress decPkg := decPkg_eq ▸ pkgRec.progress

/-- the per-iteration bound, stated for the loop step: an accepted package advances the offset by
    its declared length (≥ 12, by the length check of `iNETPackage.unpack`) rounded up to a multiple of 4 -/
theorem decPkg_advance_ge (b : Bytes) (p : Pkg) (n : Nat) (h : decPkg b = .ok (p, n)) :
    12 ≤ n ∧ n % 4 = 0 ∧ p.length ≤ n ∧ n < p.length + 4 ∧ 12 ≤ b.length := by
  obtain ⟨hok, rfl, rfl⟩ := (pkgRec.run_ok_iff b p n).1 (decPkg_eq ▸ h)
  exact ⟨Nat.le_trans hok.2 (roundUp4_ge _), roundUp4_mod _, roundUp4_ge _, roundUp4_lt _, hok.1⟩

/-- `iNET.unpack` terminates on every buffer: the fuel the model gives the package loop is never exhausted -/
theorem iNET_unpack_total (t : State) (buf : Bytes) : (unpack t buf).2 ≠ .error .fuel := by
  intro h
  rcases (inetRun_error_iff buf .fuel).1 ((iNET_decodes.error_iff t buf _).1 h) with ⟨_, he⟩ | ⟨_, _, he⟩ | ⟨_, hl⟩
  · cases he
  · cases he
  · exact decOff_fuel_sufficient decPkg moreRem _ decPkg_progress _ 0 (Nat.le_refl _) hl

/-- witness: iNET packet, two application fields, packages of 17 (+3 pad) and 12 bytes -/
def wINET : Bytes :=
  [18, 3, 0, 0, 0, 0, 0, 0, 0, 0, 0, 0, 0, 0, 0, 64, 0, 0, 0, 0, 0, 0, 0, 0,  0, 0, 0, 1, 0, 0, 0, 2,
   0, 0, 0, 7, 0, 17, 0, 0, 0, 0, 0, 0, 1, 2, 3, 4, 5, 0, 0, 0,  0, 0, 0, 0, 0, 12, 0, 0, 0, 0, 0, 0]
example : (unpack fresh wINET).2 = .ok () ∧ (unpack fresh wINET).1.packages.length = 2 := ⟨by rfl, by rfl⟩
example : (Pkg.unpack Pkg.fresh (wINET.drop 32)).2 = .ok (wINET.drop 52) ∧ (Pkg.unpack Pkg.fresh (wINET.drop 32)).1.length = 17 := ⟨by rfl, by rfl⟩
example : decPkg (wINET.drop 32) = .ok ({ Pkg.fresh with definitionID := 7, length := 17, payload := [1, 2, 3, 4, 5] }, 20) := by rfl
example : decPkg [0, 0, 0, 7, 0, 0, 0, 0, 0, 0, 0, 0] = .error .value := by rfl

/-- work bound with the real stride: at most ⌈(|buf| − 24)/12⌉ packages -/
theorem iNET_items_stride (t : State) (buf : Bytes) (h : (unpack t buf).2 = .ok ()) :
    (unpack t buf).1.packages.length * 12 ≤ (buf.length - 24) + 11 := by
  obtain ⟨hle, pk, hd, hs⟩ := (inetRun_ok_iff ..).1 (iNET_decodes.of_ok h)
  rw [hs]
  have : pk.length * 12 ≤ (area buf).length - 0 + (12 - 1) := pkgRec.loop_stride (pkgLoop_eq buf ▸ hd)
  have hlen : (area buf).length ≤ buf.length - 24 := by rw [area, List.length_drop]; omega
  exact Nat.le_trans this (by omega)

/-- work bound: at most one package per byte of the buffer -/
theorem iNET_items_le (t : State) (buf : Bytes) (h : (unpack t buf).2 = .ok ()) :
    (unpack t buf).1.packages.length ≤ buf.length := by
  have := iNET_items_stride t buf h
  omega

/-- `iNET.unpack` returns, or raises `ValueError`, or `struct.error` — nothing else; and each kind is characterised
    on the bytes (`wc` = low nibble of byte 0, the declared number of option words):
    `ValueError` iff the buffer is shorter than 24 bytes, or — past the option words — the declarative package walk
    reaches a complete package header declaring fewer than 12 bytes (`PkgsReject .value`);
    `struct.error` iff the 24 bytes are there but not all `wc` option words, or the walk reaches, with bytes left, an
    incomplete package header (`PkgsReject .struct`); a value otherwise (`Acra.Props.C09.iNET_accepts_iff_fits`). -/
theorem iNET_unpack_outcomes (t : State) (buf : Bytes) :
    ((unpack t buf).2 = .ok () ∨ (unpack t buf).2 = .error .value ∨ (unpack t buf).2 = .error .struct) ∧
    ((unpack t buf).2 = .error .value ↔ buf.length < 24 ∨
      (24 + 4 * Acra.Props.C09.declaredWc buf ≤ buf.length ∧
        Acra.Lemmas.iNET.PkgsReject .value (buf.drop (24 + 4 * Acra.Props.C09.declaredWc buf)))) ∧
    ((unpack t buf).2 = .error .struct ↔ 24 ≤ buf.length ∧ (buf.length < 24 + 4 * Acra.Props.C09.declaredWc buf ∨
      Acra.Lemmas.iNET.PkgsReject .struct (buf.drop (24 + 4 * Acra.Props.C09.declaredWc buf)))) :=
  ⟨(Acra.Props.C09.iNET_rejects_iff t buf).2.2, (Acra.Props.C09.iNET_rejects_iff t buf).1,
   (Acra.Props.C09.iNET_rejects_iff t buf).2.1⟩

/-- every outcome is reachable, each error kind by both of its causes: `wINET` accepted; 23 bytes → `ValueError`;
    second package declaring 11 → `ValueError`; one of the two option words missing → `struct.error`;
    second package header cut → `struct.error` -/
example : (unpack fresh wINET).2 = .ok () := by rfl
example : (unpack fresh (wINET.take 23)).2 = .error .value := by rfl
example : (unpack fresh (wINET.set 57 11)).2 = .error .value := by rfl
example : (unpack fresh (wINET.take 28)).2 = .error .struct := by rfl
example : (unpack fresh (wINET.take 63)).2 = .error .struct := by rfl

end Acra.Props.C08
