import Acra.Lemmas.Ch11UART
import Acra.Py.Records
namespace Acra.Props.C08
open Acra.Py Acra.Model.Ch11Pay Acra.Model.Ch11Pay.UART Acra.Gen.Ch11UART Acra.Lemmas.Ch11UART Acra.Lemmas.Ch11Pay Acra.Lemmas

/-! ### the element decoders: they have no loop and no fuel in their models, so `≠ .error .fuel` holds by
    construction; what C08 says about them is which ordinary exceptions can occur -/

/-- the time-stamp step fails only with `struct.error`, and exactly when a time stamp is expected and fewer than
    8 bytes are there (`AttributeError` is guarded away by `if self.ipts is not None`) -/
theorem unpackTs_error_iff (i : Ipts) (buf : Bytes) (e : Err) :
    unpackTs i buf = .error e ↔ e = .struct ∧ i ≠ .none ∧ buf.length < 8 := by
  rw [unpackTs_eq]
  by_cases hn : i = .none
  · simp [hn]
  · by_cases h8 : 8 ≤ buf.length
    · simp [hn, h8]
    · simp [hn, h8, Nat.not_le.1 h8, eq_comm]

theorem unpackTs_outcomes (i : Ipts) (buf : Bytes) :
    (∃ r, unpackTs i buf = .ok r) ∨ unpackTs i buf = .error .struct ∨ unpackTs i buf = .error .attribute :=
  R.ok_or_error fun e h => .inl ((unpackTs_error_iff i buf e).1 h).1

theorem unpackTs_nofuel (i : Ipts) (buf : Bytes) : unpackTs i buf ≠ .error .fuel := by
  rcases unpackTs_outcomes i buf with ⟨r, h⟩ | h | h <;> rw [h] <;> simp

theorem unpackTs_off (i : Ipts) (buf : Bytes) (j : Ipts) (off : Nat) (h : unpackTs i buf = .ok (j, off)) : off = 0 ∨ off = 8 := by
  rw [unpackTs_eq] at h
  repeat' split at h
  all_goals cases h
  · exact Or.inl rfl
  · exact Or.inr rfl

/-- `UARTDataWord.unpack` fails only with `struct.error`, and exactly when the (optional) 8-byte time stamp and the
    4-byte word header are not all there -/
theorem UARTWord_unpack_error_iff (t : Word) (buf : Bytes) (e : Err) :
    (Word.unpack t buf).2 = .error e ↔ e = .struct ∧ buf.length < (if t.ipts = .none then 4 else 12) := by
  rw [Word_decodes.error_iff, wordRun_error_iff, tsOff_wcfg]

theorem UARTWord_unpack_outcomes (t : Word) (buf : Bytes) :
    (∃ n, (Word.unpack t buf).2 = .ok n) ∨ (Word.unpack t buf).2 = .error .struct ∨
    (Word.unpack t buf).2 = .error .attribute :=
  R.ok_or_error fun e h => .inl ((UARTWord_unpack_error_iff t buf e).1 h).1

theorem UARTWord_unpack_total (t : Word) (buf : Bytes) : (Word.unpack t buf).2 ≠ .error .fuel := by
  rcases UARTWord_unpack_outcomes t buf with ⟨n, h⟩ | h | h <;> rw [h] <;> simp

/-- the per-iteration bound for the loop step: an accepted word advances by at least its 4-byte
    intra-packet data header -/
theorem decWord_advance_ge (proto : Word) (b : Bytes) (w : Word) (n : Nat) (h : decWord proto b = .ok (w, n)) :
    4 ≤ n := by
  rw [decWord_run] at h
  obtain ⟨_, e⟩ := (wordRun_ok_iff _ _ _).1 h
  cases e
  omega

theorem UARTWord_unpack_consumes (t : Word) (buf : Bytes) (w : Word) (n : Nat) (h : Word.unpack t buf = (w, .ok n)) :
    4 ≤ n :=
  decWord_advance_ge t buf w n (by rw [decWord, h])

theorem decWord_progress (proto : Word) : Progress (decWord proto) where
  pos := fun b x n h => by have := decWord_advance_ge proto b x n h; omega
  nofuel := fun b h => by rw [decWord_run] at h; cases ((wordRun_error_iff _ _ _).1 h).1
  empty := fun x n h => by rw [decWord_run] at h; have := ((wordRun_ok_iff _ _ _).1 h).1; simp at this

/-- witness: PTP-stamped little-endian packet with two words (payloads of 3 and 2 bytes) -/
def wUART : Bytes :=
  [0, 0, 0, 128,  255, 201, 154, 59, 5, 0, 0, 0, 3, 0, 0, 0, 2, 1, 255, 3,  255, 201, 154, 59, 5, 0, 0, 0, 2, 0, 0, 0, 8, 7]

example : (Packet.unpack (Packet.fresh (some 1) 1) wUART).2 = .ok () ∧
    (Packet.unpack (Packet.fresh (some 1) 1) wUART).1.uartwords.map (fun w => (w.ipts, w.payload)) =
      [(.ptp 5 999999999, [1, 2, 3]), (.ptp 5 999999999, [7, 8])] := ⟨by rfl, by rfl⟩
example : (Word.unpack (Word.fresh (.ptp 0 0) 1) (wUART.drop 4)).2 = .ok 16 := by decide +kernel
example : unpackTs (.ptp 0 0) (wUART.drop 4) = .ok (.ptp 5 999999999, 8) := by decide +kernel
example : (decWord (Word.fresh (.ptp 0 0) 1) (wUART.drop 4)).map (·.2) = .ok 16 := by decide +kernel
/-! ### packet-level outcome list: `UARTDataPacket.unpack` returns, or raises `struct.error` or
    `AttributeError`; each kind characterised -/

/-- the channel-specific word is complete, so the loop is entered or the prototype is missing -/
theorem UART_unpack_error_iff (t : Packet) (buf : Bytes) (e : Err) :
    (Packet.unpack t buf).2 = .error e ↔
      (buf.length < 4 ∧ e = .struct) ∨
      (4 ≤ buf.length ∧ t.proto = Option.none ∧ e = .attribute) ∨
      (4 ≤ buf.length ∧ ∃ proto, t.proto = some proto ∧ e = .struct ∧ ∃ ws o,
        Acra.Lemmas.RecordsErr.Reach (decWord proto) moreUART buf 4 ws o ∧ moreUART o buf.length = true ∧
        buf.length - o < (if proto.ipts = .none then 4 else 12)) := by
  rw [Packet_decodes.error_iff, packetRun, show (Packet.fresh (pcfg t).1 (pcfg t).2).proto = t.proto from rfl]
  by_cases h4 : buf.length < 4
  · rw [if_pos h4]
    simp only [Except.error.injEq, h4, Nat.not_le.2 h4, true_and, false_and, or_false]
    exact eq_comm
  · rw [if_neg h4]
    simp only [h4, Nat.not_lt.1 h4, false_and, false_or, true_and]
    cases hp : t.proto with
    | none =>
      simp only [true_and, reduceCtorEq, false_and, exists_false, or_false, Except.error.injEq]
      exact eq_comm
    | some proto =>
      -- the loop ends with `e` iff it reaches an offset where the word decoder raises `e`, and that is `struct.error`
      -- on a word cut short
      have hstep : ∀ o e', decWord proto (buf.drop o) = .error e' ↔
          e' = .struct ∧ buf.length - o < (if proto.ipts = .none then 4 else 12) := by
        intro o e'
        rw [decWord_run, wordRun_error_iff, tsOff_wcfg, List.length_drop]
      have key : decOff (decWord proto) moreUART buf (buf.length + 1) 4 = .error e ↔ e = .struct ∧ ∃ ws o,
          Acra.Lemmas.RecordsErr.Reach (decWord proto) moreUART buf 4 ws o ∧ moreUART o buf.length = true ∧
          buf.length - o < (if proto.ipts = .none then 4 else 12) := by
        rw [Acra.Lemmas.RecordsErr.decOff_error_iff (decWord proto) moreUART buf (decWord_progress proto)
          (buf.length + 1) 4 (by omega) e]
        simp only [hstep]
        constructor
        · rintro ⟨ws, o, hr, hm, rfl, hl⟩; exact ⟨rfl, ws, o, hr, hm, hl⟩
        · rintro ⟨rfl, ws, o, hr, hm, hl⟩; exact ⟨ws, o, hr, hm, rfl, hl⟩
      simp only [reduceCtorEq, false_and, false_or, Option.some.injEq, exists_eq_left', ← key]
      cases decOff (decWord proto) moreUART buf (buf.length + 1) 4 <;> simp [Except.map]

/-- the outcome list: a value, `struct.error`, or `AttributeError` (only for an `ipts_source` that is neither
    `TS_CH4` nor `TS_IEEE1558`) — nothing else -/
theorem UART_unpack_outcomes (t : Packet) (buf : Bytes) :
    (Packet.unpack t buf).2 = .ok () ∨ (Packet.unpack t buf).2 = .error .struct ∨
    ((Packet.unpack t buf).2 = .error .attribute ∧ t.proto = Option.none) := by
  cases hr : (Packet.unpack t buf).2 with
  | ok u => exact Or.inl rfl
  | error e =>
    rcases (UART_unpack_error_iff t buf e).1 hr with ⟨_, rfl⟩ | ⟨_, hp, rfl⟩ | ⟨_, _, _, rfl, _⟩
    · exact Or.inr (Or.inl rfl)
    · exact Or.inr (Or.inr ⟨rfl, hp⟩)
    · exact Or.inr (Or.inl rfl)

/-- `UARTDataPacket.unpack` terminates on every buffer (`abs(offset - len) > 4` with at least four
    bytes consumed per word): the fuel len + 1 is never exhausted -/
theorem UART_unpack_total (t : Packet) (buf : Bytes) : (Packet.unpack t buf).2 ≠ .error .fuel := by
  rcases UART_unpack_outcomes t buf with h | h | ⟨h, _⟩ <;> rw [h] <;> simp

/-- work bound with the real stride: at most ⌈(|buf| − 4)/4⌉ words -/
theorem UART_items_stride (t : Packet) (buf : Bytes) (h : (Packet.unpack t buf).2 = .ok ()) :
    (Packet.unpack t buf).1.uartwords.length * 4 ≤ (buf.length - 4) + 3 := by
  obtain ⟨_, _, proto, _, hd⟩ := packetRun_ok (Packet_decodes.of_ok h)
  exact Acra.Py.decOff_items_stride (decWord proto) moreUART buf (decWord_progress proto) 4
    (decWord_advance_ge proto) _ 4 _ hd

/-- work bound: at most one word per byte after the channel-specific word -/
theorem UART_items_le (t : Packet) (buf : Bytes) (h : (Packet.unpack t buf).2 = .ok ()) :
    (Packet.unpack t buf).1.uartwords.length ≤ buf.length - 4 := by
  have := UART_items_stride t buf h
  omega

/-- every outcome is reachable: `wUART` accepted; 3 bytes → `struct.error` (channel-specific word); the second word's
    header cut (5 bytes too few… the loop condition `abs(offset − len) > 4` still holds) → `struct.error`;
    `ipts_source = 7` → `AttributeError` -/
example : (Packet.unpack (Packet.fresh (some 1) 1) wUART).2 = .ok () := by decide +kernel
example : (Packet.unpack (Packet.fresh (some 1) 1) (wUART.take 3)).2 = .error .struct := by decide +kernel
example : (Packet.unpack (Packet.fresh (some 1) 1) (wUART.take 29)).2 = .error .struct := by decide +kernel
example : (Packet.unpack (Packet.fresh (some 7) 1) wUART).2 = .error .attribute ∧
    (Packet.fresh (some 7) 1).proto = Option.none := ⟨by rfl, by rfl⟩

end Acra.Props.C08
