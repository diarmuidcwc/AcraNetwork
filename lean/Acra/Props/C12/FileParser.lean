/-
  C12, Chapter 10 file: write, iterate, resynchronise, survive truncation.

  A file is a `Bytes` value; `iterate data` is `for p in FileParser(…)` from offset 0 (result: the
  packets and the final `_offset`).  `fileOf [(j₁,p₁),…,(jₙ,pₙ)] tail = j₁ ++ p₁ ++ … ++ jₙ ++ pₙ ++ tail`.
  `Seg (j, p)` := `j` contains no sync pattern 25 EB (`syncFree`) and `p` is a packet in the reader's
  sense (`IsPacket`: starts 25 EB, carries its own length ≥ 8 little-endian at bytes 4..7).
-/
import Acra.Lemmas.Ch10File
namespace Acra.Props.C12
open Acra.Py Acra.Model.Ch10File Acra.Lemmas.Ch10File Acra.Gen.Ch11 Acra

example : IsPacket [0x25, 0xEB, 7, 0, 9, 0, 0, 0, 0xAA] := ⟨7, 0, 9, 0, 0, 0, [0xAA], rfl, by decide⟩
example : Seg ([0x00, 0x25, 0x25, 0xEC, 0xEB, 0x25], [0x25, 0xEB, 7, 0, 8, 0, 0, 0]) :=
  ⟨by decide, ⟨7, 0, 8, 0, 0, 0, [], rfl, by decide⟩⟩

/-- resynchronisation: iterating `junk p₁ junk p₂ … pₙ junk` returns exactly `[p₁,…,pₙ]`, in order, for all
    placements and lengths of sync-free junk (a junk byte 0x25 directly before a packet included) -/
theorem iterate_resync (segs : List (Bytes × Bytes)) (tail : Bytes) (hs : ∀ jp ∈ segs, Seg jp)
    (ht : syncFree tail = true) :
    ∃ o, iterate (fileOf segs tail) = .ok (segs.map (·.2), o) := by
  have hl := fileOf_length segs tail hs
  have := iter_file segs tail hs ht [] ((fileOf segs tail).length + 1) (by omega)
  simpa [iterate] using this

/-- non-vacuity: junk that ends in 0x25 before a 9-byte packet, empty junk before an 8-byte packet, a sync-free tail
    ending in 0x25 -/
example : (∀ jp ∈ [(([0x00, 0x25, 0x25, 0xEC, 0xEB, 0x25] : Bytes), ([0x25, 0xEB, 7, 0, 9, 0, 0, 0, 0xAA] : Bytes)),
                    ([], [0x25, 0xEB, 7, 0, 8, 0, 0, 0])], Seg jp) ∧ syncFree [0xEB, 0x25] = true := by
  refine ⟨?_, by decide⟩
  intro jp hjp
  simp only [List.mem_cons, List.not_mem_nil, or_false] at hjp
  rcases hjp with rfl | rfl
  · exact ⟨by decide, ⟨7, 0, 9, 0, 0, 0, [0xAA], rfl, by decide⟩⟩
  · exact ⟨by decide, ⟨7, 0, 8, 0, 0, 0, [], rfl, by decide⟩⟩

/-- no junk at all: a file that is packets end to end -/
theorem iterate_packets (bs : List Bytes) (h : ∀ b ∈ bs, IsPacket b) : ∃ o, iterate bs.flatten = .ok (bs, o) := by
  obtain ⟨o, ho⟩ := iterate_resync (bs.map fun p => (([] : Bytes), p)) []
    (List.forall_mem_map.2 fun p hp => ⟨rfl, h p hp⟩) rfl
  rw [fileOf_nojunk, List.map_map] at ho
  exact ⟨o, by simpa [Function.comp_def] using ho⟩

/-- write then iterate: well-formed Chapter 11 objects (standard sync word; with or without secondary header,
    payload lengths in every residue) written in one "wb" session are returned by iteration as the very byte
    strings `pack` produced, in the same order -/
theorem write_then_iterate (old : Bytes) (ss : List Acra.Model.Ch11.State)
    (hw : ∀ s ∈ ss, (Acra.Lemmas.Ch11.WFn s ∨ Acra.Lemmas.Ch11.WFs s) ∧ s.syncpattern = SYNC_WORD) :
    ∃ bs data o, writeAll old "wb" (ss.map fun s => Item.packed (Acra.Model.Ch11.pack s).2) = (data, .ok ()) ∧
      ss.map (fun s => (Acra.Model.Ch11.pack s).2) = bs.map .ok ∧ data = bs.flatten ∧
      iterate data = .ok (bs, o) := by
  obtain ⟨bs, h1, h2⟩ := packAll_ok ss hw
  have hitems : (ss.map fun s => Item.packed (Acra.Model.Ch11.pack s).2) = bs.map fun b => Item.packed (.ok b) := by
    have := congrArg (List.map Item.packed) h1
    simpa [List.map_map, Function.comp_def] using this
  obtain ⟨o, ho⟩ := iterate_packets bs h2
  refine ⟨bs, bs.flatten, o, ?_, h1, rfl, ho⟩
  simp only [writeAll, if_true, hitems, writeItems_packed]
  simp

/-- non-vacuity: one object without and one with secondary header (payload lengths 5 and 3: both need filler).
    Excluded by `WFn`/`WFs`: objects with `data_checksum_size ≠ 0` and a non-standard sync pattern. -/
example : ∀ s ∈ [({ Acra.Model.Ch11.fresh with
      channelID := 0x1234, sequence := 3, packetflag := 0x35, datatype := 0x50, relativetimecounter := 0xFFFFFFFFFFFF,
      payload := [1, 2, 3, 4, 5] } : Acra.Model.Ch11.State),
    { Acra.Model.Ch11.fresh with
      channelID := 7, packetflag := 0xF7, has_secondary_header := true, ts_source := TS_IEEE1558,
      ptptime := ⟨1700000000, 999999999⟩, payload := [9, 8, 7] }],
    (Acra.Lemmas.Ch11.WFn s ∨ Acra.Lemmas.Ch11.WFs s) ∧ s.syncpattern = SYNC_WORD := by
  intro s hs
  simp only [List.mem_cons, List.not_mem_nil, or_false] at hs
  rcases hs with rfl | rfl
  · exact ⟨Or.inl (by simp [Acra.Lemmas.Ch11.WFn, Acra.Model.Ch11.fresh, DEFAULT_SYNCPATTERN, DEFAULT_DATATYPEVERSION, TS_RTC]), rfl⟩
  · exact ⟨Or.inr (by simp [Acra.Lemmas.Ch11.WFs, Acra.Model.Ch11.fresh, DEFAULT_SYNCPATTERN, DEFAULT_DATATYPEVERSION]), rfl⟩

/-- write then iterate for ANY mix of Chapter 11 objects (`true`: the successful `pack()` result of the object is written)
    and raw `bytes` items (`false`), each byte string being a packet in the reader's sense: the file is their
    concatenation and iteration returns the very byte strings, in order -/
theorem write_mixed_then_iterate (old : Bytes) (its : List (Bool × Bytes)) (h : ∀ it ∈ its, IsPacket it.2) :
    ∃ o, writeAll old "wb" (its.map fun it => if it.1 then Item.packed (.ok it.2) else Item.raw it.2) =
        ((its.map (·.2)).flatten, .ok ()) ∧
      iterate (its.map (·.2)).flatten = .ok (its.map (·.2), o) := by
  have hw : ∀ acc, writeItems acc (its.map fun it => if it.1 then Item.packed (.ok it.2) else Item.raw it.2) =
      (acc ++ (its.map (·.2)).flatten, .ok ()) := by
    have hb : ∀ (k : Bool) (b : Bytes), itemBytes (if k then Item.packed (.ok b) else Item.raw b) = some b := by
      rintro (_ | _) b <;> rfl
    intro acc
    rw [writeItems_ok _ acc (List.forall_mem_map.2 fun it _ => by rw [hb]; nofun), List.filterMap_map]
    simp [Function.comp_def, hb]
  obtain ⟨o, ho⟩ := iterate_packets (its.map (·.2)) (List.forall_mem_map.2 h)
  refine ⟨o, ?_, ho⟩
  simp only [writeAll, if_true]
  simpa using hw []

example : ∀ it ∈ [(false, ([0x25, 0xEB, 7, 0, 9, 0, 0, 0, 0xAA] : Bytes)), (true, [0x25, 0xEB, 7, 0, 8, 0, 0, 0])], IsPacket it.2 := by
  intro it hit
  simp only [List.mem_cons, List.not_mem_nil, or_false] at hit
  rcases hit with rfl | rfl
  · exact ⟨7, 0, 9, 0, 0, 0, [0xAA], rfl, by decide⟩
  · exact ⟨7, 0, 8, 0, 0, 0, [], rfl, by decide⟩

/-- truncation (crash = prefix): for the file cut at ANY byte `t`, iteration returns exactly the packets that
    are completely present in the first `t` bytes (`completeIn t segs`), unchanged and in order, then stops -/
theorem truncation (segs : List (Bytes × Bytes)) (tail : Bytes) (hs : ∀ jp ∈ segs, Seg jp)
    (ht : syncFree tail = true) (t : Nat) :
    ∃ o, iterate ((fileOf segs tail).take t) = .ok (completeIn t segs, o) := by
  have hl := fileOf_length segs tail hs
  have hc := completeIn_length segs hs t
  have := iter_truncated segs tail hs ht t [] (((fileOf segs tail).take t).length + 1)
    (by simp only [List.length_take]; omega)
  simpa [iterate] using this

/-- the defining equation of `completeIn` -/
theorem completeIn_spec (j p : Bytes) (segs : List (Bytes × Bytes)) (t : Nat) :
    completeIn t ((j, p) :: segs) =
      if j.length + p.length ≤ t then p :: completeIn (t - (j.length + p.length)) segs else [] := rfl

/-- the hypotheses of `truncation` are those of `iterate_resync` (witness above); what `completeIn` says on that file:
    cut one byte short of the end of the first packet nothing is returned, cut exactly there the first packet is -/
example :
    let segs : List (Bytes × Bytes) := [([0x00, 0x25, 0x25, 0xEC, 0xEB, 0x25], [0x25, 0xEB, 7, 0, 9, 0, 0, 0, 0xAA]),
                                         ([], [0x25, 0xEB, 7, 0, 8, 0, 0, 0])]
    completeIn 14 segs = [] ∧ completeIn 15 segs = [[0x25, 0xEB, 7, 0, 9, 0, 0, 0, 0xAA]] ∧
    completeIn 22 segs = [[0x25, 0xEB, 7, 0, 9, 0, 0, 0, 0xAA]] ∧ (completeIn 23 segs).length = 2 := by decide +kernel

/-- for every file contents whatsoever: iteration stops, and yields no more items than the file has bytes,
    none of them empty -/
theorem items_le_bytes (data : Bytes) :
    ∃ ps o, iterate data = .ok (ps, o) ∧ ps.length ≤ data.length ∧ ∀ p ∈ ps, 0 < p.length := by
  have := iterFuel_total data (data.length + 1) 0 (by omega)
  simpa [iterate] using this

/-- `write` outside a "wb" session raises ("File name not defined"), and leaves the file as it was -/
theorem write_needs_wb (old : Bytes) (mode : String) (i : Item) (items : List Item) (h : mode ≠ "wb") :
    writeAll old mode (i :: items) = (old, .error .generic) := by
  simp [writeAll, h]

example : ("ab" : String) ≠ "wb" := by decide +kernel

/-- `write` of something that is neither a Chapter 11 object nor `bytes` raises; what was written before stays -/
theorem write_other_raises (old : Bytes) (bs : List Bytes) (items : List Item) :
    writeAll old "wb" (bs.map Item.raw ++ Item.other :: items) = (bs.flatten, .error .generic) := by
  simp only [writeAll, if_true]
  suffices ∀ acc, writeItems acc (bs.map Item.raw ++ Item.other :: items) = (acc ++ bs.flatten, .error .generic) by
    simpa using this []
  induction bs with
  | nil => intro acc; simp [writeItems]
  | cons b bs ih => intro acc; simp [writeItems, ih (acc ++ b)]

/-! ### objects with `data_checksum_size = k > 0` (outside `WFn` / `WFs`, hence outside `write_then_iterate`)

  For such an object `pack` declares `k` bytes more than it emits (`C03.ch11_pack_shape_datacksum`), and the file reader
  reads by the declared length.  So the clause "objects written are returned as the same byte strings" is FALSE for
  them, for every `k > 0` — precisely: -/

/-- the full statement would be `write_then_iterate` with `WFnK ∨ WFsK` in place of `WFn ∨ WFs`; it fails already for
    one object: written alone (or last) it is NOT returned at all — the reader asks for `|b| + k` bytes, gets `|b|`, and
    stops with nothing -/
theorem datacksum_last_packet_lost (old : Bytes) (s : Acra.Model.Ch11.State)
    (h : Acra.Lemmas.Ch11.WFnK s ∨ Acra.Lemmas.Ch11.WFsK s) (hs : s.syncpattern = SYNC_WORD)
    (hk : 0 < s.data_checksum_size) :
    ∃ b, (Acra.Model.Ch11.pack s).2 = .ok b ∧
      writeAll old "wb" [Item.packed (Acra.Model.Ch11.pack s).2] = (b, .ok ()) ∧
      iterate b = .ok ([], b.length + s.data_checksum_size) := by
  obtain ⟨sec, _, hp, hlt⟩ := Acra.Lemmas.Ch11.packK s h
  exact ⟨_, by rw [hp], by rw [hp]; simp [writeAll, writeItems], iterate_none _ _ (next_bytesK_alone s sec hs hk hlt)⟩

/-- … and followed by anything of at least `k` bytes (for instance the next packet) the first item returned is the
    object's bytes WITH the first `k` bytes of what follows glued on — for `k > 0` not the byte string `pack` produced -/
theorem datacksum_packet_swallows_next (s : Acra.Model.Ch11.State) (more : Bytes)
    (h : Acra.Lemmas.Ch11.WFnK s ∨ Acra.Lemmas.Ch11.WFsK s) (hs : s.syncpattern = SYNC_WORD)
    (hm : s.data_checksum_size ≤ more.length) :
    ∃ b ps o, (Acra.Model.Ch11.pack s).2 = .ok b ∧
      iterate (b ++ more) = .ok ((b ++ more.take s.data_checksum_size) :: ps, o) ∧
      (0 < s.data_checksum_size → b ++ more.take s.data_checksum_size ≠ b) := by
  obtain ⟨sec, _, hp, hlt⟩ := Acra.Lemmas.Ch11.packK s h
  obtain ⟨ps, o, hit⟩ := iterate_some _ _ _ (next_bytesK_more s sec more hs hm hlt)
  refine ⟨_, ps, o, by rw [hp], hit, ?_⟩
  intro hk heq
  have := congrArg List.length heq
  simp only [List.length_append, List.length_take] at this
  omega

/-- example satisfying the hypotheses (k = 2, standard sync word), and the two failures evaluated on it: written alone the
    26-byte packet is lost; written before an ordinary 28-byte packet `c` the reader returns 28 bytes (the packet plus
    the sync word of `c`) and then, resynchronising inside `c`, nothing more -/
example : (Acra.Lemmas.Ch11.WFnK { Acra.Model.Ch11.fresh with data_checksum_size := 2, payload := [1, 2] } ∨
      Acra.Lemmas.Ch11.WFsK { Acra.Model.Ch11.fresh with data_checksum_size := 2, payload := [1, 2] }) ∧
    ({ Acra.Model.Ch11.fresh with data_checksum_size := 2, payload := [1, 2] } : Acra.Model.Ch11.State).syncpattern = SYNC_WORD ∧
    0 < ({ Acra.Model.Ch11.fresh with data_checksum_size := 2, payload := [1, 2] } : Acra.Model.Ch11.State).data_checksum_size :=
  ⟨Or.inl (by simp [Acra.Lemmas.Ch11.WFnK, Acra.Model.Ch11.fresh, DEFAULT_SYNCPATTERN, DEFAULT_DATATYPEVERSION, TS_RTC]), rfl,
   by decide⟩
example : (iterate (Acra.Lemmas.Ch11.bytesK { Acra.Model.Ch11.fresh with data_checksum_size := 2, payload := [1, 2] } [])).toOption =
    some ([], 28) := by decide +kernel
example : ((iterate (Acra.Lemmas.Ch11.bytesK { Acra.Model.Ch11.fresh with data_checksum_size := 2, payload := [1, 2] } [] ++
      Acra.Lemmas.Ch11.bytesK { Acra.Model.Ch11.fresh with payload := [3, 4, 5, 6] } [])).toOption.map
        (fun r => r.1.map List.length)) = some [28] := by decide +kernel

end Acra.Props.C12
