/-
  C03, Chapter 11 packet header: layout against the Spec, the shape laws (multiple of four,
  packet length, data length, filler), the round trip with and without the IEEE-1588 secondary
  header, and the illegal packet flags as error branches.

  `WFn` / `WFs` hold `data_checksum_size` at 0: the code adds it to `packetlen` but emits no checksum
  bytes (DESIGN §5 C03, §8); the second half of the file gives the laws for every value.
  Known finding K5 (/verif/known_findings.json): `unpack` never uses `datalen`, so the decoded payload is the payload FOLLOWED BY the filler.
-/
import Acra.Lemmas.Ch11
namespace Acra.Props.C03
open Acra.Py Acra.Model.Ch11 Acra.Gen.Ch11 Acra.Lemmas.Ch11 Acra.Lemmas.Ch10 Acra

/-! `WFn` (no secondary header) and `WFs` (IEEE-1588 secondary header) of `Lemmas.Ch11`: every field fits its width, the
    derived fields are as the flag setter leaves them, the packet fits the 32-bit length field. -/

example : WFn { fresh with channelID := 0x1234, sequence := 3, packetflag := 0x35, datatype := 0x50,
                           relativetimecounter := 0xFFFFFFFFFFFF, payload := [1, 2, 3, 4, 5] } := by
  simp [WFn, fresh, DEFAULT_SYNCPATTERN, DEFAULT_DATATYPEVERSION, TS_RTC]
example : WFs { fresh with channelID := 7, packetflag := 0xF7, has_secondary_header := true, ts_source := TS_IEEE1558,
                           ptptime := ⟨1700000000, 999999999⟩, payload := [9, 8, 7] } := by
  simp [WFs, fresh, DEFAULT_SYNCPATTERN, DEFAULT_DATATYPEVERSION]

/-- the flag setter leaves exactly the derived fields the WF predicates ask for: legal flags without / with
    the secondary header -/
theorem ch11_setter_legal (s : State) (v : Nat) (h : v < 128 ∨ (v < 256 ∧ v / 128 = 1 ∧ v / 4 % 4 = 1)) :
    setPacketflag s v = ({ s with packetflag := v, has_secondary_header := decide (128 ≤ v),
                                  ts_source := if 128 ≤ v then TS_IEEE1558 else TS_RTC }, .ok ()) := by
  simp only [setPacketflag]
  bits_simp
  rcases h with h | ⟨h1, h2, h3⟩
  · have a : ¬ v > 255 := by omega
    have b : ¬ v / 128 = 1 := by omega
    have c : ¬ 128 ≤ v := by omega
    simp [a, b, c]
  · have a : ¬ v > 255 := by omega
    have c : 128 ≤ v := by omega
    simp [a, h2, h3, c]

/-- both disjuncts of the hypothesis are inhabited by non-trivial flags: 0x35 (no secondary header, RTC,
    checksum/overflow bits set) and 0xF7 (secondary header, time format 01 = IEEE-1588) -/
example : (0x35 < 128 ∨ (0x35 < 256 ∧ 0x35 / 128 = 1 ∧ 0x35 / 4 % 4 = 1)) ∧
    (0xF7 < 128 ∨ (0xF7 < 256 ∧ 0xF7 / 128 = 1 ∧ 0xF7 / 4 % 4 = 1)) ∧
    (setPacketflag fresh 0xF7).1.has_secondary_header = true ∧ (setPacketflag fresh 0xF7).1.ts_source = TS_IEEE1558 := by
  decide +kernel

/-- the error branches: a flag that does not fit a byte, or bit 7 with time-format bits 10 / 11, is rejected
    by the setter (bare Exception) -/
theorem ch11_setter_illegal (s : State) (v : Nat) (h : 255 < v ∨ (v / 128 = 1 ∧ 2 ≤ v / 4 % 4)) :
    (setPacketflag s v).2 = .error .generic := by
  simp only [setPacketflag]
  bits_simp
  rcases h with h | ⟨h2, h3⟩
  · simp [h]
  · by_cases a : v > 255
    · simp [a]
    · have b : ¬ v / 4 % 4 = 0 := by omega
      have c : ¬ v / 4 % 4 = 1 := by omega
      simp [a, h2, b, c]

/-- inhabited: 0x1F7 does not fit a byte; 0x88 and 0x8C have bit 7 with time-format bits 10 and 11 -/
example : (255 < 0x1F7 ∨ (0x1F7 / 128 = 1 ∧ 2 ≤ 0x1F7 / 4 % 4)) ∧ (255 < 0x88 ∨ (0x88 / 128 = 1 ∧ 2 ≤ 0x88 / 4 % 4)) ∧
    (255 < 0x8C ∨ (0x8C / 128 = 1 ∧ 2 ≤ 0x8C / 4 % 4)) ∧ (setPacketflag fresh 0x88).2 = .error .generic := by
  decide +kernel

/-- … and a secondary header with the Chapter 4 time format (what flag 0x80 selects) is rejected by `pack` -/
theorem ch11_pack_ch4_rejected (s : State) (h : s.has_secondary_header = true) (ht : s.ts_source = TS_CH4) :
    (pack s).2 = .error .generic := by
  simp [pack, secHdr, h, ht]

/-- inhabited (an object with a payload, the secondary-header switch on and the time source left at Chapter 4 /
    RTC — the two constants are both 0 in the library): `pack` raises -/
example : ({ fresh with has_secondary_header := true, payload := [1, 2, 3] } : State).has_secondary_header = true ∧
    ({ fresh with has_secondary_header := true, payload := [1, 2, 3] } : State).ts_source = TS_CH4 ∧
    (pack { fresh with has_secondary_header := true, payload := [1, 2, 3] }).2 = .error .generic := by
  decide +kernel

/-- layout, no secondary header: `pack` emits `Spec.Ch11.encode … none payload` and leaves the computed
    lengths and the filler in the object -/
theorem ch11_pack_layout (s : State) (h : WFn s) :
    pack s = (packed s 0, .ok (Spec.Ch11.encode s.syncpattern s.channelID s.datatypeversion s.sequence
      s.packetflag s.datatype s.relativetimecounter none s.payload)) := pack_nosec s h

/-- layout with the IEEE-1588 secondary header -/
theorem ch11_pack_layout_sec (s : State) (h : WFs s) :
    pack s = (packed s 12, .ok (Spec.Ch11.encode s.syncpattern s.channelID s.datatypeversion s.sequence
      s.packetflag s.datatype s.relativetimecounter (some (s.ptptime.seconds, s.ptptime.nanoseconds)) s.payload)) :=
  pack_sec s h

/-- shape: |pack c| % 4 = 0 ∧ packetlen = |pack c| ∧ datalen = |payload| ∧
    pack c = hdr ++ sec ++ payload ++ replicate k 0xFF ∧ k < 4 (|hdr| = 24, |sec| ∈ {0, 12}) -/
theorem ch11_pack_shape (s : State) (h : WFn s ∨ WFs s) :
    ∃ b hdr sec k, (pack s).2 = .ok b ∧ b.length % 4 = 0 ∧ (pack s).1.packetlen = b.length ∧
      (pack s).1.datalen = s.payload.length ∧ (pack s).1.filler = List.replicate k 0xFF ∧
      b = hdr ++ sec ++ s.payload ++ List.replicate k 0xFF ∧ k < 4 ∧ hdr.length = 24 ∧
      (sec.length = 0 ∨ sec.length = 12) := by
  have hK := WF_K s h
  obtain ⟨sec, hsl, hp, _⟩ := packK s hK.1
  have hlen := bytesK_length s sec
  have hm := fillLen_mod (totalK s sec.length)
  have hk := hK.2
  refine ⟨bytesK s sec, Spec.Ch11.header s.syncpattern s.channelID
    (totalK s sec.length + Spec.Ch11.fillLen (totalK s sec.length)) s.payload.length s.datatypeversion
    s.sequence s.packetflag s.datatype s.relativetimecounter, sec, Spec.Ch11.fillLen (totalK s sec.length),
    by rw [hp], by omega, by rw [hp]; simp only [packedK]; omega, by rw [hp]; rfl, by rw [hp]; rfl, rfl, fillLen_lt _,
    header_length .., hsl⟩

/-- `data_checksum_size = 0` is a hypothesis of both WF predicates.  What the code does otherwise (outside the
    property's quantifier: the library has no data-checksum support): it adds the size to `packetlen` but emits
    no checksum bytes, so the packet-length law is false — here 2 is added to the field and nothing to the bytes -/
example : (pack { fresh with data_checksum_size := 2, payload := [1, 2] }).1.packetlen = 28 ∧
    (match (pack { fresh with data_checksum_size := 2, payload := [1, 2] }).2 with
     | .ok b => b.length | .error _ => 0) = 26 := by decide +kernel

/-- round trip without secondary header, into an object in ANY prior state `t`: every header field comes
    back, `packetlen` / `datalen` are the computed ones, and the decoded payload is the original payload
    followed only by the `k < 4` filler bytes 0xFF (K5: `payload q = payload p ++ filler`) -/
theorem ch11_roundtrip (s t : State) (h : WFn s) :
    ∃ b, (pack s).2 = .ok b ∧ unpack t b = (decoded s t 0, .ok ()) ∧
      (decoded s t 0).payload = s.payload ++ List.replicate (Spec.Ch11.fillLen (24 + 0 + s.payload.length)) 0xFF ∧
      (decoded s t 0).channelID = s.channelID ∧ (decoded s t 0).sequence = s.sequence ∧
      (decoded s t 0).packetflag = s.packetflag ∧ (decoded s t 0).datatype = s.datatype ∧
      (decoded s t 0).datatypeversion = s.datatypeversion ∧ (decoded s t 0).syncpattern = s.syncpattern ∧
      (decoded s t 0).relativetimecounter = s.relativetimecounter ∧ (decoded s t 0).datalen = s.payload.length ∧
      (decoded s t 0).packetlen = b.length := by
  obtain ⟨hK, hk⟩ := (WFn_iff_K s).1 h
  refine ⟨bytesK s [], by rw [pack_nosecK s hK], by rw [roundtrip_nosecK s t hK, decodedK_zero s t 0 hk],
    rfl, rfl, rfl, rfl, rfl, rfl, rfl, rfl, rfl, ?_⟩
  have := bytesK_length s []
  show (packed s 0).packetlen = _
  rw [← packedK_zero s 0 hk]
  simp only [packedK, List.length_nil] at this ⊢
  omega

/-- round trip with the IEEE-1588 secondary header: additionally the PTP time comes back -/
theorem ch11_roundtrip_sec (s t : State) (h : WFs s) :
    ∃ b, (pack s).2 = .ok b ∧ unpack t b = (decoded s t 12, .ok ()) ∧
      (decoded s t 12).payload = s.payload ++ List.replicate (Spec.Ch11.fillLen (24 + 12 + s.payload.length)) 0xFF ∧
      (decoded s t 12).ptptime = s.ptptime ∧ (decoded s t 12).has_secondary_header = true ∧
      (decoded s t 12).channelID = s.channelID ∧ (decoded s t 12).sequence = s.sequence ∧
      (decoded s t 12).packetflag = s.packetflag ∧ (decoded s t 12).datatype = s.datatype ∧
      (decoded s t 12).datatypeversion = s.datatypeversion ∧ (decoded s t 12).syncpattern = s.syncpattern ∧
      (decoded s t 12).relativetimecounter = s.relativetimecounter ∧ (decoded s t 12).datalen = s.payload.length := by
  obtain ⟨b, hp, hu⟩ := roundtrip_sec s t h
  obtain ⟨_, _, _, _, _, _, _, _, h9, _⟩ := h
  exact ⟨b, by rw [hp], hu, rfl, rfl, by simp [decoded, packed, h9], rfl, rfl, rfl, rfl, rfl, rfl, rfl, rfl⟩

/-- when header + payload is already a multiple of four there is no filler and the payload is returned exactly -/
theorem ch11_roundtrip_aligned (s t : State) (h : WFn s) (ha : s.payload.length % 4 = 0) :
    ∃ b, (pack s).2 = .ok b ∧ (unpack t b).2 = .ok () ∧ (unpack t b).1.payload = s.payload := by
  obtain ⟨b, hp, hu⟩ := roundtrip_nosec s t h
  refine ⟨b, by rw [hp], by rw [hu], ?_⟩
  rw [hu]
  have : Spec.Ch11.fillLen (24 + 0 + s.payload.length) = 0 := by unfold Spec.Ch11.fillLen; omega
  simp [decoded, this]

/-- example for `ch11_roundtrip_aligned`: well-formed, non-empty payload of a whole number of words -/
example : WFn { fresh with channelID := 0x1234, sequence := 3, packetflag := 0x35, datatype := 0x50,
                           relativetimecounter := 0xFFFFFFFFFFFF, payload := [1, 2, 3, 4, 5, 6, 7, 8] } ∧
    ({ fresh with channelID := 0x1234, sequence := 3, packetflag := 0x35, datatype := 0x50,
                  relativetimecounter := 0xFFFFFFFFFFFF, payload := [1, 2, 3, 4, 5, 6, 7, 8] } : State).payload.length % 4 = 0 := by
  simp [WFn, fresh, DEFAULT_SYNCPATTERN, DEFAULT_DATATYPEVERSION, TS_RTC]

/-! ### packets with `data_checksum_size = k ≠ 0` (outside `WFn` / `WFs`)

  What `pack` does with the attribute (Chapter11/__init__.py): `k` enters `total_len_excl_filler`, hence the filler length
  and the packet-length field — and nothing else.  No checksum bytes are emitted, the checksum bits of the packet flags are
  not set, `unpack` never reads the attribute.  `WFnK` / `WFsK` (Lemmas/Ch11) are `WFn` / `WFs` without the clause
  `data_checksum_size = 0` (`WFn s ↔ WFnK s ∧ k = 0`).  The theorems below give, for EVERY `k`, the exact bytes, the length
  laws, and the object round trip; `Props/C12` shows what the file reader does with such a packet. -/

/-- layout for every checksum size: header (declaring `24 + |sec| + |payload| + k + filler` bytes), secondary header,
    payload, filler computed from the length INCLUDING `k` — and no checksum bytes -/
theorem ch11_pack_layout_datacksum (s : State) (h : WFnK s) : pack s = (packedK s 0, .ok (bytesK s [])) := pack_nosecK s h

theorem ch11_pack_layout_datacksum_sec (s : State) (h : WFsK s) :
    pack s = (packedK s 12, .ok (bytesK s (Spec.Ch11.secHeader s.ptptime.seconds s.ptptime.nanoseconds))) := pack_secK s h

/-- for `k = 0` this is the standard layout of `ch11_pack_layout` -/
theorem ch11_bytesK_zero (s : State) (hk : s.data_checksum_size = 0) :
    bytesK s [] = Spec.Ch11.encode s.syncpattern s.channelID s.datatypeversion s.sequence s.packetflag s.datatype
      s.relativetimecounter none s.payload ∧
    bytesK s (Spec.Ch11.secHeader s.ptptime.seconds s.ptptime.nanoseconds) =
      Spec.Ch11.encode s.syncpattern s.channelID s.datatypeversion s.sequence s.packetflag s.datatype
        s.relativetimecounter (some (s.ptptime.seconds, s.ptptime.nanoseconds)) s.payload := bytesK_zero s hk

/-- the length laws for every `k`: the packet-length FIELD (bytes 4..8 of what was emitted, and the attribute) is
    the real length PLUS `k`; that sum is a multiple of four, so the real length is one exactly when `k` is; the
    data-length field is the payload length; the filler has fewer than four bytes -/
theorem ch11_pack_shape_datacksum (s : State) (h : WFnK s ∨ WFsK s) :
    ∃ b, (pack s).2 = .ok b ∧
      leNat (slice b 4 8) = b.length + s.data_checksum_size ∧
      (pack s).1.packetlen = b.length + s.data_checksum_size ∧
      (b.length + s.data_checksum_size) % 4 = 0 ∧
      (b.length % 4 = 0 ↔ s.data_checksum_size % 4 = 0) ∧
      leNat (slice b 8 12) = s.payload.length ∧ (pack s).1.datalen = s.payload.length ∧
      (pack s).1.filler.length < 4 := by
  obtain ⟨sec, hsl, hp, hlt⟩ := packK s h
  have hlen := bytesK_length s sec
  have hmod := fillLen_mod (totalK s sec.length)
  have hfl := fillLen_lt (totalK s sec.length)
  have hs := header_slices_mod s.syncpattern s.channelID
    (totalK s sec.length + Spec.Ch11.fillLen (totalK s sec.length)) s.payload.length s.datatypeversion s.sequence
    s.packetflag s.datatype s.relativetimecounter
    (sec ++ (s.payload ++ List.replicate (Spec.Ch11.fillLen (totalK s sec.length)) 0xFF))
  have hb := bytesK_assoc s sec
  have hpl : s.payload.length < 2 ^ 32 := by simp only [totalK] at hlt; omega
  refine ⟨bytesK s sec, by rw [hp], ?_, by rw [hp]; simp only [packedK]; omega, by omega, by omega, ?_, by rw [hp]; rfl,
    by rw [hp]; simp [packedK]; omega⟩
  · rw [hb, hs.2.2.1, Nat.mod_eq_of_lt hlt, ← hb]; omega
  · rw [hb, hs.2.2.2.1, Nat.mod_eq_of_lt hpl]

/-- the two computed length fields AS THEY STAND IN THE EMITTED BYTES (little-endian 32-bit words at offsets 4
    and 8): the packet-length field equals the real length of the packet, the data-length field the length of
    the payload without filler -/
theorem ch11_length_fields_on_wire (s : State) (h : WFn s ∨ WFs s) :
    ∃ b, (pack s).2 = .ok b ∧ leNat (slice b 4 8) = b.length ∧ leNat (slice b 8 12) = s.payload.length := by
  have hK := WF_K s h
  obtain ⟨b, hp, h48, _, _, _, h812, _⟩ := ch11_pack_shape_datacksum s hK.1
  exact ⟨b, hp, by rw [h48, hK.2]; rfl, h812⟩

/-- object round trip for every checksum size: decoding the emitted bytes into an object in ANY prior state gives back
    every header field, the data length, the payload followed by the filler (K5) — and a packet length that is `k` MORE
    than the bytes decoded; `data_checksum_size` itself is not carried by the bytes (the decoder keeps its own) -/
theorem ch11_roundtrip_datacksum (s t : State) (h : WFnK s) :
    ∃ b, (pack s).2 = .ok b ∧ unpack t b = (decodedK s t 0, .ok ()) ∧
      (decodedK s t 0).payload = s.payload ++ List.replicate (Spec.Ch11.fillLen (totalK s 0)) 0xFF ∧
      (decodedK s t 0).channelID = s.channelID ∧ (decodedK s t 0).sequence = s.sequence ∧
      (decodedK s t 0).packetflag = s.packetflag ∧ (decodedK s t 0).datatype = s.datatype ∧
      (decodedK s t 0).datatypeversion = s.datatypeversion ∧ (decodedK s t 0).syncpattern = s.syncpattern ∧
      (decodedK s t 0).relativetimecounter = s.relativetimecounter ∧ (decodedK s t 0).datalen = s.payload.length ∧
      (decodedK s t 0).packetlen = b.length + s.data_checksum_size ∧
      (decodedK s t 0).data_checksum_size = t.data_checksum_size := by
  refine ⟨bytesK s [], by rw [pack_nosecK s h], roundtrip_nosecK s t h, rfl, rfl, rfl, rfl, rfl, rfl, rfl, rfl, rfl, ?_, rfl⟩
  have := bytesK_length s []
  simp only [decodedK, packedK]
  simp only [List.length_nil] at this
  omega

theorem ch11_roundtrip_datacksum_sec (s t : State) (h : WFsK s) :
    ∃ b, (pack s).2 = .ok b ∧ unpack t b = (decodedK s t 12, .ok ()) ∧
      (decodedK s t 12).payload = s.payload ++ List.replicate (Spec.Ch11.fillLen (totalK s 12)) 0xFF ∧
      (decodedK s t 12).ptptime = s.ptptime ∧ (decodedK s t 12).has_secondary_header = true ∧
      (decodedK s t 12).channelID = s.channelID ∧ (decodedK s t 12).sequence = s.sequence ∧
      (decodedK s t 12).packetflag = s.packetflag ∧ (decodedK s t 12).datatype = s.datatype ∧
      (decodedK s t 12).datalen = s.payload.length ∧
      (decodedK s t 12).packetlen = b.length + s.data_checksum_size := by
  have hl := secHeader_length s.ptptime.seconds s.ptptime.nanoseconds
  refine ⟨_, by rw [pack_secK s h], roundtrip_secK s t h, rfl, rfl, ?_, rfl, rfl, rfl, rfl, rfl, ?_⟩
  · have := h.2.2.2.2.2.2.2.1
    simp [decodedK, packedK, this]
  · have := bytesK_length s (Spec.Ch11.secHeader s.ptptime.seconds s.ptptime.nanoseconds)
    rw [hl] at this
    simp only [decodedK, packedK]
    omega

/-- witnesses: `k = 2` without and `k = 1` with secondary header; the hypotheses hold and the laws evaluate as stated
    (26 bytes emitted, 28 declared; 26 % 4 ≠ 0) -/
example : WFnK { fresh with channelID := 0x1234, sequence := 3, packetflag := 0x35, datatype := 0x50,
                            relativetimecounter := 0xFFFFFFFFFFFF, data_checksum_size := 2, payload := [1, 2] } := by
  simp [WFnK, fresh, DEFAULT_SYNCPATTERN, DEFAULT_DATATYPEVERSION, TS_RTC]
example : WFsK { fresh with channelID := 7, packetflag := 0xF7, has_secondary_header := true, ts_source := TS_IEEE1558,
                            ptptime := ⟨1700000000, 999999999⟩, data_checksum_size := 1, payload := [9, 8, 7] } := by
  simp [WFsK, fresh, DEFAULT_SYNCPATTERN, DEFAULT_DATATYPEVERSION]
example : (bytesK { fresh with data_checksum_size := 2, payload := [1, 2] } []).length = 26 ∧
    leNat (slice (bytesK { fresh with data_checksum_size := 2, payload := [1, 2] } []) 4 8) = 28 := by decide +kernel
/-- and a `k` that is a multiple of four keeps the emitted length a multiple of four (24 + 4 payload bytes, 32 declared) -/
example : (bytesK { fresh with data_checksum_size := 4, payload := [1, 2, 3, 4] } []).length = 28 ∧
    leNat (slice (bytesK { fresh with data_checksum_size := 4, payload := [1, 2, 3, 4] } []) 4 8) = 32 := by decide +kernel

/-- `ch11_bytesK_zero`: its hypothesis holds for every object the constructor makes -/
example : ({ fresh with payload := [1, 2, 3] } : State).data_checksum_size = 0 := rfl

end Acra.Props.C03
