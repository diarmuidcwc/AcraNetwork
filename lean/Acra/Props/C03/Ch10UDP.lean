/-
  C03, Chapter 10 UDP transfer header: layout against the IRIG 106 Spec and round trip, per format.
  Format 1 segmented is encode-only (the library's decoder raises).  Format 2 round trip is FALSE in
  general (known finding K1, /verif/known_findings.json): `unpack` decides the format from the low nibble of byte 0, which in the
  big-endian format 2 holds bits 19..16 of the sequence number; the theorem is proved under the
  exclusion and the two negation witnesses are proved by `decide`.
-/
import Acra.Lemmas.Ch10UDP
namespace Acra.Props.C03
open Acra.Py Acra.Model.Ch10UDP Acra.Gen.Ch10UDP Acra.Lemmas.Ch10UDP Acra.Lemmas.Ch10 Acra

/-! Well-formedness (`WF1`, `WF1seg`, `WF2`, `WF3 o` of `Lemmas.Ch10UDP`) = every field fits the width the format allots. -/

example : WF1 { fresh with sequence := 0xABCDEF, payload := [1, 2, 3] } := by
  simp [WF1, fresh, DEFAULT_VERSION, TYPE_FULL]
example : WF1seg { fresh with type := 1, sequence := 5, channelID := 0x1234, channelsequence := 9, segmentoffset := 70000 } := by
  simp [WF1seg, fresh, DEFAULT_VERSION]
example : WF2 { fresh with version := 2, type := 3, sequence := 0xA2CDEF, segmentoffset := 0x123456, channelID := 7,
                           payload := [1, 2, 3, 4, 5] } := by
  simp [WF2]
example : WF3 { fresh with version := 3, sourceid_len := 3, sourceid := 0x5A5, sequence := 0xFFFFF,
                           offset_pkt_start := some 12 } 12 := by
  simp [WF3]

/-- format 1, full packet: `pack` emits the Spec layout and changes no field -/
theorem udp_fmt1_pack_layout (s : State) (h : WF1 s) :
    pack s = (s, .ok (Spec.Ch10UDP.fmt1 s.type s.sequence s.payload)) := pack_fmt1 s h

/-- format 1, segmented packet (encode side only) -/
theorem udp_fmt1seg_pack_layout (s : State) (h : WF1seg s) :
    pack s = (s, .ok (Spec.Ch10UDP.fmt1seg s.sequence s.channelID s.channelsequence s.segmentoffset s.payload)) :=
  pack_fmt1seg s h

/-- format 2: `pack` emits the Spec layout and sets `packetsize` to the payload length in 32-bit words -/
theorem udp_fmt2_pack_layout (s : State) (h : WF2 s) :
    pack s = ({ s with packetsize := some (s.payload.length / 4) },
      .ok (Spec.Ch10UDP.fmt2 s.type s.sequence s.segmentoffset s.channelID s.payload)) := pack_fmt2 s h

/-- format 3, every source-id length 0..4 -/
theorem udp_fmt3_pack_layout (s : State) (o : Nat) (h : WF3 s o) :
    pack s = (s, .ok (Spec.Ch10UDP.fmt3 s.sourceid_len s.sourceid s.sequence o s.payload)) := pack_fmt3 s o h

/-- decode-side layout, format 1: for ARBITRARY bytes whose first byte has low nibble 1 and high nibble ≠ 1,
    whatever state the object was in -/
theorem udp_fmt1_decode_layout (t : State) (b0 b1 b2 b3 : UInt8) (rest : Bytes)
    (h1 : b0.toNat % 16 = 1) (h2 : b0.toNat / 16 ≠ 1) :
    unpack t (b0 :: b1 :: b2 :: b3 :: rest) =
      (dec1 (b0.toNat / 16) (b1.toNat + (b2.toNat + 256 * b3.toNat) * 256) rest, .ok ()) := by
  rw [unpack_ok t _ ((verdict_ok_iff _).2 ⟨by simp, .inl ⟨by rwa [byte0_cons], by rwa [byte0_cons]⟩⟩)]
  simp only [decode, byte0_cons, h1, if_true]
  have e : leNat (slice (b0 :: b1 :: b2 :: b3 :: rest) 1 4) = b1.toNat + (b2.toNat + 256 * b3.toNat) * 256 := by
    show b1.toNat + 256 * (b2.toNat + 256 * (b3.toNat + 256 * 0)) = _; omega
  rw [e]; rfl

/-- decode-side layout, format 2 (any first-byte low nibble other than 1 and 3) -/
theorem udp_fmt2_decode_layout (t : State) (b0 b1 b2 b3 b4 b5 b6 b7 b8 b9 b10 b11 : UInt8) (rest : Bytes)
    (h1 : b0.toNat % 16 ≠ 1) (h2 : b0.toNat % 16 ≠ 3) :
    unpack t (b0 :: b1 :: b2 :: b3 :: b4 :: b5 :: b6 :: b7 :: b8 :: b9 :: b10 :: b11 :: rest) =
      ({ version := 2, type := b3.toNat / 16, channelID := b11.toNat + 256 * b10.toNat, channelsequence := 0,
         sequence := b2.toNat + (b1.toNat + 256 * b0.toNat) * 256,
         segmentoffset := (b9.toNat + 256 * b8.toNat) + b4.toNat * 65536,
         packetsize := some ((b7.toNat + 256 * b6.toNat) + b5.toNat * 65536),
         sourceid_len := 0, sourceid := 0, offset_pkt_start := none, payload := rest }, .ok ()) := by
  rw [unpack_ok t _ ((verdict_ok_iff _).2 ⟨by simp, .inr (.inr ⟨by rwa [byte0_cons], by rwa [byte0_cons], by simp⟩)⟩)]
  simp only [decode, byte0_cons, h1, h2, if_false]
  simp only [slice, List.take_succ_cons, List.take_zero, List.drop_succ_cons, List.drop_zero, beNat, List.reverse_cons,
    List.reverse_nil, List.nil_append, List.cons_append, leNat, Nat.mul_zero, Nat.add_zero]
  rw [show b2.toNat + 256 * (b1.toNat + 256 * b0.toNat) = b2.toNat + (b1.toNat + 256 * b0.toNat) * 256 by omega,
    show b7.toNat + 256 * (b6.toNat + 256 * b5.toNat) = (b7.toNat + 256 * b6.toNat) + b5.toNat * 65536 by omega]

/-- decode-side layout, format 3: the 32-bit word is split `source id ‖ sequence` at bit `32 − 4·len` -/
theorem udp_fmt3_decode_layout (t : State) (b0 b1 b2 b3 b4 b5 b6 b7 : UInt8) (rest : Bytes)
    (h1 : b0.toNat % 16 = 3) (h2 : b0.toNat / 16 ≤ 4) :
    unpack t (b0 :: b1 :: b2 :: b3 :: b4 :: b5 :: b6 :: b7 :: rest) =
      ({ version := 3, type := b0.toNat / 16, channelID := 0, channelsequence := 0,
         sequence := (b4.toNat + 256 * (b5.toNat + 256 * (b6.toNat + 256 * b7.toNat))) % 2 ^ (32 - 4 * (b0.toNat / 16)),
         segmentoffset := 0, packetsize := none,
         sourceid_len := b0.toNat / 16,
         sourceid := if b0.toNat / 16 = 0 then 0 else
            (b4.toNat + 256 * (b5.toNat + 256 * (b6.toNat + 256 * b7.toNat))) / 2 ^ (32 - 4 * (b0.toNat / 16)),
         offset_pkt_start := some (b2.toNat + 256 * b3.toNat), payload := rest }, .ok ()) := by
  rw [unpack_ok t _ ((verdict_ok_iff _).2 ⟨by simp, .inr (.inl ⟨by rwa [byte0_cons], by rwa [byte0_cons], by simp⟩)⟩)]
  simp only [decode, byte0_cons, h1, Nat.reduceEqDiff, if_true, if_false]
  show (dec3 _ (if _ then _ else (b4.toNat + 256 * (b5.toNat + 256 * (b6.toNat + 256 * (b7.toNat + 256 * 0)))) / _)
    ((b4.toNat + 256 * (b5.toNat + 256 * (b6.toNat + 256 * (b7.toNat + 256 * 0)))) % _)
    (b2.toNat + 256 * (b3.toNat + 256 * 0)) rest, _) = _
  simp only [Nat.mul_zero, Nat.add_zero]
  rfl

/-- the byte-level hypotheses of the three decode-side layouts are inhabited (first bytes 0x21, 0x52, 0x33) -/
example : ((0x21 : UInt8).toNat % 16 = 1 ∧ (0x21 : UInt8).toNat / 16 ≠ 1) ∧
    ((0x52 : UInt8).toNat % 16 ≠ 1 ∧ (0x52 : UInt8).toNat % 16 ≠ 3) ∧
    ((0x33 : UInt8).toNat % 16 = 3 ∧ (0x33 : UInt8).toNat / 16 ≤ 4) := by decide +kernel
/-- format 3 from the wire: `33 00 0C 00 | FF FF 5F 5A` is source-id length 3, offset 12, source id 0x5A5,
    sequence 0xFFFFF -/
example : (unpack fresh [0x33, 0, 0x0C, 0, 0xFF, 0xFF, 0x5F, 0x5A, 9, 9]).1.sourceid = 0x5A5 ∧
    (unpack fresh [0x33, 0, 0x0C, 0, 0xFF, 0xFF, 0x5F, 0x5A, 9, 9]).1.sequence = 0xFFFFF ∧
    (unpack fresh [0x33, 0, 0x0C, 0, 0xFF, 0xFF, 0x5F, 0x5A, 9, 9]).1.payload = [9, 9] := by decide +kernel

/-- format 1 round trip: decoding the encoding (into an object in ANY prior state `t`) gives the same
    type, sequence and payload, every other field at its default, and re-encoding reproduces the bytes -/
theorem udp_fmt1_roundtrip (s t : State) (h : WF1 s) :
    ∃ b, (pack s).2 = .ok b ∧ unpack t b = (dec1 s.type s.sequence s.payload, .ok ()) ∧
      (pack (unpack t b).1).2 = .ok b := by
  have hu := unpack_spec_fmt1 t s.type s.sequence s.payload h.2.1 h.2.2.1 h.2.2.2
  refine ⟨_, by rw [pack_fmt1 s h], hu, ?_⟩
  rw [hu, pack_fmt1 (dec1 s.type s.sequence s.payload) ⟨rfl, h.2⟩]
  rfl

/-- format 3 round trip, for every source-id length 0..4, source id and sequence over their widths -/
theorem udp_fmt3_roundtrip (s t : State) (o : Nat) (h : WF3 s o) :
    ∃ b, (pack s).2 = .ok b ∧ unpack t b = (dec3 s.sourceid_len s.sourceid s.sequence o s.payload, .ok ()) ∧
      (pack (unpack t b).1).2 = .ok b := by
  obtain ⟨hv, hl, hsid, hseq, ho, ho2⟩ := h
  have hu := unpack_spec_fmt3 t s.sourceid_len s.sourceid s.sequence o s.payload hl hsid hseq ho2
  refine ⟨_, by rw [pack_fmt3 s o ⟨hv, hl, hsid, hseq, ho, ho2⟩], hu, ?_⟩
  rw [hu, pack_fmt3 (dec3 s.sourceid_len s.sourceid s.sequence o s.payload) o ⟨rfl, hl, hsid, hseq, rfl, ho2⟩]
  rfl

/-- "the same field values", spelled out for format 3 (the object `dec3` of `udp_fmt3_roundtrip`): source-id
    length, source id, sequence, offset to packet start and payload come back.  Format 3 has NO message-type
    field on the wire: the decoder stores the high nibble of byte 0 — the source-id length — in `type`, so the
    encoder-side `type` is not preserved (nor used by `pack`); every field the format does not carry is at its
    default. -/
theorem udp_fmt3_roundtrip_fields (s t : State) (o : Nat) (h : WF3 s o) :
    ∃ b, (pack s).2 = .ok b ∧ (unpack t b).2 = .ok () ∧
      (unpack t b).1.version = 3 ∧ (unpack t b).1.sourceid_len = s.sourceid_len ∧
      (unpack t b).1.sourceid = s.sourceid ∧ (unpack t b).1.sequence = s.sequence ∧
      (unpack t b).1.offset_pkt_start = some o ∧ (unpack t b).1.payload = s.payload ∧
      (unpack t b).1.type = s.sourceid_len ∧
      (unpack t b).1.channelID = 0 ∧ (unpack t b).1.channelsequence = 0 ∧ (unpack t b).1.segmentoffset = 0 ∧
      (unpack t b).1.packetsize = none := by
  obtain ⟨b, hp, hu, _⟩ := udp_fmt3_roundtrip s t o h
  refine ⟨b, hp, ?_⟩
  rw [hu]
  exact ⟨rfl, rfl, rfl, rfl, rfl, rfl, rfl, rfl, rfl, rfl, rfl, rfl⟩

/-- … and for format 1 (object `dec1`): type, sequence, payload -/
theorem udp_fmt1_roundtrip_fields (s t : State) (h : WF1 s) :
    ∃ b, (pack s).2 = .ok b ∧ (unpack t b).2 = .ok () ∧ (unpack t b).1.version = 1 ∧
      (unpack t b).1.type = s.type ∧ (unpack t b).1.sequence = s.sequence ∧ (unpack t b).1.payload = s.payload := by
  obtain ⟨b, hp, hu, _⟩ := udp_fmt1_roundtrip s t h
  refine ⟨b, hp, ?_⟩
  rw [hu]
  exact ⟨rfl, rfl, rfl, rfl, rfl⟩

/-- a format-3 object whose `type` differs from its source-id length: well-formed, and `type` comes back as 3 -/
example :
    let s0 : State := { fresh with version := 3, type := 0, sourceid_len := 3, sourceid := 0x5A5, sequence := 0xFFFFF, offset_pkt_start := some 12 }
    WF3 s0 12 ∧ (unpack fresh (match (pack s0).2 with | .ok b => b | .error _ => [])).1.type = 3 := by
  refine ⟨by simp [WF3], by decide⟩

/-
  Full statement (FALSE, known finding K1):
    theorem udp_fmt2_roundtrip (s t) (h : WF2 s) : ∃ b, (pack s).2 = .ok b ∧ unpack t b = (dec2 …, .ok ()) ∧ …
  Proved: the same under the exclusion "bits 19..16 of the sequence are neither 1 nor 3".
-/
theorem udp_fmt2_roundtrip_partial (s t : State) (h : WF2 s)
    (hk : s.sequence / 65536 % 16 ≠ 1 ∧ s.sequence / 65536 % 16 ≠ 3) :
    ∃ b, (pack s).2 = .ok b ∧
      unpack t b = (dec2 s.type s.sequence s.segmentoffset s.channelID s.payload, .ok ()) ∧
      (pack (unpack t b).1).2 = .ok b := by
  obtain ⟨hv, ht, hs, hso, hc, hp⟩ := h
  have hu := unpack_spec_fmt2 t s.type s.sequence s.segmentoffset s.channelID s.payload ht hs hso hc hp hk
  refine ⟨_, by rw [pack_fmt2 s ⟨hv, ht, hs, hso, hc, hp⟩], hu, ?_⟩
  rw [hu, pack_fmt2 (dec2 s.type s.sequence s.segmentoffset s.channelID s.payload) ⟨rfl, ht, hs, hso, hc, hp⟩]
  rfl

example : WF2 { fresh with version := 2, sequence := 0x020000 } ∧
    (0x020000 / 65536 % 16 ≠ 1 ∧ 0x020000 / 65536 % 16 ≠ 3) := by
  simp [WF2, fresh, TYPE_FULL]
example : WF2 { fresh with version := 2, type := 3, sequence := 0xA2CDEF, segmentoffset := 0x123456, channelID := 7,
                           payload := [1, 2, 3, 4, 5] } ∧
    (0xA2CDEF / 65536 % 16 ≠ 1 ∧ 0xA2CDEF / 65536 % 16 ≠ 3) := by
  simp [WF2]

/-- the fields format 2 carries come back (object `dec2`); `packetsize` is the payload length in 32-bit words,
    rounded DOWN (`//`): a payload that is not a whole number of words is under-declared by `pack` -/
theorem udp_fmt2_roundtrip_fields_partial (s t : State) (h : WF2 s)
    (hk : s.sequence / 65536 % 16 ≠ 1 ∧ s.sequence / 65536 % 16 ≠ 3) :
    ∃ b, (pack s).2 = .ok b ∧ (unpack t b).2 = .ok () ∧ (unpack t b).1.version = 2 ∧
      (unpack t b).1.type = s.type ∧ (unpack t b).1.sequence = s.sequence ∧
      (unpack t b).1.segmentoffset = s.segmentoffset ∧ (unpack t b).1.channelID = s.channelID ∧
      (unpack t b).1.payload = s.payload ∧ (unpack t b).1.packetsize = some (s.payload.length / 4) := by
  obtain ⟨b, hp, hu, _⟩ := udp_fmt2_roundtrip_partial s t h hk
  refine ⟨b, hp, ?_⟩
  rw [hu]
  exact ⟨rfl, rfl, rfl, rfl, rfl, rfl, rfl, rfl⟩

/-- K1, negation witness: the well-formed format-2 header with sequence 0x010000 is decoded as FORMAT 1
    with sequence 131072 -/
theorem udp_fmt2_roundtrip_fails_nibble1 :
    let s : State := { fresh with version := 2, sequence := 0x010000 }
    WF2 s ∧ ∃ b, (pack s).2 = .ok b ∧ (unpack fresh b).2 = .ok () ∧
      (unpack fresh b).1.version = 1 ∧ (unpack fresh b).1.sequence = 131072 := by
  refine ⟨by simp [WF2, fresh, TYPE_FULL], [1, 0, 0, 2, 0, 0, 0, 0, 0, 0, 0, 0], ?_, ?_, ?_, ?_⟩ <;> decide

/-- K1, negation witness: the well-formed format-2 header with sequence 0x030000 is decoded as FORMAT 3 -/
theorem udp_fmt2_roundtrip_fails_nibble3 :
    let s : State := { fresh with version := 2, sequence := 0x030000 }
    WF2 s ∧ ∃ b, (pack s).2 = .ok b ∧ (unpack fresh b).2 = .ok () ∧ (unpack fresh b).1.version = 3 := by
  refine ⟨by simp [WF2, fresh, TYPE_FULL], [3, 0, 0, 2, 0, 0, 0, 0, 0, 0, 0, 0], ?_, ?_, ?_⟩ <;> decide

/-- the library cannot decode what it encodes for segmented format 1: `unpack` raises a bare Exception
    for every buffer of at least 4 bytes whose first byte is 0x11 -/
theorem udp_fmt1seg_unpack_raises (t : State) (b1 b2 b3 : UInt8) (rest : Bytes) :
    (unpack t (0x11 :: b1 :: b2 :: b3 :: rest)).2 = .error .generic := by
  rw [unpack_snd]
  simp [verdict, byte0_cons]

end Acra.Props.C03
