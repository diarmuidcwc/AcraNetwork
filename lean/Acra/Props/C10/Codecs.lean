/-
  C10 — the two Chapter 7 codecs: PTDP.pack / PTFR.pack emit the Chapter 7 layout (Spec,
  written from the standard, Golay words from the generator polynomial) and unpack inverts them,
  into an object in ANY prior state and with any bytes following a PTDP.
-/
import Acra.Lemmas.Chapter7
namespace Acra.Props.C10
open Acra.Py Acra.Model.Chapter7 Acra.Lemmas.Chapter7 Acra.Lemmas.Golay

theorem PTDP_pack_layout (s : PTDP.State) (h : PTDP_WF s) :
    (PTDP.pack s).2 = .ok (Spec.PTDP.encode s.fragment s.content s.payload) := by
  rw [ptdp_pack_eq s h, ptdp_wire_spec s h.2.2]

example : PTDP_WF { PTDP.fresh with payload := [1, 2, 3], fragment := 1, content := 4 } :=
  ⟨by decide, by decide, by decide⟩

/-- the `low_latency` attribute is not on the wire: the decoder clears it (the frame decoder sets it) -/
theorem PTDP_roundtrip (s t : PTDP.State) (h : PTDP_WF s) (rest : Bytes) :
    ∃ b, (PTDP.pack s).2 = .ok b ∧ b.length = 6 + s.payload.length ∧
      PTDP.unpack t (b ++ rest) =
        ({ s with length := s.payload.length, low_latency := false }, .ok rest) :=
  ⟨_, congrArg Prod.snd (ptdp_pack_eq s h), encB_length s, ptdp_unpack_clean s t h rest⟩

theorem PTFR_pack_layout (s : PTFR.State) (h : PTFR_WF s) :
    (PTFR.pack s).2 = .ok (Spec.PTFR.encode s.version s.streamid s.llp s.ptdp_offset s.payload) := by
  rw [ptfr_pack_eq s h, ptfr_wire_spec s]

example : PTFR_WF { PTFR.fresh with streamid := 1, ptdp_offset := 3, length := 2, payload := [9, 9] } :=
  ⟨by decide, by decide, by decide, rfl⟩

theorem PTFR_pack_length (s : PTFR.State) (h : PTFR_WF s) :
    ∃ b, (PTFR.pack s).2 = .ok b ∧ b.length = 4 + s.length :=
  ⟨_, congrArg Prod.snd (ptfr_pack_eq s h), by rw [wire_length, h.2.2.2]⟩

theorem PTFR_roundtrip (s t : PTFR.State) (h : PTFR_WF s) (hL : s.payload.length ≤ t.length) :
    ∃ b, (PTFR.pack s).2 = .ok b ∧ PTFR.unpack t b = ({ s with length := t.length }, .ok ()) :=
  ⟨_, congrArg Prod.snd (ptfr_pack_eq s h), ptfr_unpack_clean s t h hL⟩

/-- example for `PTFR_roundtrip`: a well-formed frame and a receiving object whose `length` allows the payload -/
example : PTFR_WF { PTFR.fresh with streamid := 1, ptdp_offset := 3, length := 2, payload := [9, 9] } ∧
    ({ PTFR.fresh with streamid := 1, ptdp_offset := 3, length := 2, payload := [9, 9] } : PTFR.State).payload.length ≤
      ({ PTFR.fresh with length := 5, payload := [1], llp := true } : PTFR.State).length :=
  ⟨⟨by decide, by decide, by decide, rfl⟩, by decide⟩
/-- the receiver's `length` option decides acceptance: a 2-byte payload does not go into a frame object of length 1
    (`PTFR_ok_iff` in C09 is the exact boundary) -/
example : ¬ (({ PTFR.fresh with streamid := 1, ptdp_offset := 3, length := 2, payload := [9, 9] } : PTFR.State).payload.length ≤
      ({ PTFR.fresh with length := 1 } : PTFR.State).length) := by
  decide

end Acra.Props.C10
