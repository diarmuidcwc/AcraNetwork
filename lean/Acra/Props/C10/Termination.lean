/-
  C10 — termination and frame length of the encapsulator on ARBITRARY traffic.

  For EVERY packet sequence with ANY low-latency marking — the region of known finding K3, /verif/known_findings.json (a low-latency PTDP that does not fit
  the free space of the frame under construction) included — and EVERY frame length L ≥ 1:
  * `datapktsToPtfr_fuel_sufficient_any` — `datapkts_to_ptfr` terminates: the model, which runs the two `while`
    loops with the fuel `|remainder| + 1` (inner) and `|remainder| + 2` (outer), never answers `.error .fuel`
    nor any other error;
  * `frames_len_any` — … and every frame it yields has exactly L payload bytes and packs to 4 + L bytes.
    (`Stream.frames_len` is the same conclusion under the hypothesis `h : datapktsToPtfr … = .ok …`; this
    discharges `h` unconditionally.)
  * `spillFull_fuel_sufficient_any`, `spill_fuel_sufficient_any` — the two loops separately, from ANY loop state
    (no layout invariant): the inner loop drops L ≥ 1 bytes per iteration and leaves ≤ L bytes; the outer loop's
    body runs at most once;
  * `spillFull_fuel_irrelevant_any`, `spill_fuel_irrelevant_any` — the fuel the model chose is not part of the
    result: any larger fuel gives the same answer.
  * `encap_byte_count_any` — byte accounting on any traffic: frames × L + pending = Σ (6 + payload + continuation byte).
  L = 0 is excluded and must be: the library does not terminate there (example at the end).
-/
import Acra.Lemmas.Chapter7Term
import Acra.Model.Chapter7NoOverflow
namespace Acra.Props.C10
open Acra.Py Acra.Model.Chapter7 Acra.Lemmas.Chapter7 Acra.Gen.Chapter7

/-- the inner loop `while len(remainder) > ptfr_len`, from any loop state, with the fuel `spill` gives it
    (`|remainder| + 1`): it returns, leaves at most L bytes, and every iteration emitted one frame and consumed
    exactly L bytes of the remainder (so it ran `(|o'| − |out|) ≤ |remainder| / L` times) -/
theorem spillFull_fuel_sufficient_any (L sid : Nat) (hL : 0 < L) (a : Bool) (cur : PTFR.State) (rem : Bytes)
    (out : List PTFR.State) :
    ∃ a' c' r' o', spillFull L sid (rem.length + 1) a cur rem out = .ok (a', c', r', o') ∧ r'.length ≤ L ∧
      out.length ≤ o'.length ∧ (o'.length - out.length) * L + r'.length = rem.length := by
  obtain ⟨a', c', r', o', h, hr, hlen, hsum⟩ :=
    spillFull_ok_any L sid hL (rem.length + 1) a cur rem out (Nat.lt_succ_self _)
  refine ⟨a', c', r', o', h, hr, hlen, ?_⟩
  rw [Nat.sub_mul]
  have := Nat.mul_le_mul_right L hlen
  omega

/-- the outer loop `while remainder != bytes()`, from any loop state, with the fuel `encStep` gives it -/
theorem spill_fuel_sufficient_any (L sid : Nat) (hL : 0 < L) (a : Bool) (cur : PTFR.State) (rem : Bytes)
    (out : List PTFR.State) : ∃ c' o', spill L sid (rem.length + 2) a cur rem out = .ok (c', o') :=
  spill_ok L sid hL _ (by omega) a cur rem out

theorem spillFull_fuel_irrelevant_any (L sid : Nat) (hL : 0 < L) (fuel : Nat) (a : Bool) (cur : PTFR.State)
    (rem : Bytes) (out : List PTFR.State) (hf : rem.length + 1 ≤ fuel) :
    spillFull L sid fuel a cur rem out = spillFull L sid (rem.length + 1) a cur rem out :=
  spillFull_fuel_irrelevant L sid hL _ _ a cur rem out (by omega) (by omega)

theorem spill_fuel_irrelevant_any (L sid : Nat) (hL : 0 < L) (fuel : Nat) (a : Bool) (cur : PTFR.State)
    (rem : Bytes) (out : List PTFR.State) (hf : rem.length + 2 ≤ fuel) :
    spill L sid fuel a cur rem out = spill L sid (rem.length + 2) a cur rem out :=
  spill_fuel_irrelevant L sid hL _ _ (by omega) (by omega) a cur rem out

theorem datapktsToPtfr_fuel_sufficient_any (pkts : List (Bytes × Bool)) (L sid : Nat) (hL : 0 < L) :
    ∃ cur out, datapktsToPtfr pkts L sid = .ok (cur, out) := by
  obtain ⟨cur, out, h, _⟩ := datapktsToPtfr_any pkts L sid hL
  exact ⟨cur, out, h⟩

theorem frames_len_any (pkts : List (Bytes × Bool)) (L sid : Nat) (hL : 0 < L) (hs : sid < 16) :
    ∃ cur out, datapktsToPtfr pkts L sid = .ok (cur, out) ∧ cur.payload.length ≤ L ∧
      ∀ f ∈ out, f.payload.length = L ∧ f.length = L ∧ ∃ b, (PTFR.pack f).2 = .ok b ∧ b.length = 4 + L := by
  obtain ⟨cur, out, h, hopen, hfull, _⟩ := datapktsToPtfr_any pkts L sid hL
  exact ⟨cur, out, h, hopen.2.1, fun f hf => ⟨(hfull f hf).2.1, (hfull f hf).1, fullFrame_pack L sid hs f (hfull f hf)⟩⟩

/-- the payload half needs no bound on the stream id -/
theorem frames_len_any_payload (pkts : List (Bytes × Bool)) (L sid : Nat) (hL : 0 < L) :
    ∃ cur out, datapktsToPtfr pkts L sid = .ok (cur, out) ∧ ∀ f ∈ out, f.payload.length = L := by
  obtain ⟨cur, out, h, _, hfull, _⟩ := datapktsToPtfr_any pkts L sid hL
  exact ⟨cur, out, h, fun f hf => (hfull f hf).2.1⟩

/-- work bound / byte accounting, ANY traffic: the encapsulator neither loses nor invents a byte — not even in the K3
    region (there bytes end up in the WRONG place, not nowhere).  Frames yielded × L + bytes pending = the sum over the
    PTDPs of `datapkts_to_ptdp` of 6 header bytes + payload + 1 continuation byte if low-latency (`ptdpCost`); hence the
    number of frames yielded is at most that sum / L. -/
theorem encap_byte_count_any (pkts : List (Bytes × Bool)) (L sid : Nat) (hL : 0 < L) :
    ∃ cur out, datapktsToPtfr pkts L sid = .ok (cur, out) ∧
      out.length * L + cur.payload.length = ((datapktsToPtdp pkts).map ptdpCost).sum ∧
      out.length ≤ ((datapktsToPtdp pkts).map ptdpCost).sum / L := by
  obtain ⟨cur, out, h, _, _, hc⟩ := datapktsToPtfr_any pkts L sid hL
  refine ⟨cur, out, h, hc, ?_⟩
  rw [Nat.le_div_iff_mul_le hL, ← hc]
  omega

/-- the hypotheses (`0 < L`, `sid < 16`) on a sequence in the K3 region: for L = 24 the low-latency insertions of this
    sequence overflow the frame (`¬ NoLLPOverflow`, LowLatency.lean) … -/
example : (0 : Nat) < 24 ∧ (1 : Nat) < 16 ∧ ¬ NoLLPOverflow
    [([1, 2, 3], false), ([9, 9], true), (List.replicate 40 7, false), ([], true), ([5], true), ([4, 4], false)]
    24 1 := by decide +kernel
/-- … and the encapsulator returns three full frames for it, as `frames_len_any` says -/
example : ((datapktsToPtfr
    [([1, 2, 3], false), ([9, 9], true), (List.replicate 40 7, false), ([], true), ([5], true), ([4, 4], false)]
    24 1).toOption.map fun r => (r.2.map (·.payload.length), r.1.payload.length)) = some ([24, 24, 24], 15) := by
  decide +kernel
/-- … 87 = 9 + 9 + 46 + 7 + 8 + 8 bytes = 3 × 24 + 15, as `encap_byte_count_any` says -/
example : ((datapktsToPtdp
    [([1, 2, 3], false), ([9, 9], true), (List.replicate 40 7, false), ([], true), ([5], true), ([4, 4], false)]).map
    ptdpCost).sum = 3 * 24 + 15 := by decide +kernel
/-- a low-latency packet LONGER than the frame (L = 5 < 6 + 3 + 1): four full frames -/
example : ((datapktsToPtfr [([1], false), ([7, 7, 7], true), ([2], false)] 5 1).toOption.map fun r =>
    (r.2.map (·.payload.length), r.1.payload.length)) = some ([5, 5, 5, 5], 4) := by decide +kernel
/-- a loop state with no layout invariant at all (the frame in hand is over-full, the flags arbitrary): 7 bytes, L = 3 -/
example : (spillFull 3 1 (7 + 1) true { newPtfr 3 1 with payload := [9, 9, 9, 9, 9] } [1, 2, 3, 4, 5, 6, 7] []).toOption.map
    (fun r => (r.2.2.1, r.2.2.2.length)) = some ([7], 2) := by decide +kernel
example : (spill 3 1 (7 + 2) true { newPtfr 3 1 with payload := [9, 9, 9, 9, 9] } [1, 2, 3, 4, 5, 6, 7] []).toOption.map
    (fun r => (r.1.payload, r.2.length)) = some ([7], 3) := by decide +kernel
/-- the excluded frame length: for L = 0 the library's generator never finishes (model: `.error .fuel`) -/
example : (match datapktsToPtfr [([1], false)] 0 1 with | .error .fuel => true | _ => false) = true := by decide +kernel

end Acra.Props.C10
