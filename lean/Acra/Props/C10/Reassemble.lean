/-
  C10 — `reassemble` (Model.Chapter7: FIRST / MIDDLE… / LAST reassembly per low-latency flag) is NOT library
  code: the library has no reassembler, `reassemble` is vocabulary of the `decap_encap…` statements.  So that it need
  not be trusted by reading its definition, it is characterised here by what it does:

  * `reassemble_spec` — it is a left inverse of the library's own fragmenter: for EVERY packet list (lengths 0 …
    any multiple of 2048, any low-latency marking) `reassemble (datapkts_to_ptdp pkts) = pkts`: every packet once,
    byte-identical, in order, with its flag;
  * `reassemble_channels` — the normal and the low-latency PTDPs are reassembled independently: the packets returned
    with flag `f` are exactly what is returned for the PTDPs flagged `f` alone (so interleaving the two kinds of PTDP —
    a low-latency PTDP inserted between the fragments of a normal packet — changes nothing within a kind);
  * `reassemble_spec_interleaved` — both together: if the normal PTDPs of `ps`, in order, are the PTDPs of the packets
    `npkts` and its low-latency PTDPs those of `lpkts`, then `reassemble ps` returns `npkts` (unflagged) and `lpkts`
    (flagged), each list complete and in order, whatever the interleaving;
  * `reassemble_prefix` — a packet is emitted at its completing PTDP and never retracted: the output for a prefix of
    the PTDPs is a prefix of the output.
  On PTDP sequences that are not of this form (a MIDDLE / LAST without a FIRST) `asmStep` drops the orphan; no C10
  statement applies `reassemble` to such a sequence (the encoder does not produce one).
-/
import Acra.Lemmas.Chapter7Asm
namespace Acra.Props.C10
open Acra.Py Acra.Model.Chapter7 Acra.Lemmas.Chapter7 Acra.Gen.Chapter7

theorem reassemble_spec (pkts : List (Bytes × Bool)) : reassemble (datapktsToPtdp pkts) = pkts := by
  unfold reassemble
  rw [asm_datapkts pkts _ rfl rfl]
  simp

theorem reassemble_channels (ps : List PTDP.State) (f : Bool) :
    (reassemble ps).filter (fun q => q.2 == f) = reassemble (ps.filter fun p => p.low_latency == f) := by
  unfold reassemble
  have := asmFold_chan f ps { normal := none, low := none, done := [] } { normal := none, low := none, done := [] }
    ⟨rfl, rfl⟩
  exact this.1.symm

theorem reassemble_spec_interleaved (ps : List PTDP.State) (npkts lpkts : List Bytes)
    (hn : (ps.filter fun p => p.low_latency == false) = datapktsToPtdp (npkts.map fun b => (b, false)))
    (hl : (ps.filter fun p => p.low_latency == true) = datapktsToPtdp (lpkts.map fun b => (b, true))) :
    (reassemble ps).filter (fun q => q.2 == false) = npkts.map (fun b => (b, false)) ∧
    (reassemble ps).filter (fun q => q.2 == true) = lpkts.map (fun b => (b, true)) := by
  rw [reassemble_channels, reassemble_channels, hn, hl, reassemble_spec, reassemble_spec]
  exact ⟨rfl, rfl⟩

/-- witness: a 2049-byte normal packet (FIRST, LAST) with a low-latency packet inserted between its two fragments -/
example :
    let F := fragOf (List.replicate 2049 7) false 2 0
    let La := fragOf (List.replicate 2049 7) false 2 1
    (([F, mkPtdp true PTDP_FRAGMENT_COMPLETE [9], La].filter fun p => p.low_latency == false) =
        datapktsToPtdp ([List.replicate 2049 7].map fun b => (b, false))) ∧
    (([F, mkPtdp true PTDP_FRAGMENT_COMPLETE [9], La].filter fun p => p.low_latency == true) =
        datapktsToPtdp ([[9]].map fun b => (b, true))) ∧
    reassemble [F, mkPtdp true PTDP_FRAGMENT_COMPLETE [9], La] = [([9], true), (List.replicate 2049 7, false)] := by
  intro F La
  have hlen : (List.replicate 2049 (7 : UInt8)).length = 2049 := List.length_replicate
  have hp : ptdpsOf (List.replicate 2049 7) false = [F, La] := by
    rw [ptdpsOf_large _ _ (by rw [hlen]; decide), hlen]; rfl
  have hb : slice (List.replicate 2049 (7 : UInt8)) 0 2048 ++ slice (List.replicate 2049 7) (2048 * 1) (2048 * (1 + 1)) =
      List.replicate 2049 7 := by
    rw [slice_cat _ _ _ _ (by decide) (by decide)]
    exact slice_all _ _ (by rw [hlen]; decide)
  refine ⟨?_, rfl, ?_⟩
  · simp only [datapktsToPtdp, List.map_cons, List.map_nil, List.flatMap_cons, List.flatMap_nil, List.append_nil, hp]
    rfl
  · -- FIRST opens the normal channel, the low-latency packet is output at once, LAST closes the normal one
    show (List.foldl asmStep _ [F, _, La]).done = _
    simp only [List.foldl_cons, List.foldl_nil]
    rw [asmG_first, asmG_complete,
      asmG_last _ _ (slice (List.replicate 2049 7) 0 2048) false 2 1 (by decide) (by decide) rfl, hb]
    rfl

theorem reassemble_prefix (ps qs : List PTDP.State) : ∃ more, reassemble (ps ++ qs) = reassemble ps ++ more := by
  unfold reassemble
  rw [List.foldl_append]
  exact asmFold_done qs _

/-- outside the characterised domain: an orphan LAST is dropped, a FIRST restarts the packet of its kind -/
example : reassemble [mkPtdp false PTDP_FRAGMENT_LAST [1], mkPtdp false PTDP_FRAGMENT_FIRST [2],
    mkPtdp false PTDP_FRAGMENT_FIRST [3], mkPtdp false PTDP_FRAGMENT_LAST [4]] = [([3, 4], false)] := by decide

end Acra.Props.C10
