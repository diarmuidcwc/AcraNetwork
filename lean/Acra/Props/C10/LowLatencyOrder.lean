/-
  C10 — low-latency traffic: WHICH frame a low-latency packet is in is determined by the frames, and the
  order in which the decapsulator returns the low-latency packets of one frame is the REVERSE of the order in which
  they were handed to the encapsulator (most recent first), stated directly.

  * `llp_frames_injective` — `mixFrames` is injective in the per-frame lists of low-latency PTDPs (`lls`): two
    assignments that give the same frames are the same assignment.  `LlpCanon q` = q is well-formed and its two
    attributes that are not on the wire (`low_latency`, `length`) have the values the encapsulator gives them.
  * `llp_assignment_unique` — the `∃ lls ll` of `decap_encap_llp` / `llp_encap_invariant` is unique: any other
    assignment producing the yielded frames equals `lls`, and, with the insertion-order equation, `ll` as well.
-/
import Acra.Props.C10.LowLatency
import Acra.Lemmas.ListAux
namespace Acra.Props.C10
open Acra.Py Acra.Model.Chapter7 Acra.Lemmas.Chapter7 Acra.Gen.Chapter7 Acra.Lemmas

theorem llp_frames_injective (L sid : Nat) (S : Bytes) (st : List Nat) (c : Nat) (lls lls' : List (List PTDP.State))
    (h : ∀ l ∈ lls, ∀ q ∈ l, LlpCanon q) (h' : ∀ l ∈ lls', ∀ q ∈ l, LlpCanon q)
    (e : mixFrames L sid S st c lls = mixFrames L sid S st c lls') : lls = lls' :=
  mixFrames_inj L sid S st lls lls' c h h' e

/-- the hypotheses `h`, `h'` on two different assignments (one frame empty in the first, holding `[9, 9]` in the second) -/
example : (∀ l ∈ [[], [llpPtdp [5]]], ∀ q ∈ l, LlpCanon q) ∧ (∀ l ∈ [[llpPtdp [9, 9]], [llpPtdp [5]]], ∀ q ∈ l, LlpCanon q) := by
  constructor <;> intro l hl q hq <;> simp only [List.mem_cons, List.not_mem_nil, or_false] at hl <;>
    rcases hl with rfl | rfl <;> simp only [List.mem_cons, List.not_mem_nil, or_false] at hq <;> subst hq <;>
    exact llpPtdp_canon _ (by decide)

/-- without canonicity it is false, and must be: `low_latency` and `length` of a PTDP are not on the wire -/
example : mixFrames 40 1 [] [] 0 [[llpPtdp [5]]] = mixFrames 40 1 [] [] 0 [[{ llpPtdp [5] with length := 77 }]] ∧
    [[llpPtdp [5]]] ≠ [[{ llpPtdp [5] with length := 77 }]] := by decide +kernel

theorem llp_assignment_unique (pkts : List (Bytes × Bool)) (L sid : Nat) (hL : 0 < L) (hL2 : L ≤ 2047) (hs : sid < 16)
    (hno : NoLLPOverflow pkts L sid) :
    ∃ cur out lls ll, datapktsToPtfr pkts L sid = .ok (cur, out) ∧
      out = mixFrames L sid (stream (normalPkts pkts)) (Acra.Spec.Ch7.startsAux 0 (encs (normalPkts pkts))) 0 lls ∧
      llpOrder lls ll = (llpPkts pkts).map llpPtdp ∧
      (∀ l ∈ lls, ∀ q ∈ l, LlpCanon q) ∧
      ∀ lls' ll', (∀ l ∈ lls', ∀ q ∈ l, LlpCanon q) →
        out = mixFrames L sid (stream (normalPkts pkts)) (Acra.Spec.Ch7.startsAux 0 (encs (normalPkts pkts))) 0 lls' →
        lls' = lls ∧ (llpOrder lls' ll' = (llpPkts pkts).map llpPtdp → ll' = ll) := by
  obtain ⟨cur, out, lls, ll, h, inv, hord, hsz⟩ := llp_encap_invariant pkts L sid hL hL2 hs hno
  have hcanon : ∀ l ∈ lls, ∀ q ∈ l, LlpCanon q := by
    intro l hl q hq
    obtain ⟨b, hb, rfl⟩ := mem_lls_llpPtdp hord l hl q hq
    exact llpPtdp_canon b (by have := hsz b hb; omega)
  refine ⟨cur, out, lls, ll, h, inv.out_eq, hord, hcanon, fun lls' ll' hc' ho' => ?_⟩
  have e : lls' = lls := mixFrames_inj L sid _ _ lls' lls 0 hc' hcanon (ho' ▸ inv.out_eq)
  subst e
  exact ⟨rfl, fun hord' => llpOrder_inj_right lls' ll' ll (by rw [hord', hord])⟩

/-- insertion order → return order, ONE frame: the low-latency PTDPs `ins = [p₁, …, pₙ]` are handed to
    `add_payload(…, is_llp=True)` in this order, into a frame that holds only normal data `N` (or nothing), all of
    them fitting with their continuation bytes.  Nothing is returned as "did not fit"; the frame then holds
    pₙ … p₁ (`ins.reverse`) in front of `N`; and `get_aligned_payload` returns pₙ, …, p₁ — most recent first —
    flagged low-latency, then the normal PTDPs of (carried remainder ++ N). -/
theorem llp_insertion_order (s : PTFR.State) (N : Bytes) (ins : List PTDP.State) (hne : ins ≠ [])
    (h : LlpLayout s [] N) (hwf : ∀ p ∈ ins, PTDP_WF p)
    (hfit : (ins.map fun p => (encB p).length + 1).sum + s.payload.length ≤ s.length)
    (first : Bool) (r : Bytes) (hjump : first = true → r = []) :
    (insertLlps s ins).2 = [] ∧
    LlpLayout (insertLlps s ins).1 ins.reverse N ∧
    (getAlignedPayload (insertLlps s ins).1 first (some r)).items =
      ins.reverse.map (fun p => Item.pkt (asLlp p)) ++ (parseB (r ++ N)).1.map Item.pkt ++ [lastItem (parseB (r ++ N))] ∧
    (getAlignedPayload (insertLlps s ins).1 first (some r)).raised = none := by
  obtain ⟨h1, _, h3⟩ := insertLlps_layout s [] N ins h hfit
  rw [List.append_nil] at h3
  have hg := gap_llp_frame (insertLlps s ins).1 ins.reverse N (by simpa using hne) h3
    (fun p hp => hwf p (by simpa using hp)) first r hjump
  exact ⟨h1, h3, hg.1, hg.2⟩

/-- witness: `[]`, then `[5]`, then `[9, 9]` into a 40-byte frame holding 3 bytes of normal data (7 + 8 + 9 + 3 ≤ 40) -/
example : [llpPtdp [], llpPtdp [5], llpPtdp [9, 9]] ≠ [] ∧
    LlpLayout { newPtfr 40 1 with payload := [1, 2, 3] } [] [1, 2, 3] ∧
    (∀ p ∈ [llpPtdp [], llpPtdp [5], llpPtdp [9, 9]], PTDP_WF p) ∧
    (([llpPtdp [], llpPtdp [5], llpPtdp [9, 9]].map fun p => (encB p).length + 1).sum +
      ({ newPtfr 40 1 with payload := [1, 2, 3] } : PTFR.State).payload.length ≤
      ({ newPtfr 40 1 with payload := [1, 2, 3] } : PTFR.State).length) ∧ ((true : Bool) = true → ([] : Bytes) = []) := by
  refine ⟨by simp, ⟨rfl, rfl, fun h => absurd rfl h⟩, ?_, ?_, fun _ => rfl⟩
  · intro p hp
    simp only [List.mem_cons, List.not_mem_nil, or_false] at hp
    rcases hp with rfl | rfl | rfl <;> exact (llpPtdp_canon _ (by decide)).1
  · simp only [List.map_cons, List.map_nil, encB_length, List.sum_cons, List.sum_nil]
    decide
/-- … and what the frame holds afterwards, concretely: offset 24 = (8+1) + (7+1) + (6+1), LLP flag, payload length 27 -/
example : (let f := (insertLlps { newPtfr 40 1 with payload := [1, 2, 3] } [llpPtdp [], llpPtdp [5], llpPtdp [9, 9]]).1
    (f.llp, f.ptdp_offset, f.payload.length, f.payload.drop 24)) = (true, 24, 27, [1, 2, 3]) := by decide +kernel

/-- insertion order → return order, END TO END (hypotheses of `decap_encap_llp`): there are `groups` (one list of
    low-latency packets per yielded frame, each in INPUT order) and `pending` with
        input's low-latency packets, in input order  =  groups.flatten ++ pending,
    and the low-latency packets the decapsulator returns are, in this order, group₁ reversed, group₂ reversed, … —
    frames in order, within a frame most recent first -/
theorem llp_return_order (pkts : List (Bytes × Bool)) (L sid : Nat) (hL : 0 < L) (hL2 : L ≤ 2047) (hs : sid < 16)
    (hno : NoLLPOverflow pkts L sid) :
    ∃ (cur : PTFR.State) (out : List PTFR.State) (groups : List (List Bytes)) (pending : List Bytes),
      datapktsToPtfr pkts L sid = .ok (cur, out) ∧ groups.length = out.length ∧
      llpPkts pkts = groups.flatten ++ pending ∧
      (decap L (out.map wire)).2 = none ∧
      (reassemble (decap L (out.map wire)).1.ptdps).filter (fun q => q.2) =
        ((groups.map List.reverse).flatten).map (fun b => (b, true)) ∧
      -- frame k holds exactly group k: its low-latency prefix is the encodings of group k, latest first
      ∀ k (hk : k < out.length) (hg : k < groups.length),
        out[k].llp = !groups[k].isEmpty ∧
        out[k].payload.take (llpBytes (groups[k].reverse.map llpPtdp)).length = llpBytes (groups[k].reverse.map llpPtdp) := by
  obtain ⟨cur, out, lls, ll, h, ho, hord, _, hnone, _, _, hl⟩ := decap_encap_llp pkts L sid hL hL2 hs hno
  have hpay : ∀ l : List PTDP.State, (∀ q ∈ l, ∃ b, q = llpPtdp b) → (l.map (·.payload)).map llpPtdp = l := by
    intro l hq
    rw [List.map_map]
    conv => rhs; rw [← List.map_id l]
    apply List.map_congr_left
    intro q hqm
    obtain ⟨b, rfl⟩ := hq q hqm
    simp [llpPtdp, mkPtdp]
  have hqs : ∀ l ∈ lls, ∀ q ∈ l, ∃ b, q = llpPtdp b := fun l hl q hq =>
    (mem_lls_llpPtdp hord l hl q hq).imp fun _ hb => hb.2
  have hlen : out.length = lls.length := by rw [ho, mixFrames_length]
  refine ⟨cur, out, lls.map (fun l => l.reverse.map (·.payload)), ll.reverse.map (·.payload), h, by simp [hlen], ?_,
    hnone, ?_, ?_⟩
  · have := congrArg (List.map (·.payload)) hord
    rw [map_payload_llpPtdp] at this
    rw [← this]
    simp only [llpOrder, List.map_append, List.map_flatten, List.map_map]
    rfl
  · rw [hl]
    simp only [List.map_map, List.map_flatten]
    congr 2
    funext l
    simp [Function.comp_def]
  · intro k hk hg
    have hkl : k < lls.length := by rw [← hlen]; exact hk
    have hgk : (lls.map (fun l => l.reverse.map (·.payload)))[k] = lls[k].reverse.map (·.payload) := by simp
    rw [hgk]
    have hback : (lls[k].reverse.map (·.payload)).reverse.map llpPtdp = lls[k] := by
      rw [← List.map_reverse, List.reverse_reverse]
      exact hpay lls[k] (hqs lls[k] (List.getElem_mem hkl))
    rw [hback]
    have hout : out[k] = mixFrame L sid (stream (normalPkts pkts))
        (Acra.Spec.Ch7.startsAux 0 (encs (normalPkts pkts))) (cutAfter L 0 (lls.take k)) lls[k] := by
      rw [← mixFrames_getElem L sid _ _ lls 0 k hkl (by rw [mixFrames_length]; exact hkl)]
      exact List.getElem_of_eq ho hk
    -- frame k is `mixFrame … lls[k]`: flag and low-latency prefix are read off its layout
    have hlay := mixFrame_layout L sid (stream (normalPkts pkts)) (Acra.Spec.Ch7.startsAux 0 (encs (normalPkts pkts)))
      (cutAfter L 0 (lls.take k)) lls[k]
    rw [hout, hlay.flag, hlay.payload, List.take_left' rfl]
    exact ⟨by simp, rfl⟩

/-- the pairwise reading of `llp_return_order` on the returned list: within a group the later-inserted packet comes
    first, and it stands after all packets of the earlier groups (`pre.length`).  Pure list fact about
    `(groups.map reverse).flatten` versus `groups.flatten`, stated on positions. -/
theorem llp_return_order_pair (groups : List (List Bytes)) (g : Nat) (hg : g < groups.length) (i j : Nat)
    (hij : i < j) (hj : j < groups[g].length) :
    ∃ (pre post : List Bytes) (mid : List Bytes),
      (groups.map List.reverse).flatten = pre ++ groups[g][j] :: mid ++ groups[g][i] :: post ∧
      pre.length = ((groups.take g).map List.length).sum + (groups[g].length - 1 - j) := by
  have hsplit : groups = groups.take g ++ groups[g] :: groups.drop (g + 1) := by
    rw [List.getElem_cons_drop, List.take_append_drop]
  obtain ⟨a, m, b, hr, ha⟩ := reverse_split groups[g] i j hij hj
  refine ⟨((groups.take g).map List.reverse).flatten ++ a, b ++ ((groups.drop (g + 1)).map List.reverse).flatten, m, ?_, ?_⟩
  · conv => lhs; rw [hsplit]
    simp only [List.map_append, List.map_cons, List.flatten_append, List.flatten_cons, hr, List.append_assoc,
      List.cons_append]
  · simp only [List.length_append, List.length_flatten, List.map_map, ha]
    congr 2
    apply List.map_congr_left
    intro l _; simp

/-- witnesses for `llp_return_order` (the mixed sequence of LowLatency.lean, L = 40: frames hold `[[9,9]]` and
    `[[], [5]]` in input order) and for `llp_return_order_pair` -/
example : (0 : Nat) < 40 ∧ 40 ≤ 2047 ∧ (1 : Nat) < 16 ∧ NoLLPOverflow
    [([1, 2, 3], false), ([9, 9], true), (List.replicate 40 7, false), ([], true), ([5], true), ([4, 4], false)]
    40 1 := by decide +kernel
example : (1 : Nat) < [[[9, 9]], [[], [5]]].length ∧ (0 : Nat) < 1 ∧ 1 < ([[[9, 9]], [[], [5]]] : List (List Bytes))[1].length ∧
    ([[[9, 9]], [[], [5]]].map List.reverse).flatten = ([[9, 9], [5], []] : List Bytes) := by decide

end Acra.Props.C10
