/-
  C10 — the encapsulator on normal (non-low-latency) traffic, for ALL packet sequences and
  ALL frame lengths L ≥ 1 (`frames_eq_spec`: L ≤ 2047, the width of the offset field).

  Notation: `ptdps pkts` = datapkts_to_ptdp of the packets (none low-latency), `encB p` = the bytes
  PTDP.pack returns for a well-formed PTDP (= Spec.PTDP.encode, `ptdp_wire_spec`), `S` = their
  concatenation, `starts` = the positions in `S` at which a PTDP header begins.
  `datapktsToPtfr` returns the frames yielded so far AND the frame under construction (which the
  library never yields): "packets whose last byte has been emitted" is the completeness notion.
-/
import Acra.Lemmas.Chapter7Spec
import Acra.Lemmas.Chapter7MixEnc
namespace Acra.Props.C10
open Acra.Py Acra.Model.Chapter7 Acra.Lemmas.Chapter7 Acra.Gen.Chapter7
open Acra.Spec.Ch7 (offset startsAux)

/-- every PTDP the library builds packs to the Chapter 7 layout -/
theorem ptdps_pack_layout (pkts : List Bytes) (p : PTDP.State) (hp : p ∈ ptdps pkts) :
    (PTDP.pack p).2 = .ok (Spec.PTDP.encode p.fragment p.content p.payload) := by
  rw [pack_encB p (ptdps_wf pkts p hp).1, ptdp_wire_spec p (ptdps_wf pkts p hp).1.2.2]

/-- the encapsulator terminates (for L ≥ 1) and its state is the stream cut into L-byte frames -/
theorem encap_invariant (pkts : List Bytes) (L sid : Nat) (hL : 0 < L) :
    ∃ cur out, datapktsToPtfr (normal pkts) L sid = .ok (cur, out) ∧
      EncInv L sid (encs pkts) cur out := by
  obtain ⟨cur, out, h, _, inv⟩ := encap_normal pkts L sid hL
  exact ⟨cur, out, h, inv⟩

theorem encInv_of_ok (pkts : List Bytes) (L sid : Nat) (hL : 0 < L) (cur : PTFR.State) (out : List PTFR.State)
    (h : datapktsToPtfr (normal pkts) L sid = .ok (cur, out)) : EncInv L sid (encs pkts) cur out :=
  (encap_normal_of_ok pkts L sid hL cur out h).2

/-- frames_len — ANY traffic (low-latency packets, overflowing insertions included), any frame length:
    every frame the encapsulator yields has a payload of exactly L bytes and packs to 4 + L bytes -/
theorem frames_len (pkts : List (Bytes × Bool)) (L sid : Nat) (hs : sid < 16)
    (cur : PTFR.State) (out : List PTFR.State) (h : datapktsToPtfr pkts L sid = .ok (cur, out)) :
    ∀ f ∈ out, f.payload.length = L ∧ ∃ b, (PTFR.pack f).2 = .ok b ∧ b.length = 4 + L := by
  by_cases hL : L = 0
  · subst hL
    rw [datapktsToPtfr_zero pkts sid cur out h]
    simp
  · obtain ⟨cur', out', h', _, hfull, _⟩ := datapktsToPtfr_any pkts L sid (Nat.pos_of_ne_zero hL)
    rw [h] at h'; injection h' with h'; injection h' with h1 h2; subst h1 h2
    intro f hf
    exact ⟨(hfull f hf).2.1, fullFrame_pack L sid hs f (hfull f hf)⟩

/-- payload_stream (prefix law): the emitted payloads followed by the pending frame are the stream,
    and every emitted payload is a full frame -/
theorem payload_stream (pkts : List Bytes) (L sid : Nat) (hL : 0 < L)
    (cur : PTFR.State) (out : List PTFR.State) (h : datapktsToPtfr (normal pkts) L sid = .ok (cur, out)) :
    (out.map (·.payload)).flatten ++ cur.payload = stream pkts ∧
    (∀ f ∈ out, f.payload.length = L) ∧ cur.payload.length ≤ L ∧
    out.length = (stream pkts).length.pred / L := by
  have inv := encInv_of_ok pkts L sid hL cur out h
  have hlo := inv.lo
  have hhi := inv.hi
  rw [Nat.succ_mul] at hhi
  refine ⟨?_, ?_, ?_, ?_⟩
  · conv => lhs; rw [inv.out_eq, inv.cur_eq]
    simp only [List.map_map, Function.comp_def, frameOf_payload]
    rw [List.range_eq_range', slices_flatten, Nat.zero_mul, Nat.zero_add]
    exact List.take_append_drop _ _
  · intro f hf
    rw [inv.out_eq, List.mem_map] at hf
    obtain ⟨k, hk, rfl⟩ := hf
    have hk' : k < out.length := List.mem_range.1 hk
    have hkl : (k + 1) * L ≤ out.length * L := Nat.mul_le_mul_right L hk'
    simp only [frameOf, slice_length]
    rw [Nat.succ_mul] at hkl ⊢; omega
  · rw [inv.cur_eq]; simp only [List.length_drop]; unfold stream at *; omega
  · unfold stream
    by_cases h0 : (encs pkts).flatten.length = 0
    · rw [h0]
      have : out.length * L = 0 := by omega
      rcases Nat.mul_eq_zero.1 this with h | h
      · simp [h]
      · omega
    · -- a frame is emitted only when it overflows: the pending frame is never empty
      have hpos := inv.pos (by omega)
      symm
      apply Nat.div_eq_of_lt_le
      · simp only [Nat.pred_eq_sub_one]; omega
      · simp only [Nat.pred_eq_sub_one]; rw [Nat.succ_mul]; omega

/-- offset_correct: each emitted frame's offset field is the position, relative to the frame, of the
    first PTDP header that begins in it, or the reserved 0x7FF if none does; the LLP flag is clear -/
theorem offset_correct (pkts : List Bytes) (L sid : Nat) (hL : 0 < L)
    (cur : PTFR.State) (out : List PTFR.State) (h : datapktsToPtfr (normal pkts) L sid = .ok (cur, out))
    (k : Nat) (hk : k < out.length) :
    out[k].ptdp_offset = offset L (startsAux 0 (encs pkts)) k ∧ out[k].llp = false ∧
    out[k].streamid = sid ∧ out[k].version = 0 ∧ out[k].length = L := by
  have inv := encInv_of_ok pkts L sid hL cur out h
  rw [inv.getElem k hk]
  exact ⟨rfl, rfl, rfl, rfl, rfl⟩

/-- fragmentation, short packets: one COMPLETE PTDP carrying the packet -/
theorem fragmentation_small (b : Bytes) (llp : Bool) (h : b.length ≤ 2048) :
    ptdpsOf b llp = [mkPtdp llp PTDP_FRAGMENT_COMPLETE b] :=
  ptdpsOf_small b llp h

/-- fragmentation, long packets: n = ⌈len/2048⌉ ≥ 2 PTDPs — FIRST, MIDDLE…, LAST (`fragOf`) — whose
    payloads are the consecutive 2048-byte pieces of the packet (the last one 1..2048 bytes), all
    carrying the packet's low-latency marking and content = Ethernet MAC -/
theorem fragmentation_large (b : Bytes) (llp : Bool) (h : 2048 < b.length) :
    ptdpsOf b llp = (List.range ((b.length + 2047) / 2048)).map (fragOf b llp ((b.length + 2047) / 2048)) ∧
    ((List.range ((b.length + 2047) / 2048)).map
      (fun i => (fragOf b llp ((b.length + 2047) / 2048) i).payload)).flatten = b ∧
    2 ≤ (b.length + 2047) / 2048 ∧
    (∀ i, i + 1 < (b.length + 2047) / 2048 → (fragOf b llp ((b.length + 2047) / 2048) i).payload.length = 2048) ∧
    (∀ i, i < (b.length + 2047) / 2048 →
      0 < (fragOf b llp ((b.length + 2047) / 2048) i).payload.length ∧
      (fragOf b llp ((b.length + 2047) / 2048) i).payload.length ≤ 2048) := by
  have hn : b.length ≤ 2048 * ((b.length + 2047) / 2048) := by omega
  have hn2 : 2048 * ((b.length + 2047) / 2048) < b.length + 2048 := by omega
  refine ⟨?_, ?_, by omega, ?_, ?_⟩
  · exact ptdpsOf_large b llp h
  · exact fragOf_payloads b llp
  · intro i hi
    simp only [fragOf, mkPtdp, slice_length]; omega
  · intro i hi
    simp only [fragOf, mkPtdp, slice_length]; omega

example : (2048 : Nat) < (List.replicate 5000 (0 : UInt8)).length := by
  rw [List.length_replicate]; decide

/-- frames = Spec: the frames the encapsulator has yielded, as `PTFR.pack` returns them, are exactly the Spec's frames -/
theorem frames_eq_spec (pkts : List Bytes) (L sid : Nat) (hL : 0 < L) (hL2 : L ≤ 2047) (hs : sid < 16)
    (cur : PTFR.State) (out : List PTFR.State) (h : datapktsToPtfr (normal pkts) L sid = .ok (cur, out)) :
    out.map (fun f => (PTFR.pack f).2) = (Spec.Ch7.frames L sid pkts).map .ok := by
  obtain ⟨inv, _⟩ := encap_normal_of_ok pkts L sid hL cur out h
  have hlen : out.length = ((stream pkts).length - 1) / L := (payload_stream pkts L sid hL cur out h).2.2.2
  have ho : out = mixFrames L sid (stream pkts) (startsAux 0 (encs pkts)) 0 (List.replicate out.length []) := inv.out_eq
  have hwf := mixFrames_wf L sid hL2 hs (stream pkts) (startsAux 0 (encs pkts)) _ 0 inv.fit inv.lo
  rw [← ho] at hwf
  rw [spec_frames_eq, ← hlen, ← ho, List.map_map]
  exact List.map_congr_left fun f hf => pack_wire f (hwf f hf).1

/-- payload_stream against the Spec: the emitted payloads followed by the pending frame are the Spec's PTDP stream
    (`Spec.Ch7.stream`: Golay-protected PTDP encodings of the packets in order, long packets fragmented) -/
theorem payload_stream_spec (pkts : List Bytes) (L sid : Nat) (hL : 0 < L)
    (cur : PTFR.State) (out : List PTFR.State) (h : datapktsToPtfr (normal pkts) L sid = .ok (cur, out)) :
    (out.map (·.payload)).flatten ++ cur.payload = Spec.Ch7.stream pkts ∧
    (∀ f ∈ out, f.payload.length = L) ∧ cur.payload.length ≤ L ∧
    out.length = ((Spec.Ch7.stream pkts).length - 1) / L := by
  have := payload_stream pkts L sid hL cur out h
  rwa [stream_eq_spec] at this

/-- offset_correct against the Spec, with the payload of each frame: frame `k` carries bytes `[kL, (k+1)L)` of the
    Spec's stream and its offset field is `Spec.Ch7.offset` on the Spec's PTDP start positions -/
theorem offset_correct_spec (pkts : List Bytes) (L sid : Nat) (hL : 0 < L)
    (cur : PTFR.State) (out : List PTFR.State) (h : datapktsToPtfr (normal pkts) L sid = .ok (cur, out))
    (k : Nat) (hk : k < out.length) :
    out[k].payload = slice (Spec.Ch7.stream pkts) (k * L) ((k + 1) * L) ∧
    out[k].ptdp_offset = offset L (Spec.Ch7.starts pkts) k ∧ out[k].llp = false := by
  have inv := encInv_of_ok pkts L sid hL cur out h
  rw [inv.getElem k hk, ← stream_eq_spec, ← starts_eq_spec]
  exact ⟨rfl, rfl, rfl⟩

/-- fragmentation against the Spec: the encodings of the PTDPs the library builds for one packet are the Spec's
    (`chunks` of 2048 bytes with codes complete / first, middle…, last) -/
theorem fragmentation_spec (b : Bytes) :
    (ptdpsOf b false).map (fun p => (PTDP.pack p).2) = (Spec.Ch7.ptdpsOf b).map .ok := by
  rw [← ptdpsOf_encB_spec, List.map_map]
  apply List.map_congr_left
  intro p hp
  exact pack_encB p (ptdpsOf_canon' b false p hp).1

/-- example for the hypothesis `h` shared by `frames_len`, `payload_stream`, `offset_correct`, `frames_eq_spec`:
    packets `[1,2,3]`, `[4,5]`, frame length 4, stream id 1 — 17 stream bytes, 4 frames yielded (a PTDP header split
    after 1 byte across frames 2/3, a frame wholly inside a PTDP), offsets 0, none, 1, none; 1 byte pending -/
example : ((datapktsToPtfr (normal [[1, 2, 3], [4, 5]]) 4 1).toOption.map fun r =>
    (r.2.length, r.2.map (·.ptdp_offset), r.2.map (·.payload.length), r.1.payload.length)) =
    some (4, [0, 2047, 1, 2047], [4, 4, 4, 4], 1) := by decide +kernel
example : (0 : Nat) < 4 ∧ 4 ≤ 2047 ∧ (1 : Nat) < 16 := by decide
/-- … and the yielded frames, packed, are the Spec's frames, concretely -/
example : ((datapktsToPtfr (normal [[1, 2, 3], [4, 5]]) 4 1).toOption.map fun r => r.2.map fun f => (PTFR.pack f).2.toOption) =
    some ((Spec.Ch7.frames 4 1 [[1, 2, 3], [4, 5]]).map some) := by decide +kernel
/-- a PTDP ending exactly on a frame boundary (9 bytes, L = 9): next frame's offset is 0 -/
example : ((datapktsToPtfr (normal [[1, 2, 3], [4, 5, 6], [7]]) 9 1).toOption.map fun r =>
    (r.2.map (·.ptdp_offset), r.1.ptdp_offset)) = some ([0, 0], 0) := by decide +kernel
/-- example for `frames_len` on mixed traffic (low-latency insertions, one of them overflowing for L = 24) -/
example : ((datapktsToPtfr
    [([1, 2, 3], false), ([9, 9], true), (List.replicate 40 7, false), ([], true), ([5], true), ([4, 4], false)]
    24 1).toOption.map fun r => r.2.map (·.payload.length)) = some [24, 24, 24] := by decide +kernel

end Acra.Props.C10
