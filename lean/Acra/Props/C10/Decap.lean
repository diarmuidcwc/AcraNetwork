/-
  C10 — decapsulate ∘ encapsulate for normal traffic, ALL packet sequences, ALL frame
  lengths 1..2047: feeding the frames the encapsulator has emitted (as `PTFR.pack` returns them) to
  the consumer loop `decap` (the protocol the model fixes for driving `get_aligned_payload`, which the library does not
  document beyond the `remainder` argument: first frame `get_aligned_payload(True, b"")`, then
  `get_aligned_payload(False, leftover)`) returns, after fragment reassembly, exactly the packets whose last byte has been
  emitted, once each, identical, in order, no exception.  Both round trips are the decoder theorem `decap_mixFrames`
  (Lemmas.Chapter7Asm) at frames without low-latency data (`decap_normalFrames`): `decap_encap` on what the encapsulator yields,
  `decap_spec_frames` on the Spec's frames.
-/
import Acra.Lemmas.Chapter7Asm
import Acra.Props.C10.Stream
namespace Acra.Props.C10
open Acra.Py Acra.Model.Chapter7 Acra.Lemmas.Chapter7 Acra.Gen.Chapter7
open Acra.Spec.Ch7 (offset startsAux)

/-- `pktDone pkts c` is the number of leading packets whose complete encoding (all their PTDPs) lies
    within the first `c` bytes of the stream: those, and no more -/
theorem pktDone_spec (pkts : List Bytes) (c : Nat) :
    (stream (pkts.take (pktDone pkts c))).length ≤ c ∧
    (pktDone pkts c < pkts.length → c < (stream (pkts.take (pktDone pkts c + 1))).length) := by
  induction pkts generalizing c with
  | nil => simp [pktDone, stream, encs, ptdps, normal, datapktsToPtdp]
  | cons b rest ih =>
    simp only [pktDone]
    by_cases hfit : (pktEnc b).flatten.length ≤ c
    · simp only [hfit, if_true]
      obtain ⟨h1, h2⟩ := ih (c - (pktEnc b).flatten.length)
      rw [Nat.add_comm 1, List.take_succ_cons, List.take_succ_cons, stream_cons, stream_cons]
      simp only [List.length_append, List.length_cons]
      exact ⟨by omega, fun h => by have := h2 (by omega); omega⟩
    · simp only [hfit, if_false, List.take_zero, Nat.zero_add]
      refine ⟨by simp [stream, encs, ptdps, normal, datapktsToPtdp], fun _ => ?_⟩
      rw [List.take_succ_cons, stream_cons]
      simp only [List.length_append]; omega

/-- decap ∘ encap, normal traffic: the consumer loop, fed the frames emitted so far, returns — after
    fragment reassembly — every packet whose last byte has been emitted (`pktDone_spec`), exactly
    once, byte-identical, in the original order, none flagged low-latency, and raises nothing -/
theorem decap_encap (pkts : List Bytes) (L sid : Nat) (hL : 0 < L) (hL2 : L ≤ 2047) (hs : sid < 16)
    (cur : PTFR.State) (out : List PTFR.State) (h : datapktsToPtfr (normal pkts) L sid = .ok (cur, out)) :
    (decap L (out.map wire)).2 = none ∧
    reassemble (decap L (out.map wire)).1.ptdps = normal (pkts.take (pktDone pkts (out.length * L))) := by
  obtain ⟨inv, einv⟩ := encap_normal_of_ok pkts L sid hL cur out h
  have ho : out = mixFrames L sid (stream pkts) (startsAux 0 (encs pkts)) 0 (List.replicate out.length []) := inv.out_eq
  have := decap_normalFrames pkts L sid hL hL2 hs out.length fun hn =>
    einv.pos (by have := einv.lo; have := Nat.mul_pos hn hL; omega)
  rwa [← ho] at this

example : normal [[1, 2, 3], []] = [([1, 2, 3], false), ([], false)] := rfl

theorem pktDone_spec_stream (pkts : List Bytes) (c : Nat) :
    (Spec.Ch7.stream (pkts.take (pktDone pkts c))).length ≤ c ∧
    (pktDone pkts c < pkts.length → c < (Spec.Ch7.stream (pkts.take (pktDone pkts c + 1))).length) := by
  have := pktDone_spec pkts c
  rwa [stream_eq_spec, stream_eq_spec] at this

/-- end to end, with no reference to the model's encoder: the library's decapsulator (driven by the consumer loop `decap`),
    fed the Spec's frames for ANY packet sequence and ANY frame length 1..2047, raises nothing and returns — after
    reassembly — exactly the packets whose last byte lies in those frames: each once, byte-identical, in the
    original order, none flagged low-latency -/
theorem decap_spec_frames (pkts : List Bytes) (L sid : Nat) (hL : 0 < L) (hL2 : L ≤ 2047) (hs : sid < 16) :
    (decap L (Spec.Ch7.frames L sid pkts)).2 = none ∧
    reassemble (decap L (Spec.Ch7.frames L sid pkts)).1.ptdps =
      normal (pkts.take (pktDone pkts (((Spec.Ch7.stream pkts).length - 1) / L * L))) := by
  have h2 := Nat.div_mul_le_self ((stream pkts).length - 1) L
  have := decap_normalFrames pkts L sid hL hL2 hs (((stream pkts).length - 1) / L) fun hpos => by
    -- at least one frame: at least L + 1 bytes of stream
    have := Nat.mul_pos hpos hL
    omega
  rwa [← spec_frames_eq, stream_eq_spec] at this

/-- example for the hypotheses of `decap_encap` (`h`, 0 < L ≤ 2047, sid < 16), with a
    non-trivial result: packets `[1,2,3]`, `[4,5]`, L = 4 — 16 of the 17 stream bytes are in yielded frames, so the
    first packet is returned and the second (its last byte still pending) is not -/
example : (datapktsToPtfr (normal [[1, 2, 3], [4, 5]]) 4 1).isOk = true ∧ (0 : Nat) < 4 ∧ 4 ≤ 2047 ∧ (1 : Nat) < 16 ∧
    pktDone [[1, 2, 3], [4, 5]] 16 = 1 ∧ ((Spec.Ch7.stream [[1, 2, 3], [4, 5]]).length - 1) / 4 * 4 = 16 := by
  decide +kernel
example : reassemble (decap 4 (Spec.Ch7.frames 4 1 [[1, 2, 3], [4, 5]])).1.ptdps = [([1, 2, 3], false)] := by
  have h := (decap_spec_frames [[1, 2, 3], [4, 5]] 4 1 (by decide) (by decide) (by decide)).2
  rw [h]
  have e : pktDone [[1, 2, 3], [4, 5]] (((Spec.Ch7.stream [[1, 2, 3], [4, 5]]).length - 1) / 4 * 4) = 1 := by
    decide +kernel
  rw [e]; rfl
/-- a 5000-byte packet (FIRST / MIDDLE / LAST fragments) followed by a short one, L = 100: the long packet comes back -/
example : pktDone [List.replicate 5000 7, List.replicate 100 1] (((Spec.Ch7.stream [List.replicate 5000 7, List.replicate 100 1]).length - 1) / 100 * 100) = 1 := by
  -- by lengths (`pktEnc_length`): 5018 + 106 bytes of stream, 5100 of them in frames.  Rewriting only: `simp` would
  -- expand the two `replicate`s into 5100 conses, which the kernel then has to walk
  have e0 : (stream []).length = 0 := rfl
  rw [← stream_eq_spec, stream_cons, stream_cons, List.length_append, List.length_append, e0, pktDone, pktEnc_length,
    pktEnc_length, List.length_replicate, List.length_replicate, if_pos (by decide), pktDone, if_neg (by decide)]

end Acra.Props.C10
