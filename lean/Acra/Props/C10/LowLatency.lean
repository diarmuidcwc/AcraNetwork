/-
  C10 — low-latency (mixed) traffic under `NoLLPOverflow`.

  `NoLLPOverflow pkts L sid` (decidable; computed along the encapsulation fold): whenever
  `datapkts_to_ptfr` reaches a low-latency PTDP, its 6 + len bytes plus the 1-byte continuation marker
  fit in the free space of the frame under construction.  Without it the statement is false on the
  real code (known finding K3, /verif/known_findings.json).

  For EVERY packet sequence with ANY low-latency marking that satisfies `NoLLPOverflow`, every frame
  length 1..2047:
  * `llp_encap_invariant` — the encapsulator terminates and its state is `MixInv`: frame k is
        llpBytes ll_k ++ S[c_k, c_{k+1})      (`mixFrame`; S = stream of the normal PTDPs)
    = LLP₁ FF LLP₂ FF … LLPₙ 00 normal…, LLP flag = (ll_k ≠ []), offset field = length of the low-latency
    prefix if there is one, else the position of the first normal PTDP header beginning in the frame (0x7FF if
    none); the cuts are c_{k+1} = c_k + (L − |prefix_k|); the low-latency PTDPs of the frames, read in insertion
    order (`llpOrder`), are exactly the low-latency packets of the input, each ONE complete PTDP, each once.
  * `decap_encap_llp` — feeding the emitted frames (as `PTFR.pack` returns them) to the consumer
    loop `decap` (first frame `get_aligned_payload(True, b"")`, then `(False, leftover)`) raises nothing and returns,
    after FIRST/MIDDLE/LAST reassembly, frame by frame: the low-latency packets the frame holds, flagged,
    AHEAD of the normal packets whose last byte lies in that frame (`mixPkts`); hence
    every normal packet whose last byte has been emitted exactly once, byte-identical, in the original
    order, unflagged; every low-latency packet of an emitted frame exactly once, byte-identical, flagged.
-/
import Acra.Lemmas.Chapter7MixEnc
import Acra.Lemmas.Chapter7Asm
namespace Acra.Props.C10
open Acra.Py Acra.Model.Chapter7 Acra.Lemmas.Chapter7 Acra.Gen.Chapter7

/-- one low-latency insertion that fits keeps the frame layout (and returns no remainder) -/
theorem llp_insert_layout (s : PTFR.State) (llps : List PTDP.State) (N : Bytes) (p : PTDP.State)
    (h : LlpLayout s llps N) (hfit : (encB p).length + 1 + s.payload.length ≤ s.length) :
    (PTFR.addPayload s (encB p) true).2 = [] ∧
    (PTFR.addPayload s (encB p) true).1.length = s.length ∧
    LlpLayout (PTFR.addPayload s (encB p) true).1 (p :: llps) N :=
  addPayload_llp_layout s llps N p h hfit

/-- an empty frame has the layout with no low-latency PTDPs -/
example (L : Nat) : LlpLayout (newPtfr L 1) [] [] := ⟨rfl, rfl, fun h => absurd rfl h⟩

/-- a frame with the low-latency layout decapsulates to its low-latency PTDPs, flagged, ahead of the
    normal data; the normal data is parsed with the carried remainder in front, as usual.
    `first = true → r = []` is the consumer loop `decap` (first frame: `remainder = b""`). -/
theorem llp_frame_decode (self : PTFR.State) (llps : List PTDP.State) (N : Bytes) (hne : llps ≠ [])
    (h : LlpLayout self llps N) (hwf : ∀ p ∈ llps, PTDP_WF p) (first : Bool) (r : Bytes)
    (hjump : first = true → r = []) :
    (getAlignedPayload self first (some r)).items =
      llps.map (fun p => Item.pkt (asLlp p)) ++ (parseB (r ++ N)).1.map Item.pkt ++ [lastItem (parseB (r ++ N))] ∧
    (getAlignedPayload self first (some r)).raised = none :=
  gap_llp_frame self llps N hne h hwf first r hjump

/-- a mixed sequence satisfying `NoLLPOverflow`: normal, low-latency on a partly filled frame, a normal
    packet that overflows the frame, two low-latency packets into the same frame, normal -/
example : NoLLPOverflow
    [([1, 2, 3], false), ([9, 9], true), (List.replicate 40 7, false), ([], true), ([5], true), ([4, 4], false)]
    40 1 := by decide +kernel

/-- … and the same sequence violates it for a frame length that leaves no room for the insertion -/
example : ¬ NoLLPOverflow
    [([1, 2, 3], false), ([9, 9], true), (List.replicate 40 7, false), ([], true), ([5], true), ([4, 4], false)]
    24 1 := by decide +kernel

/-- the encapsulator on mixed traffic: terminates; frame layout, offsets and cuts (`MixInv`); every
    low-latency packet is one COMPLETE PTDP shorter than the frame, inserted exactly once -/
theorem llp_encap_invariant (pkts : List (Bytes × Bool)) (L sid : Nat) (hL : 0 < L) (hL2 : L ≤ 2047) (hs : sid < 16)
    (hno : NoLLPOverflow pkts L sid) :
    ∃ cur out lls ll, datapktsToPtfr pkts L sid = .ok (cur, out) ∧
      MixInv L sid (encs (normalPkts pkts)) lls ll cur out ∧
      llpOrder lls ll = (llpPkts pkts).map llpPtdp ∧
      (∀ b ∈ llpPkts pkts, b.length + 7 ≤ L) := by
  exact encap_mix_pkts pkts L sid hL hL2 hno

/-- the frame `MixInv` speaks of, field by field: low-latency PTDPs first (most recently inserted first, each
    followed by 0xFF, the last by 0x00), then `cap L ll = L − |prefix|` bytes of the normal stream from `c`;
    LLP flag iff there is a low-latency PTDP; offset = |prefix| then, else the first normal PTDP start in the frame -/
theorem llp_frame_layout (L sid : Nat) (S : Bytes) (st : List Nat) (c : Nat) (ll : List PTDP.State) :
    LlpLayout (mixFrame L sid S st c ll) ll (slice S c (c + cap L ll)) ∧
    (mixFrame L sid S st c ll).llp = !ll.isEmpty ∧
    (mixFrame L sid S st c ll).payload = llpBytes ll ++ slice S c (c + (L - (llpBytes ll).length)) ∧
    (ll ≠ [] → (mixFrame L sid S st c ll).ptdp_offset = (llpBytes ll).length) ∧
    (ll = [] → (mixFrame L sid S st c ll).ptdp_offset = offAt st c (c + L)) ∧
    (mixFrame L sid S st c ll).length = L ∧ (mixFrame L sid S st c ll).streamid = sid ∧
    (mixFrame L sid S st c ll).version = 0 := by
  have hlay := mixFrame_layout L sid S st c ll
  refine ⟨hlay, rfl, rfl, hlay.off, ?_, rfl, rfl, rfl⟩
  intro h; subst h; rfl

/-- decap ∘ encap, low-latency traffic under `NoLLPOverflow` (see the file header).  `cutAfter L 0 lls` is the number of
    bytes of the normal stream in the frames yielded: frames × L minus their low-latency prefixes (`llp_cut_total`) -/
theorem decap_encap_llp (pkts : List (Bytes × Bool)) (L sid : Nat) (hL : 0 < L) (hL2 : L ≤ 2047) (hs : sid < 16)
    (hno : NoLLPOverflow pkts L sid) :
    ∃ cur out lls ll, datapktsToPtfr pkts L sid = .ok (cur, out) ∧
      -- the frames are the mixed layout, the low-latency PTDPs in them are the input's, each once
      out = mixFrames L sid (stream (normalPkts pkts)) (Acra.Spec.Ch7.startsAux 0 (encs (normalPkts pkts))) 0 lls ∧
      llpOrder lls ll = (llpPkts pkts).map llpPtdp ∧
      (∀ f ∈ out, (PTFR.pack f).2 = .ok (wire f) ∧ f.payload.length = L) ∧
      -- the consumer loop raises nothing
      (decap L (out.map wire)).2 = none ∧
      -- frame by frame: the low-latency packets of the frame, flagged, then the normal packets it completes
      reassemble (decap L (out.map wire)).1.ptdps = mixPkts L (normalPkts pkts) 0 lls ∧
      -- normal packets: every one whose last byte has been emitted, once, identical, in order, unflagged
      (reassemble (decap L (out.map wire)).1.ptdps).filter (fun q => !q.2) =
        normal ((normalPkts pkts).take (pktDone (normalPkts pkts) (cutAfter L 0 lls))) ∧
      -- low-latency packets: those of the emitted frames, once, identical, flagged
      (reassemble (decap L (out.map wire)).1.ptdps).filter (fun q => q.2) =
        lls.flatten.map (fun q => (q.payload, true)) := by
  -- what the encapsulator yields (`encap_mix_pkts`) is the layout that `decap_mixFrames` reads
  obtain ⟨cur, out, lls, ll, h, inv, hord, hsz⟩ := encap_mix_pkts pkts L sid hL hL2 hno
  have hq : ∀ l ∈ lls, ∀ q ∈ l, ∃ b, q = llpPtdp b ∧ b.length ≤ 2048 := fun l hl q hq => by
    obtain ⟨b, hb, rfl⟩ := mem_lls_llpPtdp hord l hl q hq
    exact ⟨b, rfl, by have := hsz b hb; omega⟩
  obtain ⟨hd, hr⟩ := decap_mixFrames (normalPkts pkts) L sid hL hL2 hs lls inv.fit hq (fun hn => inv.pos (inv.ne hn))
  have hwfs := mixFrames_wf L sid hL2 hs (stream (normalPkts pkts)) (Acra.Spec.Ch7.startsAux 0 (encs (normalPkts pkts)))
    lls 0 inv.fit inv.lo
  have ho : out = mixFrames L sid (stream (normalPkts pkts)) (Acra.Spec.Ch7.startsAux 0 (encs (normalPkts pkts))) 0 lls :=
    inv.out_eq
  subst ho
  refine ⟨cur, _, lls, ll, h, rfl, hord, fun f hf => ⟨pack_wire f (hwfs f hf).1, (hwfs f hf).2⟩, ?_, ?_, ?_, ?_⟩
  · rw [hd]
  · rw [hd]; exact hr
  · rw [hd]; simp only; rw [hr, mixPkts_normal, pktDone_zero]; rfl
  · rw [hd]; simp only; rw [hr, mixPkts_llp]

/-- the normal bytes emitted: the cuts add up to the frames minus their low-latency prefixes -/
theorem llp_cut_total (L : Nat) (lls : List (List PTDP.State)) (c : Nat) (hfit : ∀ l ∈ lls, (llpBytes l).length ≤ L) :
    cutAfter L c lls + (lls.map fun l => (llpBytes l).length).sum = c + lls.length * L := by
  induction lls generalizing c with
  | nil => simp [cutAfter]
  | cons l r ih =>
    have := ih (c + cap L l) (fun x hx => hfit x (by simp [hx]))
    have hl := hfit l (by simp)
    simp only [cutAfter, List.map_cons, List.sum_cons, List.length_cons, cap] at this ⊢
    rw [Nat.add_mul]; omega

/-- "exactly once" for low-latency traffic, stated as a multiset equality: under the hypotheses of `decap_encap_llp`
    the low-latency PTDPs sitting in the yielded frames (`lls`, the ones the decapsulator returns) together with those
    in the frame not yet yielded (`ll`) are a permutation of the input's low-latency packets — none lost, none doubled -/
theorem llp_each_once (pkts : List (Bytes × Bool)) (L sid : Nat) (hL : 0 < L) (hL2 : L ≤ 2047) (hs : sid < 16)
    (hno : NoLLPOverflow pkts L sid) :
    ∃ cur out lls ll, datapktsToPtfr pkts L sid = .ok (cur, out) ∧
      out = mixFrames L sid (stream (normalPkts pkts)) (Acra.Spec.Ch7.startsAux 0 (encs (normalPkts pkts))) 0 lls ∧
      (reassemble (decap L (out.map wire)).1.ptdps).filter (fun q => q.2) =
        lls.flatten.map (fun q => (q.payload, true)) ∧
      ((lls.flatten ++ ll).map (·.payload)).Perm (llpPkts pkts) := by
  obtain ⟨cur, out, lls, ll, h, ho, hord, _, _, _, _, hl⟩ := decap_encap_llp pkts L sid hL hL2 hs hno
  refine ⟨cur, out, lls, ll, h, ho, hl, ?_⟩
  have hfl : ∀ xs : List (List PTDP.State), xs.flatten.Perm (xs.map List.reverse).flatten := by
    intro xs
    induction xs with
    | nil => simp
    | cons l r ih =>
      simp only [List.flatten_cons, List.map_cons]
      exact List.Perm.append (List.reverse_perm l).symm ih
  have hp : (lls.flatten ++ ll).Perm (llpOrder lls ll) := by
    unfold llpOrder
    exact List.Perm.append (hfl lls) (List.reverse_perm ll).symm
  have := hp.map (·.payload)
  rwa [hord, map_payload_llpPtdp] at this

/-- examples for the one-insertion / one-frame / cut lemmas: the low-latency PTDP of the packet `[9, 9]`
    (8 bytes + continuation byte) into an empty 40-byte frame; the frame holding it -/
example : LlpLayout (newPtfr 40 1) [] [] ∧
    (encB (llpPtdp [9, 9])).length + 1 + (newPtfr 40 1).payload.length ≤ (newPtfr 40 1).length :=
  ⟨⟨rfl, rfl, fun h => absurd rfl h⟩, by rw [encB_length]; decide⟩
example : [llpPtdp [9, 9]] ≠ [] ∧
    LlpLayout (mixFrame 40 1 [] [] 0 [llpPtdp [9, 9]]) [llpPtdp [9, 9]] (slice [] 0 (0 + cap 40 [llpPtdp [9, 9]])) ∧
    (∀ p ∈ [llpPtdp [9, 9]], PTDP_WF p) ∧ ((true : Bool) = true → ([] : Bytes) = []) :=
  ⟨by simp, (llp_frame_layout 40 1 [] [] 0 [llpPtdp [9, 9]]).1, by simp [PTDP_WF, llpPtdp, mkPtdp, PTDP_FRAGMENT_COMPLETE, PTDP_CONTENT_MAC], fun _ => rfl⟩
example : ∀ l ∈ [[llpPtdp [9, 9]]], (llpBytes l).length ≤ 40 := by
  intro l hl; simp only [List.mem_singleton] at hl; subst hl
  simp [llpBytes, encB_length, llpPtdp, mkPtdp]
/-- the hypotheses of `decap_encap_llp` / `llp_encap_invariant` / `llp_each_once` together, on the mixed sequence above -/
example : (0 : Nat) < 40 ∧ 40 ≤ 2047 ∧ (1 : Nat) < 16 ∧ NoLLPOverflow
    [([1, 2, 3], false), ([9, 9], true), (List.replicate 40 7, false), ([], true), ([5], true), ([4, 4], false)]
    40 1 := by decide +kernel
/-- … two frames are yielded for it, the first flagged LLP with offset 9 (= one 8-byte low-latency PTDP + 0x00), the
    second flagged with offset 15 (= `[5]` 7+1 and `[]` 6+1, the later insertion in front) -/
example : ((datapktsToPtfr
    [([1, 2, 3], false), ([9, 9], true), (List.replicate 40 7, false), ([], true), ([5], true), ([4, 4], false)]
    40 1).toOption.map fun r => r.2.map fun f => (f.llp, f.ptdp_offset, f.payload.length)) =
    some [(true, 9, 40), (true, 15, 40)] := by decide +kernel
/-- low-latency packet arriving on an EMPTY frame and on an exactly-LLP-holding frame also satisfy the hypothesis -/
example : NoLLPOverflow [([9, 9], true), ([5], true), ([1, 2, 3], false)] 30 1 := by decide +kernel

end Acra.Props.C10
