import Acra.Props.C07.Net
namespace Acra.Props.C07
open Acra.Py Acra.Model.Net Acra.Gen.Net Acra.Lemmas.Net Acra.Lemmas.Sum16

/-! `IPv4_verify_zero` (Props/C07/Net.lean) runs the MODEL's `ip_calc_checksum` over the emitted header — model
    function on model output.  Here the receiver's check is restated against the independent
    `Spec.rfc1071` (big-endian 16-bit words, end-around carry, complement): over the 20 header bytes `pack` emits,
    checksum field included, the one's-complement sum is 0xFFFF, i.e. `Spec.rfc1071` gives 0 — what RFC 1071 §1 / RFC 791
    ask a receiver to verify.  The bridge is byte-order independence (`Lemmas.Sum16.swap16_code_value`). -/

/-- for EVERY buffer shorter than 128 KiB the code's verifier (little-endian words, two folds, complement) answers 0
    exactly when the RFC 1071 checksum of the buffer is 0 -/
theorem verify_code_iff_std (bs : Bytes) (h : bs.length < 131072) :
    ipCalcChecksum bs = .ok 0 ↔ Spec.rfc1071 bs = 0 := by
  rw [ipCalcChecksum_eq, ← swap16_code_value bs h]
  have hle : 65535 - sumFold (wordsLE bs).sum ≤ 65535 := by omega
  generalize 65535 - sumFold (wordsLE bs).sum = v at hle
  constructor
  · intro e
    injection e with e
    subst e
    rfl
  · intro e
    have : v = 0 := by unfold swap16 at e; omega
    rw [this]

/-- non-vacuity, both directions: the 20-byte header of `ipExample` verifies, the same header with one bit of the TTL
    flipped does not -/
example :
    ((IP.pack ipExample).2.toOption.map fun b => (Spec.rfc1071 (b.take 20), (ipCalcChecksum (b.take 20)).toOption)) = some (0, some 0) ∧
    ((IP.pack ipExample).2.toOption.map fun b =>
      (Spec.rfc1071 ((b.take 20).set 8 0xFE), (ipCalcChecksum ((b.take 20).set 8 0xFE)).toOption)) = some (256, some 1) := by
  decide +kernel

/-- **IPv4 verification against the standard algorithm**: the RFC 1071 checksum of the 20 header bytes `pack` emits
    (checksum field in place) is 0; equivalently their one's-complement sum is 0xFFFF -/
theorem IPv4_verify_zero_std (s : IP) (src dst : Nat) (h : IP_WF s src dst) :
    ∃ b, (IP.pack s).2 = .ok b ∧ Spec.rfc1071 (b.take 20) = 0 ∧
      (Spec.wordsBE (b.take 20)).foldl Spec.onesAdd 0 = 0xFFFF := by
  obtain ⟨b, hb, hv⟩ := IPv4_verify_zero s src dst h
  have hlen : (b.take 20).length < 131072 := by
    have : (b.take 20).length ≤ 20 := List.length_take_le 20 b
    omega
  have h0 := (verify_code_iff_std _ hlen).mp hv
  refine ⟨b, hb, h0, ?_⟩
  have hfold : (Spec.wordsBE (b.take 20)).foldl Spec.onesAdd 0 ≤ 65535 := by
    rw [foldl_onesAdd _ 0 (by omega) (wordsBE_le _)]
    exact norm_le _
  unfold Spec.rfc1071 at h0
  omega

/-- witness: `ipExample` (identification 0xFFFF, TTL 255, flags 2: the word sum carries) is well formed -/
example : IP_WF ipExample 0xC0A80001 0xEFFFFFFF := by unfold IP_WF; decide

end Acra.Props.C07
