import Acra.Gen.Src.SimpleEthernet
import Acra.Gen.Src.PES
import Acra.Gen.Src.Chapter11
import Acra.Gen.Src.PMT
import Acra.Model.PMT
import Acra.Model.Net
import Acra.Model.PES
import Acra.Model.Ch11
import Acra.Lemmas.SrcTie
import Acra.Lemmas.SrcTieNorm
-- some simp arguments serve only one of the forms a tied expression is covered in (`% 2` / `& 1`, `// 2` / `>> 1`, …)
set_option linter.unusedSimpArgs false
namespace Acra.Props.C07
open Acra Acra.Py Acra.Lemmas.SrcTie Acra.Lemmas.SrcTieNorm

/-! Source ties (C07): the definitions of `Acra.Gen.Src.*` are regenerated from the CURRENT Python source by
    `harness/translate.py` on every run; each theorem says that the regenerated definition equals the hand-written
    model function, for every input of the stated domain.  Results are compared as Python ints (`Int`). -/

/-- `ones_comp_add16` = the model, for all non-negative operands.
    (For negative operands the Python function is also defined — `%` is the floor remainder — but the model, and
    every caller, only has 16-bit words.) -/
theorem src_ones_comp_add16 (a b : Nat) :
    Gen.Src.SimpleEthernet.ones_comp_add16 a b = (Model.Net.onesCompAdd16 a b : Int) := by
  unfold Gen.Src.SimpleEthernet.ones_comp_add16 Model.Net.onesCompAdd16
  have hM : Gen.Src.SimpleEthernet.MOD = 65536 := by decide
  have hm : Gen.Net.IGMP_MOD = 65536 := rfl
  simp only [hM, hm]
  rw [pymod_of_pos _ _ (by decide)]
  split <;> split <;> omega

theorem src_checksum_stanag (buff : Bytes) :
    Gen.Src.PES.checksum_stanag buff = (Model.PES.checksum_stanag buff : Int) := by
  unfold Gen.Src.PES.checksum_stanag Model.PES.checksum_stanag
  have h := stanag_fold [] buff 0
  simp only [List.nil_append, List.length_nil, Int.zero_add] at h
  -- a `sum(… for i in range(len(buff)))` is the same fold as the accumulating `for` loop
  try simp only [Py.sum, List.foldl_map]
  simp only [Py.len, Py.range_natCast, List.range_eq_range', h]
  exact pymod_natCast_lit _ _

theorem src_ip_calc_checksum (pkt : Bytes) :
    Gen.Src.SimpleEthernet.ip_calc_checksum pkt = (Model.Net.ipCalcChecksum pkt).map Int.ofNat := by
  unfold Gen.Src.SimpleEthernet.ip_calc_checksum Model.Net.ipCalcChecksum
  -- the padding test, in whatever form it is written (`% 2 == 1`, `& 1`, …): decided from the parity of the length
  have hpad : ∀ (c : Prop) [Decidable c], (c ↔ pkt.length % 2 = 1) →
      (if c then pkt ++ ([0] : Bytes) else pkt) = (if (pkt.length % 2 == 1) = true then pkt ++ [0] else pkt) := by
    intro c _ h; exact ite_congr (propext (h.trans (by simp))) (fun _ => rfl) (fun _ => rfl)
  rw [hpad _ (by simp only [Py.len, pymod_natCast_lit, band_natCast_lit, Lemmas.Bits.and_1]; omega)]
  generalize (if (pkt.length % 2 == 1) = true then pkt ++ [0] else pkt) = p
  -- the word count (`// 2`, `>> 1`, …)
  simp only [Py.len, floordiv_natCast_lit, shr_natCast, toNat_lit, Int.toNat_natCast, Lemmas.Bits.shr, Nat.pow_one,
    structUnpackI_eq, Gen.Net.ipcs_fmt0]
  cases structUnpack ⟨false, List.replicate (p.length / 2) Code.u16⟩ p with
  | error e => rfl
  | ok ws =>
    -- the folding arithmetic: everything to `/` and `%` by literals, then linear arithmetic decides
    simp only [Except.map, bind, Except.bind, sum_natCast, shr_natCast, band_natCast_lit, toNat_lit]
    simp only [← Int.natCast_add, shr_natCast, band_natCast_lit, band_inv_natCast_lit, toNat_lit]
    refine congrArg Except.ok (congrArg Int.ofNat ?_)
    try simp only [bits, Nat.reducePow]
    all_goals omega

/-- `get_checksum_buf` (Chapter 10 header checksum) = the model, for every byte string:
    the odd-length `Exception`, the `TypeError` of `reduce` on the empty buffer, and the sum -/
theorem src_get_checksum_buf (buf : Bytes) :
    Gen.Src.Chapter11.get_checksum_buf buf = (Model.Ch11.getChecksumBuf buf).map Int.ofNat := by
  unfold Gen.Src.Chapter11.get_checksum_buf Model.Ch11.getChecksumBuf
  unfold_src_helpers          -- covers the form in which the summation sits in a private helper of the module
  have hc : (pymod (Py.len buf) 2 ≠ 0) ↔ (buf.length % 2 ≠ 0) := by
    simp only [Py.len, pymod_natCast_lit]; omega
  have hn : Int.toNat (floordiv (Py.len buf) 2) = buf.length / 2 := by
    simp only [Py.len, floordiv_natCast_lit]; rfl
  simp only [hc, hn, structUnpackI_eq, Gen.Ch11.cksum_buf_fmt0]
  split
  · rfl
  · cases structUnpack ⟨false, List.replicate (buf.length / 2) Code.u16⟩ buf with
    | error e => rfl
    | ok ws =>
      cases ws with
      | nil => rfl
      | cons w ws =>
        simp only [Except.map, bind, Except.bind, reduce_add_natCast, pymod_natCast_lit]
        rfl

/-- `get_checksum_byte_buf` (secondary header checksum) = the model, for every byte string -/
theorem src_get_checksum_byte_buf (buf : Bytes) :
    Gen.Src.Chapter11.get_checksum_byte_buf buf = (Model.Ch11.getChecksumByteBuf buf).map Int.ofNat := by
  unfold Gen.Src.Chapter11.get_checksum_byte_buf Model.Ch11.getChecksumByteBuf
  unfold_src_helpers
  have hn : Int.toNat (Py.len buf) = buf.length := rfl
  simp only [hn, structUnpackI_eq, Gen.Ch11.cksum_byte_buf_fmt0]
  cases structUnpack ⟨false, List.replicate buf.length Code.u8⟩ buf with
  | error e => rfl
  | ok ws =>
    cases ws with
    | nil => rfl
    | cons w ws =>
      simp only [Except.map, bind, Except.bind, reduce_add_natCast, pymod_natCast_lit]
      rfl

/-- `crc32mpeg2` (PMT section CRC) = the model, for every byte string: the register is an
    unbounded Python int that is masked once at the end -/
theorem src_crc32mpeg2 (msg : Bytes) :
    Gen.Src.PMT.crc32mpeg2 msg = (Model.PMT.crc32mpeg2 msg : Int) := by
  unfold Gen.Src.PMT.crc32mpeg2 Model.PMT.crc32mpeg2 Py.bytesInts
  have h := foldl_natCast
    (fun (crc : Int) (b : Int) =>
      List.foldl (fun (crc : Int) (_ : Int) =>
        if band crc 2147483648 ≠ 0 then bxor (shl crc 1) 79764919 else shl crc 1) (bxor crc (shl b 24)) (Py.range 8))
    Model.PMT.crcByte (fun (x : UInt8) => ((x.toNat : Nat) : Int)) crcByte_tie msg 4294967295
  rw [show (((4294967295 : Nat) : Nat) : Int) = (4294967295 : Int) from rfl] at h
  simp only [h, band_natCast_lit]
  rw [Lemmas.Bits.and_FFFFFFFF]

end Acra.Props.C07
