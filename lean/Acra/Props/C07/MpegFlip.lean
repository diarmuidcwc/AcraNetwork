import Acra.Lemmas.PMT
import Acra.Lemmas.PES
import Acra.Props.C07.MpegSteer
namespace Acra.Props.C07
open Acra.Py Acra.Model.MPEGTS Acra.Model.PMT Acra.Model.PES Acra.Lemmas.MPEGTS Acra.Lemmas.PMT Acra.Lemmas.PMTSection
open Acra.Lemmas.MpegFlip Acra.Lemmas.PES Acra.Lemmas.MpegBytes

/-! Corruption of the 188-byte buffer, lifted through the decoders.

    PMT: the section starts at `PMT_secOff s` = 4 header bytes + adaptation bytes + pointer field
    (5 with adaptation control 1) and is `PMT_slen s + 3` bytes long, CRC included.  Section offsets
    1–2 carry `section_length` (low 12 bits), 10–11 `program_info_length` (low 12 bits). -/

/-- partial: the fields that steer the parse are excluded.
    `buf` is what `MPEGPacketPMT.pack` emits for a well-formed object; `buf'` differs from it in
    exactly ONE byte of the section — anywhere from `table_id` to the last CRC byte — such that the
    12 bits of `section_length` and the 12 bits of `program_info_length` are unchanged (the four
    high bits of section bytes 1 and 10 MAY change; the pointer byte lies before the section).
    Then `MPEGPacketPMT.unpack` — into an object in any prior state — does not return True: it
    returns False, or raises (a changed descriptor length / ES_info_length can mis-frame a loop and
    end in `struct.error`; see `PMT_flip_false_partial` for where False is guaranteed).
    Missing for the full statement: a change of `section_length` or of the pointer field moves the
    range the CRC is computed over and the position the stored CRC is read from, so no CRC argument
    applies (`program_info_length`, excluded here as well, is covered by `PMT_detects_pil_flip`); they
    are tested exhaustively on generated packets by the oracle `mpeg_pmt_flip`. -/
theorem PMT_detects_flip_partial (s t : PMT) (h : PMT_WF s) (hs : s.pkt.sync = 0x47)
    (hafc : s.pkt.adaption_ctrl = 1 ∨ s.pkt.adaption_ctrl = 3)
    (pre suf : Bytes) (a a' : UInt8) (hbuf : Pkt_bytes (PMT_pkt s) = pre ++ a :: suf) (hne : a ≠ a')
    (hlo : PMT_secOff s ≤ pre.length) (hhi : pre.length < PMT_secOff s + PMT_slen s + 3)
    (h2 : pre.length ≠ PMT_secOff s + 2) (h11 : pre.length ≠ PMT_secOff s + 11)
    (h1 : pre.length = PMT_secOff s + 1 → a.toNat % 16 = a'.toNat % 16)
    (h10 : pre.length = PMT_secOff s + 10 → a.toNat % 16 = a'.toNat % 16) :
    (PMT.pack s).2 = .ok (pre ++ a :: suf) ∧
    (PMT.unpack t (pre ++ a :: suf)).2 = .ok true ∧
    (PMT.unpack t (pre ++ a' :: suf)).2 ≠ .ok true ∧
    (∀ b, (PMT.unpack t (pre ++ a' :: suf)).2 = .ok b → b = false) :=
  PMT_detects_flip_slen_partial s t h hs hafc pre suf a a' hbuf hne hlo hhi h2 h1

/-- where False (not an exception) is guaranteed: the changed byte lies in the 12 fixed bytes of the
    section (table_id, the four non-length bits of byte 1, program_number, version / current_next,
    section numbers, PCR_PID, the four non-length bits of byte 10) or in the CRC_32 itself.
    (Partial for the same reason as `PMT_detects_flip_partial`.) -/
theorem PMT_flip_false_partial (s t : PMT) (h : PMT_WF s) (hs : s.pkt.sync = 0x47)
    (hafc : s.pkt.adaption_ctrl = 1 ∨ s.pkt.adaption_ctrl = 3)
    (pre suf : Bytes) (a a' : UInt8) (hbuf : Pkt_bytes (PMT_pkt s) = pre ++ a :: suf) (hne : a ≠ a')
    (hlo : PMT_secOff s ≤ pre.length) (hhi : pre.length < PMT_secOff s + PMT_slen s + 3)
    (hwhere : pre.length < PMT_secOff s + 12 ∨ PMT_secOff s + PMT_slen s - 1 ≤ pre.length)
    (h2 : pre.length ≠ PMT_secOff s + 2) (h11 : pre.length ≠ PMT_secOff s + 11)
    (h1 : pre.length = PMT_secOff s + 1 → a.toNat % 16 = a'.toNat % 16)
    (h10 : pre.length = PMT_secOff s + 10 → a.toNat % 16 = a'.toNat % 16) :
    (PMT.unpack t (pre ++ a' :: suf)).2 = .ok false := by
  obtain ⟨b, hb⟩ := PMT_flip_returns s t h hs hafc pre suf a a' hbuf hlo hhi hwhere h2 h11 h1 h10
  rw [hb, PMT_flip_rejected s t h hs hafc pre suf a a' hbuf hne hlo hhi h2 h1 b hb]

/-- the same for literal single-BIT flips: bit `k % 8` (least significant = 0) of byte `k / 8` of the
    packet, for every bit of the section except the 12 + 12 length bits -/
theorem PMT_detects_bitflip_partial (s t : PMT) (h : PMT_WF s) (hs : s.pkt.sync = 0x47)
    (hafc : s.pkt.adaption_ctrl = 1 ∨ s.pkt.adaption_ctrl = 3) (k : Nat)
    (hlo : PMT_secOff s ≤ k / 8) (hhi : k / 8 < PMT_secOff s + PMT_slen s + 3)
    (h2 : k / 8 ≠ PMT_secOff s + 2) (h11 : k / 8 ≠ PMT_secOff s + 11)
    (h1 : k / 8 = PMT_secOff s + 1 → 4 ≤ k % 8) (h10 : k / 8 = PMT_secOff s + 10 → 4 ≤ k % 8) :
    (PMT.unpack t (Acra.Lemmas.CRC.flipBit (Pkt_bytes (PMT_pkt s)) k)).2 ≠ .ok true :=
  PMT_detects_bitflip_slen_partial s t h hs hafc k hlo hhi h2 h1

/-- a non-trivial object satisfying the hypotheses: one descriptor, two streams -/
example : PMT_WF { PMT.fresh with
    pkt := { Pkt.fresh with pid := 0x100, adaption_ctrl := 1 }, tableid := 2, program_number := 1, pcr_pid := 0x101,
    descriptor_tags := [{ tag := some 5, data := [1, 2, 3] }],
    streams := [{ streamtype := 0x1B, elementary_pid := 0x101, elementary_stream_descriptors := [] },
                { streamtype := 0x06, elementary_pid := 0x104, elementary_stream_descriptors := [9, 9] }] } := by
  decide

/-! why `PMT_detects_flip_partial` says "not True" rather than "False" for the descriptor / stream
    bytes: a one-bit change of a descriptor LENGTH byte (3 → 2, packet offset 18) mis-frames the
    descriptor loop, which ends on a single left-over byte: `struct.error`, not False.  The same change
    of the descriptor's tag byte (offset 17) gives False. -/

example : (match (PMT.pack pmtFlipExample).2 with
    | .ok b => (match (PMT.unpack PMT.fresh b).2, (PMT.unpack PMT.fresh (b.set 18 2)).2,
                      (PMT.unpack PMT.fresh (b.set 17 4)).2 with
                | .ok true, .error .struct, .ok false => b.length == 188 && b.getD 17 0 == 5 && b.getD 18 0 == 3
                | _, _, _ => false)
    | .error _ => false) = true := by decide +kernel

/-- **False, not an exception, whenever the corrupted section still parses as well-formed fields.**
    `buf'` differs from `buf = pack s` in exactly one byte and is: the packet header, adaptation bytes
    and pointer field of `s`, the section fields of some well-formed `s'` (same packet frame), and the
    CRC + stuffing of `s` — i.e. only the CRC is stale.  Then `unpack(buf')` returns False.  Covers every
    one-byte change of a descriptor tag / data byte, a stream type, elementary PID, ES descriptor byte and
    of the non-length bits of the fixed part (complements `PMT_detects_flip_partial`, whose "or raises"
    alternative can then only occur when the change breaks the framing of a loop). -/
theorem PMT_flip_false_wellformed (s s' t : PMT) (h : PMT_WF s) (h' : PMT_WF s') (hpkt : s'.pkt = s.pkt)
    (hs : s.pkt.sync = 0x47) (hafc : s.pkt.adaption_ctrl = 1 ∨ s.pkt.adaption_ctrl = 3)
    (pre suf : Bytes) (a a' : UInt8) (hbuf : Pkt_bytes (PMT_pkt s) = pre ++ a :: suf) (hne : a ≠ a')
    (hbuf' : pre ++ a' :: suf = (Pkt_hdr (PMT_pkt s) ++ Pkt_af (PMT_pkt s) ++ [0]) ++
      (PMT_hdr s' ++ (PMT_loops s' ++ (PMT_crc4 s ++ Pkt_stuffing (PMT_pkt s))))) :
    (PMT.pack s).2 = .ok (pre ++ a :: suf) ∧ (PMT.unpack t (pre ++ a' :: suf)).2 = .ok false :=
  ⟨by rw [PMT_pack_eq s h, hbuf], PMT_stale_crc_false s s' t h' hpkt hs hafc pre suf a a' hbuf hne hbuf'⟩

/-- instance: `pmtFlipExample` with descriptor tag 5 → 4 (`s'`), byte 17 of the packet -/
example : (match (PMT.pack pmtFlipExample).2 with
    | .ok b => b.set 17 4 == (Pkt_hdr (PMT_pkt pmtFlipExample) ++ Pkt_af (PMT_pkt pmtFlipExample) ++ [0]) ++
        (PMT_hdr { pmtFlipExample with descriptor_tags := [{ tag := some 4, data := [1, 2, 3] }] } ++
          (PMT_loops { pmtFlipExample with descriptor_tags := [{ tag := some 4, data := [1, 2, 3] }] } ++
            (PMT_crc4 pmtFlipExample ++ Pkt_stuffing (PMT_pkt pmtFlipExample))))
    | .error _ => false) = true := by decide +kernel

/-! STANAG 4609: an exactly filled packet (the decoder handles no other, notes/mpeg.md E3) carries the 36
    metadata bytes in its last 36 bytes: `pesdata[5:-2]` is bytes 157..185 of the packet, the stored
    checksum bytes 186..187. -/

/-- on the raw 188-byte packet: `buf` is what `STANAG4609.pack` emits (exactly
    filled; with the optional PES header, or without it when the header heuristic K2 does not fire);
    `buf'` differs from it in exactly ONE byte at packet offset 157..187 — the universal key, BER length,
    tags, lengths, the 64-bit time (`pesdata[5:-2]`, the checksummed region) or the stored checksum.
    Then `buf` is accepted and `buf'` is rejected by `STANAG4609.unpack`, whatever the prior state:
    key mismatch, tag / length check, or checksum (a one-byte change alters the 16-bit sum by
    `±d·256^j ≠ 0 mod 2^16`). -/
theorem STANAG_detects_flip (s t : STANAG) (h : STANAG_WF s) (hw : PES_WF (STANAG_pes s))
    (hs : s.pes.pkt.sync = 0x47) (hafc : s.pes.pkt.adaption_ctrl = 1 ∨ s.pes.pkt.adaption_ctrl = 3)
    (hfull : Pkt_used (PES_pkt (STANAG_pes s)) = 188)
    (hhdr : (PES.ext s.pes = none ∧ ¬ looksLikeHeader (STANAG_pes s)) ∨
      (∃ w1 w2 hd, PES.ext s.pes = some (w1, w2, hd) ∧ w1 / 16 = 8))
    (pre suf : Bytes) (a a' : UInt8) (hbuf : Pkt_bytes (PES_pkt (STANAG_pes s)) = pre ++ a :: suf) (hne : a ≠ a')
    (hlo : 157 ≤ pre.length) :
    (STANAG.pack s).2 = .ok (pre ++ a :: suf) ∧ (pre ++ a :: suf).length = 188 ∧
    (STANAG.unpack t (pre ++ a :: suf)).2 = .ok () ∧
    (STANAG.unpack t (pre ++ a' :: suf)).2 ≠ .ok () := by
  have hdl : (STANAG_pes s).pesdata.length = 36 := STANAG_data_length _ _ _ _
  have hst : Pkt_stuffing (PES_pkt (STANAG_pes s)) = [] := by simp [Pkt_stuffing, hfull]
  have hparts : Pkt_bytes (PES_pkt (STANAG_pes s)) = PES_front (STANAG_pes s) ++ (STANAG_pes s).pesdata := by
    have := PES_bytes_front (STANAG_pes s)
    rwa [hst, List.append_nil] at this
  have h188 : (Pkt_bytes (PES_pkt (STANAG_pes s))).length = 188 := by rw [Pkt_bytes_length, hfull]; rfl
  have hfl : (PES_front (STANAG_pes s)).length = 152 := by
    have := congrArg List.length hparts
    rw [h188, List.length_append, hdl] at this; omega
  have hok : (STANAG.unpack t (Pkt_bytes (PES_pkt (STANAG_pes s)))).2 = .ok () := by
    rcases hhdr with ⟨hne', hnl⟩ | ⟨w1, w2, hd, he, hw1⟩
    · rw [STANAG_unpack_headerless s t h hw hs hafc hne' hfull hnl]
    · rw [STANAG_unpack_header s t h hw hs hafc w1 w2 hd he hw1 hfull]
  have hpack : (STANAG.pack s).2 = .ok (Pkt_bytes (PES_pkt (STANAG_pes s))) := by
    rw [STANAG_pack_eq s h, PES_pack_eq _ hw]
  refine ⟨by rw [hpack, hbuf], by rw [← hbuf, h188], by rw [← hbuf]; exact hok, ?_⟩
  rw [hparts] at hbuf
  obtain ⟨pre2, rfl, hdata⟩ := Acra.Lemmas.MpegBytes.split_right _ _ pre suf a hbuf (by omega)
  have hhdr' : (PES.ext (STANAG_pes s) = none ∧ ¬ looksLikeHeader (STANAG_pes s)) ∨
      (∃ w1 w2 hd, PES.ext (STANAG_pes s) = some (w1, w2, hd) ∧ w1 / 16 = 8) := hhdr
  have hl1 : (pre2 ++ a :: suf).length = 36 := by rw [← hdata, hdl]
  have hl2 : (pre2 ++ a' :: suf).length = (STANAG_pes s).pesdata.length := by
    rw [hdata]; simp
  simp only [List.length_append, hfl] at hlo
  have ht : ∀ x : UInt8, List.take 1 (pre2 ++ x :: suf) = List.take 1 pre2 := fun x =>
    List.take_append_of_le_length (by omega)
  obtain ⟨p, hp, hpd, _⟩ := PES_unpack_withData (STANAG_pes s) t.pes (pre2 ++ a :: suf) (by rw [hdata])
    hw hs hafc hfull (by omega) (by rw [hdata]) hhdr'
  obtain ⟨p', hp', hpd', _⟩ := PES_unpack_withData (STANAG_pes s) t.pes (pre2 ++ a' :: suf) hl2
    hw hs hafc hfull (by rw [hl2, hdl]; decide) (by rw [hdata, ht, ht]) hhdr'
  rw [List.append_assoc]
  have hok' : (STANAG.unpack t (PES_front (STANAG_pes s) ++ (pre2 ++ a :: suf))).2 = .ok () := by
    rw [← hdata, ← hparts]; exact hok
  have hpos : pre2.length < 36 := by
    have := hl1; simp at this; omega
  exact STANAG_detects_flip_pesdata t _ _ p p' pre2 suf a a' hp hp' hpd hpd' hne hl1 ⟨by omega, hpos⟩ hok'

/-- the packet of the library's test `test_stanag_create` (adaptation length 133, PTS header, time
    2024-01-25 15:07:59.767139 UTC) satisfies the hypotheses (header case) -/
def stanagFlipExample : STANAG :=
  { STANAG.fresh with
    pes := { PES.fresh with
             pkt := { Pkt.fresh with adaption_ctrl := 3, continuitycounter := 15,
                                     adaption_field := some { AF.fresh with length := 133 } },
             streamid := 0xFC, extension_w1 := some 0x81, extension_w2 := some 0x80,
             header_data := some [0x21, 0x04, 0x03, 0xFE, 0xD1] },
    stanag_counter := 15, time_us := 1706195279767139 }

example : STANAG_WF stanagFlipExample ∧ Pkt_used (PES_pkt (STANAG_pes stanagFlipExample)) = 188 ∧
    stanagFlipExample.pes.pkt.sync = 0x47 ∧ stanagFlipExample.pes.pkt.adaption_ctrl = 3 ∧
    PES.ext stanagFlipExample.pes = some (0x81, 0x80, [0x21, 0x04, 0x03, 0xFE, 0xD1]) ∧ 0x81 / 16 = 8 := by
  decide +kernel

/-- literal single-BIT flips: bit `k % 8` of byte `k / 8`, for every bit of the last 31 bytes -/
theorem STANAG_detects_bitflip (s t : STANAG) (h : STANAG_WF s) (hw : PES_WF (STANAG_pes s))
    (hs : s.pes.pkt.sync = 0x47) (hafc : s.pes.pkt.adaption_ctrl = 1 ∨ s.pes.pkt.adaption_ctrl = 3)
    (hfull : Pkt_used (PES_pkt (STANAG_pes s)) = 188)
    (hhdr : (PES.ext s.pes = none ∧ ¬ looksLikeHeader (STANAG_pes s)) ∨
      (∃ w1 w2 hd, PES.ext s.pes = some (w1, w2, hd) ∧ w1 / 16 = 8))
    (k : Nat) (hlo : 157 * 8 ≤ k) (hhi : k < 188 * 8) :
    (STANAG.unpack t (Acra.Lemmas.CRC.flipBit (Pkt_bytes (PES_pkt (STANAG_pes s))) k)).2 ≠ .ok () := by
  have h188 : (Pkt_bytes (PES_pkt (STANAG_pes s))).length = 188 := by rw [Pkt_bytes_length, hfull]; rfl
  obtain ⟨pre, a, suf, hbuf, hpl, hflip⟩ := flipBit_split (Pkt_bytes (PES_pkt (STANAG_pes s))) k (by omega)
  rw [hflip]
  exact (STANAG_detects_flip s t h hw hs hafc hfull hhdr pre suf a _ hbuf
    (fun e => Acra.Lemmas.CRC.flip_ne a (k % 8) (Nat.mod_lt _ (by decide)) e.symm) (by omega)).2.2.2

/-- the example packet: section at offset 5, `section_length` 18 (section = packet bytes 5..25, CRC at 22..25) -/
example : PMT_secOff pmtFlipExample = 5 ∧ PMT_slen pmtFlipExample = 18 ∧ PMT_WF pmtFlipExample := by decide +kernel

/-- example for ALL hypotheses of `PMT_detects_flip_partial` and `PMT_flip_false_partial`: the packet cut at
    byte 9 (low byte of program_number, one of the 12 fixed bytes), 1 → 0xFF -/
example :
    let buf := Pkt_bytes (PMT_pkt pmtFlipExample)
    let pre := buf.take 9; let suf := buf.drop 10
    PMT_WF pmtFlipExample ∧ pmtFlipExample.pkt.sync = 0x47 ∧
    (pmtFlipExample.pkt.adaption_ctrl = 1 ∨ pmtFlipExample.pkt.adaption_ctrl = 3) ∧
    buf = pre ++ (1 : UInt8) :: suf ∧ (1 : UInt8) ≠ 0xFF ∧
    PMT_secOff pmtFlipExample ≤ pre.length ∧ pre.length < PMT_secOff pmtFlipExample + PMT_slen pmtFlipExample + 3 ∧
    (pre.length < PMT_secOff pmtFlipExample + 12 ∨ PMT_secOff pmtFlipExample + PMT_slen pmtFlipExample - 1 ≤ pre.length) ∧
    pre.length ≠ PMT_secOff pmtFlipExample + 2 ∧ pre.length ≠ PMT_secOff pmtFlipExample + 11 ∧
    (pre.length = PMT_secOff pmtFlipExample + 1 → (1 : UInt8).toNat % 16 = (0xFF : UInt8).toNat % 16) ∧
    (pre.length = PMT_secOff pmtFlipExample + 10 → (1 : UInt8).toNat % 16 = (0xFF : UInt8).toNat % 16) := by
  decide +kernel

/-- example for `PMT_detects_bitflip_partial`: the first bit of the section (k = 40), a bit of the descriptor
    (k = 17·8+3), the HIGH nibble of section byte 1 (k = 6·8+4), the last bit of the CRC (k = 25·8+7) -/
example : ∀ k ∈ [40, 139, 52, 207],
    PMT_secOff pmtFlipExample ≤ k / 8 ∧ k / 8 < PMT_secOff pmtFlipExample + PMT_slen pmtFlipExample + 3 ∧
    k / 8 ≠ PMT_secOff pmtFlipExample + 2 ∧ k / 8 ≠ PMT_secOff pmtFlipExample + 11 ∧
    (k / 8 = PMT_secOff pmtFlipExample + 1 → 4 ≤ k % 8) ∧ (k / 8 = PMT_secOff pmtFlipExample + 10 → 4 ≤ k % 8) := by
  decide +kernel

/-- example for ALL hypotheses of `PMT_flip_false_wellformed`: descriptor tag 5 → 4 at packet byte 17 -/
example :
    let s' : PMT := { pmtFlipExample with descriptor_tags := [{ tag := some 4, data := [1, 2, 3] }] }
    let buf := Pkt_bytes (PMT_pkt pmtFlipExample)
    let pre := buf.take 17; let suf := buf.drop 18
    PMT_WF pmtFlipExample ∧ PMT_WF s' ∧ s'.pkt = pmtFlipExample.pkt ∧ pmtFlipExample.pkt.sync = 0x47 ∧
    (pmtFlipExample.pkt.adaption_ctrl = 1 ∨ pmtFlipExample.pkt.adaption_ctrl = 3) ∧
    buf = pre ++ (5 : UInt8) :: suf ∧ (5 : UInt8) ≠ 4 ∧
    pre ++ (4 : UInt8) :: suf = (Pkt_hdr (PMT_pkt pmtFlipExample) ++ Pkt_af (PMT_pkt pmtFlipExample) ++ [0]) ++
      (PMT_hdr s' ++ (PMT_loops s' ++ (PMT_crc4 pmtFlipExample ++ Pkt_stuffing (PMT_pkt pmtFlipExample)))) := by
  decide +kernel

/-- **the bits the `_partial` theorems exclude, on the example**: flipping any of the 8 bits of the pointer field
    (packet byte 4), of the 12 `section_length` bits (low nibble of byte 6, byte 7) or of the 12 `program_info_length`
    bits (low nibble of byte 15, byte 16) is ALSO reported — `unpack` does not return True (it raises `struct.error` /
    `IndexError`); no general CRC argument covers these positions, this is a check of one packet -/
example : ∀ k ∈ [32, 33, 34, 35, 36, 37, 38, 39, 48, 49, 50, 51, 56, 57, 58, 59, 60, 61, 62, 63,
                  120, 121, 122, 123, 128, 129, 130, 131, 132, 133, 134, 135],
    (match (PMT.unpack PMT.fresh (Acra.Lemmas.CRC.flipBit (Pkt_bytes (PMT_pkt pmtFlipExample)) k)).2 with
     | .ok true => false | _ => true) = true := by
  decide +kernel

/-- example for ALL hypotheses of `STANAG_detects_flip` (header case): the packet cut at byte 160 (inside the
    universal key); `STANAG_detects_bitflip`: the first and the last bit of the region -/
example :
    let buf := Pkt_bytes (PES_pkt (STANAG_pes stanagFlipExample))
    let pre := buf.take 160; let suf := buf.drop 161
    STANAG_WF stanagFlipExample ∧ PES_WF (STANAG_pes stanagFlipExample) ∧ stanagFlipExample.pes.pkt.sync = 0x47 ∧
    (stanagFlipExample.pes.pkt.adaption_ctrl = 1 ∨ stanagFlipExample.pes.pkt.adaption_ctrl = 3) ∧
    Pkt_used (PES_pkt (STANAG_pes stanagFlipExample)) = 188 ∧
    (∃ w1 w2 hd, PES.ext stanagFlipExample.pes = some (w1, w2, hd) ∧ w1 / 16 = 8) ∧
    buf = pre ++ (0x34 : UInt8) :: suf ∧ (0x34 : UInt8) ≠ 0x35 ∧ 157 ≤ pre.length ∧
    157 * 8 ≤ 157 * 8 ∧ 157 * 8 < 188 * 8 ∧ 157 * 8 ≤ 188 * 8 - 1 ∧ 188 * 8 - 1 < 188 * 8 := by
  refine ⟨by decide, by decide +kernel, by decide, by decide, by decide +kernel,
    ⟨0x81, 0x80, [0x21, 0x04, 0x03, 0xFE, 0xD1], by decide, by decide⟩, by decide +kernel, by decide, by decide +kernel,
    by decide, by decide, by decide, by decide⟩

/-- … and for the header-less alternative of `hhdr`: counter 15, largest time, filled through the adaptation field -/
example :
    let s : STANAG :=
      { STANAG.fresh with
        pes := { PES.fresh with
                 pkt := { Pkt.fresh with adaption_ctrl := 3, adaption_field := some { AF.fresh with length := 141 } },
                 streamid := 0xFC },
        stanag_counter := 15, time_us := 0xFFFFFFFFFFFFFFFF }
    STANAG_WF s ∧ PES_WF (STANAG_pes s) ∧ s.pes.pkt.sync = 0x47 ∧ Pkt_used (PES_pkt (STANAG_pes s)) = 188 ∧
    PES.ext s.pes = none ∧ ¬ looksLikeHeader (STANAG_pes s) := by
  decide +kernel

end Acra.Props.C07
