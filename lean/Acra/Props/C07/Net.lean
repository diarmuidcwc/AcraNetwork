import Acra.Lemmas.Net
import Acra.Lemmas.CRC
import Acra.Lemmas.ListAux
import Acra.Props.C02.Net
namespace Acra.Props.C07
open Acra.Py Acra.Model.Net Acra.Gen.Net Acra.Lemmas.Net Acra.Lemmas

/-! Spec algorithms: `Spec.rfc1071` (big-endian 16-bit words, end-around carry, complement) and `Spec.crc32`
    (reflected CRC-32, polynomial 0xEDB88320, init and final xor 0xFFFFFFFF).  Each theorem says: the field bytes
    inside what `pack` emits are the Spec algorithm of the protected bytes of what `pack` emits. -/

/-- the CRC-32 check value of the catalogue: "123456789" ↦ 0xCBF43926 -/
theorem crc32_check_value :
    Spec.crc32 [0x31, 0x32, 0x33, 0x34, 0x35, 0x36, 0x37, 0x38, 0x39] = 0xCBF43926 := Lemmas.CRC.crc32_check

/-- **IPv4**: bytes 10..11 of the emitted header are the RFC 1071 checksum, stored big-endian, of the emitted header
    with those two bytes zero — although the code sums little-endian words and stores with a native "H" -/
theorem IPv4_checksum_std (s : IP) (src dst : Nat) (h : IP_WF s src dst) :
    ∃ b, (IP.pack s).2 = .ok b ∧
      slice b 10 12 = beBytes 2 (Spec.rfc1071 (List.take 10 b ++ ([0, 0] ++ slice b 12 20))) := by
  refine ⟨_, by rw [IP_pack_eq s src dst h], ?_⟩
  rw [encode_parts, List.append_assoc, List.append_assoc]
  obtain ⟨e1, e2, e3⟩ := header_slices _ _ _ s.payload (ipFront_length s) (beBytes_length 2 _) (ipBack_length src dst)
  rw [e1, e2, e3]; rfl

/-- **verification**: the receiver's check — `ip_calc_checksum` over the 20 header bytes `pack` emitted — gives 0 -/
theorem IPv4_verify_zero (s : IP) (src dst : Nat) (h : IP_WF s src dst) :
    ∃ b, (IP.pack s).2 = .ok b ∧ ipCalcChecksum (b.take 20) = .ok 0 := by
  refine ⟨_, by rw [IP_pack_eq s src dst h], ?_⟩
  rw [encode_parts, take_append_len _ _ _ (by simp), ipCalcChecksum_eq,
    ← Lemmas.Sum16.stored_bytes_eq _ (by simp), show beBytes 2 0 = [0, 0] by decide,
    Lemmas.Sum16.verify_zero _ _ (by simp) (by simp)]

/-- **ICMP**: the message is type, code, checksum, identifier, sequence number, payload, with the RFC 1071
    checksum of the whole message (checksum field zero) — odd and even payload lengths, up to 128 KiB -/
theorem ICMP_checksum_std (s : ICMP) (h : ICMP_WF s) :
    (ICMP.pack s).2 = .ok (Spec.ICMP.encode s.type s.code s.request_id s.request_sequence s.payload) := by
  rw [ICMP_pack_eq s h]

example : ICMP_WF { ICMP.fresh with type := 8, payload := [1, 2, 3] } := by simp [ICMP_WF, ICMP.fresh]

/-- **IGMPv3 membership query**: the bytes the function returns are the general query with its RFC 1071 checksum -/
theorem IGMP_query_checksum_std : membershipQuery = Spec.IGMP.query := by decide +kernel

/-- **IGMPv3 join**: for every list of groups (all present, `gs.map some`; `hn`: the record count is a 16-bit field)
    the report is laid out as RFC 3376 says and carries the RFC 1071 checksum of the report -/
theorem IGMP_join_checksum_std (gs : List Nat) (hn : gs.length < 65536) :
    joinGroups (gs.map some) = .ok (Spec.IGMP.report gs) := by
  have hmode : (if gs.length == 1 then IGMP_TYPE_REC_CHG_TO_EXCL_MODE else IGMP_TYPE_REC_MODE_IS_EXCLUDE) =
      (if gs.length = 1 then 4 else 2) := by
    simp [IGMP_TYPE_REC_CHG_TO_EXCL_MODE, IGMP_TYPE_REC_MODE_IS_EXCLUDE]
  generalize hm : (if gs.length = 1 then 4 else 2) = mode at hmode
  have hml : mode < 256 := by rw [← hm]; split <;> omega
  have hf : Fits IGMP_join_fmt0.codes [IGMP_TYPE_MEMBERSHIP_REPORT, 0, 0, 0, gs.length] :=
    ⟨by decide, by decide, by decide, by decide, hn, trivial⟩
  -- the report with a zero checksum field
  have hnc : encCodes IGMP_join_fmt0.big IGMP_join_fmt0.codes [IGMP_TYPE_MEMBERSHIP_REPORT, 0, 0, 0, gs.length] ++
      gs.flatMap (Spec.IGMP.groupRecord mode) = Spec.IGMP.reportWith 0 gs := by
    simp only [Spec.IGMP.reportWith, hm]
    simp [IGMP_join_fmt0, encCodes, Code.size, IGMP_TYPE_MEMBERSHIP_REPORT, encInt]
  have hlen : (Spec.IGMP.reportWith 0 gs).length = 2 * (4 + 4 * gs.length) := by
    rw [← hnc, List.length_append, flatMap_length_const _ 8 gs fun g _ => by simp [Spec.IGMP.groupRecord]]; simp [IGMP_join_fmt0, encCodes, Code.size]; omega
  have hwords : structUnpack (IGMP_join_fmt2 ((Spec.IGMP.reportWith 0 gs).length / 2)) (Spec.IGMP.reportWith 0 gs) =
      .ok (Spec.wordsBE (Spec.IGMP.reportWith 0 gs)) := by
    have e : (Spec.IGMP.reportWith 0 gs).length / 2 = 4 + 4 * gs.length := by omega
    simp only [structUnpack, IGMP_join_fmt2, Fmt.size, codesSize_replicate, Code.size, e]
    rw [if_pos hlen, unpackCodes_u16_be _ _ hlen]
  simp only [joinGroups, hmode, List.length_map, structPack_eq _ _ hf, joinBody_eq mode gs hml, hnc, hwords]
  -- the word list is not empty; its one's-complement sum
  cases hws : Spec.wordsBE (Spec.IGMP.reportWith 0 gs) with
  | nil =>
    exfalso
    have : (Spec.IGMP.reportWith 0 gs) = 0x22 :: 0 :: (Spec.IGMP.reportWith 0 gs).drop 2 := by
      simp [Spec.IGMP.reportWith, beBytes, leBytes]
    rw [this] at hws; simp [Spec.wordsBE] at hws
  | cons w ws =>
    have hall : ∀ x ∈ w :: ws, x ≤ 65535 := by rw [← hws]; exact Lemmas.Sum16.wordsBE_le _
    have hw := hall w (by simp)
    have hws' := fun x hx => hall x (List.mem_cons_of_mem _ hx)
    have hx : 65535 - (List.foldl onesCompAdd16 w ws &&& 0xFFFF) = Spec.rfc1071 (Spec.IGMP.reportWith 0 gs) := by
      have := Lemmas.Sum16.norm_le (w + ws.sum)
      rw [foldl_onesCompAdd16 ws w hw hws', Lemmas.Sum16.foldl_onesAdd ws w hw hws', Lemmas.Bits.and_FFFF,
        Nat.mod_eq_of_lt (by omega), Lemmas.Sum16.rfc1071_eq, hws, List.sum_cons]
    have hc : Fits IGMP_join_fmt3.codes [Spec.rfc1071 (Spec.IGMP.reportWith 0 gs)] :=
      ⟨by show _ < 65536; unfold Spec.rfc1071; omega, trivial⟩
    simp only [hx, structPack_eq _ _ hc]
    simp only [Spec.IGMP.report]
    congr 1

/-- **Ethernet FCS**: with `fcs=True` the frame is the header and payload followed by the CRC-32 (IEEE 802.3) of
    everything before it, least significant byte first -/
theorem Eth_fcs_std (s : Eth) (h : Eth_WF s) :
    (Eth.pack s true).2 = .ok (Spec.Ethernet.body s.dstmac s.srcmac (if s.vlan then some s.vlantag else none) s.type s.payload ++
      leBytes 4 (Spec.crc32 (Spec.Ethernet.body s.dstmac s.srcmac (if s.vlan then some s.vlantag else none) s.type s.payload))) := by
  rw [C02.Ethernet_pack_layout s true h]
  simp [Spec.Ethernet.encode]

/-- **detection**: `unpack(fcs=True)` raises on every frame that differs from an emitted frame in exactly one byte —
    wherever the byte is (addresses, tag, type, payload or the FCS itself), in particular for every single-bit flip -/
theorem Eth_detects_byte (s t : Eth) (h : Eth_WF s) (i : Nat) (v : UInt8)
    (hi : i < (ethFrame s true).length) (hv : (ethFrame s true)[i]? ≠ some v) :
    (Eth.pack s true).2 = .ok (ethFrame s true) ∧
    (Eth.unpack t ((ethFrame s true).set i v) true).2 = .error .generic := by
  refine ⟨by rw [Eth_pack_eq s true h], ?_⟩
  have hlen := ethFrame_length s true
  have hl18 : 18 ≤ (ethFrame s true).length := by rw [hlen]; split <;> simp <;> omega
  have hsl : ((ethFrame s true).set i v).length = (ethFrame s true).length := List.length_set
  have hbody : ethFrame s true = (ethHdr s ++ s.payload) ++ leBytes 4 (Spec.crc32 (ethHdr s ++ s.payload)) := by
    simp [ethFrame, ethFcs]
  have key : crc32 (((ethFrame s true).set i v).take (((ethFrame s true).set i v).length - 4)) ≠
      leNat (((ethFrame s true).set i v).drop (((ethFrame s true).set i v).length - 4)) := by
    rw [hsl]
    generalize ethHdr s ++ s.payload = B at hbody
    rw [hbody] at hi hv ⊢
    rw [List.length_append, leBytes_length, Nat.add_sub_cancel, crc32_eq_spec]
    exact Lemmas.CRC.fcs_detects_byte B i v hi hv
  refine (Eth_decodes.error_iff t (_, true) _).2 ?_
  unfold ethRun
  rw [if_neg (by rw [hsl]; unfold hdrLen; split <;> omega), if_pos ⟨rfl, key⟩]

/-- **every single-bit flip** of an emitted frame (header, tag, type, payload or FCS) is reported -/
theorem Eth_detects_flip (s t : Eth) (h : Eth_WF s) (k : Nat) (hk : k < 8 * (ethFrame s true).length) :
    (Eth.unpack t (Lemmas.CRC.flipBit (ethFrame s true) k) true).2 = .error .generic := by
  have hi : k / 8 < (ethFrame s true).length := by omega
  apply (Eth_detects_byte s t h (k / 8) _ hi ?_).2
  rw [List.getElem?_eq_getElem hi, List.getD_eq_getElem?_getD, List.getElem?_eq_getElem hi]
  simp only [Option.getD_some, ne_eq, Option.some.injEq]
  exact fun e => Lemmas.CRC.flip_ne _ (k % 8) (by omega) e.symm

example : Eth_WF { Eth.fresh with dstmac := 1, srcmac := 2, payload := [0xAA] } := by
  simp [Eth_WF, Eth.fresh, ETH_TYPE_IP, ETH_TYPE_VLAN]


/-- identification 0xFFFF, TTL 255, don't-fragment, odd payload length -/
def ipExample : IP :=
  { IP.fresh with
    srcip := some 0xC0A80001, dstip := some 0xEFFFFFFF, ident := 0xFFFF, ttl := 255, protocol := 17, flags := 2,
    payload := [1, 2, 3] }

/-- witness for `IPv4_checksum_std` / `IPv4_verify_zero`; the emitted checksum bytes are CB 2C -/
example : IP_WF ipExample 0xC0A80001 0xEFFFFFFF ∧
    ((IP.pack ipExample).2.toOption.map fun b => slice b 10 12) = some [0xCB, 0x2C] := by
  refine ⟨by unfold IP_WF; decide, by decide +kernel⟩

/-- the hypothesis `hn` of `IGMP_join_checksum_std` on the empty list, one group (record type 4), several groups (type 2) -/
example : ([] : List Nat).length < 65536 ∧ [0xE0000001].length < 65536 ∧ [0xE0000001, 0xEFFFFFFF, 0xE00000FB].length < 65536 := by
  decide

def ethExample : Eth := { Eth.fresh with dstmac := 1, srcmac := 2, payload := [0xAA] }

/-- example for `Eth_detects_byte` (a byte of the header, a payload byte, a byte of the FCS) and
    `Eth_detects_flip` (first and last bit of the 19-byte frame) -/
example : Eth_WF ethExample ∧ (ethFrame ethExample true).length = 19 ∧
    (0 < (ethFrame ethExample true).length ∧ (ethFrame ethExample true)[0]? ≠ some 0xFF) ∧
    (14 < (ethFrame ethExample true).length ∧ (ethFrame ethExample true)[14]? ≠ some 0xAB) ∧
    (18 < (ethFrame ethExample true).length ∧ (ethFrame ethExample true)[18]? ≠ some 0) ∧
    0 < 8 * (ethFrame ethExample true).length ∧ 151 < 8 * (ethFrame ethExample true).length := by
  refine ⟨by simp [Eth_WF, ethExample, Eth.fresh, ETH_TYPE_IP, ETH_TYPE_VLAN], ?_, ?_, ?_, ?_, ?_, ?_⟩ <;> decide +kernel

end Acra.Props.C07
