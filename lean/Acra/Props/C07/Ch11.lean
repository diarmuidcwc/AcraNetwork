/-
  C07, Chapter 11 part: the header checksum inside `pack` is the 16-bit arithmetic sum of the eleven
  little-endian 16-bit words that precede it, the secondary-header checksum is the 16-bit arithmetic sum
  of the ten BYTES that precede it (the library's docstring / decoder convention, see Acra.Spec.Ch10),
  both stored little-endian; and the two helper functions are those sums on every buffer.
  (`Chapter11.unpack` only logs a mismatch, so there is no detection statement for Chapter 11.)
-/
import Acra.Lemmas.Ch11
namespace Acra.Props.C07
open Acra.Py Acra.Model.Ch11 Acra.Gen.Ch11 Acra.Lemmas.Ch11 Acra.Lemmas.Ch10 Acra

/-- `get_checksum_buf` = 16-bit sum of the little-endian words, for every non-empty buffer of even length -/
theorem get_checksum_buf_std (buf : Bytes) (he : buf.length % 2 = 0) (hn : 0 < buf.length) :
    getChecksumBuf buf = .ok (Spec.Ch11.hdrChecksum buf) := getChecksumBuf_eq buf he hn

/-- … and raises for an odd length ("buffer needs to be 16-bit aligned") -/
theorem get_checksum_buf_odd (buf : Bytes) (ho : buf.length % 2 = 1) : getChecksumBuf buf = .error .generic := by
  simp [getChecksumBuf, ho]

/-- `get_checksum_byte_buf` = 16-bit sum of the bytes, for every non-empty buffer -/
theorem get_checksum_byte_buf_std (buf : Bytes) (hn : 0 < buf.length) :
    getChecksumByteBuf buf = .ok (Spec.Ch11.secChecksum buf) := getChecksumByteBuf_eq buf hn

example : getChecksumBuf [0xFF, 0xFF, 0x02, 0x00] = .ok 1 := by decide +kernel
example : getChecksumByteBuf [0xFF, 0xFF, 0x02] = .ok 0x200 := by decide +kernel

/-- header checksum: bytes 22..23 of every encoded packet (with or without secondary header) are the
    little-endian image of the standard sum over bytes 0..21 of the bytes actually emitted -/
theorem ch11_hdr_checksum_std (s : State) (h : WFn s ∨ WFs s) :
    ∃ b, (pack s).2 = .ok b ∧ slice b 22 24 = leBytes 2 (Spec.Ch11.hdrChecksum (b.take 22)) := by
  have key : ∀ ptp, slice (Spec.Ch11.encode s.syncpattern s.channelID s.datatypeversion s.sequence s.packetflag
      s.datatype s.relativetimecounter ptp s.payload) 22 24 =
      leBytes 2 (Spec.Ch11.hdrChecksum ((Spec.Ch11.encode s.syncpattern s.channelID s.datatypeversion s.sequence
        s.packetflag s.datatype s.relativetimecounter ptp s.payload).take 22)) := by
    intro ptp
    simp only [Spec.Ch11.encode, Spec.Ch11.header, List.append_assoc]
    rw [take_append_len _ _ _ (by simp [Spec.Ch11.header22])]
    exact slice_mid _ _ _ _ _ (by simp [Spec.Ch11.header22]) (by simp [Spec.Ch11.header22])
  rcases h with h | h
  · exact ⟨_, by rw [pack_nosec s h], key _⟩
  · exact ⟨_, by rw [pack_sec s h], key _⟩

/-- secondary-header checksum: bytes 34..35 are the little-endian image of the byte sum of bytes 24..33 -/
theorem ch11_sec_checksum_std (s : State) (h : WFs s) :
    ∃ b, (pack s).2 = .ok b ∧ slice b 34 36 = leBytes 2 (Spec.Ch11.secChecksum (slice b 24 34)) := by
  refine ⟨_, by rw [pack_sec s h], ?_⟩
  simp only [Spec.Ch11.encode, Spec.Ch11.secHeader, List.append_assoc]
  have e1 : ∀ (H A B C rest : Bytes), H.length = 24 → A.length = 4 → B.length = 4 → C.length = 2 →
      slice (H ++ (A ++ (B ++ ([0, 0] ++ (C ++ rest))))) 24 34 = A ++ (B ++ [0, 0]) := by
    intro H A B C rest hH hA hB hC
    have : H ++ (A ++ (B ++ ([0, 0] ++ (C ++ rest)))) = H ++ ((A ++ (B ++ [0, 0])) ++ (C ++ rest)) := by simp
    rw [this]
    exact slice_mid _ _ _ _ _ hH.symm (by simp [hH, hA, hB])
  have e2 : ∀ (H A B C rest : Bytes), H.length = 24 → A.length = 4 → B.length = 4 → C.length = 2 →
      slice (H ++ (A ++ (B ++ ([0, 0] ++ (C ++ rest))))) 34 36 = C := by
    intro H A B C rest hH hA hB hC
    have : H ++ (A ++ (B ++ ([0, 0] ++ (C ++ rest)))) = (H ++ (A ++ (B ++ [0, 0]))) ++ (C ++ rest) := by simp
    rw [this]
    exact slice_mid _ _ _ _ _ (by simp [hH, hA, hB]) (by simp [hH, hA, hB, hC])
  rw [e1 _ _ _ _ _ (header_length ..) (by simp) (by simp) (by simp), e2 _ _ _ _ _ (header_length ..) (by simp) (by simp) (by simp)]

/-- no secondary header; header words 0xEB25, 0xFFFF, …, 0xFFFF, 0xFFFF, 0xFFFF: the 16-bit sum carries repeatedly -/
def ch11ExampleN : State :=
  { fresh with
    channelID := 0xFFFF, sequence := 255, datatype := 0x40, relativetimecounter := 2 ^ 48 - 1, payload := [1, 2, 3] }

/-- IEEE-1588 secondary header with the largest seconds value -/
def ch11ExampleS : State :=
  { fresh with
    channelID := 7, packetflag := 0x84, has_secondary_header := true, ts_source := TS_IEEE1558,
    ptptime := ⟨0xFFFFFFFF, 999999999⟩, payload := [0xFF, 0xFF, 0xFF, 0xFF, 0xFF] }

/-- witnesses for `ch11_hdr_checksum_std` (both disjuncts) and `ch11_sec_checksum_std`, with the emitted checksum
    bytes: header checksum 0x2A45 at 22..23, resp. 0xEBE6; secondary-header checksum 0x0699 at 34..35 -/
example : WFn ch11ExampleN ∧ (WFn ch11ExampleS ∨ WFs ch11ExampleS) ∧ WFs ch11ExampleS ∧
    ((pack ch11ExampleN).2.toOption.map fun b => slice b 22 24) = some [0x45, 0x2A] ∧
    ((pack ch11ExampleS).2.toOption.map fun b => (slice b 22 24, slice b 34 36)) = some ([0xE6, 0xEB], [0x99, 0x06]) := by
  refine ⟨by unfold WFn; decide, Or.inr (by unfold WFs; decide), by unfold WFs; decide, by decide +kernel, by decide +kernel⟩

/-- witnesses for the hypotheses of the two function-level theorems, and the remaining branch (empty buffer) -/
example : ([0xFF, 0xFF, 0x02, 0x00] : Bytes).length % 2 = 0 ∧ 0 < ([0xFF, 0xFF, 0x02, 0x00] : Bytes).length ∧
    ([0xFF, 0xFF, 0x02] : Bytes).length % 2 = 1 ∧
    (match getChecksumBuf [] with | .error .type => true | _ => false) = true := by decide +kernel

end Acra.Props.C07
