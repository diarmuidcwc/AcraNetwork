import Acra.Lemmas.CRCMpeg
import Acra.Lemmas.MPEGTS
import Acra.Lemmas.PMT
import Acra.Lemmas.PES
import Acra.Props.C06.STANAG
namespace Acra.Props.C07
open Acra.Py Acra.Model.MPEGTS Acra.Model.PMT Acra.Model.PES Acra.Lemmas.CRCMpeg

/-! Integrity fields of the MPEG family: the PMT CRC_32 is CRC-32/MPEG-2 and the STANAG 4609 checksum
    is the MISB 0601 running sum, both over the bytes actually emitted; any single-byte (hence any
    single-bit) corruption of the protected bytes changes the value the decoder compares. -/

/-- `crc32mpeg2` (unbounded Python int, masked at the end) is the bit-serial CRC-32/MPEG-2 of
    ISO 13818-1 Annex A: polynomial 0x04C11DB7, initial value 0xFFFFFFFF, MSB first, no reflection,
    no final XOR — for every message -/
theorem crc32mpeg2_std (msg : Bytes) : crc32mpeg2 msg = Spec.MPEG.crc32mpeg2 msg := crc_eq_spec msg

/-- flipping any one bit (indeed changing any one byte) of a message changes its CRC -/
theorem crc32mpeg2_detects_flip (pre suf : Bytes) (a a' : UInt8) (h : a ≠ a') :
    crc32mpeg2 (pre ++ a :: suf) ≠ crc32mpeg2 (pre ++ a' :: suf) := crc_detects_byte pre suf a a' h

/-- `checksum_stanag` is the MISB 0601 checksum (16-bit sum of big-endian 16-bit words, odd tail byte
    in the high half) — for every byte string, including those whose sum carries repeatedly -/
theorem checksum_stanag_std (bs : Bytes) : checksum_stanag bs = Spec.MPEG.misbChecksum bs := checksum_eq_spec bs

/-- changing any one byte of the summed bytes changes the 16-bit sum (a one-bit change alters it by
    ±2^k ≠ 0 mod 2^16) -/
theorem checksum_stanag_detects_flip (pre suf : Bytes) (a a' : UInt8) (h : a ≠ a') :
    checksum_stanag (pre ++ a :: suf) ≠ checksum_stanag (pre ++ a' :: suf) := checksum_detects_byte pre suf a a' h

theorem STANAG_pack_data (s : STANAG) (h : STANAG_WF s) :
    (STANAG.pack s).1.pes.pesdata = Spec.MPEG.stanagData s.stanag_counter s.unknown s.unknown2 s.time_us ∧
    (STANAG.pack s).1.pes.pkt.pid = 0x104 := by
  -- `pack` is `PES.pack` of `STANAG_pes s` (PID forced, metadata rebuilt), which keeps both attributes
  rw [Acra.Lemmas.PES.STANAG_pack_eq s h]
  exact ⟨(Acra.Lemmas.PES.PES_pack_keeps _).1.trans (Acra.Props.C06.STANAG_data_layout _ _ _ _), (Acra.Lemmas.PES.PES_pack_keeps _).2⟩

/-- after `pack`, the PES data is the 5 bytes (counter, two undocumented
    fields) followed by the MISB 0601 local set — universal key, BER length 14, tag 2 / length 8 /
    64-bit time, tag 1 / length 2 / checksum — whose checksum is the MISB sum of exactly the bytes from
    the key up to and including the checksum's length byte; the PID is forced to 0x104 -/
theorem STANAG_checksum_std (s : STANAG) (h : STANAG_WF s) :
    ∃ prot, (STANAG.pack s).1.pes.pesdata =
        (beBytes 2 s.stanag_counter ++ [Spec.MPEG.byte s.unknown] ++ beBytes 2 s.unknown2) ++ prot ++
          beBytes 2 (Spec.MPEG.misbChecksum prot) ∧
      prot = Spec.MPEG.uasKey ++ [14, 2, 8] ++ beBytes 8 s.time_us ++ [1, 2] ∧ prot.length = 29 := by
  refine ⟨_, ?_, rfl, by simp [Spec.MPEG.uasKey]⟩
  rw [(STANAG_pack_data s h).1]
  simp [Spec.MPEG.stanagData, Spec.MPEG.uasLocalSet]

example : STANAG_WF { STANAG.fresh with stanag_counter := 15, time_us := 1706195279767139 } := by decide

/-- whenever `MPEGPacketPMT.pack` succeeds, the payload it builds is the pointer
    field 0, the section, and the CRC-32/MPEG-2 of exactly the section bytes, big-endian (`sect` is tied to the object's
    fields by `C06.PMT_pack_layout` and, in the emitted bytes, by `PMT_crc_std_bytes` below) -/
theorem PMT_crc_std (s : PMT) (b : Bytes) (h : (PMT.pack s).2 = .ok b) :
    ∃ sect, (PMT.pack s).1.pkt.payload = 0 :: (sect ++ beBytes 4 (Spec.MPEG.crc32mpeg2 sect)) := by
  have hp := Acra.Lemmas.MPEGTS.pack_u8 Acra.Gen.PMT.PMT_FMT_POINTER rfl 0 (by omega)
  revert h
  unfold PMT.pack
  simp only [hp]
  split
  next e he => simp
  next hdr hhdr =>
    split
    next e he => simp
    next db hdb =>
      split
      next e he => simp
      next sb hsb =>
        have hlt : crc32mpeg2 (hdr ++ db ++ sb) < 4294967296 := by unfold crc32mpeg2; omega
        have hfit : Fits Acra.Gen.PMT.PMT_pack_fmt0.codes [crc32mpeg2 (hdr ++ db ++ sb)] := by
          simp only [Fits, Acra.Gen.PMT.PMT_pack_fmt0, Code.bound, and_true]; exact hlt
        simp only [structPack_eq _ _ hfit]
        intro _
        refine ⟨hdr ++ db ++ sb, ?_⟩
        rw [(Acra.Lemmas.MPEGTS.Pkt_pack_keeps _ _).1]
        simp [encCodes, Acra.Gen.PMT.PMT_pack_fmt0, Code.size, encInt, crc32mpeg2_std, beBytes, leBytes]

/-- the Spec CRC at the catalogue's check value: CRC-32/MPEG-2 of "123456789" is 0x0376E6E7 -/
theorem crc32mpeg2_check_value :
    Spec.MPEG.crc32mpeg2 [0x31, 0x32, 0x33, 0x34, 0x35, 0x36, 0x37, 0x38, 0x39] = 0x0376E6E7 := by decide +kernel

/-- on the emitted bytes: the buffer `MPEGPacketPMT.pack` returns is `pre ++ sect ++ crc ++ post` with
    `pre` = TS header, adaptation bytes and pointer field 0 (`PMT_secOff s` bytes), `crc` = CRC-32/MPEG-2 of exactly
    `sect`, big-endian, `post` = 0xFF stuffing; and `sect` followed by the CRC is a whole section by its own
    `section_length` field (3 bytes up to and including the field + `section_length` bytes).
    (`PMT_crc_std` says this of the object's `payload` attribute after `pack`, not of the returned bytes.) -/
theorem PMT_crc_std_bytes (s : PMT) (h : Acra.Lemmas.PMT.PMT_WF s) :
    ∃ pre sect post, (PMT.pack s).2 = .ok (pre ++ (sect ++ (beBytes 4 (Spec.MPEG.crc32mpeg2 sect) ++ post))) ∧
      pre.length = Acra.Lemmas.MpegFlip.PMT_secOff s ∧ pre.getLast? = some 0 ∧
      ((sect.getD 1 0).toNat * 256 + (sect.getD 2 0).toNat) % 4096 + 3 = sect.length + 4 ∧
      post = List.replicate (188 - Acra.Lemmas.MPEGTS.Pkt_used (Acra.Lemmas.PMT.PMT_pkt s)) 0xFF :=
  ⟨_, _, _, Acra.Lemmas.PMT.PMT_pack_bytes s h,
    by simp [Acra.Lemmas.MpegFlip.PMT_secOff]; omega, by simp,
    Acra.Lemmas.PMT.PMT_body_section_length s h, rfl⟩

/-- one descriptor, two streams (one with ES descriptors) -/
def pmtCrcExample : PMT :=
  { PMT.fresh with
    pkt := { Pkt.fresh with pid := 0x100, adaption_ctrl := 1 }, tableid := 2, program_number := 1, pcr_pid := 0x101,
    descriptor_tags := [{ tag := some 5, data := [1, 2, 3] }],
    streams := [{ streamtype := 0x1B, elementary_pid := 0x101, elementary_stream_descriptors := [] },
                { streamtype := 0x06, elementary_pid := 0x104, elementary_stream_descriptors := [9, 9] }] }

/-- witness for `PMT_crc_std_bytes` and for the hypothesis of `PMT_crc_std` -/
example : Acra.Lemmas.PMT.PMT_WF pmtCrcExample ∧
    (PMT.pack pmtCrcExample).2 = .ok (Acra.Lemmas.MPEGTS.Pkt_bytes (Acra.Lemmas.PMT.PMT_pkt pmtCrcExample)) :=
  ⟨by decide +kernel, by rw [Acra.Lemmas.PMT.PMT_pack_eq _ (by decide +kernel)]⟩

/-- on the emitted bytes: the buffer `STANAG4609.pack` returns is
    `pre ++ prot ++ cks ++ post` with `prot` = the 29 bytes universal key, BER length 14, tag 2 / length 8 / 64-bit time,
    tag 1 / length 2; `cks` = the MISB 0601 sum of exactly `prot`, big-endian; `post` = 0xFF stuffing; `pre` ends 31 bytes
    before the end of the used part of the packet — offset 157 in an exactly filled packet, the only kind the decoder
    accepts.  (`STANAG_checksum_std` says this of the object's `pesdata` attribute after `pack`.) -/
theorem STANAG_checksum_std_bytes (s : STANAG) (h : STANAG_WF s) (hw : Acra.Lemmas.PES.PES_WF (Acra.Lemmas.PES.STANAG_pes s)) :
    ∃ pre prot post, (STANAG.pack s).2 = .ok (pre ++ (prot ++ (beBytes 2 (Spec.MPEG.misbChecksum prot) ++ post))) ∧
      prot = Spec.MPEG.uasKey ++ [14, 2, 8] ++ beBytes 8 s.time_us ++ [1, 2] ∧ prot.length = 29 ∧
      pre.length + 31 = Acra.Lemmas.MPEGTS.Pkt_used (Acra.Lemmas.PES.PES_pkt (Acra.Lemmas.PES.STANAG_pes s)) ∧
      (Acra.Lemmas.MPEGTS.Pkt_used (Acra.Lemmas.PES.PES_pkt (Acra.Lemmas.PES.STANAG_pes s)) = 188 → pre.length = 157 ∧ post = []) :=
  ⟨_, _, _, Acra.Lemmas.PES.STANAG_pack_bytes s h hw, Acra.Lemmas.PES.STANAG_prot_spec _,
    Acra.Lemmas.PES.STANAG_prot_length _,
    Acra.Lemmas.PES.STANAG_front_length s,
    fun hfull => ⟨by have := Acra.Lemmas.PES.STANAG_front_length s; omega, by simp [hfull]⟩⟩

/-- witness: the packet of the library's test `test_stanag_create`, exactly filled -/
def stanagCksExample : STANAG :=
  { STANAG.fresh with
    pes := { PES.fresh with
             pkt := { Pkt.fresh with adaption_ctrl := 3, continuitycounter := 15,
                                     adaption_field := some { AF.fresh with length := 133 } },
             streamid := 0xFC, extension_w1 := some 0x81, extension_w2 := some 0x80,
             header_data := some [0x21, 0x04, 0x03, 0xFE, 0xD1] },
    stanag_counter := 15, time_us := 1706195279767139 }

example : STANAG_WF stanagCksExample ∧ Acra.Lemmas.PES.PES_WF (Acra.Lemmas.PES.STANAG_pes stanagCksExample) ∧
    Acra.Lemmas.MPEGTS.Pkt_used (Acra.Lemmas.PES.PES_pkt (Acra.Lemmas.PES.STANAG_pes stanagCksExample)) = 188 := by
  decide +kernel

end Acra.Props.C07
