import Acra.Lemmas.PMTSection
import Acra.Lemmas.PMT
namespace Acra.Props.C07
open Acra.Py Acra.Model.MPEGTS Acra.Model.PMT Acra.Model.PES Acra.Lemmas.MPEGTS Acra.Lemmas.PMT
open Acra.Lemmas.MpegFlip Acra.Lemmas.MpegSteer Acra.Lemmas.PMTSection Acra.Lemmas.MpegBytes

/-! The PMT steering bits.  `PMT_detects_flip_partial` (Props/C07/MpegFlip.lean) excludes
    the 12 bits of `section_length` and the 12 bits of `program_info_length`, because they steer the parse.  Here:

    * **`program_info_length` (12 bits): detection holds unconditionally** — `PMT_detects_pil_flip`.  Together with
      `PMT_detects_flip_partial` this leaves only the 12 `section_length` bits: `PMT_detects_flip_slen_partial`,
      `PMT_detects_bitflip_slen_partial`.
    * **`section_length` (12 bits): the FULL statement is false** of the model and of the code — kernel-checked witness
      `pmtSlenForged` below (one bit of `section_length` flipped, `unpack` returns True).  What holds, for EVERY
      corrupted value: if the decoder returns at all, it returns the comparison at the moved position,
      `steerCoincides` (Lemmas/PMTSection.lean) — "the last four bytes of `payload[13+pil : L'+4]`, big-endian, equal
      CRC-32/MPEG-2 of `payload[1 : L']`" — so a flip is detected (False or an exception) unless that 32-bit
      coincidence holds: `PMT_slen_flip_unless`.  Decidable sufficient conditions: the coincidence itself is a Boolean
      function of the bytes (`PMT_slen_flip_detected`), and — CRC-free — every corrupted value below
      `13 + program_info_length` is detected (`PMT_slen_flip_short_detected`).
    * `PMT_steered_result`: the same for ANY section bytes in the packet frame (both fields arbitrary). -/

theorem PMT_steered_result (s t : PMT) (h : PMT_WF s) (hs : s.pkt.sync = 0x47)
    (hafc : s.pkt.adaption_ctrl = 1 ∨ s.pkt.adaption_ctrl = 3) (P : Bytes) (hP : 12 ≤ P.length) (b : Bool)
    (hb : (PMT.unpack t ((Pkt_hdr (PMT_pkt s) ++ Pkt_af (PMT_pkt s) ++ [0]) ++ P)).2 = .ok b) :
    b = steerCoincides P (fieldL P) (fieldPil P) :=
  PMT_any_section s t h.1 hs hafc P hP b hb

/-- everything but `section_length` (partial: only the 12 bits of `section_length` — low
    nibble of section byte 1, section byte 2 — remain excluded; for them see `PMT_slen_flip_unless` and the witness
    `pmtSlenForged`).  One changed byte anywhere from `table_id` to the last CRC byte. -/
theorem PMT_detects_flip_slen_partial (s t : PMT) (h : PMT_WF s) (hs : s.pkt.sync = 0x47)
    (hafc : s.pkt.adaption_ctrl = 1 ∨ s.pkt.adaption_ctrl = 3)
    (pre suf : Bytes) (a a' : UInt8) (hbuf : Pkt_bytes (PMT_pkt s) = pre ++ a :: suf) (hne : a ≠ a')
    (hlo : PMT_secOff s ≤ pre.length) (hhi : pre.length < PMT_secOff s + PMT_slen s + 3)
    (h2 : pre.length ≠ PMT_secOff s + 2)
    (h1 : pre.length = PMT_secOff s + 1 → a.toNat % 16 = a'.toNat % 16) :
    (PMT.pack s).2 = .ok (pre ++ a :: suf) ∧
    (PMT.unpack t (pre ++ a :: suf)).2 = .ok true ∧
    (PMT.unpack t (pre ++ a' :: suf)).2 ≠ .ok true ∧
    (∀ b, (PMT.unpack t (pre ++ a' :: suf)).2 = .ok b → b = false) := by
  have hr := PMT_flip_rejected s t h hs hafc pre suf a a' hbuf hne hlo hhi h2 h1
  exact ⟨by rw [PMT_pack_eq s h, hbuf], by rw [← hbuf, PMT_unpack_bytes s t h hs hafc],
    fun c => absurd (hr true c) (by decide), hr⟩

/-- the packet of the C07 flip witnesses: PID 0x100, payload only, one descriptor of three bytes -/
def pmtFlipExample : PMT :=
  { PMT.fresh with pkt := { Pkt.fresh with pid := 0x100, adaption_ctrl := 1 }, tableid := 2, program_number := 1,
                   descriptor_tags := [{ tag := some 5, data := [1, 2, 3] }] }

/-- `program_info_length`: `buf` is what `pack` emits; `buf'` differs from it in section byte 10
    or 11 (ANY other value of that byte: all 12 length bits, and the reserved high nibble of byte 10).  The decoder —
    into an object in any prior state — accepts `buf` and does not return True on `buf'` (False, or an exception when
    the moved loop boundary mis-frames a loop). -/
theorem PMT_detects_pil_flip (s t : PMT) (h : PMT_WF s) (hs : s.pkt.sync = 0x47)
    (hafc : s.pkt.adaption_ctrl = 1 ∨ s.pkt.adaption_ctrl = 3)
    (pre suf : Bytes) (a a' : UInt8) (hbuf : Pkt_bytes (PMT_pkt s) = pre ++ a :: suf) (hne : a ≠ a')
    (hpos : pre.length = PMT_secOff s + 10 ∨ pre.length = PMT_secOff s + 11) :
    (PMT.pack s).2 = .ok (pre ++ a :: suf) ∧
    (PMT.unpack t (pre ++ a :: suf)).2 = .ok true ∧
    (PMT.unpack t (pre ++ a' :: suf)).2 ≠ .ok true ∧
    (∀ b, (PMT.unpack t (pre ++ a' :: suf)).2 = .ok b → b = false) := by
  have := PMT_slen_ge s
  exact PMT_detects_flip_slen_partial s t h hs hafc pre suf a a' hbuf hne (by omega) (by omega) (by omega)
    (fun c => absurd c (by omega))

/-- witness (all hypotheses): the example packet cut at packet byte 16 = section byte 11 (`program_info_length` low
    byte, 5), replaced by 4 and by 0xFF -/
example :
    let buf := Pkt_bytes (PMT_pkt pmtFlipExample)
    let pre := buf.take 16; let suf := buf.drop 17
    PMT_WF pmtFlipExample ∧ pmtFlipExample.pkt.sync = 0x47 ∧
    (pmtFlipExample.pkt.adaption_ctrl = 1 ∨ pmtFlipExample.pkt.adaption_ctrl = 3) ∧
    buf = pre ++ (5 : UInt8) :: suf ∧ (5 : UInt8) ≠ 4 ∧ (5 : UInt8) ≠ 0xFF ∧
    (pre.length = PMT_secOff pmtFlipExample + 10 ∨ pre.length = PMT_secOff pmtFlipExample + 11) := by
  decide +kernel

/-- the same for literal single-BIT flips: every bit of the section except the 12 bits of `section_length` -/
theorem PMT_detects_bitflip_slen_partial (s t : PMT) (h : PMT_WF s) (hs : s.pkt.sync = 0x47)
    (hafc : s.pkt.adaption_ctrl = 1 ∨ s.pkt.adaption_ctrl = 3) (k : Nat)
    (hlo : PMT_secOff s ≤ k / 8) (hhi : k / 8 < PMT_secOff s + PMT_slen s + 3)
    (h2 : k / 8 ≠ PMT_secOff s + 2) (h1 : k / 8 = PMT_secOff s + 1 → 4 ≤ k % 8) :
    (PMT.unpack t (Acra.Lemmas.CRC.flipBit (Pkt_bytes (PMT_pkt s)) k)).2 ≠ .ok true := by
  obtain ⟨pre, a, suf, hbuf, hpl, hflip⟩ := flipBit_split _ k (Nat.lt_of_lt_of_le hhi (PMT_section_le s))
  rw [hflip]
  have hk : k % 8 < 8 := Nat.mod_lt _ (by decide)
  exact (PMT_detects_flip_slen_partial s t h hs hafc pre suf a _ hbuf
    (fun e => Acra.Lemmas.CRC.flip_ne a (k % 8) hk e.symm)
    (by omega) (by omega) (by omega)
    (fun e => flip_nibble a _ hk (h1 (by omega)))).2.2.1

/-- witness: the 12 `program_info_length` bits of the example packet (bits 0..3 of packet byte 15, all of byte 16) and
    four other positions satisfy the hypotheses of `PMT_detects_bitflip_slen_partial` -/
example : ∀ k ∈ [120, 121, 122, 123, 128, 129, 130, 131, 132, 133, 134, 135, 40, 139, 52, 207],
    PMT_secOff pmtFlipExample ≤ k / 8 ∧ k / 8 < PMT_secOff pmtFlipExample + PMT_slen pmtFlipExample + 3 ∧
    k / 8 ≠ PMT_secOff pmtFlipExample + 2 ∧ (k / 8 = PMT_secOff pmtFlipExample + 1 → 4 ≤ k % 8) := by
  decide +kernel

/-- **PMT, `section_length` corrupted: detected unless the CRC coincides at the moved position.**  `buf'` differs from
    the emitted `buf` in section byte 1 or 2 (any value).  If `unpack(buf')` returns a value `b` at all, then `b` is
    `steerCoincides` of the corrupted section (`buf'` from the section offset on) with the corrupted `section_length`
    `L'` and the intact `program_info_length`: at least four bytes lie between the end of the descriptor loop and the
    end `L'` designates (clamped to the packet), and the last four of them, big-endian, equal CRC-32/MPEG-2 of the
    section bytes `0 … L'−2` (clamped).  In particular True is returned only under that coincidence. -/
theorem PMT_slen_flip_unless (s t : PMT) (h : PMT_WF s) (hs : s.pkt.sync = 0x47)
    (hafc : s.pkt.adaption_ctrl = 1 ∨ s.pkt.adaption_ctrl = 3)
    (pre suf : Bytes) (a a' : UInt8) (hbuf : Pkt_bytes (PMT_pkt s) = pre ++ a :: suf)
    (hpos : pre.length = PMT_secOff s + 1 ∨ pre.length = PMT_secOff s + 2) :
    (∀ b, (PMT.unpack t (pre ++ a' :: suf)).2 = .ok b →
      b = steerCoincides ((pre ++ a' :: suf).drop (PMT_secOff s))
            (fieldL ((pre ++ a' :: suf).drop (PMT_secOff s))) (PMT_dbytes s).length) ∧
    ((PMT.unpack t (pre ++ a' :: suf)).2 = .ok true →
      steerCoincides ((pre ++ a' :: suf).drop (PMT_secOff s))
        (fieldL ((pre ++ a' :: suf).drop (PMT_secOff s))) (PMT_dbytes s).length = true) := by
  have hr := PMT_slen_byte_result s t h hs hafc pre suf a a' hbuf hpos
  exact ⟨hr, fun c => (hr true c).symm⟩

/-- decidable sufficient condition 1: the Boolean `steerCoincides` of the corrupted bytes is false ⇒ detected -/
theorem PMT_slen_flip_detected (s t : PMT) (h : PMT_WF s) (hs : s.pkt.sync = 0x47)
    (hafc : s.pkt.adaption_ctrl = 1 ∨ s.pkt.adaption_ctrl = 3)
    (pre suf : Bytes) (a a' : UInt8) (hbuf : Pkt_bytes (PMT_pkt s) = pre ++ a :: suf)
    (hpos : pre.length = PMT_secOff s + 1 ∨ pre.length = PMT_secOff s + 2)
    (hnc : steerCoincides ((pre ++ a' :: suf).drop (PMT_secOff s))
      (fieldL ((pre ++ a' :: suf).drop (PMT_secOff s))) (PMT_dbytes s).length = false) :
    (PMT.unpack t (pre ++ a' :: suf)).2 ≠ .ok true := by
  intro c
  have := (PMT_slen_flip_unless s t h hs hafc pre suf a a' hbuf hpos).2 c
  rw [hnc] at this
  exact absurd this (by decide)

/-- decidable sufficient condition 2, CRC-free: a corrupted `section_length` below `13 + program_info_length` (the
    section would end before the descriptor loop plus a CRC) is ALWAYS detected -/
theorem PMT_slen_flip_short_detected (s t : PMT) (h : PMT_WF s) (hs : s.pkt.sync = 0x47)
    (hafc : s.pkt.adaption_ctrl = 1 ∨ s.pkt.adaption_ctrl = 3)
    (pre suf : Bytes) (a a' : UInt8) (hbuf : Pkt_bytes (PMT_pkt s) = pre ++ a :: suf)
    (hpos : pre.length = PMT_secOff s + 1 ∨ pre.length = PMT_secOff s + 2)
    (hshort : fieldL ((pre ++ a' :: suf).drop (PMT_secOff s)) < 13 + (PMT_dbytes s).length) :
    (PMT.unpack t (pre ++ a' :: suf)).2 ≠ .ok true :=
  PMT_slen_flip_detected s t h hs hafc pre suf a a' hbuf hpos (steerCoincides_short _ _ _ hshort)

/-- literal single-BIT flips of `section_length` (bit `k % 8` of packet byte `k / 8`) -/
theorem PMT_slen_bitflip_unless (s t : PMT) (h : PMT_WF s) (hs : s.pkt.sync = 0x47)
    (hafc : s.pkt.adaption_ctrl = 1 ∨ s.pkt.adaption_ctrl = 3) (k : Nat)
    (hpos : k / 8 = PMT_secOff s + 1 ∨ k / 8 = PMT_secOff s + 2)
    (hc : (PMT.unpack t (Acra.Lemmas.CRC.flipBit (Pkt_bytes (PMT_pkt s)) k)).2 = .ok true) :
    steerCoincides ((Acra.Lemmas.CRC.flipBit (Pkt_bytes (PMT_pkt s)) k).drop (PMT_secOff s))
      (fieldL ((Acra.Lemmas.CRC.flipBit (Pkt_bytes (PMT_pkt s)) k).drop (PMT_secOff s))) (PMT_dbytes s).length = true := by
  have hlen : k / 8 < (Pkt_bytes (PMT_pkt s)).length := by
    have := PMT_section_le s
    have := PMT_slen_ge s
    omega
  obtain ⟨pre, a, suf, hbuf, hpl, hflip⟩ := flipBit_split _ k hlen
  rw [hflip] at hc ⊢
  exact (PMT_slen_flip_unless s t h hs hafc pre suf a _ hbuf (by omega)).2 hc

/-- witness for the hypotheses and for BOTH decidable conditions on the example packet (`section_length` 18 =
    0b000000010010, `program_info_length` 5): each of the 12 single-bit flips (packet bits 48..51, 56..63) gives
    `steerCoincides = false`; the two that clear a bit (18 → 16, 18 → 2) are below 13 + 5 -/
example :
    PMT_WF pmtFlipExample ∧ pmtFlipExample.pkt.sync = 0x47 ∧
    (pmtFlipExample.pkt.adaption_ctrl = 1 ∨ pmtFlipExample.pkt.adaption_ctrl = 3) ∧
    (∀ k ∈ [48, 49, 50, 51, 56, 57, 58, 59, 60, 61, 62, 63],
      (k / 8 = PMT_secOff pmtFlipExample + 1 ∨ k / 8 = PMT_secOff pmtFlipExample + 2) ∧
      steerCoincides ((Acra.Lemmas.CRC.flipBit (Pkt_bytes (PMT_pkt pmtFlipExample)) k).drop (PMT_secOff pmtFlipExample))
        (fieldL ((Acra.Lemmas.CRC.flipBit (Pkt_bytes (PMT_pkt pmtFlipExample)) k).drop (PMT_secOff pmtFlipExample)))
        (PMT_dbytes pmtFlipExample).length = false) ∧
    (∀ k ∈ [57, 60],
      fieldL ((Acra.Lemmas.CRC.flipBit (Pkt_bytes (PMT_pkt pmtFlipExample)) k).drop (PMT_secOff pmtFlipExample)) <
        13 + (PMT_dbytes pmtFlipExample).length) := by
  decide +kernel

/-- **the coincidence happens: the full statement is false.**  A well-formed PMT (two streams; the four ES-descriptor
    bytes `63 68 B3 F3` of the first are chosen so that CRC-32/MPEG-2 of "header with `section_length` 22 ‖ first
    stream" is `1B E1 01 F0`, the first four bytes of the second stream).  `section_length` is 30 = 0x1E; flipping
    ONE bit of it (bit 3 of packet byte 7: 0x1E → 0x16 = 22) gives a packet on which `MPEGPacketPMT.unpack` returns
    True with one stream.  Same on the real code (notes/mpegeq.md, replay `mpeg_pmt_slen_forged`). -/
def pmtSlenForged : PMT :=
  { PMT.fresh with
    pkt := { Pkt.fresh with pid := 0x100, adaption_ctrl := 1 }, tableid := 2, program_number := 1, pcr_pid := 0x101,
    streams := [{ streamtype := 0x1B, elementary_pid := 0x101, elementary_stream_descriptors := [0x63, 0x68, 0xB3, 0xF3] },
                { streamtype := 0x1B, elementary_pid := 0x101, elementary_stream_descriptors := [0xAA, 0xBB, 0xCC] }] }

example :
    let buf := Pkt_bytes (PMT_pkt pmtSlenForged)
    let buf' := Acra.Lemmas.CRC.flipBit buf (7 * 8 + 3)
    PMT_WF pmtSlenForged ∧ pmtSlenForged.pkt.sync = 0x47 ∧ pmtSlenForged.pkt.adaption_ctrl = 1 ∧
    PMT_secOff pmtSlenForged = 5 ∧ PMT_slen pmtSlenForged = 30 ∧
    (PMT.pack pmtSlenForged).2.toOption = some buf ∧ buf.length = 188 ∧ buf.getD 7 0 = 0x1E ∧ buf'.getD 7 0 = 0x16 ∧
    ((PMT.unpack PMT.fresh buf).2.toOption, (PMT.unpack PMT.fresh buf).1.streams.length) = (some true, 2) ∧
    ((PMT.unpack PMT.fresh buf').2.toOption, (PMT.unpack PMT.fresh buf').1.streams.length) = (some true, 1) ∧
    steerCoincides (buf'.drop 5) (fieldL (buf'.drop 5)) 0 = true := by
  decide +kernel

end Acra.Props.C07
