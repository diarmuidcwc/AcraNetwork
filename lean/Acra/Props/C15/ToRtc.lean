import Acra.Lemmas.PTPToRtc
namespace Acra.Props.C15
open Acra.Py Acra.Model.PTPToRtc Acra.Model.Ch11Pay.TimeFmt Acra.Lemmas.Float Acra.Lemmas.PTPToRtc
open Acra.Lemmas.Ch11Calendar Acra.Lemmas.Datetime

/-! `PTPTime.to_rtc` — the conversion to a 10 MHz count relative to the START OF THE YEAR, in binary64 arithmetic
    (C15's sentence on the PTP-to-RTC conversion describes `to_pinksheet_rtc`, which is `pinksheet_eq`; this is the
    other conversion).  What holds, for every rounding function with the two binary64 facts:

    * the calendar part is exact on 1970…2099: the seconds since the start of the year are `seconds − yearStart`;
    * the result is exactly `S·10^7 + ⌊ns/100⌋` while that value is below 4.5·10^13 — the first 52 days of a year
      (`S ≤ 4 499 999` for `ns < 10^9`) — for every such rounding function; and for the executable model (CPython's
      binary64) while it is below 2^47 (until 11/12 June), which is sharp;
    * beyond, it is NOT exact: the sum `S·10^7 + ns/100` is rounded to the spacing of binary64 at that magnitude
      (1/32 from 2^47, 1/16 from 2^48), so a fraction .99 (from 2^47 ≈ day 163) and .97–.99 (from 2^48 ≈ day 326) is
      rounded UP to the next integer before `int()` truncates: the result is one tick too large (witnesses below,
      evaluated on the executable model, which the correspondence compares with CPython bit for bit);
    * no reduction modulo 2^48: from second 28 147 498 of the year (22 November) the value does not fit the 48-bit
      relative time counter. -/

/-- `int(timedelta.total_seconds())` is the whole number of seconds -/
theorem to_rtc_total_seconds_exact (fl : ℚ → ℚ) (F : FloatSem fl) (S : ℕ) (h : S < 2 ^ 53) :
    totalSecondsInt fl (S * 1000000) = S := totalSecondsInt_exact fl F S h

/-- the hypothesis of `to_rtc_total_seconds_exact` at the last second of a leap year -/
example : (31622399 : ℕ) < 2 ^ 53 := by norm_num

theorem to_rtc_ticks_exact (fl : ℚ → ℚ) (F : FloatSem fl) (S ns : ℕ)
    (h : S * 10000000 + ns / 100 < 45000000000000) : ticks fl S ns = S * 10000000 + ns / 100 :=
  ticks_exact fl F S ns h

/-- 21 February 23:59:59.999999999 of a year is inside the domain, and so is every nanosecond count a 32-bit field
    can hold up to second 4 499 995 -/
example : (4499999 : ℕ) * 10000000 + 999999999 / 100 < 45000000000000 ∧
    (4499995 : ℕ) * 10000000 + 4294967295 / 100 < 45000000000000 := by decide

/-- `PTPTime(seconds, ns).to_rtc()` for a time stamp of 1970…2099 in the first 52 days of its year: exactly the
    seconds since the start of the year in 100 ns units plus the nanoseconds in 100 ns units, rounded down -/
theorem to_rtc_exact (fl : ℚ → ℚ) (F : FloatSem fl) (seconds ns : ℕ) (h : seconds < 86400 * DAYS)
    (hdom : (seconds - yearStart seconds) * 10000000 + ns / 100 < 45000000000000) :
    toRtcWith fl seconds ns = .ok (ideal (seconds - yearStart seconds) ns) := by
  rw [toRtcWith_eq fl F seconds ns (year_le_9999 seconds h), ticks_exact fl F _ _ hdom]

/-- the same for the executable model -/
theorem to_rtc_exact_exec (seconds ns : ℕ) (h : seconds < 86400 * DAYS)
    (hdom : (seconds - yearStart seconds) * 10000000 + ns / 100 < 45000000000000) :
    toRtc seconds ns = .ok (ideal (seconds - yearStart seconds) ns) :=
  to_rtc_exact Float.rne rne_floatSem seconds ns h hdom

/-- SHARP for the executable model (CPython's binary64, compared bit for bit by the correspondence): exact while the
    tick count stays below 2^47 — below 2^47 the spacing of binary64 is at most 1/64, so a fraction of at most .99
    (+ the 2^-27 the division may add) is never rounded up to the next integer.  `ns` is any value a 32-bit
    nanosecond field can hold.  The first wrong result is just beyond: `to_rtc_off_by_one_witness`. -/
theorem to_rtc_ticks_exact_exec (S ns : ℕ) (hns : ns < 2 ^ 32)
    (h : S * 10000000 + ns / 100 + 1 ≤ 2 ^ 47) : ticks Float.rne S ns = S * 10000000 + ns / 100 :=
  ticks_exact_exec S ns hns (by norm_num at h ⊢; exact h)

/-- second 14 073 748 of a year (11/12 June) with up to 835 532 700 ns is still inside; so is the whole domain of
    `to_rtc_ticks_exact` -/
example : (999999999 : ℕ) < 2 ^ 32 ∧ (14073748 : ℕ) * 10000000 + 835532700 / 100 + 1 ≤ 2 ^ 47 ∧
    (45000000000000 : ℕ) ≤ 2 ^ 47 := by norm_num

theorem to_rtc_exact_exec_sharp (seconds ns : ℕ) (h : seconds < 86400 * DAYS) (hns : ns < 2 ^ 32)
    (hdom : (seconds - yearStart seconds) * 10000000 + ns / 100 + 1 ≤ 2 ^ 47) :
    toRtc seconds ns = .ok (ideal (seconds - yearStart seconds) ns) := by
  unfold toRtc
  rw [toRtcWith_eq Float.rne rne_floatSem seconds ns (year_le_9999 seconds h), ticks_exact_exec _ _ hns (by norm_num at hdom ⊢; exact hdom)]

/-- non-vacuity: 2024-06-11 21:22:28 UTC (second 14 073 748 of 2024), 835 532 700 ns -/
example : (1718140948 : ℕ) < 86400 * DAYS ∧ (835532700 : ℕ) < 2 ^ 32 ∧
    (1718140948 - yearStart 1718140948) * 10000000 + 835532700 / 100 + 1 ≤ 2 ^ 47 := by decide +kernel

/-- the start of the year is not after the time stamp and less than 366 days before it (that it is where the Gregorian
    count puts it is `Lemmas.Datetime.yearStart_facts`) -/
theorem to_rtc_year_start (seconds : ℕ) (h : seconds < 86400 * DAYS) :
    yearStart seconds ≤ seconds ∧ seconds - yearStart seconds < 366 * 86400 := yearStart_le seconds

/-- non-vacuity: 2024-02-21 23:59:59 UTC (second 4 492 799 of the leap year 2024), 999 999 999 ns -/
example : (1708559999 : ℕ) < 86400 * DAYS ∧ yearStart 1708559999 = 1704067200 ∧
    (1708559999 - yearStart 1708559999) * 10000000 + 999999999 / 100 < 45000000000000 := by decide +kernel

/-- `to_rtc` raises nothing but the ValueError of `datetime.fromtimestamp` (year above 9999) -/
theorem to_rtc_total (fl : ℚ → ℚ) (seconds ns : ℕ) :
    (∃ v, toRtcWith fl seconds ns = .ok v) ∨ toRtcWith fl seconds ns = .error .value := by
  unfold toRtcWith
  cases hts : fromTimestamp (seconds : Int) with
  | ok date => left; exact ⟨_, rfl⟩
  | error e => right; rw [fromTimestamp_error _ _ hts]; rfl

/-- 1 January 10000 is the first second the conversion refuses -/
example : toRtc 253402300800 5 = .error .value ∧ toRtc 253402300799 999999999 = .ok 315360000000000 :=
  ⟨by decide +kernel, by decide +kernel⟩

/-- FULL STATEMENT one would like (FALSE of the code): `toRtc seconds ns = .ok (ideal (seconds − yearStart seconds) ns)` for
    every time stamp.  Witnesses: 2024-06-12 (second 14 073 749 of the year, past 2^47 ticks) with 99 ns gives one tick
    more; the last representable instant of 1970 comes out as the first tick of a 366th day. -/
theorem to_rtc_off_by_one_witness :
    toRtc 1718140949 99 = .ok 140737490000001 ∧ ideal (1718140949 - yearStart 1718140949) 99 = 140737490000000 ∧
    toRtc 31535999 999999999 = .ok 315360000000000 ∧ ideal 31535999 999999999 = 315359999999999 :=
  ⟨by decide +kernel, by decide +kernel,
   by decide +kernel, by decide +kernel⟩

/-- the result is not reduced modulo 2^48: on 22 November and later it exceeds the 48-bit counter -/
theorem to_rtc_exceeds_48_bits_witness :
    toRtc 1732214698 0 = .ok 281474980000000 ∧ (2 : ℕ) ^ 48 ≤ 281474980000000 :=
  ⟨by decide +kernel, by norm_num⟩

end Acra.Props.C15
