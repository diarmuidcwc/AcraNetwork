/-
  C15, IENA time of year (`setPacketTime` / `_getPacketTime`, model Model/IENATime.lean): microseconds since the start of the
  year and back through two binary64 operations, exact by `Lemmas.Float.FloatSem.floor_add_div`.
-/
import Acra.Lemmas.Float
import Acra.Model.IENATime
namespace Acra.Props.C15
open Acra.Py Acra.Model.IENATime Acra.Lemmas.Float

/-- IENA time of year: `_getPacketTime()` after `setPacketTime(ts, us)` returns `ts`, for every rounding function with
    the two binary64 facts.  `soy` is whatever `mktime` returned for the start of the year: the law does not depend on
    the time zone. -/
theorem iena_time_inverse (fl : ℚ → ℚ) (F : FloatSem fl) (ts us soy : ℕ)
    (h1 : soy ≤ ts) (h2 : ts - soy ≤ 366 * 86400) (h3 : us < 1000000) (h4 : ts < 2 ^ 32) :
    getPacketTimeWith fl (setPacketTime ts us soy) soy = ts := by
  obtain ⟨d, rfl⟩ : ∃ d, ts = soy + d := ⟨ts - soy, by omega⟩
  -- `timeusec / 1e6` is `d + us/10^6`; the two roundings are `FloatSem.floor_add_div` with `M = soy`:
  -- `(soy + d + 1) · 2·10^6 ≤ 2^32 · 2·10^6 < 2^53`
  have hq : (us + d * 1000000) / 1000000 = d := by
    rw [Nat.add_mul_div_right _ _ (by norm_num), Nat.div_eq_of_lt h3, Nat.zero_add]
  have hT : us + d * 1000000 < 2 ^ 53 := by
    generalize d * 1000000 = D at hq ⊢
    omega
  have key := F.floor_add_div soy (us + d * 1000000) 1000000 (by norm_num) (by rw [hq]; omega)
  unfold getPacketTimeWith setPacketTime
  rw [Nat.add_sub_cancel_left, F.exact _ hT, F.exact soy (by omega), add_comm (fl _)]
  rw [hq, Nat.cast_ofNat] at key
  exact key

/-- the same law for the executable model (binary64 round-to-nearest-even), which the correspondence
    check compares with CPython bit for bit -/
theorem iena_time_inverse_exec (ts us soy : ℕ)
    (h1 : soy ≤ ts) (h2 : ts - soy ≤ 366 * 86400) (h3 : us < 1000000) (h4 : ts < 2 ^ 32) :
    getPacketTime (setPacketTime ts us soy) soy = ts :=
  iena_time_inverse Float.rne rne_floatSem ts us soy h1 h2 h3 h4

/-- the hypotheses are satisfiable: 2024-02-29 12:00:00 UTC and 1 µs, start of year 2024-01-01 UTC -/
example : (1704067200 : ℕ) ≤ 1709208000 ∧ 1709208000 - 1704067200 ≤ 366 * 86400 ∧ (1 : ℕ) < 1000000 ∧
    (1709208000 : ℕ) < 2 ^ 32 := by decide

end Acra.Props.C15
