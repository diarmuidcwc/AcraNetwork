import Acra.Gen.Src.PES
import Acra.Gen.Src.Chapter11
import Acra.Model.Ch11
import Acra.Gen.Src.TimeDataFormat
import Acra.Model.Ch11TimeFmt
import Acra.Gen.Src.Ptptime
import Acra.Model.PES
import Acra.Lemmas.SrcTie
import Acra.Lemmas.SrcTieNorm
set_option linter.unusedSimpArgs false
namespace Acra.Props.C15
open Acra Acra.Py Acra.Lemmas.SrcTieNorm Acra.Lemmas.SrcTie

/-! Source ties (C15): integer parts of the time conversions, regenerated from the current Python source by
    `harness/translate.py` on every run (see `Props/C07/SrcTie.lean`). -/

/-- `pts_to_ts`: the integer `pts` that the function divides by `90e3` is the model's `ptsOfField v`, for every
    non-negative field value `v` (the translation covers every statement of the function before
    `return pts / 90e3`; the float division is `Model.PES.pts_to_ts`'s `fl (fl pts / 90000)`) -/
theorem src_pts_to_ts_int (v : Nat) :
    Gen.Src.PES.pts_to_ts_pts v = (Model.PES.ptsOfField v : Int) := by
  unfold Gen.Src.PES.pts_to_ts_pts Model.PES.ptsOfField
  simp only [shr_natCast, shl_lit, band_natCast, bor_lit_natCast, bor_natCast, toNat_lit]
  congr 1
  rw [Nat.zero_or,
    Lemmas.Bits.and_field (v >>> 3) 7 3 30 (7 <<< 30) (by decide) (by decide),
    Lemmas.Bits.and_field (v >>> 2) 32767 15 15 (32767 <<< 15) (by decide) (by decide),
    Lemmas.Bits.and_field (v >>> 1) 32767 15 0 (32767 <<< 0) (by decide) (by decide)]
  simp only [Nat.shiftRight_eq_div_pow]
  rw [or_field _ _ 15 15 (by omega) (Nat.mod_lt _ (by decide)),
    or_field _ _ 0 15 (by omega) (Nat.mod_lt _ (by decide))]
  -- the nested quotients as single ones; what is left, if anything, is linear
  simp only [Nat.div_div_eq_div_mul, Nat.reducePow, Nat.reduceMul, Nat.mul_one, Nat.div_one]
  all_goals omega

/-- `ts_to_pts`: every statement after `pts = int(round(ts * 90e3))`, as a function of the non-negative tick count
    `pts`, is the model's `fieldOfPts` (`Model.PES.ts_to_pts fl ts = fieldOfPts (roundNat (fl (ts * 90000)))`) -/
theorem src_ts_to_pts_int (pts : Nat) :
    Gen.Src.PES.ts_to_pts_v pts = (Model.PES.fieldOfPts pts : Int) := by
  unfold Gen.Src.PES.ts_to_pts_v Model.PES.fieldOfPts
  simp only [shr_natCast, shl_natCast, shl_lit, band_natCast, band_natCast_lit, bor_lit_natCast, bor_natCast, toNat_lit]
  congr 1
  -- a field selected in place (`(pts & (m << k)) << s`) is the field extracted and placed (`((pts >> k) & m) << (k + s)`)
  try simp only [field_in_place_15, field_in_place_3, Nat.shiftRight_zero, Nat.reduceAdd]
  rw [Lemmas.Bits.and_7FFF pts, Lemmas.Bits.and_7FFF (pts >>> 15), Lemmas.Bits.and_7 (pts >>> 30)]
  simp only [Nat.shiftRight_eq_div_pow, Nat.shiftLeft_eq]
  rw [or_field _ _ 1 15 (by decide) (Nat.mod_lt _ (by decide)),
    or_field _ _ 17 15 (by omega) (Nat.mod_lt _ (by decide)),
    or_field _ _ 33 3 (by omega) (Nat.mod_lt _ (by decide))]

/-! `PTPTime` operators: `self` and the operand are `PTPTime` objects (the `isinstance` tests are true), their
    attributes arbitrary Python ints; an object is the pair (seconds, nanoseconds). -/

theorem src_PTPTime_sub (a b : Model.Ch11.IPTP) :
    Gen.Src.Chapter11.PTPTime.__sub__ a.1 a.2 b.1 b.2 = Model.Ch11.ptpSub a b := by
  unfold Gen.Src.Chapter11.PTPTime.__sub__ Model.Ch11.ptpSub
  split <;> rfl

/-- `PTPTime.__lt__` (Python tuple comparison) = the model -/
theorem src_PTPTime_lt (a b : Model.Ch11.IPTP) :
    Gen.Src.Chapter11.PTPTime.__lt__ a.1 a.2 b.1 b.2 = Model.Ch11.ptpLt a b := by
  unfold Gen.Src.Chapter11.PTPTime.__lt__ Model.Ch11.ptpLt
  rw [Bool.eq_iff_iff]
  simp [tupleLt]

theorem src_PTPTime_le (a b : Model.Ch11.IPTP) :
    Gen.Src.Chapter11.PTPTime.__le__ a.1 a.2 b.1 b.2 = Model.Ch11.ptpLe a b := by
  unfold Gen.Src.Chapter11.PTPTime.__le__ Model.Ch11.ptpLe
  rw [Bool.eq_iff_iff]
  simp [tupleLe]
  omega

theorem src_PTPTime_eq (a b : Model.Ch11.IPTP) :
    Gen.Src.Chapter11.PTPTime.__eq__ a.1 a.2 b.1 b.2 = Model.Ch11.ptpEq a b := by
  unfold Gen.Src.Chapter11.PTPTime.__eq__ Model.Ch11.ptpEq
  by_cases h1 : a.2 = b.2 <;> by_cases h2 : a.1 = b.1 <;> simp [h1, h2]

/-- `PTPTime.__add__` = the model, for the attribute values of the wire format (32-bit seconds and
    nanoseconds of both operands).  `addns % 1e9` and `addns // 1e9` are binary64 operations; they are exact on that
    range (|addns| < 2^33; checked by the translator, which refuses the function otherwise); the ranges are
    hypotheses of the generated definition itself. -/
theorem src_PTPTime_add (a b : Model.Ch11.IPTP)
    (ha1 : 0 ≤ a.1 ∧ a.1 ≤ 4294967295) (ha2 : 0 ≤ a.2 ∧ a.2 ≤ 4294967295)
    (hb1 : 0 ≤ b.1 ∧ b.1 ≤ 4294967295) (hb2 : 0 ≤ b.2 ∧ b.2 ≤ 4294967295) :
    Gen.Src.Chapter11.PTPTime.__add__ a.1 a.2 b.1 b.2 ha1 ha2 hb1 hb2 = Model.Ch11.ptpAdd a b := by
  unfold Gen.Src.Chapter11.PTPTime.__add__ Model.Ch11.ptpAdd
  simp only [pymod_of_pos _ _ (by decide : (0 : Int) ≤ 1000000000),
    floordiv_of_pos _ _ (by decide : (0 : Int) ≤ 1000000000)]

example : Gen.Src.Chapter11.PTPTime.__add__ 5 999999999 7 2 (by decide) (by decide) (by decide) (by decide)
    = (13, 1) := by decide

/-- `PTPTime.to_pinksheet_rtc` = the model, for the attribute values of the wire format
    (32-bit seconds and nanoseconds).  The `Decimal` operations are exact on that range (every intermediate result
    has at most 20 digits; checked by the translator, which refuses the function otherwise); the range is a
    hypothesis of the generated definition itself. -/
theorem src_PTPTime_to_pinksheet_rtc (s ns : Nat) (hs : s ≤ 4294967295) (hns : ns ≤ 4294967295) :
    Gen.Src.Chapter11.PTPTime.to_pinksheet_rtc s ns ⟨by omega, by omega⟩ ⟨by omega, by omega⟩
      = (Model.Ch11.pinksheet s ns : Int) := by
  unfold Gen.Src.Chapter11.PTPTime.to_pinksheet_rtc Model.Ch11.pinksheet
  have h1 : ((s : Int) * 1000000000 + (ns : Int)) = ((s * 1000000000 + ns : Nat) : Int) := by omega
  simp only [h1, floordiv_natCast_lit, Int.reduceSub, band_natCast_lit]

example : Gen.Src.Chapter11.PTPTime.to_pinksheet_rtc 1700000000 999999999 (by decide) (by decide)
    = 111501407360639 := by decide

/-- `TimeDataFormat.double_digits_to_bcd` = the model's `bcd2`, for `0 ≤ val < 2^32` (every caller
    passes a calendar field).  `int(val / dec)` is a binary64 division; on this range it truncates to the integer
    quotient (checked by the translator from the declared range, which is a hypothesis of the generated definition). -/
theorem src_double_digits_to_bcd (v : Nat) (h : v ≤ 4294967295) :
    Gen.Src.TimeDataFormat.double_digits_to_bcd v ⟨by omega, by omega⟩
      = (Model.Ch11Pay.TimeFmt.bcd2 v : Int) := by
  unfold Gen.Src.TimeDataFormat.double_digits_to_bcd Model.Ch11Pay.TimeFmt.bcd2
  simp only [List.foldl_cons, List.foldl_nil, floordiv_natCast_lit, pymod_natCast_lit, shl_natCast, toNat_lit,
    Nat.shiftLeft_eq]
  omega

example : Gen.Src.TimeDataFormat.double_digits_to_bcd 59 (by decide) = 0x59 := by decide

/-- `ptptime.bcdTointConvert` = the model, for every non-negative argument — including termination:
    the translated `while` loop is bounded by `a + 1` iterations (the model's fuel) and the theorem shows it stops
    before that.  (For a negative argument the Python loop never ends: `a >> 4` stays at -1.) -/
theorem src_bcdTointConvert (a : Nat) :
    Gen.Src.Ptptime.bcdTointConvert a = .ok (Model.ExtraTime.bcdToInt a : Int) := by
  unfold Gen.Src.Ptptime.bcdTointConvert Model.ExtraTime.bcdToInt
  rw [show Int.toNat ((a : Int) + 1) = a + 1 by omega]
  exact Lemmas.SrcTie.bcd_loop (a + 1) a 0 0 (Nat.lt_succ_self a)

/-- outside the domain: a negative argument exhausts any fuel (here: none is granted) -/
example : Gen.Src.Ptptime.bcdTointConvert (-1) = .error .fuel := by rfl
example : Gen.Src.Ptptime.bcdTointConvert 0x1234 = .ok 1234 := by rfl

end Acra.Props.C15
