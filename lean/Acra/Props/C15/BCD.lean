/-
  C15, the BCD helpers of time data format 1 (`double_digits_to_bcd`, `bcd_to_int`): inverse on 0 … 99 and on the bytes whose
  nibbles are digits, nibble layout, the four-digit year.  The inverse laws are finite and checked by evaluation (here and in
  Lemmas/Ch11TimeFmt.lean).
-/
import Acra.Lemmas.Ch11TimeFmt
namespace Acra.Props.C15
open Acra.Model.Ch11Pay.TimeFmt Acra.Lemmas.Ch11TimeFmt

/-- the BCD helpers invert each other on 0..99: `bcd_to_int(double_digits_to_bcd(v)) = v` -/
theorem bcd_inverse : ∀ v, v < 100 → bcdToInt (bcd2 v) = v := bcdToInt_bcd2

/-- … and the other way round: every byte whose two nibbles are decimal digits is the encoding of the value it
    decodes to -/
theorem bcd_inverse_conv : ∀ b, b < 256 → b % 16 < 10 → b / 16 < 10 → bcd2 (bcdToInt b) = b ∧ bcdToInt b < 100 := by decide +kernel

example : (0x59 : Nat) < 256 ∧ 0x59 % 16 < 10 ∧ 0x59 / 16 < 10 ∧ bcdToInt 0x59 = 59 ∧ bcd2 59 = 0x59 := by decide

/-- `double_digits_to_bcd` puts the tens digit in the high nibble and the units digit in the low one -/
theorem bcd_layout (v : Nat) (h : v < 100) : bcd2 v = 16 * (v / 10) + v % 10 := by
  unfold bcd2; omega

/-- the encoder's result always fits one byte -/
theorem bcd_byte (v : Nat) : bcd2 v < 256 := bcd2_lt v

/-- `bcd_to_int` on two BCD bytes read as one little-endian 16-bit word (the year field of time format 1):
    four decimal digits -/
theorem bcd_year : ∀ k, k < 130 →
    bcdToInt (bcd2 ((1970 + k) % 100) + 256 * bcd2 ((1970 + k) / 100)) = 1970 + k := bcdToInt_year

/-- nibbles above 9 are not BCD: `bcd_to_int` renders them as two decimal digits (0xAB ↦ "10" "11") -/
example : bcdToInt 0xAB = 1011 := by decide

end Acra.Props.C15
