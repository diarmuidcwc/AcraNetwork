import Acra.Gen.Src.Cls.PTPTime
import Acra.Gen.Src.Cls.RTCTime
import Acra.Model.Ch11
import Acra.Lemmas.SrcTieCls
namespace Acra.Props.C15
open Acra Acra.Py Acra.Lemmas.SrcTieCls

/-! Method source ties (C15): `PTPTime.pack / unpack`, `RTCTime.pack / unpack / to_rtc`
    (regenerated from the Python source by `harness/translate_methods.py` on every run, state-passing over the object
    structure generated from `__init__`) equal the hand-written models of `Acra.Model.Ch11`.  The models are
    functions (`PTP.pack : PTP → R Bytes`, `PTP.unpack : Bytes → R PTP`, `rtcPack`, `rtcUnpack`); the theorems also say
    what happens to the object: `pack` never changes it, `unpack` stores the decoded value or leaves it untouched. -/

theorem src_PTPTime_pack_of (t : Model.Ch11.PTP) :
    Gen.Src.Cls.PTPTime.pack (PTPTime.ofModel t) = (PTPTime.ofModel t, t.pack) := by
  rw [PTPTime.src_pack_eq, structPackI_cast _ [t.nanoseconds, t.seconds] _ (by simp [PTPTime.ofModel])]
  rfl

/-- `PTPTime.pack`, for every object in the model's domain (both attributes `≥ 0`): the model's bytes / error, object
    unchanged -/
theorem src_PTPTime_pack (o : Gen.Src.Cls.PTPTime.Obj) (h : PTPTime.Dom o) :
    Gen.Src.Cls.PTPTime.pack o = (o, (PTPTime.toModel o).pack) := by
  have := src_PTPTime_pack_of (PTPTime.toModel o)
  rwa [PTPTime.ofModel_toModel o h] at this

example : PTPTime.Dom { seconds := 1700000000, nanoseconds := 999999999 } := by decide

/-- outside the domain: a negative attribute is refused by `struct.pack` -/
theorem src_PTPTime_pack_negative (o : Gen.Src.Cls.PTPTime.Obj) (h : o.seconds < 0 ∨ o.nanoseconds < 0) :
    Gen.Src.Cls.PTPTime.pack o = (o, .error .struct) := by
  rw [PTPTime.src_pack_eq, structPackI_neg _ _ (by rcases h with h | h <;> exact ⟨_, by simp, h⟩)]

example : Gen.Src.Cls.PTPTime.pack { seconds := -1, nanoseconds := 0 }
    = ({ seconds := -1, nanoseconds := 0 }, .error .struct) := by rfl

/-- `PTPTime.unpack`, for EVERY prior object and every buffer: the model's value stored and `True`, or the model's error
    with the object untouched -/
theorem src_PTPTime_unpack (o : Gen.Src.Cls.PTPTime.Obj) (buf : Bytes) :
    Gen.Src.Cls.PTPTime.unpack o buf =
      match Model.Ch11.PTP.unpack buf with
      | .ok t => (PTPTime.ofModel t, .ok true)
      | .error e => (o, .error e) := by
  unfold Gen.Src.Cls.PTPTime.unpack Model.Ch11.PTP.unpack
  simp only [structUnpackI_eq, Gen.Ch11.PTP_unpack_fmt0, structUnpack_flds]
  by_cases h : buf.length = (⟨false, [.u32, .u32]⟩ : Fmt).size
  · rw [if_pos h]; rfl
  · rw [if_neg h]; rfl

theorem src_RTCTime_pack_of (c : Nat) :
    Gen.Src.Cls.RTCTime.pack (RTCTime.ofModel c) = (RTCTime.ofModel c, Model.Ch11.rtcPack c) := by
  unfold Gen.Src.Cls.RTCTime.pack Model.Ch11.rtcPack
  simp only [RTCTime.ofModel, Gen.Ch11.RTC_pack_fmt0, shr_natCast, band_natCast_lit, toNat_lit]
  rw [structPackI_cast _ [c &&& 4294967295, (c >>> 32) &&& 65535, 0] _ (by simp)]
  cases structPack ⟨false, [.u32, .u16, .u16]⟩ [c &&& 4294967295, (c >>> 32) &&& 65535, 0] <;> rfl

/-- `RTCTime.pack`, for every object with `count ≥ 0` (a negative count is outside the model: Python's `&` on a negative
    int yields its two's-complement low bits, so `pack` emits the low 48 bits of `count mod 2^48`) -/
theorem src_RTCTime_pack (o : Gen.Src.Cls.RTCTime.Obj) (h : RTCTime.Dom o) :
    Gen.Src.Cls.RTCTime.pack o = (o, Model.Ch11.rtcPack (RTCTime.toModel o)) := by
  have := src_RTCTime_pack_of (RTCTime.toModel o)
  rwa [RTCTime.ofModel_toModel o h] at this

example : RTCTime.Dom { count := 0xFFFFFFFFFFFF } := by decide

/-- `RTCTime.unpack`, for every prior object and every buffer -/
theorem src_RTCTime_unpack (o : Gen.Src.Cls.RTCTime.Obj) (buf : Bytes) :
    Gen.Src.Cls.RTCTime.unpack o buf =
      match Model.Ch11.rtcUnpack buf with
      | .ok c => (RTCTime.ofModel c, .ok true)
      | .error e => (o, .error e) := by
  unfold Gen.Src.Cls.RTCTime.unpack Model.Ch11.rtcUnpack
  simp only [structUnpackI_eq, Gen.Ch11.RTC_unpack_fmt0, structUnpack_flds]
  by_cases h : buf.length = (⟨false, [.u32, .u16, .u16]⟩ : Fmt).size
  · rw [if_pos h]
    simp only [Except.map, Py.intAt, List.map, List.getD_cons_zero, List.getD_cons_succ, toNat_lit, flds]
    simp [RTCTime.ofModel, shl_natCast]
  · rw [if_neg h]; rfl

theorem src_RTCTime_to_rtc (o : Gen.Src.Cls.RTCTime.Obj) : Gen.Src.Cls.RTCTime.to_rtc o = (o, .ok o.count) := rfl

end Acra.Props.C15
