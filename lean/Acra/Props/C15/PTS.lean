/-
  C15, the 33-bit PTS of a PES header: bit layout of the 40-bit field (`Lemmas/PTS.lean` has the arithmetic with the three tick
  groups as variables), field ↔ ticks, and ticks → seconds → ticks through binary64 (`pts_roundtrip`, for every rounding function
  with the two facts of `Lemmas.Float.FloatSem`).
-/
import Acra.Lemmas.Float
import Acra.Lemmas.PTS
import Acra.Model.PES
import Acra.Spec.MPEG
namespace Acra.Props.C15
open Acra.Py Acra.Model.PES Acra.Lemmas.Float

/-- exact bit layout over ℕ: the field `ts_to_pts` builds from a tick count is
    `0010 p[32..30] 1 p[29..15] 1 p[14..0] 1` (ISO 13818-1 PES header, 40 bits) -/
theorem pts_layout (p : ℕ) : fieldOfPts p = Spec.MPEG.ptsField p := by
  unfold fieldOfPts Spec.MPEG.ptsField
  simp only [Nat.reducePow]
  -- the same three groups on both sides
  generalize p % 32768 = a
  generalize p / 32768 % 32768 = b
  generalize p / 1073741824 % 8 = c
  omega

/-- the marker bits: bit 0, bit 16 and bit 32 are set, the top nibble is 0010 (`pts_field` is stated with the
    powers of two as literals, for `omega`; `2 ^ 16` here and `65536` there agree by evaluation) -/
theorem pts_markers (p : ℕ) :
    fieldOfPts p % 2 = 1 ∧ fieldOfPts p / 2 ^ 16 % 2 = 1 ∧ fieldOfPts p / 2 ^ 32 % 2 = 1 ∧
    fieldOfPts p / 2 ^ 36 = 2 ∧ fieldOfPts p < 2 ^ 40 :=
  (Lemmas.PTS.pts_field _ _ _ (Nat.mod_lt _ (by decide)) (Nat.mod_lt _ (by decide)) (Nat.mod_lt _ (by decide))).1

/-- the three tick groups sit at bits 1..15, 17..31 and 33..35 -/
theorem pts_groups (p : ℕ) :
    fieldOfPts p / 2 % 2 ^ 15 = p % 2 ^ 15 ∧ fieldOfPts p / 2 ^ 17 % 2 ^ 15 = p / 2 ^ 15 % 2 ^ 15 ∧
    fieldOfPts p / 2 ^ 33 % 8 = p / 2 ^ 30 % 8 :=
  (Lemmas.PTS.pts_field _ _ _ (Nat.mod_lt _ (by decide)) (Nat.mod_lt _ (by decide)) (Nat.mod_lt _ (by decide))).2

/-- every 33-bit tick count is recovered from its field -/
theorem pts_field_inverse (p : ℕ) (h : p < 2 ^ 33) : ptsOfField (fieldOfPts p) = p := by
  -- `ptsOfField` reads the three groups, which `pts_groups` gives in terms of `p`
  have hg := pts_groups p
  unfold ptsOfField
  simp only [Nat.reducePow] at hg h
  generalize fieldOfPts p = v at hg ⊢
  omega

/-- whatever the 40-bit field holds, the decoded tick count is below 2^33 -/
theorem pts_of_field_lt (v : ℕ) : ptsOfField v < 2 ^ 33 := by
  unfold ptsOfField
  omega

/-- ticks survive the conversion to seconds and back, for EVERY rounding function with the two
    binary64 facts: `ts_to_pts (pts_to_ts (enc p)) = enc p` for all p < 2^33.
    (error of the division ≤ p/90000·2⁻⁵³, of the multiplication ≤ (p+1)·2⁻⁵³, together < 2⁻¹⁸ < ½,
    so rounding to the nearest integer recovers p) -/
theorem pts_roundtrip (fl : ℚ → ℚ) (F : FloatSem fl) (p : ℕ) (h : p < 2 ^ 33) :
    ts_to_pts fl (pts_to_ts fl (fieldOfPts p)) = fieldOfPts p := by
  unfold ts_to_pts pts_to_ts
  rw [pts_field_inverse p h, F.exact p (by omega)]
  congr 1
  have hp : (p : ℚ) ≤ 2 ^ 33 := by exact_mod_cast h.le
  -- `p/90000 < 2^17` is rounded by at most 2^-36, the product (below 2^34) by at most 2^-19
  have hx := F.near (x := (p : ℚ) / 90000) (B := 2 ^ 17) (by positivity) (by linarith only [hp])
  have hx0 : 0 ≤ fl ((p : ℚ) / 90000) * 90000 := mul_nonneg (F.nonneg (by positivity)) (by norm_num)
  have hy := F.near hx0 (B := 2 ^ 34) (by linarith only [hp, hx.2])
  exact roundHalfEven_eq _ p (F.nonneg hx0) (by linarith only [hx.1, hy.1]) (by linarith only [hx.2, hy.2])

/-- the same for the executable model (binary64 round-to-nearest-even), which the correspondence
    check compares with CPython bit for bit -/
theorem pts_roundtrip_exec (p : ℕ) (h : p < 2 ^ 33) :
    ts_to_pts Float.rne (pts_to_ts Float.rne (fieldOfPts p)) = fieldOfPts p :=
  pts_roundtrip Float.rne rne_floatSem p h

/-- the five-byte big-endian carriage: `buf_to_ts (ts_to_buf ts)` reads back the field it wrote -/
theorem pts_buf_carriage (fl : ℚ → ℚ) (ts : ℚ) :
    ∃ b, ts_to_buf fl ts = .ok b ∧ b.length = 5 ∧ buf_to_ts fl b = .ok (pts_to_ts fl (ts_to_pts fl ts)) := by
  have hlt : ts_to_pts fl ts < 2 ^ 40 := (pts_markers _).2.2.2.2
  have hfit : Fits Acra.Gen.PES.ts_to_buf_fmt0.codes [ts_to_pts fl ts / 4294967296, ts_to_pts fl ts % 4294967296] := by
    simp [Fits, Acra.Gen.PES.ts_to_buf_fmt0, Code.bound]; omega
  refine ⟨_, by unfold ts_to_buf; exact structPack_eq _ _ hfit, ?_, ?_⟩
  · simp [encCodes, Acra.Gen.PES.ts_to_buf_fmt0, Code.size]
  · unfold buf_to_ts
    have := structUnpack_enc Acra.Gen.PES.buf_to_ts_fmt0 [ts_to_pts fl ts / 4294967296, ts_to_pts fl ts % 4294967296] hfit
    have e : encCodes Acra.Gen.PES.ts_to_buf_fmt0.big Acra.Gen.PES.ts_to_buf_fmt0.codes [ts_to_pts fl ts / 4294967296, ts_to_pts fl ts % 4294967296]
        = encCodes Acra.Gen.PES.buf_to_ts_fmt0.big Acra.Gen.PES.buf_to_ts_fmt0.codes [ts_to_pts fl ts / 4294967296, ts_to_pts fl ts % 4294967296] := rfl
    rw [e, this]
    simp only
    congr 2
    omega

/-- the hypothesis of `pts_roundtrip` at a tick count -/
example : (16842600 : ℕ) < 2 ^ 33 := by norm_num

end Acra.Props.C15
