/-
  C15, the helpers of AcraNetwork/ptptime.py and AcraNetwork/nanotime.py (models in Model/ExtraTime.lean; every
  float step is the exact binary64 model `Acra.Py.Float.rne`, for which `Lemmas.Float` proves the two IEEE facts).

  What holds is proved; what does not hold of the code is stated as a witness theorem about the faithful model
  (`…_witness`), with the full law kept in a comment and the restricted law that IS true next to it
  (`…_partial`).  The witnesses are re-found on the real code by `harness/families/extra.py` (oracles_C15).
-/
import Acra.Lemmas.ExtraTime
namespace Acra.Props.C15
open Acra.Py Acra.Py.Float Acra.Lemmas.Float Acra.Model.ExtraTime Acra.Lemmas.ExtraTime Acra.Gen.ExtraTime
open Acra.Lemmas.Datetime (dateOfSeconds)

/-- what the function computes: 1 up to 1972, 32 afterwards.  The branches returning 35 and 0 are dead
    (`t.year >= 1999 or t.year <= 2000` is true of every year) -/
theorem xt_getLeapYear_eq (y : Nat) : getLeapYear y = if y ≤ 1972 then 1 else 32 := by
  unfold getLeapYear
  split
  · rfl
  · split
    · rfl
    · omega

theorem xt_getLeapYear_never_35_or_0 (y : Nat) : getLeapYear y ≠ 35 ∧ getLeapYear y ≠ 0 := by
  rw [xt_getLeapYear_eq]; split <;> simp

/-- the model agrees with the values the code returns for 1900 … 2200 (the table is regenerated from the code on every run) -/
theorem xt_getLeapYear_table :
    (List.range LEAP_TABLE.length).map (fun i => getLeapYear (LEAP_TABLE_FROM + i)) = LEAP_TABLE := by decide +kernel

/-- `bcdTointConvert` reads the nibbles of a 16-bit value as decimal digits -/
theorem xt_bcdToInt_nibbles (a : Nat) (ha : a < 65536) :
    bcdToInt a = a % 16 + 10 * (a / 16 % 16) + 100 * (a / 256 % 16) + 1000 * (a / 4096 % 16) :=
  bcdToInt_nibbles4 a ha

/-- `digitSplit` returns floats, but for every int below 2^53 truncating them gives the decimal digits:
    the correctly rounded quotient `a / 10**i` has the same integer part as the exact one -/
theorem xt_digitSplit_digits (a len : Nat) (ha : a < 2 ^ 53) :
    (digitSplit a len).map floorNat = (List.range len).map fun i => a / 10 ^ i % 10 := by
  unfold digitSplit
  rw [List.map_map]
  apply List.map_congr_left
  intro i _
  exact digit_floor a i ha

/-- the BCD packing idiom of `sbi` / `irigtime()` on a four-digit number -/
theorem xt_bcd4_eq (x : Nat) (hx : x < 10000) :
    bcd4 x = x % 10 + 16 * (x / 10 % 10) + 256 * (x / 100 % 10) + 4096 * (x / 1000 % 10) := by
  unfold bcd4
  rw [xt_digitSplit_digits x 4 (by omega)]
  simp only [List.range, List.range.loop, List.map, intToBcd, List.foldl]
  have h0 : x / 10 ^ 0 % 10 = x % 10 := by simp
  have h1 : x / 10 ^ 1 % 10 = x / 10 % 10 := by simp
  have h2 : x / 10 ^ 2 % 10 = x / 100 % 10 := by norm_num
  have h3 : x / 10 ^ 3 % 10 = x / 1000 % 10 := by norm_num
  rw [h0, h1, h2, h3]
  exact Lemmas.Bits.or_nibbles4 _ _ _ _ (by omega) (by omega) (by omega)

/-- the two BCD helpers are inverse on 0 … 9999 -/
theorem xt_bcd_inverse (x : Nat) (hx : x < 10000) : bcdToInt (bcd4 x) = x := by
  rw [xt_bcd4_eq x hx, bcdToInt_digits4 _ _ _ _ (by omega) (by omega) (by omega) (by omega)]
  omega

example : bcd4 1234 = 0x1234 ∧ bcdToInt 0x1234 = 1234 := by decide +kernel

/-- layout: seconds in the high 32 bits, `microsecond*1000 + nanosecond` in the low 32 -/
theorem xt_ptpWord_layout (T us ns : Nat) (h : us * 1000 + ns < 4294967296) :
    ptpWord T us ns >>> 32 = T ∧ ptpWord T us ns &&& 0xffffffff = us * 1000 + ns := by
  rw [ptpWord_eq T us ns h]
  exact ⟨Lemmas.Bits.word_hi _ _ h, Lemmas.Bits.word_lo _ _ h⟩

/-- the word orders times like (seconds, microsecond, nanosecond) lexicographically -/
theorem xt_ptpWord_lt_iff (T us ns T' us' ns' : Nat) (hus : us < 1000000) (hns : ns < 1000)
    (hus' : us' < 1000000) (hns' : ns' < 1000) :
    ptpWord T us ns < ptpWord T' us' ns' ↔
      T < T' ∨ (T = T' ∧ (us < us' ∨ (us = us' ∧ ns < ns'))) := by
  rw [ptpWord_eq _ _ _ (by omega), ptpWord_eq _ _ _ (by omega)]
  omega

/-- the bounds of `xt_ptpWord_lt_iff` at the largest sub-second fields -/
example : (999999 : Nat) < 1000000 ∧ (999 : Nat) < 1000 := by decide

/-! ### nanotime.timedelta: the nanosecond carry -/

/-- for non-negative nanoseconds (below 2^53) the carry is exact: the total is conserved and the remainder
    is in 0 … 999 -/
theorem xt_timedelta_carry_nonneg (us : Int) (ns : Nat) (h : ns < 2 ^ 53) :
    (tdCarry us ns).1 * 1000 + ((tdCarry us ns).2 : Int) = us * 1000 + ns ∧ (tdCarry us ns).2 < 1000 := by
  rw [tdCarry_nonneg us ns h]
  constructor
  · simp only; omega
  · simp only; omega

/- Full law (FALSE of the code): for every int `ns`, the total `us*1000 + ns` is conserved.
   What is missing: for a NEGATIVE multiple of 1000 the code subtracts one microsecond "for the borrow" although
   `ns % 1000` is 0 and nothing was borrowed (`if nanoseconds < 0: kwargs['microseconds'] -= 1`). -/

/-- negative nanoseconds: conserved exactly when the value is not a multiple of 1000 -/
theorem xt_timedelta_carry_neg_partial (us : Int) (m : Nat) (hm0 : 0 < m) (h : m < 2 ^ 53) (hr : m % 1000 ≠ 0) :
    (tdCarry us (-(m : Int))).1 * 1000 + ((tdCarry us (-(m : Int))).2 : Int) = us * 1000 - m ∧
    (tdCarry us (-(m : Int))).2 < 1000 := by
  rw [tdCarry_neg us m hm0 h]
  constructor
  · simp only; omega
  · simp only; omega

/-- … and off by exactly one microsecond when it is -/
theorem xt_timedelta_carry_neg_witness (us : Int) (m : Nat) (hm0 : 0 < m) (h : m < 2 ^ 53) (hr : m % 1000 = 0) :
    (tdCarry us (-(m : Int))).1 * 1000 + ((tdCarry us (-(m : Int))).2 : Int) = us * 1000 - m - 1000 := by
  rw [tdCarry_neg us m hm0 h]
  simp only; omega

/-- the hypotheses of `xt_timedelta_carry_neg_witness` (m = 1000) and `xt_timedelta_carry_neg_partial` (m = 1001) -/
example : (0 : Nat) < 1000 ∧ (1000 : Nat) < 2 ^ 53 ∧ 1000 % 1000 = 0 ∧ 1001 % 1000 ≠ 0 := by decide

/-- `int((self - ptptime.utcfromtimestamp(0)).total_seconds())` is the exact number of whole seconds as long
    as the microsecond count since 1970 stays below 2^53 (year 2255) -/
theorem xt_baseSeconds_exact (t : PT) (T : Nat) (hT : t.epochSeconds = T) (hus : t.microsecond < 1000000)
    (hns : t.nanosecond < 1000) (hb : T * 1000000 + t.microsecond < 9007199254740992) :
    t.baseSeconds = .ok (T : Int) := by
  obtain ⟨d, hd, hs⟩ := sinceEpoch_seconds T t.microsecond t.nanosecond hus hns hb
  unfold PT.baseSeconds PT.sinceEpoch
  rw [hT, hd]
  exact congrArg Except.ok hs

/- Full law (FALSE of the code): `total_seconds` is the whole seconds since 1970 for every ptptime.
   What is missing: the value goes through `timedelta.total_seconds()`, a float; from 2^34 s (year 2514) a
   time with microsecond 999999 rounds up to the next second. -/
theorem xt_total_seconds_witness :
    let t : PT := { year := 2514, month := 5, day := 30, hour := 1, minute := 53, second := 4,
                    microsecond := 999999, nanosecond := 0, leap := .flag false }
    t.epochSeconds = 17179869184 ∧ t.baseSeconds = .ok 17179869185 :=
  ⟨by decide +kernel, by decide +kernel⟩

/-- `leapyear=True` adds 1, not the table value: `isinstance(True, int)` holds, so the branch that calls
    `getLeapYear` is never reached -/
theorem xt_leap_flag_adds_one (t : PT) (s : Int) (h : t.baseSeconds = .ok s) :
    ({ t with leap := .flag true } : PT).totalSeconds = .ok (s + 1) := by
  have hb : ({ t with leap := .flag true } : PT).baseSeconds = t.baseSeconds := rfl
  unfold PT.totalSeconds
  rw [hb, h]
  rfl

/-- the PTP word of a time: seconds (plus the integer offset) and the sub-second part -/
theorem xt_ptp_value (t : PT) (T L : Nat) (hT : t.epochSeconds = T) (hl : t.leap = .int L)
    (hus : t.microsecond < 1000000) (hns : t.nanosecond < 1000) (hb : T * 1000000 + t.microsecond < 9007199254740992) :
    t.ptp = .ok ((((T + L) * 4294967296 + (t.microsecond * 1000 + t.nanosecond) : Nat)) : Int) := by
  have hbase := xt_baseSeconds_exact t T hT hus hns hb
  have hx : t.microsecond * 1000 + t.nanosecond < 4294967296 := by clear hb hbase; omega
  have htot : t.totalSeconds = .ok ((T : Int) + (L : Int)) := by
    unfold PT.totalSeconds
    rw [hbase, hl]
    rfl
  have h0 : (0 : Int) ≤ (T : Int) + (L : Int) := by omega
  have ht : ((T : Int) + (L : Int)).toNat = T + L := by omega
  unfold PT.ptp
  rw [htot]
  dsimp only
  rw [if_pos h0, ht, ptpWord_eq _ _ _ hx]

/-- PTP words are ordered like the times that produced them (same offset) -/
theorem xt_ptp_monotone (a b : PT) (Ta Tb L : Nat) (ha : a.epochSeconds = Ta) (hb : b.epochSeconds = Tb)
    (hla : a.leap = .int L) (hlb : b.leap = .int L)
    (hua : a.microsecond < 1000000) (hna : a.nanosecond < 1000) (hub : b.microsecond < 1000000) (hnb : b.nanosecond < 1000)
    (hba : Ta * 1000000 + a.microsecond < 9007199254740992) (hbb : Tb * 1000000 + b.microsecond < 9007199254740992)
    (hlt : Ta < Tb ∨ (Ta = Tb ∧ (a.microsecond < b.microsecond ∨ (a.microsecond = b.microsecond ∧ a.nanosecond < b.nanosecond)))) :
    ∃ x y : Int, a.ptp = .ok x ∧ b.ptp = .ok y ∧ x < y := by
  refine ⟨_, _, xt_ptp_value a Ta L ha hla hua hna hba, xt_ptp_value b Tb L hb hlb hub hnb hbb, ?_⟩
  have : (Ta + L) * 4294967296 + (a.microsecond * 1000 + a.nanosecond) < (Tb + L) * 4294967296 + (b.microsecond * 1000 + b.nanosecond) := by
    clear hba hbb
    omega
  exact_mod_cast this

example :
    let t : PT := { year := 2024, month := 2, day := 29, hour := 12, minute := 34, second := 56,
                    microsecond := 123456, nanosecond := 789, leap := .int 0 }
    t.epochSeconds = (1709210096 : Nat) ∧ t.microsecond < 1000000 ∧ t.nanosecond < 1000 := by
  refine ⟨by decide +kernel, by decide, by decide⟩

/-- decode then encode: `timefromptp(p, L)` returns a time whose `.ptp` is the word `p` again, when the seconds of `p`
    (with and without the non-negative integer offset `L`) lie in 1970 … 2099 and its low half is a legal sub-second
    count.  The float steps (`int(x/1000)`, the `total_seconds()` of the difference to the epoch) are exact on this
    domain. -/
theorem xt_ptp_timefromptp (T x L : Nat) (hT : T < 4102444800) (hL : L ≤ T) (hx : x < 1000000000) :
    ∃ t, timefromptp (T * 4294967296 + x) (L : Int) = .ok t ∧ t.ptp = .ok (((T * 4294967296 + x : Nat)) : Int) := by
  refine ⟨ptOfDate (dateOfSeconds (T - L)) (x / 1000) (x % 1000) (.int L), ?_, ?_⟩
  · unfold timefromptp
    rw [Lemmas.Bits.word_hi T x (by omega), Lemmas.Bits.word_lo T x (by omega)]
    exact timefromptpParts_eq T x L hT hL hx
  · have hv := xt_ptp_value (ptOfDate (dateOfSeconds (T - L)) (x / 1000) (x % 1000) (.int L)) (T - L) L
      (ptOfDate_epoch (T - L) _ _ _) rfl
      (show x / 1000 < 1000000 by omega) (show x % 1000 < 1000 by omega)
      (show (T - L) * 1000000 + x / 1000 < 9007199254740992 by omega)
    rw [hv]
    have e : (T - L + L) * 4294967296 + (x / 1000 * 1000 + x % 1000) = T * 4294967296 + x := by omega
    show Except.ok (((T - L + L) * 4294967296 + (x / 1000 * 1000 + x % 1000) : Nat) : Int) = _
    rw [e]

/-- the hypotheses of `xt_ptp_timefromptp` for 2024-02-29 12:34:56 with offset 37 -/
example : (1709210096 : Nat) < 4102444800 ∧ (37 : Nat) ≤ 1709210096 ∧ (123456789 : Nat) < 1000000000 := by decide

/- Full law (FALSE of the code): `timefromiena(t.iena, t.year) = t` (to the microsecond).
   What is missing: `timefromiena` places the start of `year` at `(year-1970) * 365 days` after the epoch, so
   from 1973 on the result is early by the number of leap days since 1970. -/
theorem xt_timefromiena_witness :
    let t : PT := { year := 1973, month := 1, day := 1, hour := 0, minute := 0, second := 0,
                    microsecond := 5, nanosecond := 0, leap := .flag false }
    t.iena = .ok 5 ∧
    (timefromiena 5 1973).map (fun r => (r.year, r.month, r.day, r.microsecond)) = .ok (1972, 12, 31, 5) :=
  ⟨by decide +kernel, by decide +kernel⟩

/- Full law (FALSE of the code): `nanotime + timedelta` is exact for every pair whose sum lies in year 1 … 9999.
   What is missing: the nanosecond carry is added to `microsecond` without carrying into the seconds, and the
   constructor rejects microsecond = 1 000 000. -/
theorem xt_nanotime_add_carry_witness :
    let t : PT := { year := 2024, month := 1, day := 1, hour := 0, minute := 0, second := 0,
                    microsecond := 999999, nanosecond := 999, leap := .flag false }
    (tdMake 0 0 0 1).bind (ntAdd t) = .error .value :=
  by decide +kernel

/- Full law (FALSE of the code): `timefromptp(t.ptp, -1)` gives back a time built with `leapyear=True`
   ("use the leap-second table" on both sides).  `t.ptp` adds 1 (`xt_leap_flag_adds_one`), `timefromptp(p, -1)`
   subtracts `getLeapYear` = 32. -/
theorem xt_timefromptp_table_witness :
    let t : PT := { year := 2024, month := 2, day := 29, hour := 12, minute := 34, second := 56,
                    microsecond := 123456, nanosecond := 789, leap := .flag true }
    t.ptp = .ok 7341001468731444501 ∧
    (timefromptp 7341001468731444501 (-1)).map (fun r => (r.hour, r.minute, r.second)) = .ok (12, 34, 25) :=
  ⟨by decide +kernel, by decide +kernel⟩

end Acra.Props.C15
