/-
  C15, PTP / RTC / pinksheet part: PTPTime (32+32 bit) and RTCTime (48 bit) survive pack/unpack over their
  whole ranges; `+` and `-` are exact, keep nanoseconds in [0, 10⁹) and undo each other; the ordering
  operators (including Python's reflected `>` / `>=`) are the lexicographic order on
  (seconds, nanoseconds) = the order of the total nanosecond count; `to_pinksheet_rtc` is
  ⌊total ns / 100⌋ mod 2⁴⁸.
  The operators are modelled on arbitrary integers (`IPTP = Int × Int`), as Python evaluates them.
-/
import Acra.Lemmas.Ch11

namespace Acra.Props.C15
open Acra.Py Acra.Model.Ch11 Acra.Gen.Ch11 Acra.Lemmas.Ch10 Acra

/-- total nanoseconds of a time stamp -/
def total (p : IPTP) : Int := p.1 * 1000000000 + p.2
/-- nanoseconds in [0, 10⁹) -/
def Norm (p : IPTP) : Prop := 0 ≤ p.2 ∧ p.2 < 1000000000

/-- an operand for the one-operand statements below -/
example : Norm (1700000000, 999999999) := by simp [Norm]
/-- a pair of operands for the two-operand statements below: present-day epoch, 2 ns apart across a second boundary -/
example : Norm (1700000000, 999999999) ∧ Norm (1700000001, 1) := by simp [Norm]

/-- PTP: layout (nanoseconds then seconds, little-endian 32-bit) and exact round trip over the whole range -/
theorem ptp_pack_unpack (t : PTP) (hs : t.seconds < 2 ^ 32) (hn : t.nanoseconds < 2 ^ 32) :
    t.pack = .ok (leBytes 4 t.nanoseconds ++ leBytes 4 t.seconds) ∧
    PTP.unpack (leBytes 4 t.nanoseconds ++ leBytes 4 t.seconds) = .ok t :=
  Lemmas.Ch11.PTP_roundtrip t hs hn

example : (⟨1700000000, 999999999⟩ : PTP).seconds < 2 ^ 32 ∧ (⟨1700000000, 999999999⟩ : PTP).nanoseconds < 2 ^ 32 := by
  decide

/-- every 8-byte buffer decodes, and re-encodes to itself; any other length is rejected -/
theorem ptp_unpack_total (b : Bytes) :
    (b.length = 8 → ∃ t, PTP.unpack b = .ok t ∧ t.pack = .ok b) ∧
    (b.length ≠ 8 → PTP.unpack b = .error .struct) :=
  ⟨fun h => ⟨_, by rw [Lemmas.Ch11.PTP_unpack_eq, if_pos h], Lemmas.Ch11.PTP_reencode b h⟩,
   fun h => by rw [Lemmas.Ch11.PTP_unpack_eq, if_neg h]⟩

/-- RTC: 48-bit count, layout `count` little-endian in six bytes then two zero bytes; exact round trip -/
theorem rtc_pack_unpack (c : Nat) (h : c < 2 ^ 48) :
    rtcPack c = .ok (leBytes 6 c ++ [0, 0]) ∧ rtcUnpack (leBytes 6 c ++ [0, 0]) = .ok c :=
  Lemmas.Ch11.RTC_roundtrip c h

example : (0xFFFFFFFFFFFF : Nat) < 2 ^ 48 ∧ (0x123456789ABC : Nat) < 2 ^ 48 := by decide

/-- quirk: a count that does not fit 48 bits is silently reduced modulo 2⁴⁸ by `pack` (never an error) -/
theorem rtc_pack_masks (c : Nat) : rtcPack c = rtcPack (c % 2 ^ 48) := by
  simp only [rtcPack]
  bits_simp
  have h1 : c % 281474976710656 % 4294967296 = c % 4294967296 := by omega
  have h2 : c % 281474976710656 / 4294967296 % 65536 = c / 4294967296 % 65536 := by omega
  rw [h1, h2]

/-- `a + b`: exact, and the nanoseconds end up in [0, 10⁹) — for ALL integer operands OF THE MODEL.
    (The code computes `int(addns % 1e9)` and `int(addns // 1e9)` in binary64; the model's integer `%` and
    `/` are those operations exactly as long as |addns| < 2⁵³, which covers every pair of 32-bit — indeed 52-bit —
    nanosecond fields.  Beyond that the statement is about the model only.) -/
theorem ptp_add_exact (a b : IPTP) :
    total (ptpAdd a b) = total a + total b ∧ Norm (ptpAdd a b) := by
  simp only [total, ptpAdd, Norm]
  refine ⟨by omega, by omega, by omega⟩

/-- `a - b`: exact, nanoseconds in [0, 10⁹), for operands with nanoseconds in [0, 10⁹) -/
theorem ptp_sub_exact (a b : IPTP) (ha : Norm a) (hb : Norm b) :
    total (ptpSub a b) = total a - total b ∧ Norm (ptpSub a b) := by
  simp only [total, ptpSub, Norm] at *
  split <;> simp only <;> refine ⟨by omega, by omega, by omega⟩

/-- addition and subtraction undo each other: both sides have the same total, by exactness -/
theorem ptp_add_sub_cancel (a b : IPTP) (ha : Norm a) (hb : Norm b) : ptpSub (ptpAdd a b) b = a := by
  have h1 := ptp_add_exact a b
  have h2 := ptp_sub_exact (ptpAdd a b) b h1.2 hb
  exact Lemmas.Ch11.iptp_ext h2.2 ha (show total _ = total a by omega)

theorem ptp_sub_add_cancel (a b : IPTP) (ha : Norm a) (hb : Norm b) : ptpAdd (ptpSub a b) b = a := by
  have h1 := ptp_sub_exact a b ha hb
  have h2 := ptp_add_exact (ptpSub a b) b
  exact Lemmas.Ch11.iptp_ext h2.2 ha (show total _ = total a by omega)

/-- instances at a present-day epoch: the borrow and the carry -/
example : ptpSub (1700000001, 1) (1700000000, 999999999) = (0, 2) ∧ ptpAdd (0, 2) (1700000000, 999999999) = (1700000001, 1) := by
  decide

/-- `<` is the lexicographic order on (seconds, nanoseconds), for ALL pairs -/
theorem ptp_lt_iff_lex (a b : IPTP) : ptpLt a b = true ↔ a.1 < b.1 ∨ (a.1 = b.1 ∧ a.2 < b.2) := by
  simp [ptpLt]
theorem ptp_le_iff_lex (a b : IPTP) : ptpLe a b = true ↔ a.1 < b.1 ∨ (a.1 = b.1 ∧ a.2 ≤ b.2) := by
  simp [ptpLe]
/-- Python's reflected fallbacks -/
theorem ptp_gt_iff_lex (a b : IPTP) : ptpGt a b = true ↔ b.1 < a.1 ∨ (b.1 = a.1 ∧ b.2 < a.2) := by
  simp [ptpGt, ptpLt]
theorem ptp_ge_iff_lex (a b : IPTP) : ptpGe a b = true ↔ b.1 < a.1 ∨ (b.1 = a.1 ∧ b.2 ≤ a.2) := by
  simp [ptpGe, ptpLe]
theorem ptp_eq_iff (a b : IPTP) : ptpEq a b = true ↔ a = b := by
  simp [ptpEq, Prod.ext_iff, and_comm]

/-- for stamps with nanoseconds in [0, 10⁹) the order is the order of the total nanosecond counts — in
    particular two stamps 1 ns apart are ordered at every epoch -/
theorem ptp_lt_iff_total (a b : IPTP) (ha : Norm a) (hb : Norm b) : ptpLt a b = true ↔ total a < total b := by
  rw [ptp_lt_iff_lex]; simp only [total, Norm] at *; omega
theorem ptp_le_iff_total (a b : IPTP) (ha : Norm a) (hb : Norm b) : ptpLe a b = true ↔ total a ≤ total b := by
  rw [ptp_le_iff_lex]; simp only [total, Norm] at *; omega
theorem ptp_gt_iff_total (a b : IPTP) (ha : Norm a) (hb : Norm b) : ptpGt a b = true ↔ total b < total a := by
  rw [ptp_gt_iff_lex]; simp only [total, Norm] at *; omega
theorem ptp_ge_iff_total (a b : IPTP) (ha : Norm a) (hb : Norm b) : ptpGe a b = true ↔ total b ≤ total a := by
  rw [ptp_ge_iff_lex]; simp only [total, Norm] at *; omega

/-- two times 1 ns apart at 1.7·10⁹ s, which a comparison of the times as floats cannot tell apart, are ordered
    correctly -/
example : ptpLt (1700000000, 1) (1700000000, 2) = true ∧ ptpLe (1700000000, 2) (1700000000, 1) = false ∧
    ptpGt (1700000000, 2) (1700000000, 1) = true ∧ ptpGe (1700000000, 1) (1700000000, 2) = false := by decide

/-- consistency of the six operators: exactly one of `<`, `==`, `>` holds; `<=` is `<` or `==` -/
theorem ptp_trichotomy (a b : IPTP) :
    (ptpLt a b = true ∧ ptpEq a b = false ∧ ptpGt a b = false) ∨
    (ptpLt a b = false ∧ ptpEq a b = true ∧ ptpGt a b = false) ∨
    (ptpLt a b = false ∧ ptpEq a b = false ∧ ptpGt a b = true) := by
  obtain ⟨a1, a2⟩ := a
  obtain ⟨b1, b2⟩ := b
  simp only [ptpLt, ptpGt, ptpEq]
  simp
  omega

theorem ptp_le_iff_lt_or_eq (a b : IPTP) : ptpLe a b = true ↔ (ptpLt a b = true ∨ ptpEq a b = true) := by
  obtain ⟨a1, a2⟩ := a
  obtain ⟨b1, b2⟩ := b
  simp only [ptpLe, ptpLt, ptpEq]
  simp
  omega

/-- `to_pinksheet_rtc` in the MODEL, for all naturals: total nanoseconds divided by 100, rounded down, modulo 2⁴⁸ -/
theorem pinksheet_eq_model (s ns : Nat) : pinksheet s ns = ((s * 1000000000 + ns) / 100) % 2 ^ 48 := by
  simp only [pinksheet]
  exact Nat.and_two_pow_sub_one_eq_mod _ 48

/-- PTP → 10 MHz RTC ("pink sheet"): total nanoseconds divided by 100, rounded down, modulo 2⁴⁸.  The two hypotheses
    are not used by the proof: they delimit where the model's integer arithmetic is the code's `Decimal` arithmetic
    (28 significant digits): 32-bit seconds, nanoseconds < 10⁹ -/
theorem pinksheet_eq (s ns : Nat) (_hs : s < 2 ^ 32) (_hn : ns < 1000000000) :
    pinksheet s ns = ((s * 1000000000 + ns) / 100) % 2 ^ 48 :=
  pinksheet_eq_model s ns

example : (1700000000 : Nat) < 2 ^ 32 ∧ (999999999 : Nat) < 1000000000 ∧ pinksheet 1700000000 999999999 = 17000000009999999 % 2 ^ 48 ∧
    pinksheet 1700000000 999999999 = 111501407360639 := by
  decide

example : pinksheet 1 250 = 10000002 := by decide

end Acra.Props.C15
