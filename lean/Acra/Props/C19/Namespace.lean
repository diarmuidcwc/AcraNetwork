/-
  C19: the deprecated `AcraNetwork.Chapter10` package is the same code as `AcraNetwork.IRIG106`.
  The "code" is the binding structure, which harness/extract.py reads from the SOURCE TEXT of the legacy
  modules with `ast` on every run and emits as the finite tables of `Acra.Gen.Namespace`; the
  quantifier "all legacy module paths × all public names" IS that finite table, so the statements are
  decided by evaluation — except that the names a star import binds need none in `same_objects`: they are
  public in the module they come from by construction.  (The runtime half — `getattr(legacy, n) is getattr(new, n)`
  in a fresh interpreter, DeprecationWarning only — is the correspondence check.)
-/
import Acra.Gen.Namespace
import Acra.Spec.Ch10
import Acra.Lemmas.Namespace
namespace Acra.Props.C19
open Acra.Gen.Namespace Acra

def lookup {β} (k : String) (l : List (String × β)) : Option β := (l.find? (fun p => p.1 == k)).map (·.2)

/-- one top-level statement of legacy module `L` is of an allowed kind -/
def stmtAllowed (L : String) (st : String × String × List String) : Bool :=
  let (k, m, ns) := st
  if k == "star" || k == "names" then Spec.Namespace.expectedTarget L == some m
  else if k == "import" then m == "warnings" || (m == "struct" && L == "AcraNetwork.Chapter10.Chapter10")
  else if k == "warn" then m == "DeprecationWarning"
  else if k == "class" then L == "AcraNetwork.Chapter10.Chapter10" && m == "Chapter10" && ns == ["Chapter11"]
  else false

/-- every top-level statement of every legacy module is `from <its IRIG106 counterpart> import …`,
    `import warnings` (`struct` in Chapter10.py), the single `warnings.warn(<str>, DeprecationWarning)`, or
    — in Chapter10.py only — `class Chapter10(Chapter11)` -/
theorem only_deprecation : legacy.all (fun (L, stmts) => stmts.all (stmtAllowed L)) = true := by decide +kernel

/-- every legacy module has a counterpart, re-exports from it exactly once and warns exactly once -/
theorem one_reexport_one_warning :
    legacy.all (fun (L, stmts) =>
      (Spec.Namespace.expectedTarget L).isSome &&
      (stmts.filter (fun st => st.1 == "star" || st.1 == "names")).length == 1 &&
      (stmts.filter (fun st => st.1 == "warn")).length == 1) = true := by decide +kernel

/-- the public names a legacy module binds, with the module each comes from (`none` = bound locally) -/
def bindings (stmts : List (String × String × List String)) : List (String × Option String) :=
  stmts.flatMap fun (k, m, ns) =>
    if k == "star" then ((lookup m targetPublic).getD []).map (fun n => (n, some m))
    else if k == "names" then ns.map (fun n => (n, some m))
    else if k == "import" then ns.map (fun n => (n, none))
    else if k == "class" then [(m, none)]
    else []

/-- same objects: every public name of every legacy module is bound by an import from the module's IRIG106
    counterpart and is a public name of that counterpart — except `warnings` (and `struct`, itself a public
    name of the counterpart, in Chapter10.py) and the class `Chapter10` -/
theorem same_objects :
    legacy.all (fun (L, stmts) => (bindings stmts).all (fun (n, origin) =>
      match origin with
      | some m => Spec.Namespace.expectedTarget L == some m && ((lookup m targetPublic).getD []).contains n
      | none => Spec.Namespace.allowedExtra.contains n ||
                (L == "AcraNetwork.Chapter10.Chapter10" &&
                  (n == "Chapter10" || ((lookup "AcraNetwork.IRIG106.Chapter11" targetPublic).getD []).contains n)))) = true := by
  -- only the statements that are not star imports are evaluated
  apply Lemmas.Namespace.all_flatMap_of_or (fun st => st.1 == "star") ?_ (by decide +kernel)
  rintro ⟨L, ss⟩ hL ⟨k, m, ns⟩ hs (hk : (k == "star") = true)
  -- `from m import *` binds `(public names of m).map (·, some m)`: public in `m` by construction, and `m` is the
  -- counterpart because the statement is an allowed one
  have hm : (Spec.Namespace.expectedTarget L == some m) = true := by
    have := List.all_eq_true.1 (List.all_eq_true.1 only_deprecation (L, ss) hL) (k, m, ns) hs
    simpa only [stmtAllowed, hk, Bool.true_or, if_true] using this
  simp only [hk, if_true]
  exact Lemmas.Namespace.all_map_of_contains (fun n hn => by simp only [hm, hn, Bool.and_self])

/-- a star import of a module that could not be read would make the statement above vacuous: every module a
    legacy module imports from has a non-empty table of public names -/
theorem targets_known :
    legacy.all (fun (_, stmts) => stmts.all (fun (k, m, _) =>
      !(k == "star" || k == "names") || !((lookup m targetPublic).getD []).isEmpty)) = true := by decide +kernel

/-- the module paths of the deprecated package are exactly the ones the mapping names (both directions) -/
theorem modules_complete :
    (legacy.map (·.1)).all (fun L => (Spec.Namespace.expectedTarget L).isSome) = true ∧
    Spec.Namespace.targets.all (fun p => (legacy.map (·.1)).contains p.1) = true := by decide +kernel

/-- `class Chapter10(Chapter11)`: every constant it restates has the same source text as in `Chapter11` -/
theorem chapter10_constants :
    chapter10Assigns.all (fun (n, v) => lookup n chapter11Assigns == some v) = true := by decide +kernel

/-- … it has `Chapter11` as its only base and defines nothing but those constants (no method overrides) -/
theorem no_overrides : chapter10Bases = ["Chapter11"] ∧ chapter10Others = [] := by decide +kernel

/-- non-vacuity of the `List.all` statements above: the generated tables are not empty — a
    translator that silently read nothing would make every one of them true.  There are as many legacy modules as the
    (hand-written) mapping names, every one binds at least one name from its counterpart, and `Chapter10` restates at
    least one constant -/
theorem tables_nonempty :
    legacy.length = Spec.Namespace.targets.length ∧ 0 < legacy.length ∧
    legacy.all (fun (_, stmts) => (bindings stmts).any (fun b => b.2.isSome)) = true ∧
    0 < chapter10Assigns.length := by decide +kernel

end Acra.Props.C19
