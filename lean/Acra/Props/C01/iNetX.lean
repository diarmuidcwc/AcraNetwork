/-
  C01, iNET-X: `pack()` emits the 28-byte header of `Spec.iNetX.encode` followed by the payload, the length field is computed,
  and `unpack` of the emitted bytes gives the object back.  Model: Acra.Model.iNetX.  `iNetX_WF`: every field fits its 32 bits.
-/
import Acra.Lemmas.iNetX
namespace Acra.Props.C01
open Acra.Py Acra.Model.iNetX Acra.Gen.iNetX Acra.Lemmas.iNetX

/-- every header field fits 32 bits and so does the computed length -/
def iNetX_WF (s : State) : Prop :=
  s.inetxcontrol < 2^32 ∧ s.streamid < 2^32 ∧ s.sequence < 2^32 ∧ s.ptptimeseconds < 2^32 ∧
  s.ptptimenanoseconds < 2^32 ∧ s.pif < 2^32 ∧ s.payload.length + 28 < 2^32

theorem iNetX_pack_layout (s : State) (h : iNetX_WF s) :
    (pack s).2 = .ok (Spec.iNetX.encode s.inetxcontrol s.streamid s.sequence s.ptptimeseconds
      s.ptptimenanoseconds s.pif s.payload) := by
  rw [pack_eq s (hdrFits s h)]

example : iNetX_WF { fresh with streamid := 0xDC, payload := [5, 0] } :=
  wf_witness

/-- the public fields (`REQ_ATTR`) -/
def iNetX_fields (s : State) := (s.inetxcontrol, s.streamid, s.sequence, s.ptptimeseconds,
  s.ptptimenanoseconds, s.pif, s.payload)

theorem iNetX_pack_ok (s : State) (h : iNetX_WF s) : ∃ b, (pack s).2 = .ok b ∧ b.length = 28 + s.payload.length
   ∧ (pack s).1 = { s with packetlen := s.payload.length + 28 } := by
  refine ⟨_, iNetX_pack_layout s h, ?_, pack_fst s⟩
  simp [Spec.iNetX.encode]; omega

theorem iNetX_roundtrip (s t : State) (h : iNetX_WF s) :
    ∃ b, (pack s).2 = .ok b ∧
      (unpack t b).2 = .ok () ∧
      (unpack t b).1 = { s with packetlen := s.payload.length + 28 } ∧
      (pack (unpack t b).1).2 = .ok b := by
  have hf := hdrFits s h
  refine ⟨_, iNetX_pack_layout s h, ?_, ?_, ?_⟩
  all_goals rw [unpack_encode s t hf]
  -- the decoded object differs from `s` in `packetlen` only, which `pack` recomputes
  exact congrArg Prod.snd (pack_eq { s with packetlen := s.payload.length + 28 } hf)

end Acra.Props.C01
