/-
  C01, IENA (positional base class and IENA-M): layout of `pack()` against Spec/FTI.lean, the size field in 16-bit words, the
  even length of every encoded M parameter, and pack-then-unpack.  Model: Acra.Model.IENA; predicates and byte images: Lemmas/IENA.
-/
import Acra.Lemmas.IENA
import Acra.Spec.FTI
namespace Acra.Props.C01
open Acra.Py Acra.Model.IENA Acra.Gen.IENA Acra.Lemmas.IENA

/-- positional IENA: `pack()` emits the IENA layout, with the size field in 16-bit words -/
theorem IENA_pack_layout (s : Base) (h : IENA_WF s) :
    (Base.pack s).2 = .ok (Spec.IENA.encode s.key s.timeusec s.keystatus s.status s.sequence s.endfield
      s.payload) := by
  rw [IENA_pack_eq s h]
  simp [IENA_bytes, hdrVals, IENA_HEADER_FORMAT, encCodes, Code.size, Spec.IENA.encode, encInt, beBytes6_split, Nat.add_comm]

theorem IENA_bytes_eq_spec (s : Base) (h : IENA_WF s) :
    IENA_bytes s = Spec.IENA.encode s.key s.timeusec s.keystatus s.status s.sequence s.endfield s.payload :=
  Except.ok.inj ((congrArg Prod.snd (IENA_pack_eq s h)).symm.trans (IENA_pack_layout s h))

/-- the computed size field: `size * 2` is the length of the emitted packet -/
theorem IENA_size_law (s : Base) (h : IENA_WF s) :
    ∃ b, (Base.pack s).2 = .ok b ∧ (Base.pack s).1.size * 2 = b.length ∧ b.length = 16 + s.payload.length := by
  refine ⟨IENA_bytes s, by rw [IENA_pack_eq s h], ?_, ?_⟩
  · rw [IENA_pack_eq s h]
    obtain ⟨_, _, _, _, _, _, h7, _⟩ := h
    simp [IENA_bytes]; omega
  · simp [IENA_bytes]; omega

/-- unpack (into an object in any prior state) of the packed bytes returns the same field values,
    and packing the decoded object reproduces the bytes -/
theorem IENA_roundtrip (s t : Base) (h : IENA_WF s) :
    ∃ b, (Base.pack s).2 = .ok b ∧
      Base.unpack t b = ({ s with size := (s.payload.length + 16) / 2, lengthError := t.lengthError }, .ok ()) ∧
      (Base.pack (Base.unpack t b).1).2 = .ok b := by
  refine ⟨IENA_bytes s, by rw [IENA_pack_eq s h], IENA_unpack_eq s t h, ?_⟩
  rw [IENA_unpack_eq s t h]
  exact IENA_repack s _ h

/-- an odd payload cannot be expressed in 16-bit words: the code's own decoder rejects what pack emits -/
example : (Base.unpack Base.fresh
    (match (Base.pack { Base.fresh with payload := [1] }).2 with | .ok b => b | .error _ => [])).2.isOk
    = false := by decide

example : IENA_WF { Base.fresh with key := 0x1A, timeusec := 10000000, payload := [5, 0] } :=
  wf_witness

/-- the base packet an IENA-M object packs: its header fields around the encoded parameters -/
def IENAM_base (s : MState) : Base := { s.base with payload := s.parameters.flatMap encMb }

def IENAM_WF (s : MState) : Prop :=
  (∀ p ∈ s.parameters, MParam_WF p) ∧ IENA_WF (IENAM_base s)

/-- each parameter is laid out as id, delay, length, dataset, pad -/
theorem IENAM_param_layout (p : MParam) :
    encMb p = Spec.IENAM.encodeParam p.paramid p.delay p.dataset := by
  simp [encMb, padM, Spec.IENAM.encodeParam, encInt]

/-- padding rule, for every payload length: each encoded parameter occupies an even number of bytes -/
theorem IENAM_param_even (p : MParam) : (encMb p).length % 2 = 0 := encMb_even p

/-- what decoding the packed bytes gives: same fields, computed size, the decoder's own option -/
def IENAM_decoded (s : MState) (le : Bool) : MState :=
  { base := { IENAM_base s with size := ((IENAM_base s).payload.length + 16) / 2, lengthError := le },
    parameters := s.parameters }

theorem IENAM_pack_eq (s : MState) (h : IENAM_WF s) :
    MState.pack s = ({ s with base := { IENAM_base s with size := ((IENAM_base s).payload.length + 16) / 2 } },
                     .ok (IENA_bytes (IENAM_base s))) := by
  obtain ⟨hp, hb⟩ := h
  unfold MState.pack
  rw [encAllM_eq _ hp]
  show (match Base.pack (IENAM_base s) with | (b', r) => ({ s with base := b' }, r)) = _
  rw [IENA_pack_eq _ hb]

theorem IENAM_unpack_eq (s t : MState) (h : IENAM_WF s) :
    MState.unpack t (IENA_bytes (IENAM_base s)) =
      ({ base := { IENAM_base s with size := ((IENAM_base s).payload.length + 16) / 2,
                                     lengthError := t.base.lengthError },
         parameters := s.parameters }, .ok ()) := by
  obtain ⟨hp, hb⟩ := h
  unfold MState.unpack
  rw [IENA_unpack_eq (IENAM_base s) t.base hb]
  show (match decOff decM moreRem (s.parameters.flatMap encMb) ((s.parameters.flatMap encMb).length + 1) 0 with
        | .ok ps => _ | .error e => _) = _
  rw [decM_all _ hp]

/-- `IENAM.pack` emits the IENA layout around the concatenated parameter encodings -/
theorem IENAM_pack_layout (s : MState) (h : IENAM_WF s) :
    (MState.pack s).2 = .ok (Spec.IENA.encode s.base.key s.base.timeusec s.base.keystatus s.base.status
      s.base.sequence s.base.endfield
      (s.parameters.flatMap fun p => Spec.IENAM.encodeParam p.paramid p.delay p.dataset)) := by
  have hfun : (fun p : MParam => Spec.IENAM.encodeParam p.paramid p.delay p.dataset) = encMb := by
    funext p; exact (IENAM_param_layout p).symm
  rw [IENAM_pack_eq s h, IENA_bytes_eq_spec _ h.2, hfun]
  rfl

/-- IENA-M round trip: same header fields, same parameters in order, same bytes on re-encode -/
theorem IENAM_roundtrip (s t : MState) (h : IENAM_WF s) :
    ∃ b, (MState.pack s).2 = .ok b ∧
      (MState.unpack t b).2 = .ok () ∧
      (MState.unpack t b).1.parameters = s.parameters ∧
      (MState.unpack t b).1.base =
        { IENAM_base s with size := ((s.parameters.flatMap encMb).length + 16) / 2,
                            lengthError := t.base.lengthError } ∧
      (MState.pack (MState.unpack t b).1).2 = .ok b := by
  refine ⟨IENA_bytes (IENAM_base s), by rw [IENAM_pack_eq s h], by rw [IENAM_unpack_eq s t h],
    by rw [IENAM_unpack_eq s t h], by rw [IENAM_unpack_eq s t h]; rfl, ?_⟩
  rw [IENAM_unpack_eq s t h]
  exact congrArg Prod.snd (IENAM_pack_eq (IENAM_decoded s t.base.lengthError) h)

example : IENAM_WF { MState.fresh with parameters := [⟨1, 2, [0xAA, 0xBB, 0xCC]⟩, ⟨3, 4, []⟩] } :=
  wfM_witness

end Acra.Props.C01
