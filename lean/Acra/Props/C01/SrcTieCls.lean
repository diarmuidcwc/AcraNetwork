import Acra.Gen.Src.Cls.iNetX
import Acra.Gen.Src.Cls.IENA
import Acra.Model.iNetX
import Acra.Model.IENA
import Acra.Lemmas.SrcTieCls
namespace Acra.Props.C01
open Acra Acra.Py Acra.Lemmas.SrcTieCls

/-! Method source ties (C01): `iNetX.pack` and `iNetX.unpack` — regenerated from the current
    Python source by `harness/translate_methods.py` on every run, in state-passing style over the object structure
    generated from `__init__` (`Acra.Gen.Src.Cls.iNetX`) — equal the hand-written model `Acra.Model.iNetX` for every
    object / buffer.  `toModel` / `ofModel` / `Dom`: `Acra/Lemmas/SrcTieCls.lean`. -/

/-- `iNetX.pack` on the image of a model state (on an error: the object as it is at the raise) -/
theorem src_iNetX_pack_of (s : Model.iNetX.State) :
    Gen.Src.Cls.iNetX.pack (iNetX.ofModel s)
      = (iNetX.ofModel (Model.iNetX.pack s).1, (Model.iNetX.pack s).2) := by
  rw [iNetX.src_pack_eq]
  unfold Model.iNetX.pack
  simp only [iNetX.ofModel, Gen.iNetX.iNetX_INETX_HEADER_LENGTH, Gen.iNetX.iNetX_INETX_HEADER_FORMAT]
  rw [structPackI_cast _ [s.inetxcontrol, s.streamid, s.sequence, s.payload.length + 28, s.ptptimeseconds,
      s.ptptimenanoseconds, s.pif] _ (by simp)]
  cases structPack ⟨true, [.u32, .u32, .u32, .u32, .u32, .u32, .u32]⟩ [s.inetxcontrol, s.streamid, s.sequence,
      s.payload.length + 28, s.ptptimeseconds, s.ptptimenanoseconds, s.pif] <;> simp [Except.map]

/-- `iNetX.pack`, for every object in the model's domain (int attributes `≥ 0`) -/
theorem src_iNetX_pack (o : Gen.Src.Cls.iNetX.Obj) (h : iNetX.Dom o) :
    (iNetX.toModel (Gen.Src.Cls.iNetX.pack o).1, (Gen.Src.Cls.iNetX.pack o).2)
      = Model.iNetX.pack (iNetX.toModel o) :=
  transfer Gen.Src.Cls.iNetX.pack iNetX.toModel_ofModel (iNetX.ofModel_toModel o h) (src_iNetX_pack_of _)

example : iNetX.Dom
    { inetxcontrol := 0x11000000, streamid := 0xdc, sequence := 1, packetlen := 0,
      ptptimeseconds := 1, ptptimenanoseconds := 1, pif := 0, payload := [5, 0] } := by decide

/-- `iNetX.unpack` on the image of a model state, for every buffer: same object afterwards (also on the rejecting
    paths: untouched when too short, header fields stored when the length field disagrees), same error; the result of
    an accepted buffer is `True`. -/
theorem src_iNetX_unpack_of (s : Model.iNetX.State) (buf : Bytes) :
    Gen.Src.Cls.iNetX.unpack (iNetX.ofModel s) buf
      = (iNetX.ofModel (Model.iNetX.unpack s buf).1, (Model.iNetX.unpack s buf).2.map (fun _ => true)) := by
  unfold Gen.Src.Cls.iNetX.unpack Model.iNetX.unpack
  simp only [Gen.Src.Cls.iNetX.INETX_HEADER_LENGTH, Gen.iNetX.iNetX_INETX_HEADER_LENGTH,
    Gen.iNetX.iNetX_INETX_HEADER_FORMAT, Py.len, structUnpackFromI_eq, toNat_lit, structUnpackFrom_flds, len_lt]
  by_cases hlen : buf.length < 28
  · simp [hlen, Except.map]
  · rw [if_neg hlen, if_neg hlen, if_pos (show 0 + (⟨true, [.u32, .u32, .u32, .u32, .u32, .u32, .u32]⟩ : Fmt).size ≤
      buf.length by show 0 + 28 ≤ _; omega)]
    simp only [Except.map, Py.intAt, List.map, Int.ofNat_eq_natCast, toNat_lit, List.getD_cons_zero,
      List.getD_cons_succ, ne_eq, Int.natCast_inj, sliceI_from, flds]
    split <;> simp [iNetX.ofModel]

/-- `iNetX.unpack`, for every prior object in the model's domain and every buffer -/
theorem src_iNetX_unpack (o : Gen.Src.Cls.iNetX.Obj) (h : iNetX.Dom o) (buf : Bytes) :
    (iNetX.toModel (Gen.Src.Cls.iNetX.unpack o buf).1, (Gen.Src.Cls.iNetX.unpack o buf).2)
      = ((Model.iNetX.unpack (iNetX.toModel o) buf).1,
         (Model.iNetX.unpack (iNetX.toModel o) buf).2.map (fun _ => true)) :=
  transfer (Gen.Src.Cls.iNetX.unpack · buf) iNetX.toModel_ofModel (iNetX.ofModel_toModel o h)
    (src_iNetX_unpack_of _ buf)

/-- outside the model's domain (Python ints may be negative, the model's `Nat` fields cannot): a negative value in
    any of the six packed attributes makes `struct.pack` refuse (`struct.error`), after `packetlen` has been stored -/
theorem src_iNetX_pack_negative (o : Gen.Src.Cls.iNetX.Obj)
    (h : o.inetxcontrol < 0 ∨ o.streamid < 0 ∨ o.sequence < 0 ∨ o.ptptimeseconds < 0 ∨ o.ptptimenanoseconds < 0 ∨
      o.pif < 0) :
    Gen.Src.Cls.iNetX.pack o
      = ({ o with packetlen := (o.payload.length : Int) + 28 }, .error .struct) := by
  rw [iNetX.src_pack_eq]
  rw [structPackI_neg _ _ (by rcases h with h | h | h | h | h | h <;> exact ⟨_, by simp, h⟩)]; rfl

example : Gen.Src.Cls.iNetX.pack { inetxcontrol := 0, streamid := -1, sequence := 0, packetlen := 0,
                                   ptptimeseconds := 0, ptptimenanoseconds := 0, pif := 0, payload := [1] }
    = ({ inetxcontrol := 0, streamid := -1, sequence := 0, packetlen := 29,
         ptptimeseconds := 0, ptptimenanoseconds := 0, pif := 0, payload := [1] }, .error .struct) := by rfl

/-! `IENA.pack` / `IENA.unpack` (the base class; `self.key` resolved through its property to `self._key`, the loop over
    `self._req_attr` unrolled from `IENA.REQ_ATTR`, `buf[14:-2]` and `unpack_from(">H", buf, -2)` counted from the end) -/

theorem src_IENA_pack_of (s : Model.IENA.Base) :
    Gen.Src.Cls.IENA.pack (IENA.ofModel s) = (IENA.ofModel s.pack.1, s.pack.2) := by
  unfold Gen.Src.Cls.IENA.pack Model.IENA.Base.pack
  simp only [IENA.ofModel, Gen.Src.Cls.IENA.IENA_HEADER_LENGTH, Gen.Src.Cls.IENA.TRAILER_LENGTH,
    Gen.IENA.IENA_HEADER_LENGTH, Gen.IENA.IENA_TRAILER_LENGTH, Gen.IENA.IENA_HEADER_FORMAT, Gen.IENA.IENA_pack_fmt0,
    Py.len, pymod_natCast_lit, shr_natCast, toNat_lit, Lemmas.Bits.shr, Nat.reducePow]
  have e1 : Py.floordiv ((s.payload.length : Int) + 14 + 2) 2 = (((s.payload.length + 14 + 2) / 2 : Nat) : Int) := by
    rw [floordiv_of_pos _ _ (by omega)]; omega
  rw [e1]
  rw [structPackI_cast _ [s.key, (s.payload.length + 14 + 2) / 2, s.timeusec / 4294967296, s.timeusec % 4294967296,
      s.keystatus, s.status, s.sequence] _ (by simp)]
  rw [structPackI_cast _ [s.endfield] _ (by simp)]
  cases structPack ⟨true, [.u16, .u16, .u16, .u32, .u8, .u8, .u16]⟩ [s.key, (s.payload.length + 14 + 2) / 2,
      s.timeusec / 4294967296, s.timeusec % 4294967296, s.keystatus, s.status, s.sequence] with
  | error e => simp
  | ok h =>
    dsimp only
    cases structPack ⟨true, [.u16]⟩ [s.endfield] <;> simp

/-- `IENA.pack`, for every object in the model's domain (int attributes `≥ 0`) -/
theorem src_IENA_pack (o : Gen.Src.Cls.IENA.Obj) (h : IENA.Dom o) :
    (IENA.toModel (Gen.Src.Cls.IENA.pack o).1, (Gen.Src.Cls.IENA.pack o).2) = (IENA.toModel o).pack :=
  transfer Gen.Src.Cls.IENA.pack IENA.toModel_ofModel (IENA.ofModel_toModel o h) (src_IENA_pack_of _)

example : IENA.Dom { _key := 0xDC, size := 0, timeusec := 10000000, keystatus := 0, status := 0, sequence := 1,
                     endfield := 0xDEAD, payload := [5, 0], lengthError := true } := by decide

theorem src_IENA_unpack_of (s : Model.IENA.Base) (buf : Bytes) :
    Gen.Src.Cls.IENA.unpack (IENA.ofModel s) buf
      = (IENA.ofModel (s.unpack buf).1, (s.unpack buf).2.map (fun _ => true)) := by
  unfold Gen.Src.Cls.IENA.unpack Model.IENA.Base.unpack
  simp only [Gen.Src.Cls.IENA.IENA_HEADER_LENGTH, Gen.IENA.IENA_HEADER_LENGTH, Gen.IENA.IENA_HEADER_FORMAT,
    Gen.IENA.IENA_unpack_fmt0, Py.len, structUnpackFromI_eq, toNat_lit, Py.structUnpackFromEndI, Py.sliceEndI, len_lt]
  by_cases hlen : buf.length < 14
  · simp [hlen, Except.map]
  · have h2 : 2 ≤ buf.length := by omega
    simp only [hlen, if_false, h2, if_true]
    rw [structUnpackFrom_flds, structUnpackFrom_flds, if_pos (show 0 + (⟨true, [.u16, .u16, .u16, .u32, .u8, .u8, .u16]⟩ :
      Fmt).size ≤ buf.length by show 0 + 14 ≤ _; omega), if_pos (show buf.length - 2 + (⟨true, [.u16]⟩ : Fmt).size ≤
      buf.length by show buf.length - 2 + 2 ≤ _; omega)]
    have hp : Py.pow 2 32 = 4294967296 := by decide
    -- the length check, on `Int` in the source and on `Nat` in the model
    have hg : ∀ sz : Nat, ((sz : Int) * 2 ≠ (buf.length : Int) ∧ s.lengthError = true) ↔
        ((decide (sz * 2 ≠ buf.length) && s.lengthError) = true) := fun sz => by
      rw [Bool.and_eq_true, decide_eq_true_eq]
      exact and_congr_left' (not_congr (by omega))
    -- `ofModel` is unfolded only at the ends, where the model's state is a record
    simp only [Except.map, Py.intAt, List.map, hp, Int.ofNat_eq_natCast, toNat_lit, List.getD_cons_zero,
      List.getD_cons_succ, show (IENA.ofModel s).lengthError = s.lengthError from rfl, hg, flds]
    split <;> simp [IENA.ofModel]

/-- `IENA.unpack`, for every prior object in the model's domain and every buffer: same object afterwards (on every
    rejecting path too), same exception; an accepted buffer returns `True` -/
theorem src_IENA_unpack (o : Gen.Src.Cls.IENA.Obj) (h : IENA.Dom o) (buf : Bytes) :
    (IENA.toModel (Gen.Src.Cls.IENA.unpack o buf).1, (Gen.Src.Cls.IENA.unpack o buf).2)
      = (((IENA.toModel o).unpack buf).1, ((IENA.toModel o).unpack buf).2.map (fun _ => true)) :=
  transfer (Gen.Src.Cls.IENA.unpack · buf) IENA.toModel_ofModel (IENA.ofModel_toModel o h) (src_IENA_unpack_of _ buf)

end Acra.Props.C01
