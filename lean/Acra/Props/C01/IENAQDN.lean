/-
  C01, IENA-Q, -D and -N: Q has an encoder (layout and round trip as for IENA-M); D and N have decoders only, so their statements
  are decode layouts: `unpack` of a packet laid out as Spec/FTI2.lean says returns the parameters.  Model: Acra.Model.IENA.
-/
import Acra.Lemmas.IENAQDN
import Acra.Props.C01.IENA
import Acra.Spec.FTI2
namespace Acra.Props.C01
open Acra.Py Acra.Model.IENA Acra.Gen.IENA Acra.Lemmas.IENA

def IENAQ_base (s : QState) : Base := { s.base with payload := s.parameters.flatMap encQb }

def IENAQ_WF (s : QState) : Prop :=
  (∀ p ∈ s.parameters, QParam_WF p) ∧ IENA_WF (IENAQ_base s)

/-- each parameter is laid out as id, length, dataset, pad -/
theorem IENAQ_param_layout (p : QParam) :
    encQb p = Spec.IENAQ.encodeParam p.paramid p.dataset := by
  simp [encQb, padM, Spec.IENAQ.encodeParam, encInt]

/-- padding rule, for every payload length: each encoded parameter occupies an even number of bytes -/
theorem IENAQ_param_even (p : QParam) : (encQb p).length % 2 = 0 := encQb_even p

def IENAQ_decoded (s : QState) (le : Bool) : QState :=
  { base := { IENAQ_base s with size := ((IENAQ_base s).payload.length + 16) / 2, lengthError := le },
    parameters := s.parameters }

theorem IENAQ_pack_eq (s : QState) (h : IENAQ_WF s) :
    QState.pack s = ({ s with base := { IENAQ_base s with size := ((IENAQ_base s).payload.length + 16) / 2 } },
                     .ok (IENA_bytes (IENAQ_base s))) := by
  obtain ⟨hp, hb⟩ := h
  unfold QState.pack
  rw [encAllQ_eq _ hp]
  show (match Base.pack (IENAQ_base s) with | (b', r) => ({ s with base := b' }, r)) = _
  rw [IENA_pack_eq _ hb]

theorem IENAQ_unpack_eq (s t : QState) (h : IENAQ_WF s) :
    QState.unpack t (IENA_bytes (IENAQ_base s)) =
      ({ base := { IENAQ_base s with size := ((IENAQ_base s).payload.length + 16) / 2, lengthError := t.base.lengthError },
         parameters := s.parameters }, .ok ()) := by
  obtain ⟨hp, hb⟩ := h
  unfold QState.unpack
  rw [IENA_unpack_eq (IENAQ_base s) t.base hb]
  show (match decOff decQ moreRem (s.parameters.flatMap encQb) ((s.parameters.flatMap encQb).length + 1) 0 with
        | .ok ps => _ | .error e => _) = _
  rw [decQ_all _ hp]

/-- `IENAQ.pack` emits the IENA layout around the concatenated parameter encodings -/
theorem IENAQ_pack_layout (s : QState) (h : IENAQ_WF s) :
    (QState.pack s).2 = .ok (Spec.IENA.encode s.base.key s.base.timeusec s.base.keystatus s.base.status
      s.base.sequence s.base.endfield
      (s.parameters.flatMap fun p => Spec.IENAQ.encodeParam p.paramid p.dataset)) := by
  rw [IENAQ_pack_eq s h, IENA_bytes_eq_spec _ h.2]
  have : (fun p : QParam => Spec.IENAQ.encodeParam p.paramid p.dataset) = encQb := by
    funext p; exact (IENAQ_param_layout p).symm
  rw [this]; rfl

/-- IENA-Q round trip: same header fields, same parameters in order, same bytes on re-encode -/
theorem IENAQ_roundtrip (s t : QState) (h : IENAQ_WF s) :
    ∃ b, (QState.pack s).2 = .ok b ∧
      (QState.unpack t b).2 = .ok () ∧
      (QState.unpack t b).1.parameters = s.parameters ∧
      (QState.unpack t b).1.base =
        { IENAQ_base s with size := ((s.parameters.flatMap encQb).length + 16) / 2, lengthError := t.base.lengthError } ∧
      (QState.pack (QState.unpack t b).1).2 = .ok b := by
  refine ⟨IENA_bytes (IENAQ_base s), by rw [IENAQ_pack_eq s h], by rw [IENAQ_unpack_eq s t h],
    by rw [IENAQ_unpack_eq s t h], by rw [IENAQ_unpack_eq s t h]; rfl, ?_⟩
  rw [IENAQ_unpack_eq s t h]
  exact congrArg Prod.snd (IENAQ_pack_eq (IENAQ_decoded s t.base.lengthError) h)

example : IENAQ_WF { QState.fresh with parameters := [⟨1, [0xAA, 0xBB, 0xCC]⟩, ⟨3, []⟩] } :=
  wfQ_witness

/-! ### IENA-D: decode-only layout, for every data-word count `keystatus & 7` -/

/-- the IENA packet whose payload is the parameters `ps` laid end to end -/
def IENAD_packet (h : Base) (ps : List DParam) : Base := { h with payload := ps.flatMap encDb }

theorem IENAD_param_layout (p : DParam) :
    encDb p = Spec.IENAD.encodeParam p.paramid p.delay p.dwords := by
  simp [encDb, words16, Spec.IENAD.encodeParam, encInt_big]

theorem IENAD_unpack_eq (h : Base) (ps : List DParam) (t : DState) (hwf : IENA_WF (IENAD_packet h ps))
    (hp : ∀ p ∈ ps, DParam_WF (h.keystatus % 8) p) :
    DState.unpack t (IENA_bytes (IENAD_packet h ps)) =
      ({ base := { IENAD_packet h ps with size := ((ps.flatMap encDb).length + 16) / 2, lengthError := t.base.lengthError },
         parameters := ps }, .ok ()) := by
  have hb := IENA_unpack_eq (IENAD_packet h ps) t.base hwf
  have hl := loopRange_enc 4 decDAll encDb
    { IENAD_packet h ps with size := ((ps.flatMap encDb).length + 16) / 2, lengthError := t.base.lengthError } ps
    (by omega) rfl (fun p hq => encDb_length _ p (hp p hq)) (decDAll_enc _ ps hp)
  rw [unpackD_range, afterBase, hb]
  dsimp only [IENAD_packet] at hl ⊢
  rw [hl]

/-- bytes laid out as IENA-D (the IENA layout around `n + 2` 16-bit words per parameter, `n` the low three
    bits of the key-status byte) decode into exactly those parameters, whatever the object held before;
    and the decoded object re-encodes to the same bytes -/
theorem IENAD_decode_layout (h : Base) (ps : List DParam) (t : DState) (hwf : IENA_WF (IENAD_packet h ps))
    (hp : ∀ p ∈ ps, DParam_WF (h.keystatus % 8) p) :
    let b := Spec.IENA.encode h.key h.timeusec h.keystatus h.status h.sequence h.endfield
      (ps.flatMap fun p => Spec.IENAD.encodeParam p.paramid p.delay p.dwords)
    (DState.unpack t b).2 = .ok () ∧ (DState.unpack t b).1.parameters = ps ∧
    (DState.unpack t b).1.base = { IENAD_packet h ps with size := ((ps.flatMap encDb).length + 16) / 2, lengthError := t.base.lengthError } ∧
    (DState.pack (DState.unpack t b).1).2 = .ok b := by
  have hfun : (fun p : DParam => Spec.IENAD.encodeParam p.paramid p.delay p.dwords) = encDb := by
    funext p; exact (IENAD_param_layout p).symm
  have hb := IENA_bytes_eq_spec _ hwf
  simp only [IENAD_packet] at hb
  simp only [hfun, ← hb]
  have hu := IENAD_unpack_eq h ps t hwf hp
  simp only [IENAD_packet] at hu
  rw [hu]
  exact ⟨rfl, rfl, rfl, IENA_repack (IENAD_packet h ps) t.base.lengthError hwf⟩

/-- witnesses for every word count 0..7 -/
example : ∀ n < 8, ∃ p : DParam, DParam_WF n p := by
  intro n _
  exact ⟨⟨1, 2, List.replicate n 7⟩, by simp [DParam_WF]⟩
example : IENA_WF (IENAD_packet { Base.fresh with keystatus := 0x1A } [⟨1, 2, [3, 4]⟩, ⟨5, 6, [7, 65535]⟩]) ∧
    ∀ p ∈ [(⟨1, 2, [3, 4]⟩ : DParam), ⟨5, 6, [7, 65535]⟩], DParam_WF (0x1A % 8) p :=
  wfD_witness

def IENAN_packet (h : Base) (ps : List NParam) : Base := { h with payload := ps.flatMap encNb }

theorem IENAN_param_layout (p : NParam) :
    encNb p = Spec.IENAN.encodeParam p.paramid p.dwords := by
  simp [encNb, words16, Spec.IENAN.encodeParam, encInt_big]

theorem IENAN_unpack_eq (h : Base) (ps : List NParam) (t : NState) (hwf : IENA_WF (IENAN_packet h ps))
    (hp : ∀ p ∈ ps, NParam_WF (h.keystatus % 8) p) :
    NState.unpack t (IENA_bytes (IENAN_packet h ps)) =
      ({ base := { IENAN_packet h ps with size := ((ps.flatMap encNb).length + 16) / 2, lengthError := t.base.lengthError },
         parameters := ps }, .ok ()) := by
  have hb := IENA_unpack_eq (IENAN_packet h ps) t.base hwf
  have hl := loopRange_enc 2 decNAll encNb
    { IENAN_packet h ps with size := ((ps.flatMap encNb).length + 16) / 2, lengthError := t.base.lengthError } ps
    (by omega) rfl (fun p hq => encNb_length _ p (hp p hq)) (decNAll_enc _ ps hp)
  rw [unpackN_range, afterBase, hb]
  dsimp only [IENAN_packet] at hl ⊢
  rw [hl]

/-- bytes laid out as IENA-N (`n + 1` 16-bit words per parameter) decode into exactly those parameters -/
theorem IENAN_decode_layout (h : Base) (ps : List NParam) (t : NState) (hwf : IENA_WF (IENAN_packet h ps))
    (hp : ∀ p ∈ ps, NParam_WF (h.keystatus % 8) p) :
    let b := Spec.IENA.encode h.key h.timeusec h.keystatus h.status h.sequence h.endfield
      (ps.flatMap fun p => Spec.IENAN.encodeParam p.paramid p.dwords)
    (NState.unpack t b).2 = .ok () ∧ (NState.unpack t b).1.parameters = ps ∧
    (NState.unpack t b).1.base = { IENAN_packet h ps with size := ((ps.flatMap encNb).length + 16) / 2, lengthError := t.base.lengthError } ∧
    (NState.pack (NState.unpack t b).1).2 = .ok b := by
  have hfun : (fun p : NParam => Spec.IENAN.encodeParam p.paramid p.dwords) = encNb := by
    funext p; exact (IENAN_param_layout p).symm
  have hb := IENA_bytes_eq_spec _ hwf
  simp only [IENAN_packet] at hb
  simp only [hfun, ← hb]
  have hu := IENAN_unpack_eq h ps t hwf hp
  simp only [IENAN_packet] at hu
  rw [hu]
  exact ⟨rfl, rfl, rfl, IENA_repack (IENAN_packet h ps) t.base.lengthError hwf⟩

example : ∀ n < 8, ∃ p : NParam, NParam_WF n p := by
  intro n _
  exact ⟨⟨1, List.replicate n 7⟩, by simp [NParam_WF]⟩
example : IENA_WF (IENAN_packet { Base.fresh with keystatus := 3 } [⟨1, [2, 3, 4]⟩]) ∧
    ∀ p ∈ [(⟨1, [2, 3, 4]⟩ : NParam)], NParam_WF (3 % 8) p :=
  wfN_witness

end Acra.Props.C01
