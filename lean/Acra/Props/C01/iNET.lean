/-
  C01, iNET packages and messages: layout of `pack()` against Spec/FTI2.lean (zero padding to a multiple of four, the two length
  laws), pack-then-unpack, and what `unpack` stores of the header.  Model: Acra.Model.iNET.
-/
import Acra.Lemmas.iNET
import Acra.Lemmas.ListAux
import Acra.Spec.FTI2
namespace Acra.Props.C01
open Acra.Py Acra.Model.iNET Acra.Gen.iNET Acra.Lemmas.iNET

theorem pad4_eq_spec (n : Nat) : pad4 n = Spec.pad4 n 0 := by
  rw [pad4, Spec.pad4, Lemmas.Walk.pad_mod4]
  split <;> rfl

theorem pkgBytes_eq_spec (p : Pkg) :
    pkgBytes p = Spec.iNETPackage.encode p.definitionID p.flags p.timedelta p.payload := by
  simp only [pkgBytes, pkgHdr, Spec.iNETPackage.encode, pad4_eq_spec, List.append_assoc, encInt_big]
  rfl

/-- `iNETPackage.pack` emits: definition id(32) length(16) reserved(8)=0 flags(8) time delta(32) payload, zero pad -/
theorem iNETPackage_pack_layout (p : Pkg) (h : Pkg_WF p) :
    (Pkg.pack p).2 = .ok (Spec.iNETPackage.encode p.definitionID p.flags p.timedelta p.payload) := by
  rw [Pkg_pack_eq p h, pkgBytes_eq_spec]

/-- padding rule, for every payload length: an encoded package occupies a multiple of four bytes;
    computed field: the length field is 12 + |payload|, padding excluded -/
theorem iNETPackage_length_laws (p : Pkg) (h : Pkg_WF p) :
    ∃ b, (Pkg.pack p).2 = .ok b ∧ b.length % 4 = 0 ∧ (Pkg.pack p).1.length = 12 + p.payload.length ∧
      b.length = 12 + p.payload.length + (4 - p.payload.length % 4) % 4 := by
  refine ⟨pkgBytes p, by rw [Pkg_pack_eq p h], pkgBytes_mod4 p, by rw [Pkg_pack_eq p h]; rfl, pkgBytes_length p⟩

/-- unpack (any prior state, any following bytes) returns the same fields and exactly the following
    bytes; packing the decoded package reproduces the bytes -/
theorem iNETPackage_roundtrip (p t : Pkg) (rest : Bytes) (h : Pkg_WF p) :
    ∃ b, (Pkg.pack p).2 = .ok b ∧
      Pkg.unpack t (b ++ rest) = ({ p with length := 12 + p.payload.length }, .ok rest) ∧
      (Pkg.pack (Pkg.unpack t (b ++ rest)).1).2 = .ok b := by
  refine ⟨pkgBytes p, by rw [Pkg_pack_eq p h], Pkg_unpack_eq p t rest h, ?_⟩
  rw [Pkg_unpack_eq p t rest h, Pkg_pack_eq _ (Pkg_WF_norm p h)]
  rfl

example : Pkg_WF { Pkg.fresh with definitionID := 7, flags := 255, payload := [1, 2, 3, 4, 5] } := by
  simp [Pkg_WF, Pkg.fresh]

/-- `iNET.pack` emits the message layout: version/option-word-count byte, type, flags, definition id,
    sequence, total length, time stamp, option words, packages -/
theorem iNET_pack_layout (s : State) (h : iNET_WF s) :
    (pack s).2 = .ok (Spec.iNET.encode s.version s.type s.flags s.definition_ID s.sequence s.ptptimeseconds
      s.ptptimenanoseconds s.app_fields
      (s.packages.flatMap fun p => Spec.iNETPackage.encode p.definitionID p.flags p.timedelta p.payload)) := by
  rw [iNET_pack_eq s h]
  have hf : (fun p : Pkg => Spec.iNETPackage.encode p.definitionID p.flags p.timedelta p.payload) = pkgBytes :=
    funext fun p => (pkgBytes_eq_spec p).symm
  have hl : 24 + 4 * s.app_fields.length + (s.packages.flatMap pkgBytes).length = msgLen s := by
    simp only [msgLen]; omega
  rw [hf, Spec.iNET.encode, hl, Nat.add_comm (s.version * 16)]
  simp only [msgBytes, msgHdr, wordsC, Code.size, encInt_big, List.append_assoc]

/-- computed field: the length field is the number of bytes emitted -/
theorem iNET_length_law (s : State) (h : iNET_WF s) :
    ∃ b, (pack s).2 = .ok b ∧ (pack s).1.length = b.length := by
  refine ⟨msgBytes s, by rw [iNET_pack_eq s h], ?_⟩
  rw [iNET_pack_eq s h]
  simp only [packed, msgLen, msgBytes, List.length_append, msgHdr_length, wordsC_length, Code.size]
  omega

/-- iNET round trip: the same header fields, option words and packages (each with its computed length
    field), whatever the decoding object held; re-encoding the decoded object reproduces the bytes -/
theorem iNET_roundtrip (s t : State) (h : iNET_WF s) :
    ∃ b, (pack s).2 = .ok b ∧ unpack t b = (decoded s, .ok ()) ∧ (pack (unpack t b).1).2 = .ok b := by
  refine ⟨msgBytes s, by rw [iNET_pack_eq s h], iNET_unpack_eq s t h, ?_⟩
  rw [iNET_unpack_eq s t h, iNET_pack_eq _ (iNET_WF_decoded s h)]
  simp only [msgBytes, msgHdr, msgLen, decoded, packed, flatMap_pkgBytes_norm]

theorem iNET_decoded_fields (s : State) :
    (decoded s).flags = s.flags ∧ (decoded s).type = s.type ∧ (decoded s).version = s.version ∧
    (decoded s).definition_ID = s.definition_ID ∧ (decoded s).sequence = s.sequence ∧
    (decoded s).ptptimeseconds = s.ptptimeseconds ∧ (decoded s).ptptimenanoseconds = s.ptptimenanoseconds ∧
    (decoded s).app_fields = s.app_fields ∧
    (decoded s).packages = s.packages.map fun p => { p with length := 12 + p.payload.length } :=
  ⟨rfl, rfl, rfl, rfl, rfl, rfl, rfl, rfl, rfl⟩

example : iNET_WF { fresh with type := 3, app_fields := [1, 2], packages := [{ Pkg.fresh with definitionID := 7, payload := [1, 2, 3, 4, 5] }, Pkg.fresh] } :=
  wf_witness

/-- a type beyond its four bits is not expressible: the decoder keeps the low four bits -/
example : (unpack fresh (match (pack { fresh with type := 0x13 }).2 with | .ok b => b | .error _ => [])).1.type = 3 := by
  decide

end Acra.Props.C01
