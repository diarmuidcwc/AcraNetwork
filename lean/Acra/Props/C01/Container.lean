import Acra.Lemmas.Container
import Acra.Props.C01.iNetX
import Acra.Props.C01.IENA
import Acra.Props.C01.IENAQDN
import Acra.Props.C01.iNET
import Acra.Props.C01.NPD
import Acra.Props.C01.ParserAligned
/-!
  C01 for the container protocol of the FTI payload classes.

  * `len(x)` of iNetX / IENA / iNET is the length of the bytes `pack` returns (unconditionally: same bytes or same
    exception), and for a well-formed object that length is the one the layout dictates;
    `len(block)` of a ParserAlignedBlock is the length of what `pack` emits whenever `pack` accepts the block — and it
    is ALSO defined (8 + |payload|) when `pack` refuses the payload.
  * `x[i]` of a decoded container is the i-th encoded element: `unpack (pack x)` then `[i]` is `x.elements[i]`
    (Python indexing: `i ≥ 0` from the front, `i < 0` from the back), `IndexError` exactly outside `-n ≤ i < n`,
    and `len` of it is the number of encoded elements.
-/
namespace Acra.Props.C01
open Acra.Py Acra.Lemmas.Container

theorem iNetX_len_pack (s : Acra.Model.iNetX.State) :
    (∀ b, (Acra.Model.iNetX.pack s).2 = .ok b → (Acra.Model.iNetX.len s).2 = .ok b.length) ∧
    (∀ e, (Acra.Model.iNetX.pack s).2 = .error e → (Acra.Model.iNetX.len s).2 = .error e) :=
  ⟨fun _ h => lenOfPack_ok (pack := Acra.Model.iNetX.pack) h, fun _ h => lenOfPack_error (pack := Acra.Model.iNetX.pack) h⟩

theorem iNetX_len_wf (s : Acra.Model.iNetX.State) (h : iNetX_WF s) :
    (Acra.Model.iNetX.len s).2 = .ok (28 + s.payload.length) := by
  obtain ⟨b, hb, hl, _⟩ := iNetX_pack_ok s h
  rw [(iNetX_len_pack s).1 b hb, hl]

open Acra.Model.IENA in
theorem IENA_len_pack (s : Base) :
    (∀ b, (Base.pack s).2 = .ok b → (Base.len s).2 = .ok b.length) ∧
    (∀ e, (Base.pack s).2 = .error e → (Base.len s).2 = .error e) :=
  ⟨fun _ h => lenOfPack_ok (pack := Base.pack) h, fun _ h => lenOfPack_error (pack := Base.pack) h⟩

open Acra.Model.IENA Acra.Lemmas.IENA in
theorem IENA_len_wf (s : Base) (h : IENA_WF s) :
    (Base.len s).2 = .ok (16 + s.payload.length) ∧ (Base.len s).1.size * 2 = 16 + s.payload.length := by
  obtain ⟨b, hb, hs, hl⟩ := IENA_size_law s h
  refine ⟨by rw [(IENA_len_pack s).1 b hb, hl], ?_⟩
  show (Base.pack s).1.size * 2 = _
  rw [hs, hl]

theorem iNET_len_pack (s : Acra.Model.iNET.State) :
    (∀ b, (Acra.Model.iNET.pack s).2 = .ok b → (Acra.Model.iNET.len s).2 = .ok b.length) ∧
    (∀ e, (Acra.Model.iNET.pack s).2 = .error e → (Acra.Model.iNET.len s).2 = .error e) :=
  ⟨fun _ h => lenOfPack_ok (pack := Acra.Model.iNET.pack) h, fun _ h => lenOfPack_error (pack := Acra.Model.iNET.pack) h⟩

open Acra.Lemmas.iNET in
theorem iNET_len_wf (s : Acra.Model.iNET.State) (h : iNET_WF s) :
    ∃ n, (Acra.Model.iNET.len s).2 = .ok n ∧ (Acra.Model.iNET.len s).1.length = n := by
  obtain ⟨b, hb, hl⟩ := iNET_length_law s h
  exact ⟨b.length, (iNET_len_pack s).1 b hb, hl⟩

open Acra.Model.ParserAligned Acra.Lemmas.ParserAligned Acra.Gen.ParserAligned in
theorem ParserAlignedBlock_len (s : Block) :
    s.len = 8 + s.payload.length ∧ (Block_WF s → ∃ b, (Block.pack s).2 = .ok b ∧ s.len = b.length) := by
  have h8 : s.len = 8 + s.payload.length := by
    show s.payload.length + 8 = 8 + s.payload.length
    omega
  refine ⟨h8, fun h => ⟨blockBytes s, by rw [Block_pack_eq s h], ?_⟩⟩
  rw [h8, blockBytes_length]

open Acra.Model.ParserAligned in
/-- `len` is defined where `pack` is not -/
theorem ParserAlignedBlock_len_without_pack :
    ({ Block.fresh with payload := [1, 2, 3] } : Block).len = 11 ∧
    (Block.pack { Block.fresh with payload := [1, 2, 3] }).2 = .error .generic := ⟨rfl, rfl⟩

/-- the container theorems below say that `[i]` is `listGet` on the list of `s` and repeat the first and third -/
theorem index_law {α : Type} (l : List α) :
    (∀ k (hk : k < l.length), listGet l (k : Int) = .ok l[k]) ∧
    (∀ k (h1 : 1 ≤ k) (hk : k ≤ l.length), listGet l (-(k : Int)) = .ok (l[l.length - k]'(by omega))) ∧
    (∀ i : Int, listGet l i = .error .index ↔ ¬ (-(l.length : Int) ≤ i ∧ i < l.length)) :=
  ⟨listGet_nonneg l, listGet_neg l, listGet_error_iff l⟩

open Acra.Model.IENA Acra.Lemmas.IENA in
theorem IENAM_getitem_roundtrip (s t : MState) (h : IENAM_WF s) :
    ∃ b, (MState.pack s).2 = .ok b ∧ (MState.unpack t b).2 = .ok () ∧
      (MState.unpack t b).1.len = s.parameters.length ∧
      (∀ i, (MState.unpack t b).1.getitem i = listGet s.parameters i) ∧
      (∀ k (hk : k < s.parameters.length), (MState.unpack t b).1.getitem k = .ok s.parameters[k]) ∧
      (∀ i : Int, (MState.unpack t b).1.getitem i = .error .index ↔
        ¬ (-(s.parameters.length : Int) ≤ i ∧ i < s.parameters.length)) := by
  obtain ⟨b, h1, h2, h3, _, _⟩ := IENAM_roundtrip s t h
  refine ⟨b, h1, h2, ?_⟩
  simp only [MState.len, MState.getitem, h3]
  exact ⟨trivial, fun _ => trivial, listGet_nonneg _, listGet_error_iff _⟩

open Acra.Model.IENA Acra.Lemmas.IENA in
example : IENAM_WF { MState.fresh with parameters := [⟨1, 2, [0xAA, 0xBB, 0xCC]⟩, ⟨3, 4, []⟩] } :=
  wfM_witness

open Acra.Model.IENA Acra.Lemmas.IENA in
theorem IENAQ_getitem_roundtrip (s t : QState) (h : IENAQ_WF s) :
    ∃ b, (QState.pack s).2 = .ok b ∧ (QState.unpack t b).2 = .ok () ∧
      (QState.unpack t b).1.len = s.parameters.length ∧
      (∀ i, (QState.unpack t b).1.getitem i = listGet s.parameters i) ∧
      (∀ k (hk : k < s.parameters.length), (QState.unpack t b).1.getitem k = .ok s.parameters[k]) ∧
      (∀ i : Int, (QState.unpack t b).1.getitem i = .error .index ↔
        ¬ (-(s.parameters.length : Int) ≤ i ∧ i < s.parameters.length)) := by
  obtain ⟨b, h1, h2, h3, _, _⟩ := IENAQ_roundtrip s t h
  refine ⟨b, h1, h2, ?_⟩
  simp only [QState.len, QState.getitem, h3]
  exact ⟨trivial, fun _ => trivial, listGet_nonneg _, listGet_error_iff _⟩

open Acra.Model.IENA Acra.Lemmas.IENA in
/-- IENA-D: bytes laid out as IENA-D with parameters `ps` decode into a container whose `[i]` is `ps[i]` -/
theorem IENAD_getitem_decode (h : Base) (ps : List DParam) (t : DState) (hwf : IENA_WF (IENAD_packet h ps))
    (hp : ∀ p ∈ ps, DParam_WF (h.keystatus % 8) p) :
    let b := Spec.IENA.encode h.key h.timeusec h.keystatus h.status h.sequence h.endfield
      (ps.flatMap fun p => Spec.IENAD.encodeParam p.paramid p.delay p.dwords)
    (DState.unpack t b).1.len = ps.length ∧ ∀ i, (DState.unpack t b).1.getitem i = listGet ps i := by
  intro b
  obtain ⟨_, h2, _, _⟩ := IENAD_decode_layout h ps t hwf hp
  exact ⟨by simp only [DState.len]; rw [h2], fun i => by simp only [DState.getitem]; rw [h2]⟩

open Acra.Model.IENA Acra.Lemmas.IENA in
theorem IENAN_getitem_decode (h : Base) (ps : List NParam) (t : NState) (hwf : IENA_WF (IENAN_packet h ps))
    (hp : ∀ p ∈ ps, NParam_WF (h.keystatus % 8) p) :
    let b := Spec.IENA.encode h.key h.timeusec h.keystatus h.status h.sequence h.endfield
      (ps.flatMap fun p => Spec.IENAN.encodeParam p.paramid p.dwords)
    (NState.unpack t b).1.len = ps.length ∧ ∀ i, (NState.unpack t b).1.getitem i = listGet ps i := by
  intro b
  obtain ⟨_, h2, _, _⟩ := IENAN_decode_layout h ps t hwf hp
  exact ⟨by simp only [NState.len]; rw [h2], fun i => by simp only [NState.getitem]; rw [h2]⟩

open Acra.Model.ParserAligned Acra.Lemmas.ParserAligned in
/-- parser-aligned packet: `[i]` of the decoded packet is block `i` of `s` with its computed quad-byte count -/
theorem ParserAlignedPacket_getitem_roundtrip (s t : Packet) (h : Packet_WF s) :
    ∃ b, (Packet.pack s).2 = .ok b ∧ (Packet.unpack t b).2 = .ok () ∧
      (Packet.unpack t b).1.len = s.parserblocks.length ∧
      (∀ i, (Packet.unpack t b).1.getitem i = (listGet s.parserblocks i).map norm) ∧
      (∀ i : Int, (Packet.unpack t b).1.getitem i = .error .index ↔
        ¬ (-(s.parserblocks.length : Int) ≤ i ∧ i < s.parserblocks.length)) := by
  obtain ⟨b, h1, h2, _⟩ := ParserAlignedPacket_roundtrip s t h
  refine ⟨b, h1, by rw [h2], ?_, ?_, ?_⟩
  · rw [h2]; simp [Packet.len]
  · intro i; rw [h2]; simp only [Packet.getitem]; exact listGet_map norm _ i
  · intro i; rw [h2]; exact listGet_map_error_iff norm _ i

open Acra.Model.NPD Acra.Lemmas.NPD in
/-- NPD: `[i]` of the decoded packet is segment `i` of `s` as its typed decoder reads it -/
theorem NPD_getitem_roundtrip (s t : State) (dt mc ts : Nat) (h : NPD_WF s dt mc ts)
    (hok : ∀ g ∈ s.segments, TypedOK (kindOf dt) g)
    (hk : kindOf dt ≠ .rs232 ∨ ∀ g ∈ s.segments, g.kind = .rs232) :
    ∃ b, (pack s).2 = .ok b ∧ (unpack t b).2 = .ok () ∧
      len (unpack t b).1 = s.segments.length ∧
      ∀ i, getitem (unpack t b).1 i = (listGet s.segments i).map (decodedSeg (kindOf dt)) := by
  obtain ⟨b, h1, h2, _⟩ := NPD_roundtrip s t dt mc ts h hok hk
  refine ⟨b, h1, by rw [h2], ?_, ?_⟩
  · rw [h2]; simp [len, decodedNPD]
  · intro i; rw [h2]; exact listGet_map _ _ i

/-! ### witnesses: each theorem above applied to a concrete, non-trivial object -/
section witnesses

example := iNetX_len_wf { Acra.Model.iNetX.fresh with streamid := 0xDC, payload := [5, 0] }
  Lemmas.iNetX.wf_witness

open Acra.Model.IENA Acra.Lemmas.IENA Acra.Gen.IENA in
example := IENA_len_wf { Base.fresh with key := 0x1A, timeusec := 10000000, payload := [5, 0] }
  wf_witness

open Acra.Model.iNET Acra.Lemmas.iNET Acra.Gen.iNET in
example := iNET_len_wf { fresh with type := 3, app_fields := [1, 2], packages := [{ Pkg.fresh with definitionID := 7, payload := [1, 2, 3, 4, 5] }, Pkg.fresh] }
  wf_witness

open Acra.Model.ParserAligned Acra.Lemmas.ParserAligned Acra.Gen.ParserAligned in
example := (ParserAlignedBlock_len { Block.fresh with error := true, errorcode := 63, payload := [1, 2, 3, 4] }).2
  wfBlock_witness

open Acra.Model.IENA Acra.Lemmas.IENA Acra.Gen.IENA in
example := IENAM_getitem_roundtrip { MState.fresh with parameters := [⟨1, 2, [0xAA, 0xBB, 0xCC]⟩, ⟨3, 4, []⟩] }
  { MState.fresh with parameters := [⟨9, 9, [1]⟩] } wfM_witness

open Acra.Model.IENA Acra.Lemmas.IENA Acra.Gen.IENA in
example := IENAQ_getitem_roundtrip { QState.fresh with parameters := [⟨1, [0xAA, 0xBB, 0xCC]⟩, ⟨3, []⟩] }
  { QState.fresh with parameters := [⟨9, [1]⟩] } wfQ_witness

open Acra.Model.IENA Acra.Lemmas.IENA Acra.Gen.IENA in
example := IENAD_getitem_decode { Base.fresh with keystatus := 0x1A } [⟨1, 2, [3, 4]⟩, ⟨5, 6, [7, 65535]⟩]
  { DState.fresh with parameters := [⟨9, 9, [1, 1]⟩] }
  wfD_witness.1 wfD_witness.2

open Acra.Model.IENA Acra.Lemmas.IENA Acra.Gen.IENA in
example := IENAN_getitem_decode { Base.fresh with keystatus := 3 } [⟨1, [2, 3, 4]⟩] NState.fresh
  wfN_witness.1 wfN_witness.2

open Acra.Model.ParserAligned Acra.Lemmas.ParserAligned Acra.Gen.ParserAligned in
example := ParserAlignedPacket_getitem_roundtrip
  { Packet.fresh with parserblocks := [{ Block.fresh with payload := [1, 2, 3, 4] }, Block.fresh] }
  { Packet.fresh with parserblocks := [Block.fresh, Block.fresh, Block.fresh] } wfBlocks_witness

open Acra.Model.NPD Acra.Lemmas.NPD Acra.Gen.NPD in
example := NPD_getitem_roundtrip
  { fresh with datatype := some 0xD0, mcastaddr := some 0xEB000001, timestamp := some 7, segments := [rawSeg 1 2 3 [0, 5, 1, 2, 9, 9]] }
  { fresh with segments := [Seg.fresh .base] } 0xD0 0xEB000001 7 (by
    refine NPD_WF_fresh _ _ _ _ (by omega) (by omega) (by omega) ?_ ?_
    · intro g hg; simp at hg; subst hg; exact rawSeg_WF 1 2 3 _ (by omega) (by omega) (by omega) (by simp)
    · simp [segBytes_length, effPayload, rawSeg, Seg.fresh])
  (by intro g hg; simp at hg; subst hg; rfl) (Or.inl (by decide))

end witnesses

end Acra.Props.C01
