/-
  C01, NPD segments and packets: `pack()` of every segment class against Spec/FTI2.lean (length laws, 0xFF padding to a multiple
  of four), pack-then-unpack under `TypedOK` (the typed header of the class is in the data), and the decode layouts of the
  classes that only decode (MIL-STD-1553, ACQ).  Model: Acra.Model.NPD.
-/
import Acra.Lemmas.NPDPacket
import Acra.Lemmas.ListAux
import Acra.Spec.FTI2
namespace Acra.Props.C01
open Acra.Py Acra.Model.NPD Acra.Gen.NPD Acra.Lemmas.NPD

theorem padFF_eq_spec (n : Nat) : padFF n = Spec.pad4 n 0xFF := by
  unfold padFF Spec.pad4
  split
  · rename_i h; have : (4 - n % 4) % 4 = 0 := by omega
    simp [this]
  · congr 1; omega

theorem segBytesL_eq_spec (td ec fl : Nat) (pl : Bytes) :
    segBytesL td (8 + pl.length) ec fl pl = Spec.NPDSegment.encode td ec fl pl := by
  simp [segBytesL, segHdr, Spec.NPDSegment.encode, encInt, padFF_eq_spec]

/-- `<segment class>.pack` emits the segment layout around the data the class encodes (for an RS-232
    segment: status word, sync bytes, data; otherwise the payload) -/
theorem NPDSegment_pack_layout (g : Seg) (h : Seg_WF g) :
    (Seg.pack g).2 = .ok (Spec.NPDSegment.encode g.timedelta g.errorcode g.flags (effPayload g)) := by
  rw [Seg_pack_eq g h, segBytes, segBytesL_eq_spec]

/-- the data an RS-232 segment encodes is the RS-232 layout: status word whose low three bits are the
    number of sync bytes, the sync bytes, the data -/
theorem RS232Segment_data_layout (g : Seg) (hk : g.kind = .rs232) :
    effPayload g = Spec.RS232.encodeData (g.block_status % 65536 / 8) g.sync_bytes g.data := by
  simp [effPayload_rs232 g hk, Spec.RS232.encodeData, encInt, encInt_big]

/-- padding rule, for every payload length: an encoded segment occupies a multiple of four bytes; computed field:
    `segmentlen` is 8 + |data|, padding excluded -/
theorem NPDSegment_length_laws (g : Seg) (h : Seg_WF g) :
    ∃ b, (Seg.pack g).2 = .ok b ∧ b.length % 4 = 0 ∧ (Seg.pack g).1.segmentlen = 8 + (effPayload g).length ∧
      b.length = 8 + (effPayload g).length + (4 - (effPayload g).length % 4) % 4 := by
  refine ⟨segBytes g, by rw [Seg_pack_eq g h], segBytes_mod4 g, ?_, segBytes_length g⟩
  rw [Seg_pack_eq g h]
  by_cases hk : g.kind = .rs232
  · simp [packedSeg, hk]; omega
  · rw [packedSeg_of_ne g hk, effPayload_of_ne g hk]
    exact h.2.2.2.2.2 hk

/-- the `payload` property setter establishes `segmentlen = 8 + |payload|` -/
theorem NPDSegment_setter_law (g : Seg) (b : Bytes) :
    (g.setPayload b).segmentlen = 8 + b.length ∧ (g.setPayload b).payload = b := by
  simp [Seg.setPayload, NPD_SEGMENT_HDR_LEN, Nat.add_comm]

/-- segment round trip, for every segment class `k`: a new object of class `k` decodes the bytes (with
    anything following) into the same base fields and the typed view of the data, and returns what follows -/
theorem NPDSegment_roundtrip (k : Kind) (g : Seg) (rest : Bytes) (h : Seg_WF g) (hok : TypedOK k g) :
    ∃ b, (Seg.pack g).2 = .ok b ∧ Seg.unpack (Seg.fresh k) (b ++ rest) = (decodedSeg k g, .ok rest) ∧
      (decodedSeg k g).timedelta = g.timedelta ∧ (decodedSeg k g).errorcode = g.errorcode ∧
      (decodedSeg k g).flags = g.flags ∧ (decodedSeg k g).payload = effPayload g ∧
      (decodedSeg k g).segmentlen = 8 + (effPayload g).length := by
  obtain ⟨hsl, hpl, htd, hec, hfl, _⟩ := decodedSeg_base k g
  exact ⟨segBytes g, by rw [Seg_pack_eq g h], Seg_unpack_eq k g rest h hok, htd, hec, hfl, hpl, by rw [hsl, Nat.add_comm]⟩

/-- the plain classes (NPDSegment, PCMPacketizer, A429Segment) have no typed header: always decodable -/
theorem TypedOK_plain (k : Kind) (g : Seg) (hk : k = .base ∨ k = .pcmpkt ∨ k = .a429) : TypedOK k g := by
  rcases hk with rfl | rfl | rfl <;> rfl

example : Seg_WF { Seg.fresh .base with timedelta := 3, payload := [1, 2, 3], segmentlen := 11 } := by
  simp [Seg_WF, Seg.fresh, effPayload]
example : Seg_WF { Seg.fresh .rs232 with block_status := 0xFFFF, sync_bytes := [1, 2], data := [9] } := by
  simp [Seg_WF, Seg.fresh, effPayload]
/-! ### typed segments: decode-only layouts -/

/-- a plain segment object carrying `data`, used to lay out typed data by hand -/
def rawSeg (td ec fl : Nat) (data : Bytes) : Seg :=
  { Seg.fresh .base with timedelta := td, errorcode := ec, flags := fl, payload := data, segmentlen := 8 + data.length }

theorem rawSeg_WF (td ec fl : Nat) (data : Bytes) (h1 : td < 4294967296) (h2 : ec < 256) (h3 : fl < 256)
    (h4 : 8 + data.length < 65536) : Seg_WF (rawSeg td ec fl data) := by
  simp [Seg_WF, rawSeg, Seg.fresh, effPayload]; omega

theorem rawSeg_bytes (td ec fl : Nat) (data : Bytes) :
    segBytes (rawSeg td ec fl data) = Spec.NPDSegment.encode td ec fl data := by
  simp only [segBytes]
  have : effPayload (rawSeg td ec fl data) = data := rfl
  rw [this]
  exact segBytesL_eq_spec td ec fl data

/-- examples for `NPDSegment_roundtrip` / `decodedSeg_bytes` with a TYPED decoding class (`hok`, `hk`):
    a 1553 layout, an ACQ layout, an RS-232 object; and what `TypedOK` excludes: data shorter than the typed
    header (the code raises `struct.error` there) -/
example : Seg_WF (rawSeg 1 2 3 [0, 5, 1, 2, 9, 9]) ∧ TypedOK .mil1553 (rawSeg 1 2 3 [0, 5, 1, 2, 9, 9]) ∧
    (Kind.mil1553 ≠ .rs232 ∨ (rawSeg 1 2 3 [0, 5, 1, 2, 9, 9]).kind = .rs232) :=
  ⟨by simp [Seg_WF, rawSeg, Seg.fresh, effPayload], rfl, Or.inl (by decide)⟩
example : Seg_WF (rawSeg 1 2 3 [7, 0x80, 0, 0, 1, 2]) ∧ TypedOK .acq (rawSeg 1 2 3 [7, 0x80, 0, 0, 1, 2]) :=
  ⟨by simp [Seg_WF, rawSeg, Seg.fresh, effPayload], rfl⟩
example : TypedOK .rs232 { Seg.fresh .rs232 with block_status := 0xFFFF, sync_bytes := [1, 2], data := [9] } ∧
    (Kind.rs232 ≠ .rs232 ∨ ({ Seg.fresh .rs232 with block_status := 0xFFFF, sync_bytes := [1, 2], data := [9] } : Seg).kind = .rs232) :=
  ⟨rfl, Or.inr rfl⟩
example : ¬ TypedOK .mil1553 (rawSeg 1 2 3 [0, 5, 1]) := by
  intro h; have : (Except.ok () : R Unit).isOk = false := h ▸ (by decide); exact absurd this (by decide)


/-- bytes laid out as a MIL-STD-1553 segment — segment header, block status(16), gap 1(8), gap 2(8),
    message data — decode into exactly `(blockstatus, gap1, gap2, data)` -/
theorem MIL1553Segment_decode_layout (td ec fl bs g1 g2 : Nat) (data rest : Bytes)
    (h1 : td < 4294967296) (h2 : ec < 256) (h3 : fl < 256) (h4 : 8 + (4 + data.length) < 65536)
    (h5 : bs < 65536) (h6 : g1 < 256) (h7 : g2 < 256) :
    let pl := Spec.MIL1553.encodeData bs g1 g2 data
    Seg.unpack (Seg.fresh .mil1553) (Spec.NPDSegment.encode td ec fl pl ++ rest) =
      ({ Seg.fresh .mil1553 with timedelta := td, segmentlen := pl.length + 8, errorcode := ec, flags := fl,
                                 payload := pl, blockstatus := bs, gap1 := g1, gap2 := g2, data := data }, .ok rest) := by
  intro pl
  have hpl : pl = data1553 bs g1 g2 data := by simp [pl, Spec.MIL1553.encodeData, data1553, encInt]
  have hlen : pl.length = 4 + data.length := by rw [hpl]; simp [data1553]; omega
  rw [← segBytesL_eq_spec]
  exact Seg_unpack_of_typed .mil1553 td ec fl pl rest _ h1 (by omega) h2 h3
    (unpack1553_eq (withBase (Seg.fresh .mil1553) td ec fl pl) bs g1 g2 data hpl h5 h6 h7)

/-- a concrete instance (all hypotheses jointly): `ABCD 11 22 09 09` after a segment header decodes to
    block status 0xABCD, gap1 0x11, gap2 0x22 (the slot slip of DESIGN §6 D02 would give gap1 = 0) -/
example := MIL1553Segment_decode_layout 1 2 3 0xABCD 0x11 0x22 [9, 9] [7] (by omega) (by omega) (by omega)
  (by simp) (by omega) (by omega) (by omega)

/-- bytes laid out as an ACQ segment — sub-frame id(8), a byte whose top bit is CAL, reserved(16),
    16-bit words — decode into `(sfid, cal, words)`, whatever the seven low bits and the reserved word are -/
theorem ACQSegment_decode_layout (td ec fl sfid cal low7 reserved : Nat) (words : List Nat) (rest : Bytes)
    (h1 : td < 4294967296) (h2 : ec < 256) (h3 : fl < 256) (h4 : 8 + (4 + 2 * words.length) < 65536)
    (h5 : sfid < 256) (h6 : cal < 2) (h7 : low7 < 128) (h8 : reserved < 65536) (h9 : ∀ w ∈ words, w < 65536) :
    let pl := Spec.ACQ.encodeData sfid cal low7 reserved words
    Seg.unpack (Seg.fresh .acq) (Spec.NPDSegment.encode td ec fl pl ++ rest) =
      ({ Seg.fresh .acq with timedelta := td, segmentlen := pl.length + 8, errorcode := ec, flags := fl,
                             payload := pl, sfid := sfid, cal := cal, words := words }, .ok rest) := by
  intro pl
  have hpl : pl = dataACQ sfid (cal * 128 + low7) reserved words := by
    simp [pl, Spec.ACQ.encodeData, dataACQ, wordsC, Code.size, encInt, encInt_big]
  have hlen : pl.length = 4 + 2 * words.length := by
    rw [hpl]; simp [dataACQ, wordsC_length, Code.size]; omega
  have hty := unpackACQ_eq (withBase (Seg.fresh .acq) td ec fl pl) sfid (cal * 128 + low7) reserved words hpl h5
    (by omega) h8 h9
  have hcal : (cal * 128 + low7) / 128 = cal := by omega
  rw [hcal] at hty
  rw [← segBytesL_eq_spec]
  exact Seg_unpack_of_typed .acq td ec fl pl rest _ h1 (by omega) h2 h3 hty

example := ACQSegment_decode_layout 1 2 3 0x42 1 0x55 0xBEEF [1, 65535] [7] (by omega) (by omega) (by omega)
  (by simp) (by omega) (by omega) (by omega) (by omega) (by simp)

/-- bytes laid out as an RS-232 segment — block status(16) whose low three bits `n` count the sync
    bytes, `n` sync bytes, data — decode into `(block_status, sync_bytes[0:n], data)` -/
theorem RS232Segment_decode_layout (td ec fl hi13 : Nat) (sync : List Nat) (data rest : Bytes)
    (h1 : td < 4294967296) (h2 : ec < 256) (h3 : fl < 256) (h4 : 8 + (2 + sync.length + data.length) < 65536)
    (h5 : hi13 < 8192) (h6 : sync.length < 8) (h7 : ∀ b ∈ sync, b < 256) :
    let pl := Spec.RS232.encodeData hi13 sync data
    Seg.unpack (Seg.fresh .rs232) (Spec.NPDSegment.encode td ec fl pl ++ rest) =
      ({ Seg.fresh .rs232 with timedelta := td, segmentlen := pl.length + 8, errorcode := ec, flags := fl,
                               payload := pl, block_status := hi13 * 8 + sync.length, sync_bytes := sync,
                               data := data }, .ok rest) := by
  intro pl
  have hpl : pl = dataRS232 hi13 sync data := by
    simp [pl, Spec.RS232.encodeData, dataRS232, wordsC, Code.size, encInt, encInt_big]
  have hlen : pl.length = 2 + sync.length + data.length := by
    rw [hpl]; simp [dataRS232, wordsC_length, Code.size]; omega
  rw [← segBytesL_eq_spec]
  exact Seg_unpack_of_typed .rs232 td ec fl pl rest _ h1 (by omega) h2 h3
    (unpackRS232_eq (withBase (Seg.fresh .rs232) td ec fl pl) hi13 sync data hpl h5 h6 h7)

example := RS232Segment_decode_layout 1 2 3 0x1FFF [0xFE, 0xFF] [9, 8, 7] [] (by omega) (by omega) (by omega)
  (by simp) (by omega) (by simp) (by simp)

/-- the typed fields of an RS-232 segment OBJECT through pack → unpack (what `decodedSeg .rs232 g` holds):
    sync bytes and data come back; `block_status` comes back with its low three bits REPLACED by the number of
    sync bytes and reduced to 16 bits (`pack` does `(block_status & 0xFFF8) + len(sync_bytes)`) -/
theorem RS232Segment_roundtrip_fields (g : Seg) (rest : Bytes) (h : Seg_WF g) (hk : g.kind = .rs232) :
    ∃ b, (Seg.pack g).2 = .ok b ∧ (Seg.unpack (Seg.fresh .rs232) (b ++ rest)).2 = .ok rest ∧
      (Seg.unpack (Seg.fresh .rs232) (b ++ rest)).1.sync_bytes = g.sync_bytes ∧
      (Seg.unpack (Seg.fresh .rs232) (b ++ rest)).1.data = g.data ∧
      (Seg.unpack (Seg.fresh .rs232) (b ++ rest)).1.block_status = g.block_status % 65536 / 8 * 8 + g.sync_bytes.length ∧
      (g.block_status < 65536 → g.block_status % 8 = g.sync_bytes.length →
        (Seg.unpack (Seg.fresh .rs232) (b ++ rest)).1.block_status = g.block_status) := by
  refine ⟨segBytes g, by rw [Seg_pack_eq g h], ?_⟩
  rw [Seg_unpack_eq .rs232 g rest h (typedOK_rs232 g h hk), decodedSeg_rs232 g h hk]
  refine ⟨rfl, rfl, rfl, rfl, ?_⟩
  intro h1 h2
  show g.block_status % 65536 / 8 * 8 + g.sync_bytes.length = g.block_status
  omega
/-- example: an RS-232 object whose status word has all upper bits set and whose low three bits (7) are NOT
    the sync count (2) — well-formed; its status word comes back as 0xFFFA -/
example : Seg_WF { Seg.fresh .rs232 with block_status := 0xFFFF, sync_bytes := [1, 2], data := [9] } ∧
    ({ Seg.fresh .rs232 with block_status := 0xFFFF, sync_bytes := [1, 2], data := [9] } : Seg).kind = .rs232 ∧
    0xFFFF % 65536 / 8 * 8 + ([1, 2] : List Nat).length = 0xFFFA :=
  ⟨by simp [Seg_WF, Seg.fresh, effPayload], rfl, by decide⟩

/-- `NPD.unpack` builds the segment class `NPD_DT` gives for the data type, and `NPDSegment` for any other -/
theorem NPD_segment_class :
    kindOf 0x50 = .rs232 ∧ kindOf 0x38 = .a429 ∧ kindOf 0xA1 = .acq ∧ kindOf 0xD0 = .mil1553 ∧ kindOf 0x60 = .pcmpkt ∧
    ∀ dt, dt ∉ [0x50, 0x38, 0xA1, 0xD0, 0x60] → kindOf dt = .base := by
  refine ⟨rfl, rfl, rfl, rfl, rfl, ?_⟩
  intro dt h
  simp only [List.mem_cons, List.not_mem_nil, or_false, not_or] at h
  obtain ⟨a, b, c, d, e⟩ := h
  simp [kindOf, NPD_DT_RS232, NPD_DT_A429, NPD_DT_ACQ, NPD_DT_MIL1553, NPD_DT_PCMPKT, a, b, c, d, e]

/-- `NPD.pack` emits the NPD layout around the concatenated segment encodings -/
theorem NPD_pack_layout (s : State) (dt mc ts : Nat) (h : NPD_WF s dt mc ts) :
    (pack s).2 = .ok (Spec.NPD.encode s.version dt s.cfgcnt s.flags s.sequence s.datasrcid mc ts
      (s.segments.flatMap fun g => Spec.NPDSegment.encode g.timedelta g.errorcode g.flags (effPayload g))) := by
  rw [NPD_pack_eq s dt mc ts h]
  have hf : (s.segments.flatMap fun g => Spec.NPDSegment.encode g.timedelta g.errorcode g.flags (effPayload g)) =
      s.segments.flatMap segBytes := by
    apply Lemmas.flatMap_congr'
    intro g _
    simp only [segBytes, segBytesL_eq_spec]
  rw [hf]
  have h2 := h.2.1
  simp [npdBytes, npdHdr, Spec.NPD.encode, encInt, h2]

/-- computed field: `packetlen · 4` is the number of bytes emitted -/
theorem NPD_packetlen_law (s : State) (dt mc ts : Nat) (h : NPD_WF s dt mc ts) :
    ∃ b, (pack s).2 = .ok b ∧ (pack s).1.packetlen * 4 = b.length := by
  refine ⟨npdBytes s dt mc ts, by rw [NPD_pack_eq s dt mc ts h], ?_⟩
  rw [NPD_pack_eq s dt mc ts h, npdBytes_length]
  have := flatMap_segBytes_mod4 s.segments
  simp only [packedNPD]
  omega

/-- re-encoding a decoded segment gives the same bytes (for an RS-232 data type: when the segment that
    was packed was itself an RS-232 segment) -/
theorem decodedSeg_bytes (k : Kind) (g : Seg) (h : Seg_WF g) (hok : TypedOK k g)
    (hk : k ≠ .rs232 ∨ g.kind = .rs232) : Seg_WF (decodedSeg k g) ∧ segBytes (decodedSeg k g) = segBytes g := by
  obtain ⟨hsl, hpl, htd, hec, hfl, hkd⟩ := decodedSeg_base k g
  have hrs : (decodedSeg k g).kind = .rs232 → g.kind = .rs232 ∧ decodedSeg k g = decodedSeg .rs232 g := by
    intro hr
    have hkr : k = .rs232 := hkd.symm.trans hr
    subst hkr
    exact ⟨hk.resolve_left fun hne => hne rfl, rfl⟩
  have he : effPayload (decodedSeg k g) = effPayload g := by
    by_cases hr : (decodedSeg k g).kind = .rs232
    · obtain ⟨hgk, hd⟩ := hrs hr
      have : (g.block_status % 65536 / 8 * 8 + g.sync_bytes.length) % 65536 / 8 * 8 = g.block_status % 65536 / 8 * 8 := by
        have := (h.2.2.2.2.1 hgk).1
        omega
      rw [hd, decodedSeg_rs232 g h hgk]
      simp [effPayload, withBase, Seg.fresh, this, hgk]
    · rw [effPayload_of_ne _ hr, hpl]
  obtain ⟨h1, h2, h3, h4, h5, h6⟩ := h
  refine ⟨⟨htd ▸ h1, hec ▸ h2, hfl ▸ h3, he ▸ h4, fun hr => ?_, fun _ => by rw [hsl, hpl]; omega⟩, ?_⟩
  · obtain ⟨hgk, hd⟩ := hrs hr
    rw [hd, decodedSeg_rs232 g ⟨h1, h2, h3, h4, h5, h6⟩ hgk]
    exact h5 hgk
  · simp only [segBytes, he, htd, hec, hfl]

/-- NPD round trip: whatever the decoding object held, it ends up with the same header fields and, for
    every segment, the typed view the data type's segment class gives of it; re-encoding the decoded packet
    reproduces the bytes -/
theorem NPD_roundtrip (s t : State) (dt mc ts : Nat) (h : NPD_WF s dt mc ts)
    (hok : ∀ g ∈ s.segments, TypedOK (kindOf dt) g)
    (hk : kindOf dt ≠ .rs232 ∨ ∀ g ∈ s.segments, g.kind = .rs232) :
    ∃ b, (pack s).2 = .ok b ∧ unpack t b = (decodedNPD s dt, .ok ()) ∧ (pack (unpack t b).1).2 = .ok b := by
  refine ⟨npdBytes s dt mc ts, by rw [NPD_pack_eq s dt mc ts h], NPD_unpack_eq s t dt mc ts h hok, ?_⟩
  rw [NPD_unpack_eq s t dt mc ts h hok]
  have hsegs : ∀ g ∈ s.segments, Seg_WF (decodedSeg (kindOf dt) g) ∧ segBytes (decodedSeg (kindOf dt) g) = segBytes g := by
    intro g hg
    obtain ⟨_, _, _, _, _, _, _, _, _, _, _, _, h13, _⟩ := h
    exact decodedSeg_bytes (kindOf dt) g (h13 g hg) (hok g hg) (by
      rcases hk with hk | hk
      · exact Or.inl hk
      · exact Or.inr (hk g hg))
  have hfm : (s.segments.map (decodedSeg (kindOf dt))).flatMap segBytes = s.segments.flatMap segBytes := by
    rw [List.flatMap_map]
    exact Lemmas.flatMap_congr' _ _ _ (fun g hg => (hsegs g hg).2)
  have hwf : NPD_WF (decodedNPD s dt) dt mc ts := by
    obtain ⟨h1, h2, h3, h4, h5, h6, h7, h8, h9, h10, h11, h12, h13, h14⟩ := h
    refine ⟨h1, h2, h3, h4, h5, h6, h7, h8, h9, h10, h11, h12, ?_, ?_⟩
    · intro g hg
      simp only [decodedNPD, List.mem_map] at hg
      obtain ⟨y, hy, rfl⟩ := hg
      exact (hsegs y hy).1
    · simp only [decodedNPD, hfm]; exact h14
  rw [NPD_pack_eq _ dt mc ts hwf]
  simp only [npdBytes, npdHdr, decodedNPD, hfm]

example : NPD_WF { fresh with datatype := some 0xD0, mcastaddr := some 0xEB000001, timestamp := some 7, segments := [rawSeg 1 2 3 [0, 5, 1, 2, 9, 9]] } 0xD0 0xEB000001 7 := by
  refine NPD_WF_fresh _ _ _ _ (by omega) (by omega) (by omega) ?_ ?_
  · intro g hg; simp at hg; subst hg; exact rawSeg_WF 1 2 3 _ (by omega) (by omega) (by omega) (by simp)
  · simp [segBytes_length, effPayload, rawSeg, Seg.fresh]
/-- the two further hypotheses of `NPD_roundtrip` hold of the same packet (data type 0xD0 → 1553 class,
    the segment's data holds a complete 1553 header) -/
example : (∀ g ∈ [rawSeg 1 2 3 [0, 5, 1, 2, 9, 9]], TypedOK (kindOf 0xD0) g) ∧
    (kindOf 0xD0 ≠ .rs232 ∨ ∀ g ∈ [rawSeg 1 2 3 [0, 5, 1, 2, 9, 9]], g.kind = .rs232) := by
  refine ⟨?_, Or.inl (by decide)⟩
  intro g hg; simp at hg; subst hg; rfl

/-- `NPD_WF` fixes `hdrlen = 5` (the 20-byte header `pack` always emits, in 32-bit words): any other value
    is written into the low nibble of byte 0 and makes the code's own decoder slice the segments at the
    wrong offset — what `pack` emits is then rejected -/
example : (unpack fresh (match (pack { fresh with datatype := some 0x10, mcastaddr := some 0xEB000001, timestamp := some 7, hdrlen := 6, segments := [rawSeg 1 2 3 [0, 5, 1, 2, 9, 9]] }).2 with
    | .ok b => b | .error _ => [])).2.isOk = false := by decide

end Acra.Props.C01
