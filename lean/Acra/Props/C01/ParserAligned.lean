/-
  C01, parser-aligned blocks and packets: layout of `pack()` against Spec/FTI2.lean, the quad-bytes law of the block header, and
  pack-then-unpack for a block (any bytes following) and for a packet.  Model: Acra.Model.ParserAligned.
-/
import Acra.Lemmas.ParserAligned
import Acra.Lemmas.ListAux
import Acra.Spec.FTI2
namespace Acra.Props.C01
open Acra.Py Acra.Model.ParserAligned Acra.Gen.ParserAligned Acra.Lemmas.ParserAligned

/-- `ParserAlignedBlock.pack` emits the block layout: error(1) error code(6) quad-byte count(9),
    message count, bus id, elapsed time, payload -/
theorem ParserAlignedBlock_pack_layout (s : Block) (h : Block_WF s) :
    (Block.pack s).2 = .ok (Spec.ParserAlignedBlock.encode s.error s.errorcode s.messagecount s.busid
      s.elapsedtime s.payload) := by
  rw [Block_pack_eq s h]
  have : (if s.error = true then 32768 else 0) = (if s.error = true then 1 else 0) * 32768 := by
    split <;> rfl
  simp [blockBytes, blockHdr, eaq, Spec.ParserAlignedBlock.encode, encInt, this]

/-- computed field: `quadbytes = 2 + |payload| / 4`, and `4 · quadbytes` is the length of the bytes emitted -/
theorem ParserAlignedBlock_quadbytes_law (s : Block) (h : Block_WF s) :
    ∃ b, (Block.pack s).2 = .ok b ∧ (Block.pack s).1.quadbytes = 2 + s.payload.length / 4 ∧
      (Block.pack s).1.quadbytes * 4 = b.length := by
  refine ⟨blockBytes s, by rw [Block_pack_eq s h], by rw [Block_pack_eq s h]; rfl, ?_⟩
  rw [Block_pack_eq s h, blockBytes_length]
  have := h.2.2.2.2.1
  simp only [norm]
  omega

/-- unpack (into an object in any prior state, with any bytes following the block) returns the same
    field values and the block length; packing the decoded object reproduces the bytes -/
theorem ParserAlignedBlock_roundtrip (s t : Block) (rest : Bytes) (h : Block_WF s) :
    ∃ b, (Block.pack s).2 = .ok b ∧
      Block.unpack t (b ++ rest) = ({ s with quadbytes := 2 + s.payload.length / 4 }, .ok b.length) ∧
      (Block.pack (Block.unpack t (b ++ rest)).1).2 = .ok b := by
  refine ⟨blockBytes s, by rw [Block_pack_eq s h], ?_, ?_⟩
  · rw [Block_unpack_eq s t rest h, blockBytes_length]
    have := h.2.2.2.2.1
    simp only [norm]
    congr 2
    omega
  · rw [Block_unpack_eq s t rest h, Block_pack_eq _ (Block_WF_norm s h)]
    rfl

example : Block_WF { Block.fresh with error := true, errorcode := 63, payload := [1, 2, 3, 4] } :=
  wfBlock_witness

/-- a payload that is not a whole number of quad-bytes cannot be expressed: `pack` refuses it -/
example : (Block.pack { Block.fresh with payload := [1] }).2 = .error .generic := rfl

def Packet_WF (s : Packet) : Prop := ∀ b ∈ s.parserblocks, Block_WF b

/-- a packet is its blocks laid end to end -/
theorem ParserAlignedPacket_pack_layout (s : Packet) (h : Packet_WF s) :
    (Packet.pack s).2 = .ok (s.parserblocks.flatMap fun b =>
      Spec.ParserAlignedBlock.encode b.error b.errorcode b.messagecount b.busid b.elapsedtime b.payload) := by
  simp only [Packet_pack_closed, packBlocks_eq _ h]
  exact congrArg _ (Lemmas.flatMap_congr' _ _ _ fun b hb => Except.ok.inj
    ((congrArg Prod.snd (Block_pack_eq b (h b hb))).symm.trans (ParserAlignedBlock_pack_layout b (h b hb))))

/-- packet round trip: the same blocks in order (each with its computed count), the same bytes on re-encode;
    `numberofblocks` is the number of blocks decoded -/
theorem ParserAlignedPacket_roundtrip (s t : Packet) (h : Packet_WF s) :
    ∃ b, (Packet.pack s).2 = .ok b ∧
      Packet.unpack t b = ({ parserblocks := s.parserblocks.map norm, numberofblocks := s.parserblocks.length }, .ok ()) ∧
      (Packet.pack (Packet.unpack t b).1).2 = .ok b := by
  refine ⟨s.parserblocks.flatMap blockBytes, by simp only [Packet_pack_closed, packBlocks_eq _ h], ?_, ?_⟩
  · exact Packet_decodes.of_run ((packetRun_ok_iff ..).2 ⟨_, decBlock_all _ h, by rw [List.length_map]⟩)
  · rw [Packet_decodes.of_run ((packetRun_ok_iff ..).2 ⟨_, decBlock_all _ h, rfl⟩), Packet_pack_closed]
    rw [packBlocks_eq _ (by
      intro b hb
      simp only [List.mem_map] at hb
      obtain ⟨y, hy, rfl⟩ := hb
      exact Block_WF_norm y (h y hy))]
    simp [flatMap_blockBytes_norm]

example : Packet_WF { Packet.fresh with parserblocks := [{ Block.fresh with payload := [1, 2, 3, 4] }, Block.fresh] } :=
  wfBlocks_witness

end Acra.Props.C01
