import Acra.Gen.Src.SimpleEthernet
import Acra.Model.Net
import Acra.Lemmas.SrcTie
namespace Acra.Props.C02
open Acra Acra.Py Acra.Lemmas.SrcTie

/-! Source ties (C02): the 48-bit MAC address helpers, regenerated from the current Python source by
    `harness/translate.py` on every run (see `Props/C07/SrcTie.lean`). -/

/-- `unpack48` = the model, for every byte string (`struct.error` unless six bytes) -/
theorem src_unpack48 (x : Bytes) :
    Gen.Src.SimpleEthernet.unpack48 x = (Model.Net.unpack48 x).map Int.ofNat := by
  unfold Gen.Src.SimpleEthernet.unpack48 Model.Net.unpack48
  simp only [structUnpackI_eq, Gen.Net.unpack48_fmt0, structUnpack_flds]
  by_cases h : x.length = (⟨true, [.u16, .u32]⟩ : Fmt).size
  · rw [if_pos h]; rfl
  · rw [if_neg h]; rfl

theorem src_pack48_eq (x : Int) :
    Gen.Src.SimpleEthernet.pack48 x = structPackI ⟨true, [.u16, .u32]⟩ [shr x 32, band x 4294967295] := by
  unfold Gen.Src.SimpleEthernet.pack48
  generalize structPackI _ _ = r
  cases r <;> rfl

/-- `pack48` = the model, for every non-negative address (`struct.error` from 2^48 on: `pack48_refuses`, Props/C02/Net.lean) -/
theorem src_pack48 (x : Nat) :
    Gen.Src.SimpleEthernet.pack48 x = Model.Net.pack48 x := by
  rw [src_pack48_eq, structPackI_cast _ [x >>> 32, x &&& 4294967295] _ (by
    simp only [shr_natCast, band_natCast_lit, toNat_lit]; rfl)]
  rfl

/-- outside the model's domain: a negative address is refused by `struct.pack` (`x >> 32` is negative) -/
theorem src_pack48_negative (x : Int) (h : x < 0) :
    Gen.Src.SimpleEthernet.pack48 x = .error .struct := by
  rw [src_pack48_eq]
  exact structPackI_neg _ _ ⟨shr x 32, List.mem_cons_self .., by rw [shr_eq_div]; simp only [toNat_lit]; omega⟩

example : Gen.Src.SimpleEthernet.pack48 (-1) = .error .struct := src_pack48_negative (-1) (by decide)

end Acra.Props.C02
