import Acra.Gen.Src.Cls.UDP
import Acra.Gen.Src.Cls.ICMP
import Acra.Props.C07.SrcTie
import Acra.Model.Net
import Acra.Lemmas.SrcTieCls
namespace Acra.Props.C02
open Acra Acra.Py Acra.Lemmas.SrcTieCls

/-! Method source ties (C02): `UDP.pack` and `UDP.unpack` (regenerated from the Python source
    by `harness/translate_methods.py` on every run; state-passing over the object structure generated from `__init__`)
    equal the hand-written model `Acra.Model.Net.UDP`.  `toModel / ofModel / Dom`: `Acra/Lemmas/SrcTieCls.lean`. -/

theorem src_UDP_pack_of (s : Model.Net.UDP) :
    Gen.Src.Cls.UDP.pack (UDP.ofModel s) = (UDP.ofModel s.pack.1, s.pack.2) := by
  rw [UDP.src_pack_eq]
  unfold Model.Net.UDP.pack
  simp only [UDP.ofModel, Gen.Net.UDP_HEADER_SIZE, Gen.Net.UDP_HEADER_FORMAT]
  rw [structPackI_cast _ [s.srcport, s.dstport, (s.payload.length + 8) % 65536, 0] _ (by
    simp only [List.map, Int.ofNat_eq_natCast, Int.natCast_add, Int.natCast_emod, pymod_of_pos _ _ (by omega : (0:Int) ≤ 65536)]
    rfl)]
  cases structPack ⟨true, [.u16, .u16, .u16, .u16]⟩ [s.srcport, s.dstport, (s.payload.length + 8) % 65536, 0] <;> simp [Except.map]

/-- `UDP.pack`, for every object in the model's domain (int attributes `≥ 0`): the object it leaves (`len` recomputed,
    also when `struct.pack` refuses) and the bytes / error are the model's -/
theorem src_UDP_pack (o : Gen.Src.Cls.UDP.Obj) (h : UDP.Dom o) :
    (UDP.toModel (Gen.Src.Cls.UDP.pack o).1, (Gen.Src.Cls.UDP.pack o).2) = (UDP.toModel o).pack :=
  transfer Gen.Src.Cls.UDP.pack UDP.toModel_ofModel (UDP.ofModel_toModel o h) (src_UDP_pack_of _)

example : UDP.Dom { srcport := 4400, dstport := 5500, len := 0, payload := [5] } := by decide

/-- outside the domain: a negative port is refused by `struct.pack`, after `len` has been stored -/
theorem src_UDP_pack_negative (o : Gen.Src.Cls.UDP.Obj) (h : o.srcport < 0 ∨ o.dstport < 0) :
    Gen.Src.Cls.UDP.pack o = ({ o with len := (o.payload.length : Int) + 8 }, .error .struct) := by
  rw [UDP.src_pack_eq]
  rw [structPackI_neg _ _ (by rcases h with h | h <;> exact ⟨_, by simp, h⟩)]; rfl

example : Gen.Src.Cls.UDP.pack { srcport := -1, dstport := 0, len := 0, payload := [] }
    = ({ srcport := -1, dstport := 0, len := 8, payload := [] }, .error .struct) := by rfl

theorem src_UDP_unpack_of (s : Model.Net.UDP) (buf : Bytes) :
    Gen.Src.Cls.UDP.unpack (UDP.ofModel s) buf
      = (UDP.ofModel (s.unpack buf).1, (s.unpack buf).2.map (fun _ => true)) := by
  unfold Gen.Src.Cls.UDP.unpack Model.Net.UDP.unpack
  simp only [Gen.Src.Cls.UDP.UDP_HEADER_SIZE, Gen.Net.UDP_HEADER_SIZE, Gen.Net.UDP_HEADER_FORMAT, Py.len,
    structUnpackFromI_eq, toNat_lit, structUnpackFrom_flds, len_lt]
  by_cases hlen : buf.length < 8
  · simp [hlen, Except.map]
  · rw [if_neg hlen, if_neg hlen, if_pos (show 0 + (⟨true, [.u16, .u16, .u16, .u16]⟩ : Fmt).size ≤ buf.length by
      show 0 + 8 ≤ _; omega)]
    simp [Py.intAt, UDP.ofModel, Except.map, sliceI_from, flds]

/-- `UDP.unpack`, for every prior object in the model's domain and every buffer: same object afterwards (untouched on
    the rejecting paths), same error; an accepted buffer returns `True` -/
theorem src_UDP_unpack (o : Gen.Src.Cls.UDP.Obj) (h : UDP.Dom o) (buf : Bytes) :
    (UDP.toModel (Gen.Src.Cls.UDP.unpack o buf).1, (Gen.Src.Cls.UDP.unpack o buf).2)
      = (((UDP.toModel o).unpack buf).1, ((UDP.toModel o).unpack buf).2.map (fun _ => true)) :=
  transfer (Gen.Src.Cls.UDP.unpack · buf) UDP.toModel_ofModel (UDP.ofModel_toModel o h) (src_UDP_unpack_of _ buf)

/-! `ICMP.pack` (calls the module function `ip_calc_checksum`, itself regenerated by `harness/translate.py` and tied
    to the model by `C07.src_ip_calc_checksum`) -/

theorem src_ICMP_pack_of (s : Model.Net.ICMP) :
    Gen.Src.Cls.ICMP.pack (ICMP.ofModel s) = (ICMP.ofModel s.pack.1, s.pack.2) := by
  unfold Gen.Src.Cls.ICMP.pack Model.Net.ICMP.pack
  simp only [ICMP.ofModel, Gen.Net.ICMP_pack_fmt0, Gen.Net.ICMP_pack_fmt1, C07.src_ip_calc_checksum]
  rw [structPackI_cast _ [s.type, s.code, 0, s.request_id, s.request_sequence] _ (by simp)]
  cases structPack ⟨true, [.u8, .u8, .u16, .u16, .u16]⟩ [s.type, s.code, 0, s.request_id, s.request_sequence] with
  | error e => rfl
  | ok h =>
    dsimp only
    cases Model.Net.ipCalcChecksum (h ++ s.payload) with
    | error e => rfl
    | ok c =>
      simp only [Except.map]
      rw [structPackI_cast _ [c] _ (by simp)]
      cases structPack ⟨false, [.u16]⟩ [c] with
      | error e => rfl
      | ok cb =>
        simp [Py.sliceI, slice, Py.len]

/-- `ICMP.pack`, for every object in the model's domain (int attributes `≥ 0`): header, checksum over header and
    payload, checksum spliced in at bytes 2..4 — or the model's error; the object is never changed -/
theorem src_ICMP_pack (o : Gen.Src.Cls.ICMP.Obj) (h : ICMP.Dom o) :
    (ICMP.toModel (Gen.Src.Cls.ICMP.pack o).1, (Gen.Src.Cls.ICMP.pack o).2) = (ICMP.toModel o).pack :=
  transfer Gen.Src.Cls.ICMP.pack ICMP.toModel_ofModel (ICMP.ofModel_toModel o h) (src_ICMP_pack_of _)

example : ICMP.Dom { type := 8, code := 0, request_id := 1, request_sequence := 2, payload := [0] } := by decide

end Acra.Props.C02
