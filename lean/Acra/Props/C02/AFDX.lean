import Acra.Lemmas.AFDX
namespace Acra.Props.C02
open Acra.Py Acra.Model.AFDX Acra.Gen.AFDX Acra.Lemmas.AFDX Acra.Lemmas.Net

/-! `SimpleEthernet.AFDX` — the class "will unpack an AFDX packet" according to its docstring.  As the code stands:
    its constructor raises unconditionally, its decoder raises on every buffer, its encoder works (on an instance
    made behind the constructor's back whose seven attributes were assigned).  C02's statement does not name AFDX,
    so the missing decode is recorded as an observation (`notes/foreign.md`), not as a failure of C02. -/

/-- `AFDX(buf)` raises `Exception("No working")` for every argument: no object can be made through the constructor -/
theorem AFDX_init_raises (buf : Option Bytes) : AFDX.new buf = .error .generic := rfl

theorem AFDX_init_assigns_nothing (s : AFDX) (buf : Option Bytes) : AFDX.init s buf = (s, .error .generic) := rfl

/-- `AFDX.pack()` emits the ARINC 664 part 7 layout: destination 03 00 00 00 + virtual link, source 02 00 00 +
    network, equipment, interface·32, ethertype, payload, sequence number -/
theorem AFDX_pack_layout (s : AFDX) (ty net equip iface vlink : Nat) (payload : Bytes) (sq : Nat)
    (h : WF s ty net equip iface vlink payload sq) :
    AFDX.pack s = (s, .ok (Spec.AFDX.encode vlink net equip iface ty payload sq)) :=
  pack_eq s h

/-- `WF` holds of an object -/
example : WF (full 0x0800 1 2 3 0x1234 (List.replicate 42 0x22) 9) 0x0800 1 2 3 0x1234 (List.replicate 42 0x22) 9 := by
  constructor <;> first | rfl | decide

/-- the encoder refuses what the layout cannot carry: a payload under 42 bytes (ValueError) … -/
theorem AFDX_pack_refuses_short (s : AFDX) (p : Bytes) (hp : s.payload = some p) (h : p.length < AFDX_MIN_PAYLOAD_LEN) :
    AFDX.pack s = (s, .error .value) := by
  simp [AFDX.pack, hp, h]

example : (full 0x0800 1 2 3 0x1234 (List.replicate 41 0x22) 9).payload = some (List.replicate 41 0x22) ∧
    (List.replicate 41 (0x22 : UInt8)).length < AFDX_MIN_PAYLOAD_LEN := by decide

/-- … and an interface ID beyond 3 bits (`struct.error`: `interfaceID << 5` does not fit the byte) -/
theorem AFDX_pack_refuses_iface (ty net equip iface vlink : Nat) (payload : Bytes) (sq : Nat)
    (hp : AFDX_MIN_PAYLOAD_LEN ≤ payload.length) (h : 8 ≤ iface) :
    (AFDX.pack (full ty net equip iface vlink payload sq)).2 = .error .struct := by
  have hp' : ¬ payload.length < AFDX_MIN_PAYLOAD_LEN := by omega
  cases hh : structPack AFDX_pack_fmt0 [AFDX_DSTMAC_CONST, vlink, AFDX_SRCMAC_CONST >>> 8, 0, net, equip, iface <<< 5, ty] with
  | ok b =>
    exfalso
    have hf := (structPack_ok_iff _ _).1 ⟨b, hh⟩
    simp only [Fits, AFDX_pack_fmt0, Code.bound, Acra.Lemmas.Bits.shl, Nat.reducePow] at hf
    omega
  | error e =>
    have := structPack_error _ _ _ hh; subst this
    simp [AFDX.pack, full, hp', hh]

example : AFDX_MIN_PAYLOAD_LEN ≤ (List.replicate 42 (0 : UInt8)).length ∧ 8 ≤ 8 := by decide

/-
  FULL STATEMENT (fails of the code as it stands): for a well-formed object `a` and any object `t`,
      ∃ b, (AFDX.pack a).2 = .ok b ∧ AFDX.unpack t b = (a, .ok ())
  i.e. the frame decodes back to the seven field values.  What holds instead: the decoder recovers the virtual link,
  the ethertype and the payload (without the trailing sequence-number byte) and then raises TypeError at
  `struct.unpack("B", buf[-1])`; network, equipment and interface ID are never decoded (`unpacksrcmac` is commented
  out), the sequence number is never assigned.
-/
theorem AFDX_roundtrip_partial (s t : AFDX) (ty net equip iface vlink : Nat) (payload : Bytes) (sq : Nat)
    (h : WF s ty net equip iface vlink payload sq) :
    ∃ b, (AFDX.pack s).2 = .ok b ∧
      AFDX.unpack t b = ({ t with vlink := some vlink, type := some ty, payload := some payload }, .error .type) := by
  refine ⟨_, by rw [pack_eq s h], ?_⟩
  have hl := encode_length ty net equip iface vlink payload sq
  obtain ⟨f1, f2, f3⟩ := frame_fields ty net equip iface vlink payload sq h.hvlink h.hty
  rw [unpack_eq, if_neg (by omega), if_neg (by omega), f1, f2, f3]

end Acra.Props.C02
