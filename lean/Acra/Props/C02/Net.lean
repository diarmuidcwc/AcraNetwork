/-
  C02, SimpleEthernet: `pack48` / `unpack48`, and for Ethernet, IPv4, UDP and ARP the layout of `pack()` against Spec/Net.lean and
  pack-then-unpack; for IPv4 also the converse, decode-then-encode of a wire header (`IP_reencode`).  Model: Acra.Model.Net.
-/
import Acra.Lemmas.Net
import Acra.Lemmas.Pcap
import Acra.Spec.Net
namespace Acra.Props.C02
open Acra.Py Acra.Model.Net Acra.Gen.Net Acra.Lemmas.Net

theorem pack48_layout (x : Nat) (h : x < 2 ^ 48) : pack48 x = .ok (beBytes 6 x) :=
  (pack48_eq x).trans (if_pos h)

theorem unpack48_pack48 (x : Nat) (h : x < 2 ^ 48) : ∃ b, pack48 x = .ok b ∧ unpack48 b = .ok x :=
  ⟨_, (pack48_eq x).trans (if_pos h), by rw [unpack48_eq, if_pos (beBytes_length 6 x), beNat_beBytes_of_lt _ _ h]⟩

theorem pack48_unpack48 (b : Bytes) (h : b.length = 6) : ∃ x, unpack48 b = .ok x ∧ pack48 x = .ok b := by
  refine ⟨beNat b, (unpack48_eq b).trans (if_pos h), ?_⟩
  have hlt : beNat b < 2 ^ 48 := by have := beNat_lt b; rw [h] at this; simpa using this
  rw [pack48_eq, if_pos hlt]
  have := beBytes_beNat b
  rw [h] at this; rw [this]

theorem pack48_refuses (x : Nat) (h : 2 ^ 48 ≤ x) : pack48 x = .error .struct :=
  (pack48_eq x).trans (if_neg (Nat.not_lt.2 h))
theorem unpack48_refuses (b : Bytes) (h : b.length ≠ 6) : unpack48 b = .error .struct :=
  (unpack48_eq b).trans (if_neg h)

example : pack48 0x01005E000001 = .ok [0x01, 0x00, 0x5E, 0x00, 0x00, 0x01] ∧
    unpack48 [0x01, 0x00, 0x5E, 0x00, 0x00, 0x01] = .ok 0x01005E000001 := ⟨rfl, rfl⟩

/-- `Ethernet.pack(fcs)` emits dst, src, [0x8100, tag], type, payload, [FCS = little-endian CRC-32 of everything
    before it] — for VLAN on/off and FCS on/off -/
theorem Ethernet_pack_layout (s : Eth) (fcs : Bool) (h : Eth_WF s) :
    (Eth.pack s fcs).2 =
      .ok (Spec.Ethernet.encode s.dstmac s.srcmac (if s.vlan then some s.vlantag else none) s.type s.payload fcs) := by
  rw [Eth_pack_eq s fcs h, ethFrame_eq_spec]

example : Eth_WF { Eth.fresh with dstmac := 0x01005E000001, srcmac := 0x000C4D000A6C, vlan := true, vlantag := 5,
                                  payload := [1, 2, 3] } := by
  simp [Eth_WF, Eth.fresh, ETH_TYPE_IP, ETH_TYPE_VLAN]

/-- `t`: the decoding object in any prior state.  An untagged frame decodes with the tag sentinel 0xFFFF. -/
theorem Ethernet_roundtrip (s t : Eth) (fcs : Bool) (h : Eth_WF s) :
    ∃ b, (Eth.pack s fcs).2 = .ok b ∧
      Eth.unpack t b fcs = ({ s with vlantag := if s.vlan then s.vlantag else 0xFFFF }, .ok ()) ∧
      (Eth.pack (Eth.unpack t b fcs).1 fcs).2 = .ok b := by
  refine ⟨ethFrame s fcs, by rw [Eth_pack_eq s fcs h], Eth_unpack_frame s t fcs h, ?_⟩
  rw [Eth_unpack_frame s t fcs h]
  have hwf : Eth_WF (ethDecoded s) := by
    obtain ⟨h1, h2, h3, h4, h5⟩ := h
    refine ⟨h1, h2, h3, ?_, h5⟩
    intro hv; simp only [ethDecoded] at hv ⊢; simp [hv]; exact h4 hv
  rw [Eth_pack_eq _ fcs hwf]
  have e : ethFrame (ethDecoded s) fcs = ethFrame s fcs := by
    cases hv : s.vlan <;> simp [ethFrame, ethHdr, ethTypePart, ethFcs, ethDecoded, hv]
  rw [e]

/-- an untagged frame cannot carry ethertype 0x8100: the code's own decoder reads the payload as a tag -/
example : (Eth.unpack Eth.fresh
    (match (Eth.pack { Eth.fresh with type := 0x8100, payload := [0, 5, 8, 0, 9] } false).2 with
     | .ok b => b | .error _ => []) false).1.vlan = true := by decide

/-- `IP.pack` emits the RFC 791 option-less header — version/IHL 0x45, total length 20+|payload|, flags in the top
    three bits of byte 6, fragment offset / 8 in the remaining 13 bits, RFC 1071 header checksum — and the payload -/
theorem IP_pack_layout (s : IP) (src dst : Nat) (h : IP_WF s src dst) :
    (IP.pack s).2 = .ok (Spec.IPv4.encode s.dscp s.ident s.flags s.fragment_offset s.ttl s.protocol src dst s.payload) := by
  rw [IP_pack_eq s src dst h]

example : IP_WF { IP.fresh with srcip := some 0xC0A81C10, dstip := some 0xEB000001, flags := 2, fragment_offset := 1480,
                                payload := [1, 2, 3] } 0xC0A81C10 0xEB000001 := by
  simp [IP_WF, IP.fresh, IP_PROTOCOL_UDP, IP_DEFAULT_TTL]

/-- `pad`: link-layer padding after the datagram, which `IP.unpack` drops; `t`: the decoding object in any prior state -/
theorem IP_roundtrip (s t : IP) (src dst : Nat) (pad : Bytes) (h : IP_WF s src dst) :
    ∃ b, (IP.pack s).2 = .ok b ∧
      IP.unpack t (b ++ pad) = ({ s with len := 20 + s.payload.length, version := 4, ihl := 5 }, .ok ()) ∧
      (IP.pack (IP.unpack t (b ++ pad)).1).2 = .ok b := by
  have hu := fun c => IP_unpack_packed s t src dst c pad h
  refine ⟨_, by rw [IP_pack_eq s src dst h], ?_, ?_⟩
  · rw [Spec.IPv4.encode, List.append_assoc]; exact hu _
  · rw [Spec.IPv4.encode, List.append_assoc, hu,
      IP_pack_eq _ src dst (show IP_WF { s with len := 20 + s.payload.length, version := 4, ihl := 5 } src dst from h)]
    rfl

/-- a 20-byte option-less header from the wire, decoded together with its payload and any trailing padding and packed
    again, gives the same 20 bytes and the payload: a statement over all headers, so for all 8 flag values and all 8192
    fragment offsets -/
theorem IP_reencode (t : IP) (h p pad : Bytes) (hlen : h.length = 20) (h0 : beNat (slice h 0 1) = 0x45)
    (hck : slice h 10 12 = beBytes 2 (Spec.rfc1071 (List.take 10 h ++ ([0, 0] ++ List.drop 12 h))))
    (htot : beNat (slice h 2 4) = 20 + p.length) :
    (IP.pack (IP.unpack t (h ++ (p ++ pad))).1).2 = .ok (h ++ p) := by
  have d12 : List.drop 12 h = slice h 12 20 := by rw [slice, List.take_of_length_le (Nat.le_of_eq hlen)]
  have hc : beBytes 2 (Spec.rfc1071 (slice h 0 10 ++ ([0, 0] ++ slice h 12 20))) = slice h 10 12 := by
    rw [← take_eq_slice0, ← d12]; exact hck.symm
  rw [IP_unpack_wire t h p pad hlen htot, IP_pack_eq _ _ _ (ipFromWire_WF h p htot)]
  show Except.ok (Spec.IPv4.encode _ _ _ _ _ _ _ _ (ipFromWire h p).payload) = _
  rw [encode_parts, ipParts_fromWire h p _ hlen h0 htot,
    ipParts_fromWire h p _ hlen h0 htot, show beBytes 2 0 = [0, 0] by decide, hc,
    slice_cat h 10 12 20 (by decide) (by decide), slice_cat h 0 10 20 (by decide) (by decide),
    slice_all h 20 (Nat.le_of_eq hlen)]
  rfl

/-- the decode step of `IP_reencode`: flags are the top three bits of byte 6, the fragment offset the remaining 13 bits
    × 8, the payload comes without the padding -/
theorem IP_reencode_decoded (t : IP) (h p pad : Bytes) (hlen : h.length = 20)
    (htot : beNat (slice h 2 4) = 20 + p.length) :
    (IP.unpack t (h ++ (p ++ pad))).2 = .ok () ∧
    (IP.unpack t (h ++ (p ++ pad))).1.payload = p ∧
    (IP.unpack t (h ++ (p ++ pad))).1.flags = beNat (slice h 6 7) / 32 ∧
    (IP.unpack t (h ++ (p ++ pad))).1.fragment_offset = (beNat (slice h 6 7) % 32 * 256 + beNat (slice h 7 8)) * 8 ∧
    (IP.unpack t (h ++ (p ++ pad))).1.len = 20 + p.length := by
  rw [IP_unpack_wire t h p pad hlen htot]
  exact ⟨rfl, rfl, rfl, rfl, htot⟩

/-- the hypotheses of `IP_reencode` / `IP_reencode_decoded` on a wire header with flags 5, fragment offset 8, a 3-byte
    payload and 2 bytes of link padding -/
example :
    let h : Bytes := [69, 0, 0, 23, 0, 1, 160, 1, 64, 17, 19, 26, 192, 168, 28, 16, 235, 0, 0, 1]
    let p : Bytes := [1, 2, 3]
    h.length = 20 ∧ beNat (slice h 0 1) = 0x45 ∧
    slice h 10 12 = beBytes 2 (Spec.rfc1071 (List.take 10 h ++ ([0, 0] ++ List.drop 12 h))) ∧
    beNat (slice h 2 4) = 20 + p.length ∧
    (IP.unpack IP.fresh (h ++ (p ++ [0, 0]))).1.flags = 5 ∧
    (IP.unpack IP.fresh (h ++ (p ++ [0, 0]))).1.fragment_offset = 8 := by decide

theorem UDP_pack_layout (s : UDP) (h : UDP_WF s) :
    (UDP.pack s).2 = .ok (Spec.UDP.encode s.srcport s.dstport s.payload) := by
  rw [UDP_pack_eq s h]

theorem UDP_roundtrip (s t : UDP) (h : UDP_WF s) :
    ∃ b, (UDP.pack s).2 = .ok b ∧ UDP.unpack t b = ({ s with len := s.payload.length + 8 }, .ok ()) ∧
      (UDP.pack (UDP.unpack t b).1).2 = .ok b := by
  refine ⟨_, by rw [UDP_pack_eq s h], UDP_unpack_packed s t h, ?_⟩
  rw [UDP_unpack_packed s t h, UDP_pack_eq _ (show UDP_WF { s with len := s.payload.length + 8 } from h)]

example : UDP_WF { UDP.fresh with srcport := 4400, dstport := 5500, payload := [5] } := by simp [UDP_WF]

/-- 28 bytes: hardware type, protocol type, the two address lengths, operation, sender MAC / IP, target MAC / IP -/
theorem ARP_pack_layout (s : ARP) (sip dip : Nat) (h : ARP_WF s sip dip) :
    (ARP.pack s).2 = .ok (Spec.ARP.encode s.hardware_type s.protocol_type s.hardware_length s.protocol_length
      s.operation s.srcmac sip s.dstmac dip) ∧
    (Spec.ARP.encode s.hardware_type s.protocol_type s.hardware_length s.protocol_length
      s.operation s.srcmac sip s.dstmac dip).length = 28 := by
  rw [ARP_pack_eq s sip dip h]
  exact ⟨rfl, by simp [Spec.ARP.encode]⟩

theorem ARP_roundtrip (s t : ARP) (sip dip : Nat) (h : ARP_WF s sip dip) :
    ∃ b, (ARP.pack s).2 = .ok b ∧ ARP.unpack t b = (s, .ok ()) ∧ (ARP.pack (ARP.unpack t b).1).2 = .ok b := by
  refine ⟨_, by rw [ARP_pack_eq s sip dip h], ARP_unpack_packed s t sip dip h, ?_⟩
  rw [ARP_unpack_packed s t sip dip h, ARP_pack_eq s sip dip h]

example : ARP_WF { ARP.fresh with dstip := some 0xC0A81C02 } 0 0xC0A81C02 := by
  simp [ARP_WF, ARP.fresh, ARP_DEFAULT_HARDWARE_TYPE, ETH_TYPE_IP, ETH_ADDR_LENGTH, IP_ADDR_LENGTH, ARP_OPER_REQUEST]

open Acra.Model.Pcap Acra.Lemmas.Pcap in
theorem PcapRecord_pack_layout (r : Rec) (h : Rec_fits r) :
    (Rec.pack r).2 = .ok (Spec.Pcap.record r.sec r.usec r.incl_len r.orig_len r.payload) := by
  rw [Rec_pack_eq r h, recBytes_eq_spec]

open Acra.Model.Pcap Acra.Lemmas.Pcap in
/-- the reader's step (header through `unpack`, payload through the setter) returns the record that was packed -/
theorem PcapRecord_roundtrip (r : Rec) (rest : Bytes) (h : Rec_WF r) :
    ∃ b, (Rec.pack r).2 = .ok b ∧ nextRec (b ++ rest) = some (r, b.length) := by
  refine ⟨recBytes r, by rw [Rec_pack_eq r h.fits], ?_⟩
  rw [nextRec_recBytes r rest h]; simp

open Acra.Model.Pcap Acra.Lemmas.Pcap in
/-- witnesses: a record whose length fields are in step with a non-empty payload (`Rec_WF`, hence `Rec_fits`);
    `Rec_fits` alone also allows a record whose `orig_len` exceeds the captured length (a snapped packet) -/
example : Rec_WF { Rec.fresh with sec := 0x5F000000, usec := 999999, incl_len := 3, orig_len := 3, payload := [1, 2, 3] } ∧
    Rec_fits { Rec.fresh with sec := 1, usec := 2, incl_len := 3, orig_len := 1500, payload := [1, 2, 3] } := by
  simp [Rec_WF, Rec_fits]

end Acra.Props.C02
