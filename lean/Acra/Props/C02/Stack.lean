/-
  C02, the layers together: bytes put into UDP in IPv4 in Ethernet in a pcap record come back unchanged through the four decoders.
-/
import Acra.Lemmas.Net
import Acra.Lemmas.Pcap
namespace Acra.Props.C02
open Acra.Py Acra.Model.Net Acra.Gen.Net Acra.Lemmas.Net Acra.Model.Pcap Acra.Lemmas.Pcap

/-- **Stack transparency.**  Whatever bytes `x` (up to the UDP maximum 65507) are put in the innermost layer of a
    pcap-record / Ethernet / IPv4 / UDP stack — with up to 46 bytes of link-layer padding after the IP datagram,
    VLAN tag on or off (`e.vlan`), FCS on or off (`fcs`), any header field values that fit their widths, decoder
    objects in any prior state — are recovered unchanged by decoding the layers in turn: the pcap reader's step on the
    file bytes, `Ethernet.unpack`, `IP.unpack` (which drops the padding), `UDP.unpack`. -/
theorem Stack_transparent (x pad rest : Bytes) (fcs : Bool) (u tu : UDP) (i ti : IP) (e te : Eth) (r : Rec)
    (src dst : Nat) (hx : x.length ≤ 65507) (hpad : pad.length ≤ 46)
    (hu : u.srcport < 65536 ∧ u.dstport < 65536)
    (hi : IP_WF { i with payload := [] } src dst) (he : Eth_WF e) (hr : r.sec < 2 ^ 32 ∧ r.usec < 2 ^ 32) :
    ∃ ub ib eb rb,
      (UDP.pack { u with payload := x }).2 = .ok ub ∧
      (IP.pack { i with payload := ub }).2 = .ok ib ∧
      (Eth.pack { e with payload := ib ++ pad } fcs).2 = .ok eb ∧
      (Rec.pack (r.setPayload eb)).2 = .ok rb ∧
      ∃ r', nextRec (rb ++ rest) = some (r', rb.length) ∧
        (Eth.unpack te r'.payload fcs).2 = .ok () ∧
        (IP.unpack ti (Eth.unpack te r'.payload fcs).1.payload).2 = .ok () ∧
        (UDP.unpack tu (IP.unpack ti (Eth.unpack te r'.payload fcs).1.payload).1.payload).2 = .ok () ∧
        (UDP.unpack tu (IP.unpack ti (Eth.unpack te r'.payload fcs).1.payload).1.payload).1.payload = x := by
  have hwu : UDP_WF { u with payload := x } := ⟨hu.1, hu.2, by simp; omega⟩
  generalize hub : Spec.UDP.encode u.srcport u.dstport x = ub
  have hul : ub.length = 8 + x.length := by rw [← hub]; simp [Spec.UDP.encode]; omega
  have hwi : IP_WF { i with payload := ub } src dst := by
    obtain ⟨a1, a2, a3, a4, a5, a6, a7, a8, a9, a10, a11, _⟩ := hi
    exact ⟨a1, a2, a3, a4, a5, a6, a7, a8, a9, a10, a11, by simp only [hul]; omega⟩
  -- the IP header as a variable: only its length matters to the outer layers
  generalize hib : Spec.IPv4.header i.dscp (20 + ub.length) i.ident i.flags (i.fragment_offset / 8) i.ttl i.protocol
      (Spec.rfc1071 (Spec.IPv4.header i.dscp (20 + ub.length) i.ident i.flags (i.fragment_offset / 8) i.ttl i.protocol 0 src dst))
      src dst = hdr
  have hhl : hdr.length = 20 := by rw [← hib]; simp [Spec.IPv4.header]
  have hwe : Eth_WF { e with payload := (hdr ++ ub) ++ pad } := he
  have hel := ethFrame_length { e with payload := (hdr ++ ub) ++ pad } fcs
  have hwr : Rec_WF (r.setPayload (ethFrame { e with payload := (hdr ++ ub) ++ pad } fcs)) := by
    refine ⟨hr.1, hr.2, rfl, rfl, ?_⟩
    simp only [Rec.setPayload, hel, List.length_append, hhl, hul]
    split <;> split <;> omega
  refine ⟨_, _, _, _, by rw [UDP_pack_eq _ hwu, hub], by rw [IP_pack_eq _ src dst hwi, Spec.IPv4.encode, hib],
    by rw [Eth_pack_eq _ fcs hwe], by rw [Rec_pack_eq _ hwr.fits],
    r.setPayload (ethFrame { e with payload := (hdr ++ ub) ++ pad } fcs), ?_, ?_⟩
  · rw [nextRec_recBytes _ rest hwr]; simp
  · simp only [Rec.setPayload]
    rw [Eth_unpack_frame _ te fcs hwe]
    simp only [ethDecoded, List.append_assoc]
    rw [← hib, IP_unpack_packed { i with payload := ub } ti src dst _ pad hwi]
    simp only
    rw [← hub, UDP_unpack_packed _ tu hwu]
    simp

/-- all hypotheses of `Stack_transparent` hold together of a non-trivial stack: a 5-byte innermost payload,
    3 bytes of link padding, a VLAN-tagged frame, non-default addresses, ports and time stamp -/
example :
    let x : Bytes := [0xDE, 0xAD, 0xBE, 0xEF, 0x00]
    let pad : Bytes := [0, 0, 0]
    let u : UDP := { UDP.fresh with srcport := 4400, dstport := 5500 }
    let i : IP := { IP.fresh with srcip := some 0xC0A81C10, dstip := some 0xEB000001, flags := 2, ident := 7 }
    let e : Eth := { Eth.fresh with dstmac := 0x01005E000001, srcmac := 0x000C4D000A6C, vlan := true, vlantag := 5 }
    let r : Rec := { Rec.fresh with sec := 0x5F000000, usec := 999999 }
    x.length ≤ 65507 ∧ pad.length ≤ 46 ∧ (u.srcport < 65536 ∧ u.dstport < 65536) ∧
    IP_WF { i with payload := [] } 0xC0A81C10 0xEB000001 ∧ Eth_WF e ∧ (r.sec < 2 ^ 32 ∧ r.usec < 2 ^ 32) := by
  simp [IP_WF, Eth_WF, IP.fresh, Eth.fresh, IP_PROTOCOL_UDP, IP_DEFAULT_TTL, ETH_TYPE_IP, ETH_TYPE_VLAN]

/-- the bound 65507 is the largest the formats allow: one more byte and the total length 20 + 8 + 65508 = 65536 does
    not fit 16 bits — `IP.pack` still succeeds (it writes `len % 65536`, here 0) but `IP_WF` fails for that payload
    length, and the decoder would cut the payload at the length the header declares -/
example (i : IP) (src dst : Nat) (ub : Bytes) (h : ub.length = 8 + 65508) : ¬ IP_WF { i with payload := ub } src dst := by
  intro hw; have := hw.2.2.2.2.2.2.2.2.2.2.2; simp only [h] at this; omega

end Acra.Props.C02
