/-
  C16, `combine_ip_fragments`: the result does not depend on the arrival order (distinct offsets), fragments cut from a payload
  reassemble to it with the first fragment's header, and lists with a foreign element or two identifications are refused.
  Model: Acra.Model.Net (`combine`, a stable insertion sort by offset); sort lemmas: Lemmas/Reassembly.
-/
import Acra.Lemmas.Reassembly
namespace Acra.Props.C16
open Acra.Py Acra.Model.Net Acra.Lemmas.Reassembly

theorem combine_ok (l : List IP) (h : SameId l) : combine (l.map .ip) = .ok (combineSorted (sortFrags l)) := by
  simp [combine, checkItems_ok_of_sameId l h]

/-- **independence of the arrival order** (`List.Perm`, every n): two arrival orders of the same fragments, with
    pairwise distinct fragment offsets, reassemble to the same packet — or are both refused -/
theorem combine_perm (l₁ l₂ : List IP) (hp : l₁.Perm l₂) (hd : Distinct l₁) :
    combine (l₁.map .ip) = combine (l₂.map .ip) := by
  by_cases hs : SameId l₁
  · rw [combine_ok l₁ hs, combine_ok l₂ (SameId_perm hp hs), sortFrags_perm hp hd]
  · have hs2 : ¬ SameId l₂ := fun h => hs (SameId_perm hp.symm h)
    have refuse : ∀ l : List IP, ¬ SameId l → combine (l.map .ip) = .error .generic := by
      intro l hl
      apply combine_refuses
      rintro ⟨l', he, hs'⟩
      rw [List.map_inj_right (fun _ _ h => Item.ip.inj h)] at he
      exact hl (he ▸ hs')
    rw [refuse l₁ hs, refuse l₂ hs2]

/-- the general form behind `combine_cut` -/
theorem combine_sorted_perm (s l : List IP) (hs : s.Pairwise fun a b => a.fragment_offset < b.fragment_offset)
    (hid : SameId s) (hperm : l.Perm s) : combine (l.map .ip) = .ok (combineSorted s) := by
  rw [combine_ok l (SameId_perm hperm.symm hid), sortFrags_unique l s hperm (hs.imp Nat.le_of_lt) (hs.imp Nat.ne_of_lt)]

/-- offsets counted in units of `u` bytes: `combine_cut` is `u = 1`, `combine_cut8` is `u = 8` -/
theorem combine_cutU (u : Nat) (h0 : IP) (p0 : Bytes) (rest : List (IP × Bytes)) (l : List IP)
    (hu : ∀ hp ∈ ((h0, p0) :: rest).dropLast, 0 < hp.2.length ∧ hp.2.length % u = 0)
    (hid : SameId (mkFragsU u ((h0, p0) :: rest) 0))
    (hperm : l.Perm (mkFragsU u ((h0, p0) :: rest) 0)) :
    ∃ c, combine (l.map .ip) = .ok c ∧
      c.payload = p0 ++ (rest.map (·.2)).flatten ∧
      c.srcip = h0.srcip ∧ c.dstip = h0.dstip ∧ c.protocol = h0.protocol ∧ c.version = h0.version ∧
      c.ihl = h0.ihl ∧ c.dscp = h0.dscp ∧ c.ident = h0.ident ∧ c.ttl = h0.ttl ∧
      c.flags = 0 ∧ c.fragment_offset = 0 := by
  refine ⟨_, combine_sorted_perm _ l (mkFragsU_sorted u _ 0 hu) hid hperm, ?_⟩
  have hp := mkFragsU_payload u ((h0, p0) :: rest) 0
  simp only [combineSorted, hp]
  simp [mkFragsU]

/-- **cut and reassemble**: the fragments carrying the pieces of a payload one after the other (every piece but the
    last non-empty — e.g. cut at positive multiples of 8 —, every fragment with its own header fields but one
    identification), supplied in ANY order, reassemble to the concatenation of the pieces, with the FIRST fragment's
    source, destination, protocol, version, IHL, DSCP, identification and TTL, and cleared flags and offset -/
theorem combine_cut (h0 : IP) (p0 : Bytes) (rest : List (IP × Bytes)) (l : List IP)
    (hne : ∀ hp ∈ ((h0, p0) :: rest).dropLast, hp.2 ≠ [])
    (hid : SameId (mkFrags ((h0, p0) :: rest) 0))
    (hperm : l.Perm (mkFrags ((h0, p0) :: rest) 0)) :
    ∃ c, combine (l.map .ip) = .ok c ∧
      c.payload = p0 ++ (rest.map (·.2)).flatten ∧
      c.srcip = h0.srcip ∧ c.dstip = h0.dstip ∧ c.protocol = h0.protocol ∧ c.version = h0.version ∧
      c.ihl = h0.ihl ∧ c.dscp = h0.dscp ∧ c.ident = h0.ident ∧ c.ttl = h0.ttl ∧
      c.flags = 0 ∧ c.fragment_offset = 0 := by
  rw [mkFrags_eq] at hid hperm
  exact combine_cutU 1 h0 p0 rest l (fun hp hm => ⟨List.length_pos_iff.2 (hne hp hm), Nat.mod_one _⟩) hid hperm

/-- **refusal**: a non-IP element anywhere in the list -/
theorem refuses_foreign (items : List Item) (h : Item.other ∈ items) : combine items = .error .generic := by
  apply combine_refuses
  rintro ⟨l, rfl, _⟩
  simp at h

/-- **refusal**: two elements with differing identification, wherever they are -/
theorem refuses_ids (items : List Item) (p q : IP) (hp : Item.ip p ∈ items) (hq : Item.ip q ∈ items)
    (hne : p.ident ≠ q.ident) : combine items = .error .generic := by
  apply combine_refuses
  rintro ⟨l, rfl, hs⟩
  simp only [List.mem_map, Item.ip.injEq, exists_eq_right] at hp hq
  exact hne (hs p hp q hq)

example : Distinct (mkFrags [(IP.fresh, [1, 2, 3, 4, 5, 6, 7, 8]), ({ IP.fresh with ttl := 3 }, [9])] 0) ∧
    SameId (mkFrags [(IP.fresh, [1, 2, 3, 4, 5, 6, 7, 8]), ({ IP.fresh with ttl := 3 }, [9])] 0) := by
  constructor
  · simp [Distinct, mkFrags]
  · intro a ha b hb
    simp [mkFrags] at ha hb
    rcases ha with rfl | rfl <;> rcases hb with rfl | rfl <;> rfl

/-- **cut at 8-byte boundaries, offsets in 8-byte units**, the number the header field carries.  These objects are built
    by hand: `IP.unpack` leaves BYTE offsets, so fragments that come out of the decoder are the case `combine_cut` with
    pieces of multiples of 8. -/
theorem combine_cut8 (h0 : IP) (p0 : Bytes) (rest : List (IP × Bytes)) (l : List IP)
    (h8 : ∀ hp ∈ ((h0, p0) :: rest).dropLast, 0 < hp.2.length ∧ hp.2.length % 8 = 0)
    (hid : SameId (mkFrags8 ((h0, p0) :: rest) 0))
    (hperm : l.Perm (mkFrags8 ((h0, p0) :: rest) 0)) :
    ∃ c, combine (l.map .ip) = .ok c ∧
      c.payload = p0 ++ (rest.map (·.2)).flatten ∧
      c.srcip = h0.srcip ∧ c.dstip = h0.dstip ∧ c.protocol = h0.protocol ∧ c.version = h0.version ∧
      c.ihl = h0.ihl ∧ c.dscp = h0.dscp ∧ c.ident = h0.ident ∧ c.ttl = h0.ttl ∧
      c.flags = 0 ∧ c.fragment_offset = 0 := by
  rw [mkFrags8_eq] at hid hperm
  exact combine_cutU 8 h0 p0 rest l h8 hid hperm

/-- non-vacuity: a 19-byte payload cut 8 + 8 + 3, the three fragments (own TTLs, one identification) supplied in the
    order 3rd, 1st, 2nd; their wire offsets are 0, 1, 2 -/
example :
    let parts : List (IP × Bytes) := [({ IP.fresh with ident := 0 }, [1, 2, 3, 4, 5, 6, 7, 8]),
      ({ IP.fresh with ident := 0, ttl := 3 }, [9, 10, 11, 12, 13, 14, 15, 16]), ({ IP.fresh with ident := 0, ttl := 4 }, [17, 18, 19])]
    (∀ hp ∈ parts.dropLast, 0 < hp.2.length ∧ hp.2.length % 8 = 0) ∧ SameId (mkFrags8 parts 0) ∧
    (mkFrags8 parts 0).map (·.fragment_offset) = [0, 1, 2] ∧
    ((mkFrags8 parts 0).rotateRight 1).Perm (mkFrags8 parts 0) := by
  refine ⟨by decide, ?_, by decide, ?_⟩
  · intro a ha b hb
    simp [mkFrags8] at ha hb
    rcases ha with rfl | rfl | rfl <;> rcases hb with rfl | rfl | rfl <;> rfl
  · simp only [List.rotateRight]
    exact (List.perm_append_comm)

/-- the hypothesis `Distinct` of `combine_perm` cannot be dropped: two fragments with the SAME offset and different
    payloads reassemble differently in the two orders (the sort is stable) -/
example :
    let a : IP := { IP.fresh with payload := [1] }
    let b : IP := { IP.fresh with payload := [2] }
    [a, b].Perm [b, a] ∧
    (match combine ([a, b].map .ip), combine ([b, a].map .ip) with
     | .ok x, .ok y => x.payload != y.payload
     | _, _ => false) = true :=
  ⟨List.Perm.swap _ _ _, by decide⟩

/-- non-vacuity of `combine_cut` (byte offsets): the pieces, the identification and a non-trivial arrival order -/
example :
    let parts : List (IP × Bytes) := [(IP.fresh, [1, 2, 3, 4, 5, 6, 7, 8]), ({ IP.fresh with ttl := 3 }, [9])]
    (∀ hp ∈ parts.dropLast, hp.2 ≠ []) ∧ SameId (mkFrags parts 0) ∧ ((mkFrags parts 0).reverse).Perm (mkFrags parts 0) := by
  refine ⟨by decide, ?_, List.reverse_perm _⟩
  intro a ha b hb
  simp [mkFrags] at ha hb
  rcases ha with rfl | rfl <;> rcases hb with rfl | rfl <;> rfl

/-- non-vacuity of the refusal statements: a foreign element after a fragment; identification 0 against 1 -/
example : Item.other ∈ [Item.ip IP.fresh, Item.other] ∧
    Item.ip { IP.fresh with ident := 0 } ∈ [Item.ip { IP.fresh with ident := 0 }, Item.ip { IP.fresh with ident := 1 }] ∧
    Item.ip { IP.fresh with ident := 1 } ∈ [Item.ip { IP.fresh with ident := 0 }, Item.ip { IP.fresh with ident := 1 }] ∧
    ({ IP.fresh with ident := 0 } : IP).ident ≠ ({ IP.fresh with ident := 1 } : IP).ident := by decide

end Acra.Props.C16
