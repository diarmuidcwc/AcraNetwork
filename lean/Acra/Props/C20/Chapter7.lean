/-
  C20 — Chapter 7 header words survive up to three bit errors each.
  `corruptPTDP b e1 e2` XORs the 24-bit patterns `e1`, `e2` onto the bytes of the two header words of
  a packed PTDP (`xorBytes_be3`: XOR on the three big-endian bytes is XOR on the 24-bit word);
  `corruptPTFR b e` does the same for the protected word (bytes 1..3) of a packed PTFR.  The
  unprotected PTFR byte 0 is outside the statement.  Quantifiers: every well-formed header value,
  every pattern of weight ≤ 3 in each word independently, any bytes following, any prior object state.
-/
import Acra.Lemmas.Chapter7
namespace Acra.Props.C20
open Acra.Py Acra.Model.Chapter7 Acra.Lemmas.Chapter7 Acra.Lemmas.Golay

/-- PTDP: the decoder returns the same length / fragment / content / payload split as for the clean
    header — and these are the encoder's fields -/
theorem PTDP_header_robust (s t : PTDP.State) (h : PTDP_WF s) (e1 e2 : Nat) (he1 : e1 < 2 ^ 24)
    (he2 : e2 < 2 ^ 24) (hw1 : wt e1 ≤ 3) (hw2 : wt e2 ≤ 3) (rest : Bytes) :
    ∃ b, (PTDP.pack s).2 = .ok b ∧
      PTDP.unpack t (corruptPTDP b e1 e2 ++ rest) = PTDP.unpack t (b ++ rest) ∧
      PTDP.unpack t (b ++ rest) =
        ({ s with length := s.payload.length, low_latency := false }, .ok rest) := by
  refine ⟨_, congrArg Prod.snd (ptdp_pack_eq s h), ?_, ptdp_unpack_clean s t h rest⟩
  rw [ptdp_unpack_clean s t h rest, encB, corruptPTDP_eq, List.append_assoc, ptdp_unpack_noisy s t h e1 e2 he1 he2 hw1 hw2 rest]

/-- non-vacuity: all hypotheses together — a header with the largest fragment code and a three-byte payload, a weight-3
    pattern on the first word (bits 23, 8, 0: the top data bit, a check bit, the overall parity bit) and a weight-2 pattern
    on the second -/
example : PTDP_WF { PTDP.fresh with payload := [1, 2, 3], fragment := 3, content := 4 } ∧
    (0x800101 : Nat) < 2 ^ 24 ∧ (0x001800 : Nat) < 2 ^ 24 ∧ wt 0x800101 ≤ 3 ∧ wt 0x001800 ≤ 3 := by
  exact ⟨⟨by decide, by decide, by decide⟩, by decide, by decide, by decide, by decide⟩

/-- the largest length the format allows (2048) is inside the hypotheses -/
example : PTDP_WF { PTDP.fresh with payload := List.replicate 2048 0xAA, fragment := 0, content := 15 } :=
  ⟨by decide, by decide, by simp only [List.length_replicate]; omega⟩

/-- PTFR: version, stream id, low-latency flag, offset and payload are those of the clean frame -/
theorem PTFR_header_robust (s t : PTFR.State) (h : PTFR_WF s) (e : Nat) (he : e < 2 ^ 24) (hw : wt e ≤ 3)
    (hL : s.payload.length ≤ t.length) :
    ∃ b, (PTFR.pack s).2 = .ok b ∧
      PTFR.unpack t (corruptPTFR b e) = PTFR.unpack t b ∧
      PTFR.unpack t b = ({ s with length := t.length }, .ok ()) := by
  refine ⟨_, congrArg Prod.snd (ptfr_pack_eq s h), ?_, ptfr_unpack_clean s t h hL⟩
  rw [ptfr_unpack_clean s t h hL, wire, corruptPTFR_eq, ptfr_unpack_noisy s t h.1 h.2.1 h.2.2.1 e he hw hL]

/-- non-vacuity: all hypotheses together — LLP flag set, the largest offset, a weight-3 pattern, and a decoder whose frame
    length is the frame's -/
example :
    let s : PTFR.State := { PTFR.fresh with streamid := 1, llp := true, ptdp_offset := 0x7FF, length := 2, payload := [9, 9] }
    let t : PTFR.State := { PTFR.fresh with length := 2, payload := [1, 2, 3], version := 3 }
    PTFR_WF s ∧ (0x800101 : Nat) < 2 ^ 24 ∧ wt 0x800101 ≤ 3 ∧ s.payload.length ≤ t.length := by
  exact ⟨⟨by decide, by decide, by decide, rfl⟩, by decide, by decide, by decide⟩

/-- a bit error on the wire is an XOR on the bytes; on a header word that is an XOR on its value -/
theorem wire_xor_is_word_xor (v e : Nat) : xorBytes (beBytes 3 v) (beBytes 3 e) = beBytes 3 (v ^^^ e) :=
  xorBytes_be3 v e

end Acra.Props.C20
